import Proofs.Lemmas.Wp
import Proofs.Lemmas.Checksum
import Proofs.Lemmas.Fields
import Proofs.Lemmas.RdFacts
import Proofs.Props.Tables
import Proofs.Props.C12
import Proofs.Props.C19
import Proofs.Props.C14
import Proofs.Props.C18
import Proofs.Props.C13
import Proofs.Props.C02
import Proofs.Props.C07
import Proofs.Props.C08
import Proofs.Props.C10
import Proofs.Props.C20
import Proofs.Props.C11
import Proofs.Props.C04
import Proofs.Props.C03
import Proofs.Props.C15
import Proofs.Props.C16
import Proofs.Props.C17
import Proofs.Props.C09
import Proofs.Props.C06
import Proofs.Props.C05
import Proofs.Props.C01
import Proofs.Props.C05Kwaj
import Proofs.Props.C12Extract
import Proofs.Props.C08Stored
import Proofs.Props.C09Kwaj
import Proofs.Props.C03Headers
import Proofs.Props.C18Stored
import Proofs.Props.C09Oab
import Proofs.Props.C15Find
import Proofs.Props.C13Order
import Proofs.Props.C02LzssKwaj
import Proofs.Props.C02Zip
import Proofs.Props.C10Chm
import Proofs.Props.C07Chm
import Proofs.Props.C09Cab
import Proofs.Props.C09Chm
import Proofs.Props.C02Lzx
import Proofs.Props.C02Qtm
import Proofs.Props.C02Chm
import Proofs.Props.C14Multi
import Proofs.Props.C01Mszip
import Proofs.Props.C11Decoders
import Proofs.Props.C04Loops
import Proofs.Props.C05Lzh
import Proofs.Props.C01Lzx
import Proofs.Props.C02CabLift
import Proofs.Props.C07Decoders
import Proofs.Props.C08Mszip
import Proofs.Props.C08MszipCab
import Proofs.Props.C08Chm
import Proofs.Props.C08Qtm
import Proofs.Props.C04Qtm
import Proofs.Props.C02CabLift2
import Proofs.Props.C02CabLift3
import Proofs.Props.C02CabLift4
import Proofs.Props.C02CabExtract
import Proofs.Props.C07ChmComplete
import Proofs.Props.C08MszipFree
import Proofs.Props.C08ChmSession
import Proofs.Props.C11CabExtract
import Proofs.Props.C04CabExtract
import Proofs.Props.C12Decoders
import Proofs.Props.C18Decoders
import Proofs.Props.C18Extract
import Proofs.Props.C02ChmExtract
import Proofs.Props.C04CabSession
import Proofs.Props.C08MszipFull
import Proofs.Props.C02OabExtract
import Proofs.Props.C08MszipHistory
import Proofs.Props.C18ExtractLift
import Proofs.Props.C18Lzx
import Proofs.Props.C04ChmSession
