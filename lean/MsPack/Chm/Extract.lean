import MsPack.Chm.Find
import MsPack.Lzx.Decoder
/-
`chmd_extract`, `chmd_init_decomp`, `read_reset_table`, `read_spaninfo`, `find_sys_file`,
`read_sys_file`, `chmd_close` (chmd.c) on a fault-free host: opens of existing files, allocations
and writes succeed; `seek` fails only for a negative target; a read delivers
min(n, bytes left in the file).

The LZX decoder is used through the interface of `MsPack/Lzx/Decoder.lean`; its input source is the
CHM file handle `self->d->infh` (`Src Rd`), its output goes through `chmd_sys_write`, which counts
every byte into `self->d->offset` and passes it on only while `self->d->outfh` is set.

Defects of the C that follow from mirroring it (not "fixed" here):
* (repaired in the C, D27: `chmd_init_decomp` used to end with `return self->error` while `self->error` could still
  hold the error of a *tolerated* reset-table failure; the extract then failed with that stale code although the
  decoder was set up, and the same call repeated succeeded.)
* a member whose offset equals the padded stream length, with a reset-table entry for it, gives
  `lzxd_init` the remaining length 0, which means "unknown": extract can return OK having
  written fewer bytes than declared.
* decoding that starts at a reset point starts the LZX decoder's `offset` at 0, so the E8
  translation sees other "current positions" than sequential decoding from the start does.
* signed `int` overflow (undefined; wraps in the harness build, which does not use
  `-fsanitize=signed-integer-overflow`) in `entry *= reset_interval / LZX_FRAME_SIZE`,
  `entry * LZX_FRAME_SIZE`, `reset_interval - 1` and `-reset_interval` for absurd ControlData;
  likewise `off_t` overflow in `chm->sec0.offset + file->offset` and friends.  Modelled as
  wrapping (`wrapI32` / `wrapI64`).
-/
namespace MsPack.Chm
open MsPack MsPack.Generated

-- chm.h offsets not in Generated/Consts.lean
def lzxcd_Signature : Nat := 0x0004
def lzxcd_Version : Nat := 0x0008
def lzxcd_ResetInterval : Nat := 0x000C
def lzxcd_WindowSize : Nat := 0x0010
def lzxrt_NumEntries : Nat := 0x0004
def lzxrt_EntrySize : Nat := 0x0008
def lzxrt_TableOffset : Nat := 0x000C
def lzxrt_UncompLen : Nat := 0x0010
def lzxrt_FrameLen : Nat := 0x0020

abbrev Files := List (String × Bytes)

/-- an open read handle on an in-memory file: the name it was opened under and the position.
    (The handle sees the file's current contents, like the harness's in-memory system.) -/
structure InFh where
  name : String
  pos  : Nat
  deriving Repr, DecidableEq

/-- `struct mschmd_decompress_state`.  `chm` = identity of the header (`d->chm` is only ever
    compared); `length` and `inoffset` hold allocator fill until `chmd_init_decomp` sets them
    (they are not read before). -/
structure DState where
  chm      : Nat
  length   : Int
  offset   : Int
  inoffset : Int
  state    : Option (Lzx.St Rd)
  infh     : Option InFh
  -- `outfh` is NULL outside `chmd_extract`; inside, the two phases are explicit in the model

/-- `struct mschm_decompressor_p` -/
structure Inst where
  error : Err := .ok
  d     : Option DState := none

/-- everything one `chmd_extract` call can change -/
structure X where
  error : Err          -- `self->error`
  hdr   : Header       -- the `mschmd_header` the file belongs to
  d     : DState       -- `*self->d`

def X.ff (x : X) : FF := ⟨x.error, x.hdr⟩
def X.setFF (x : X) (s : FF) : X := { x with error := s.error, hdr := s.hdr }

/-- contents of the file behind `self->d->infh` -/
def infhBytes (files : Files) (x : X) : Bytes :=
  match x.d.infh with
  | some h => (files.lookup h.name).getD []
  | none => []

/-- the CHM file handle as LZX input -/
def rdSrc : Src Rd :=
  { read := fun r n => let (b, r') := r.read n; .ok (some b, r') }

/-- the four `sec1` slots `find_sys_file` can fill -/
inductive Slot | content | control | spaninfo | rtable
  deriving Repr, DecidableEq

def Slot.name : Slot → Bytes
  | .content => contentName | .control => controlName
  | .spaninfo => spaninfoName | .rtable => rtableName

def Slot.get (h : Header) : Slot → Option CFile
  | .content => h.content | .control => h.control | .spaninfo => h.spaninfo | .rtable => h.rtable

def Slot.set (h : Header) (f : CFile) : Slot → Header
  | .content => { h with content := some f } | .control => { h with control := some f }
  | .spaninfo => { h with spaninfo := some f } | .rtable => { h with rtable := some f }

/-- `find_sys_file(self, sec, &sec->SLOT, name)`: the status and the state afterwards.
    Uses `chmd_fast_find` (which opens the CHM file once more under `chm->filename`). -/
def findSysFile (files : Files) (x : X) (slot : Slot) : Except Fault (Err × X) :=
  match slot.get x.hdr with
  | some _ => .ok (.ok, x)                                   -- already loaded
  | none =>
    match fastFind (files.lookup x.hdr.filename) x.ff slot.name with
    | .error f => .error f
    | .ok o =>
      let x := x.setFF o.st
      match o.res.sec with
      | none => .ok (.dataformat, x)
      | some sec =>
        if o.ret ≠ .ok then .ok (.dataformat, x) else
        -- copy result, name it, link it into the sysfiles list
        let f : CFile := { name := slot.name, sec := sec, offset := o.res.offset, length := o.res.length }
        .ok (.ok, { x with hdr := slot.set { x.hdr with sysfiles := f :: x.hdr.sysfiles } f })

/-- `read_sys_file(self, file)`: the data (`none` = NULL, `self->error` set) and the state -/
def readSysFile (files : Files) (x : X) (f : CFile) : Option Bytes × X :=
  if f.sec ≠ 0 then (none, { x with error := .dataformat }) else
  let len := wrapI32 f.length                                 -- `len = (int) file->length`
  -- (a negative `len` would make `alloc((size_t) len)` fail; the callers have checked the size)
  if len < 0 then (none, { x with error := .nomemory }) else
  match x.d.infh with
  | none => (none, { x with error := .seek })                 -- (infh is never NULL here)
  | some h =>
    match seekAbs ⟨infhBytes files x, h.pos⟩ (wrapI64 (x.hdr.sec0Offset + f.offset)) with
    | none => (none, { x with error := .seek })
    | some r =>
      let (data, r') := r.read len.toNat
      let x := { x with d := { x.d with infh := some { h with pos := r'.pos } } }
      if data.length ≠ len.toNat then (none, { x with error := .read }) else (some data, x)

/-- `read_reset_table(self, sec, entry, &length, &offset)`: `some (length, offset)` = success
    (non-zero return).  On failure the caller does not use what was stored. -/
def readResetTable (files : Files) (x : X) (entry : Nat) : Except Fault (Option (Int × Int) × X) :=
  match findSysFile files x .rtable with
  | .error f => .error f
  | .ok (err, x) =>
  if err ≠ .ok then .ok (none, x) else
  match x.hdr.rtable with
  | none => .error (.nullDeref "read_reset_table: sec->rtable")   -- unreachable
  | some rt =>
  if rt.length < Int.ofNat lzxrtHeaderSIZEOF then .ok (none, x) else
  if rt.length > 1000000 then .ok (none, x) else
  match readSysFile files x rt with
  | (none, x) => .ok (none, x)
  | (some data, x) =>
    if u32At data lzxrt_FrameLen ≠ lzxFRAME_SIZE then .ok (none, x) else
    let length := i64At data lzxrt_UncompLen
    let entrysize := u32At data lzxrt_EntrySize
    let pos := (u32At data lzxrt_TableOffset + (entry * entrysize) % 4294967296) % 4294967296
    -- `entry < NumEntries && pos <= (sec->rtable->length - entrysize)` (the latter in `off_t`)
    if entry < u32At data lzxrt_NumEntries ∧ Int.ofNat pos ≤ rt.length - Int.ofNat entrysize then
      if entrysize = 4 then
        if pos + 4 > data.length then .error (.oob "read_reset_table: data[pos]") else
        .ok (some (length, Int.ofNat (u32At data pos)), x)
      else if entrysize = 8 then
        if pos + 8 > data.length then .error (.oob "read_reset_table: data[pos]") else
        .ok (some (length, i64At data pos), x)
      else .ok (none, x)
    else .ok (none, x)

/-- `read_spaninfo(self, sec, &length)`: status and the length -/
def readSpaninfo (files : Files) (x : X) : Except Fault (Err × Int × X) :=
  match findSysFile files x .spaninfo with
  | .error f => .error f
  | .ok (err, x) =>
  if err ≠ .ok then .ok (.dataformat, 0, x) else
  match x.hdr.spaninfo with
  | none => .error (.nullDeref "read_spaninfo: sec->spaninfo")   -- unreachable
  | some si =>
  if si.length ≠ 8 then .ok (.dataformat, 0, x) else
  match readSysFile files x si with
  | (none, x) => .ok (x.error, 0, x)
  | (some data, x) =>
    let length := i64At data 0
    if length ≤ 0 then .ok (.dataformat, length, x) else .ok (.ok, length, x)

/-- window_bits for the `switch (window_size)` of `chmd_init_decomp` -/
def windowBits (windowSize : Int) : Option Nat :=
  if windowSize = 0x008000 then some 15
  else if windowSize = 0x010000 then some 16
  else if windowSize = 0x020000 then some 17
  else if windowSize = 0x040000 then some 18
  else if windowSize = 0x080000 then some 19
  else if windowSize = 0x100000 then some 20
  else if windowSize = 0x200000 then some 21
  else none

/-- `chmd_init_decomp(self, file)` for a member at `fileOffset` of section 1: the value returned
    (`self->error` at that moment) and the state.  `fill` = contents of fresh allocations. -/
def initDecomp (files : Files) (fill : UInt8) (x : X) (fileOffset : Int) : Except Fault (Err × X) :=
  let fail (e : Err) (x : X) : Except Fault (Err × X) := .ok (e, { x with error := e })
  -- ensure we have a mscompressed content section, and a ControlData file
  match findSysFile files x .content with
  | .error f => .error f
  | .ok (err, x) =>
  if err ≠ .ok then fail err x else
  match findSysFile files x .control with
  | .error f => .error f
  | .ok (err, x) =>
  if err ≠ .ok then fail err x else
  match x.hdr.content, x.hdr.control with
  | none, _ => .error (.nullDeref "chmd_init_decomp: sec->content")   -- unreachable
  | _, none => .error (.nullDeref "chmd_init_decomp: sec->control")   -- unreachable
  | some content, some control =>
  -- read ControlData
  if control.length ≠ Int.ofNat lzxcdSIZEOF then fail .dataformat x else
  match readSysFile files x control with
  | (none, x) => .ok (x.error, x)
  | (some data, x) =>
  if u32At data lzxcd_Signature ≠ 0x43585A4C then fail .signature x else
  -- reset_interval and window_size are `int`s
  let ver := u32At data lzxcd_Version
  let params : Option (Int × Int) :=
    if ver = 1 then
      some (wrapI32 (Int.ofNat (u32At data lzxcd_ResetInterval)), wrapI32 (Int.ofNat (u32At data lzxcd_WindowSize)))
    else if ver = 2 then
      some (wrapI32 (Int.ofNat (u32At data lzxcd_ResetInterval * lzxFRAME_SIZE)),
            wrapI32 (Int.ofNat (u32At data lzxcd_WindowSize * lzxFRAME_SIZE)))
    else none
  match params with
  | none => fail .dataformat x
  | some (resetInterval, windowSize) =>
  match windowBits windowSize with
  | none => fail .dataformat x
  | some wbits =>
  if resetInterval = 0 ∨ Int.tmod resetInterval (Int.ofNat lzxFRAME_SIZE) ≠ 0 then fail .dataformat x else
  -- which reset table entry would we like?  `int entry = file->offset / reset_interval`
  let entry := wrapI32 (Int.tdiv fileOffset resetInterval)
  let riFrames := Int.tdiv resetInterval (Int.ofNat lzxFRAME_SIZE)
  let entry := wrapI32 (entry * riFrames)
  match readResetTable files x (toU32 entry) with
  | .error f => .error f
  | .ok (rt, x) =>
  -- length / offset / entry after the reset table or the SpanInfo fallback
  let chosen : Except Fault (Except Err (Int × Int × Int) × X) :=
    match rt with
    | some (length, offset) =>
      -- `length += reset_interval - 1; length &= -reset_interval;`
      let length := wrapI64 (length + wrapI32 (resetInterval - 1))
      let length := andI64 length (wrapI32 (- resetInterval))
      .ok (.ok (length, offset, entry), x)
    | none =>
      match readSpaninfo files x with
      | .error f => .error f
      | .ok (err, length, x) =>
        if err ≠ .ok then .ok (.error err, x) else .ok (.ok (length, 0, 0), x)
  match chosen with
  | .error f => .error f
  | .ok (.error err, x) => fail err x
  | .ok (.ok (length, offset, entry), x) =>
  -- offset of the compressed stream in the file; start offset; remaining length
  let inoffset := wrapI64 (wrapI64 (x.hdr.sec0Offset + content.offset) + offset)
  let doffset := wrapI32 (entry * Int.ofNat lzxFRAME_SIZE)
  let remaining := wrapI64 (length - doffset)
  -- since 02def81: a file at or beyond the end of the stream is refused (`d->inoffset/offset/length` are set by then)
  if remaining ≤ 0 then
    let x := { x with d := { x.d with inoffset := inoffset, offset := doffset, length := length }, error := .decrunch }
    .ok (.decrunch, x)
  else
  -- `lzxd_init(&self->d->sys, infh, self, window_bits, reset_interval / LZX_FRAME_SIZE, 4096, length, 0)`
  -- returns NULL for a negative reset interval or output length (its own argument check)
  let state : Option (Lzx.St Rd) :=
    if riFrames < 0 ∨ remaining < 0 then none
    else Lzx.init (⟨[], 0⟩ : Rd) wbits riFrames.toNat 4096 remaining.toNat false fill
  let x := { x with d := { x.d with inoffset := inoffset, offset := doffset, length := length, state := state } }
  -- `self->error = state ? OK : NOMEMORY` (since the D27 repair: a tolerated reset-table failure is not reported)
  let x := if state.isNone then { x with error := .nomemory } else { x with error := .ok }
  .ok (x.error, x)

/-- the section-0 copy loop: `length` bytes in runs of at most 512 (`unsigned char buf[512]`);
    a short read ends it with MSPACK_ERR_READ and the short run is not written.
    Returns the error (if any), the bytes written and the handle. -/
def copyLoop : Nat → Rd → Int → Bytes → Option Err × Bytes × Rd
  | 0, r, _, acc => (none, acc, r)                              -- unreachable with the fuel given
  | fuel + 1, r, length, acc =>
    if length ≤ 0 then (none, acc, r) else
    let run : Nat := if (512 : Int) > length then length.toNat else 512
    let (got, r') := r.read run
    if got.length ≠ run then (some .read, acc, r')
    else copyLoop fuel r' (length - Int.ofNat run) (acc ++ got)

/-- loop budget handed to the LZX decoder: each of its loop iterations consumes input bits or
    emits output, and the input is at most the CHM file (+ the two faked bytes at EOF) -/
def lzxFuel (file : Bytes) : Nat := 16 * file.length + 100000

inductive ExtractResult
  /-- the call returned `ret`; `out` = bytes written to the output file (`none` = it was never
      opened, so it neither exists nor was truncated) -/
  | done (ret : Err) (inst : Inst) (hdr : Header) (out : Option Bytes)
  /-- the LZX model is switched off (`Lzx.implemented = false`; it is `true`, so this is never returned); state as far as it got -/
  | unsupported (inst : Inst) (hdr : Header)
  | fault (f : Fault)

/-- one `lzxd_decompress(self->d->state, bytes)` call with `self->d->outfh` as given by the
    phase: status, bytes the decoder handed to `chmd_sys_write`, state afterwards.
    `none` = decoder not modelled. -/
def lzxCall (files : Files) (x : X) (bytes : Int) : Except Fault (Option (Err × Bytes × X)) :=
  match x.d.state, x.d.infh with
  | none, _ => .ok (some (.args, [], x))                        -- `!lzx`
  | _, none => .error (.nullDeref "lzxd_decompress: input")     -- unreachable
  | some st, some h =>
    if bytes < 0 then .ok (some (.args, [], x)) else
    if !Lzx.implemented then .ok none else
    let file := infhBytes files x
    match Lzx.decompress rdSrc (lzxFuel file) { st with src := ⟨file, h.pos⟩ } bytes.toNat with
    | .error f => .error f
    | .ok o =>
      -- `chmd_sys_write`: `self->d->offset += bytes` for every write
      let d := { x.d with state := some o.st, infh := some { h with pos := o.st.src.pos },
                          offset := x.d.offset + Int.ofNat o.written.length }
      .ok (some (o.err, o.written, { x with d := d }))

/-- `chmd_extract(base, file, filename)` for a file entry `(section, offset, length)` of the
    header `hdr` whose identity is `key`.  (`!file || !file->section` → MSPACK_ERR_ARGS cannot
    happen for entries of the lists or results of a successful `fast_find`.) -/
def extract (files : Files) (fill : UInt8) (inst : Inst) (key : Nat) (hdr : Header)
    (sec : Nat) (offset length : Int) : ExtractResult :=
  -- create decompression state if it doesn't exist
  let fillWord : Int := wrapI64 (Int.ofNat (fill.toNat * 0x0101010101010101))
  let d : DState := match inst.d with
    | some d => d
    | none => { chm := key, length := fillWord, offset := 0, inoffset := fillWord, state := none, infh := none }
  -- open input chm file if not open, or the open one is a different chm
  let reopen := d.infh.isNone ∨ d.chm ≠ key
  let d := if reopen then { d with chm := key, offset := 0, state := none, infh := none } else d
  let opened : Option DState :=
    if reopen then
      match files.lookup hdr.filename with
      | some _ => some { d with infh := some ⟨hdr.filename, 0⟩ }
      | none => none
    else some d
  match opened with
  | none => .done .open_ { error := .open_, d := some d } hdr none
  | some d =>
  -- open file for output (created / truncated from here on)
  -- if file is empty, simply creating it is enough
  if length = 0 then .done .ok { error := .ok, d := some d } hdr (some []) else
  let x : X := { error := .ok, hdr := hdr, d := d }
  let finish (x : X) (out : Bytes) : ExtractResult := .done x.error { error := x.error, d := some x.d } x.hdr (some out)
  if sec = 0 then
    -- Uncompressed section file: simple seek + copy
    match x.d.infh with
    | none => .fault (.nullDeref "chmd_extract: d->infh")        -- unreachable
    | some h =>
    let file := infhBytes files x
    match seekAbs ⟨file, h.pos⟩ (wrapI64 (hdr.sec0Offset + offset)) with
    | none => finish { x with error := .seek } []
    | some r =>
      -- (length > chm->length - tell: warning only)
      let (err, out, r') := copyLoop (file.length / 512 + 2) r length []
      let x := { x with d := { x.d with infh := some { h with pos := r'.pos } } }
      finish (match err with | some e => { x with error := e } | none => x) out
  else
    -- MSCompressed section file
    -- (re)initialise compression state if not yet initialised, or we have advanced too far
    let inited : Except Fault (Bool × X) :=
      if x.d.state.isNone ∨ offset < x.d.offset then
        match initDecomp files fill { x with d := { x.d with state := none } } offset with
        | .error f => .error f
        | .ok (ret, x) => .ok (ret ≠ .ok, x)
      else .ok (false, x)
    match inited with
    | .error f => .fault f
    | .ok (true, x) => finish x []                               -- `if (chmd_init_decomp(self, file)) break;`
    | .ok (false, x) =>
    -- check file offset is not impossible
    if offset > x.d.length then finish { x with error := .decrunch } [] else
    -- seek to input data
    match x.d.infh with
    | none => .fault (.nullDeref "chmd_extract: d->infh")        -- unreachable
    | some h =>
    if x.d.inoffset < 0 then finish { x with error := .seek } [] else
    let x := { x with d := { x.d with infh := some { h with pos := x.d.inoffset.toNat } } }
    -- get to correct offset (outfh = NULL)
    let bytes := wrapI64 (offset - x.d.offset)
    let phase1 : Except Fault (Option X) :=
      if bytes = 0 then .ok (some x) else
      match lzxCall files x bytes with
      | .error f => .error f
      | .ok none => .ok none
      | .ok (some (e, _, x)) => .ok (some { x with error := e })
    match phase1 with
    | .error f => .fault f
    | .ok none => .unsupported { error := x.error, d := some x.d } x.hdr
    | .ok (some x) =>
    -- if getting to the correct offset was error free, unpack file
    let phase2 : Except Fault (Option (X × Bytes)) :=
      if x.error ≠ .ok then .ok (some (x, [])) else
      let maxlen := wrapI64 (x.d.length - offset)
      -- "should decompress but still error out"
      let len := if length > maxlen then maxlen + 1 else length
      match lzxCall files x len with
      | .error f => .error f
      | .ok none => .ok none
      | .ok (some (e, w, x)) => .ok (some ({ x with error := e }, w))
    match phase2 with
    | .error f => .fault f
    | .ok none => .unsupported { error := x.error, d := some x.d } x.hdr
    | .ok (some (x, out)) =>
    -- save offset in input source stream: `self->d->inoffset = sys->tell(self->d->infh)`
    let x := match x.d.infh with
      | some h => { x with d := { x.d with inoffset := Int.ofNat h.pos } }
      | none => x
    -- if an LZX error occured, the LZX decompressor is now useless
    let x := if x.error ≠ .ok then { x with d := { x.d with state := none } } else x
    finish x out

/-- `chmd_close(base, chm)`: `self->error = OK`; the decoder cache is dropped if it belongs to
    this header (the header itself, its lists and its chunk cache are freed: the caller forgets
    them) -/
def close (inst : Inst) (key : Nat) : Inst :=
  { error := .ok,
    d := match inst.d with
      | some d => if d.chm = key then none else some d
      | none => none }

end MsPack.Chm
