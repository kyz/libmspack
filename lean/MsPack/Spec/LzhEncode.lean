import MsPack.Basic
import MsPack.Spec.Lzss
import MsPack.Spec.Kwaj
/-
KWAJ method 3 ("LZH": LZ + Huffman, kwajd.c `lzh_decompress`) as a specification: tokens, their
reference semantics on the 4096-byte ring (`expand`), and a WRITER (`encodeLzh`).  Written from the
format description; it shares nothing with the decoder model (`MsPack/Kwaj/Lzh.lean`) — the ring is
the one of the LZSS specification (`MsPack/Spec/Lzss.lean`: `Ring`, `Ring.emit`).  The round-trip
theorems `Proofs/Props/C05Lzh.lean` are stated against this writer.

Stream layout (all fields most significant bit first, bytes filled from their top bit):
  * six 4-bit "type" nibbles (the sixth only aligns to a byte), one per code-length table
    MATCHLEN1, MATCHLEN2, LITLEN, OFFSET, LITERAL;
  * for each of the five tables its code lengths in the announced encoding
    (type 0: nothing is sent, every symbol has the fixed length 4/4/5/6/8;
     type 3: one 4-bit length per symbol);
  * the tokens:  a match length symbol `len - 2` (1..15; 0 announces a literal run), coded with
    MATCHLEN2 directly after a literal run shorter than 32 and with MATCHLEN1 otherwise;
    for a match the OFFSET symbol `offset / 64` and the 6 low bits `offset % 64`;
    for a literal run the LITLEN symbol `n - 1` and then the `n` LITERAL symbols;
  * the stream simply ends.  The writer fills the last byte with zero bits (at most 7).
-/
namespace MsPack.LzhEnc
open MsPack
open MsPack.Lzss (Ring)

/-! ## tokens and their meaning -/

/-- a run of 1..32 literal bytes, or a copy of `len` (3..17: the match
    length symbols are 1..15) bytes from `offset` (0..4095) bytes
    back in the ring (`offset = 0` is the byte 4096 back: the one at the write position) -/
inductive Tok where
  | lits (bs : Bytes)
  | mat (len offset : Nat)
  deriving Repr, DecidableEq

def Tok.wf : Tok → Prop
  | .lits bs => 1 ≤ bs.length ∧ bs.length ≤ 32
  | .mat len offset => 3 ≤ len ∧ len ≤ 17 ∧ offset < 4096

instance (t : Tok) : Decidable t.wf := by
  cases t <;> unfold Tok.wf <;> infer_instance

def emitAll (r : Ring) (bs : Bytes) : Ring := bs.foldl Ring.emit r

/-- byte-by-byte copy from `offset` back (an overlapping copy repeats what it has just written) -/
def copyBack (offset : Nat) : Nat → Ring → Ring
  | 0, r => r
  | n + 1, r => copyBack offset n (r.emit (r.window.getD ((r.pos + 4096 - offset) % 4096) 0))

def apply (r : Ring) : Tok → Ring
  | .lits bs => emitAll r bs
  | .mat len offset => copyBack offset len r

def expand (toks : List Tok) (r : Ring) : Ring := toks.foldl apply r

/-- the ring on entry: 4096 spaces, write position 0, nothing written -/
def initRing : Ring := ⟨Array.replicate 4096 0x20, 0, #[]⟩

/-- the format's alternation: directly after a literal run shorter than 32 comes a match (a
    compressor has no reason to split a run it could have made longer).  `short` = the previous
    token was such a run.  The flat-table round trip does not need it (both match-length tables
    then have a code for symbol 0); it is what a stream with tables of its own can rely on. -/
def Alternates : Bool → List Tok → Prop
  | _, [] => True
  | short, .lits bs :: ts => short = false ∧ Alternates (bs.length ≠ 32) ts
  | _, .mat .. :: ts => Alternates false ts

/-! ## bits -/

/-- an `n`-bit field or code word, most significant bit first -/
def msbBits (n v : Nat) : List Bool := (List.range n).map fun i => v.testBit (n - 1 - i)

/-- value of a bit string, first bit most significant -/
def valMSB : List Bool → Nat
  | [] => 0
  | b :: bs => (if b then 1 else 0) * 2 ^ bs.length + valMSB bs

/-- bits to bytes, each byte filled from its top bit, the last byte filled up with zero bits -/
def packAux : Nat → List Bool → Bytes
  | 0, _ => []
  | fuel + 1, bs =>
    if bs.isEmpty then []
    else UInt8.ofNat (valMSB (bs.take 8 ++ List.replicate (8 - (bs.take 8).length) false)) :: packAux fuel (bs.drop 8)
def packBits (bs : List Bool) : Bytes := packAux bs.length bs

/-! ## code tables -/

/-- a flat table's canonical code is the symbol itself in the fixed width -/
def flatCode (width sym : Nat) : List Bool := msbBits width sym

/-! ## the writer, flat tables (type 0) -/

/-- which match-length table codes the first symbol of the next token -/
def Tok.short : Tok → Bool
  | .lits bs => bs.length ≠ 32
  | .mat .. => false

def Tok.bits : Tok → List Bool
  | .lits bs => flatCode 4 0 ++ flatCode 5 (bs.length - 1) ++ bs.flatMap fun b => flatCode 8 b.toNat
  | .mat len offset => flatCode 4 (len - 2) ++ flatCode 6 (offset / 64) ++ msbBits 6 (offset % 64)

/-- the six type nibbles (all 0 = flat), no table data, the tokens -/
def lzhBits (toks : List Tok) : List Bool := List.replicate 24 false ++ toks.flatMap Tok.bits

/-- **the writer**: the bit stream packed into bytes; the last byte is filled up with zero bits.
    Fewer than 8 zero bits never make a complete token (a match takes 16 bits, a literal run at
    least 17), so the decoder stops on them without output. -/
def encodeLzh (toks : List Tok) : Bytes := packBits (lzhBits toks)

/-! ## the writer, tables of the stream's own (type 3: one 4-bit length per symbol)

Executable specification for differential runs and for the end-of-stream study; the theorems about
it (the flat lengths sent as type 3, and a stream of 1-bit codes that loses a token) are in
`Proofs/Props/C05Lzh.lean`. -/

/-- code lengths (0 = symbol unused, 1..15) of the five tables, indexed by symbol -/
structure Lens where
  matchlen1 : List Nat
  matchlen2 : List Nat
  litlen    : List Nat
  offset    : List Nat
  literal   : List Nat
  deriving Repr

def flatLens : Lens :=
  ⟨List.replicate 16 4, List.replicate 16 4, List.replicate 32 5, List.replicate 64 6, List.replicate 256 8⟩

def countLen (lens : List Nat) (l : Nat) : Nat := (lens.filter (· == l)).length

/-- first canonical code of length `l`: codes are handed out in order of length
    (`first(1) = 0`, `first(l+1) = (first(l) + count(l)) * 2`) -/
def firstCode (lens : List Nat) : Nat → Nat
  | 0 => 0
  | l + 1 => if l = 0 then 0 else (firstCode lens l + countLen lens l) * 2

/-- canonical code word of `sym`: within a length, symbols take consecutive codes in symbol order -/
def canonCode (lens : List Nat) (sym : Nat) : List Bool :=
  let l := lens.getD sym 0
  msbBits l (firstCode lens l + ((lens.take sym).filter (· == l)).length)

def tokBitsWith (L : Lens) (short : Bool) : Tok → List Bool
  | .lits bs =>
    canonCode (if short then L.matchlen2 else L.matchlen1) 0 ++ canonCode L.litlen (bs.length - 1) ++
      bs.flatMap fun b => canonCode L.literal b.toNat
  | .mat len offset =>
    canonCode (if short then L.matchlen2 else L.matchlen1) (len - 2) ++ canonCode L.offset (offset / 64) ++
      msbBits 6 (offset % 64)

def toksBitsWith (L : Lens) : Bool → List Tok → List Bool
  | _, [] => []
  | short, t :: ts => tokBitsWith L short t ++ toksBitsWith L t.short ts

/-- type nibbles 3,3,3,3,3,0; the five tables as 4-bit lengths; the tokens; `pad` appended as it is
    before the last byte is filled up with zero bits -/
def encodeLzhWith (L : Lens) (toks : List Tok) (pad : List Bool := []) : Bytes :=
  packBits (([3, 3, 3, 3, 3, 0].flatMap (msbBits 4)) ++
    (L.matchlen1 ++ L.matchlen2 ++ L.litlen ++ L.offset ++ L.literal).flatMap (msbBits 4) ++
    toksBitsWith L false toks ++ pad)

/-! ## the KWAJ file around it -/

open MsPack.Kwaj in
/-- a KWAJ file (no name / extension fields) of the given method around a payload: the optional
    header parts are those of `k` (its `xor` / `data` fields are not used) -/
def encodeKwajWith (method : Nat) (k : KwajSpec) (payload : Bytes) : Bytes :=
  (Oab.enc32 0x4A41574B ++ Oab.enc32 0xD127F088 ++ Cab.enc16 method ++ Cab.enc16 k.dataOffset ++ Cab.enc16 k.flags) ++
  (optLength k ++ (optUnk1 k ++ (optUnk2 k ++ (optExtra k ++ payload))))

/-- a KWAJ file of method 3 holding the tokens -/
def encodeKwajLzh (k : Kwaj.KwajSpec) (toks : List Tok) : Bytes := encodeKwajWith 3 k (encodeLzh toks)

end MsPack.LzhEnc
