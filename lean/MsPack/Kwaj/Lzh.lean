import MsPack.Basic
import MsPack.Huff
import MsPack.Generated.Consts
/-
kwajd.c: the LZH ("LZ + Huffman", KWAJ method 3) decoder: `lzh_init`, `lzh_decompress`,
`lzh_read_lens`, `lzh_read_input`, with kwajd.c's instance of readbits.h / readhuff.h
(`BITS_ORDER_MSB`, `READ_BYTES` = one byte at a time, own `lzh_read_input`).

Bit buffer.  The C has `bit_buffer`/`bits_left`; the model keeps the list of buffered bits, next
bit first (`INJECT_BITS(byte, 8)` appends the byte's bits, most significant first; `PEEK_BITS(n)` =
the first `n` bits read as a number).  `bits_left` = length of the list; it never exceeds 23, so
the 32-bit width of `bit_buffer` is not a limit.

Locals versus structure fields.  `i_ptr`, `i_end`, `bit_buffer`, `bits_left` exist twice: as
locals of the running function (`cur`) and as fields of `*lzh` (`saved`).  `RESTORE_BITS` copies
saved → cur, `STORE_BITS` cur → saved, `lzh_read_input` assigns `saved.iPtr/iEnd` and `READ_BYTES`
then copies those two into the locals.  This matters because `lzh_read_lens` can leave through
`READ_BITS_SAFE` — which returns `MSPACK_ERR_OK` — *without* `STORE_BITS`: the caller's
`RESTORE_BITS` then brings back the bit buffer from before the call, together with whatever
`lzh_read_input` last put into `lzh->i_ptr`/`i_end`.  The model reproduces that.

End of input.  `lzh_read_input` never fails at EOF: it sets `inbuf[0] = 0`, hands out that one
byte, and counts the made-up bits in `input_end` (8 per call).  After every `READ_BITS`/
`READ_HUFFSYM` the `_SAFE` macros test `input_end && bits_left < input_end` (some made-up bit has
been consumed) and, if so, return `MSPACK_ERR_OK` from the function they are used in.

Uninitialised memory.  `lzh_init` sets three pointers; the five `*_len` arrays, the tables and
`inbuf` are whatever `alloc` returned.  `lzh_read_lens` refuses the types 4..15 (`default:`), so a
length array is written in full before `BUILD_TREE` reads it; the model starts the five arrays at 0
and takes the allocator's fill byte as a parameter for `inbuf` and the window.
-/
namespace MsPack.Kwaj.Lzh
open MsPack MsPack.Generated

inductive Halt
  | ret (e : Err)       -- `return e;` from the function being executed
  | fault (f : Fault)
  deriving Repr, DecidableEq

/-- `i_ptr`, `i_end` (as indices into `inbuf`), `bit_buffer` + `bits_left` -/
structure BitPos where
  iPtr : Nat := 0
  iEnd : Nat := 0
  bits : List Bool := []
  deriving Repr

inductive Tbl | MATCHLEN1 | MATCHLEN2 | LITLEN | OFFSET | LITERAL
  deriving Repr, DecidableEq

/-- `MAXSYMBOLS(tbl)` -/
def Tbl.syms : Tbl → Nat
  | .MATCHLEN1 => kwajMATCHLEN1_SYMS
  | .MATCHLEN2 => kwajMATCHLEN2_SYMS
  | .LITLEN => kwajLITLEN_SYMS
  | .OFFSET => kwajOFFSET_SYMS
  | .LITERAL => kwajLITERAL_SYMS

/-- `struct kwajd_stream` (+ the locals of the running function in `cur`, and the output) -/
structure St (σ : Type) where
  src          : σ
  saved        : BitPos := {}            -- lzh->i_ptr, i_end, bit_buffer, bits_left
  cur          : BitPos := {}            -- the locals declared by DECLARE_BIT_VARS
  inputEnd     : Nat := 0                -- lzh->input_end
  matchlen1Len : Array UInt8
  matchlen2Len : Array UInt8
  litlenLen    : Array UInt8
  offsetLen    : Array UInt8
  literalLen   : Array UInt8
  inbuf        : Array UInt8
  window       : Array UInt8
  pos          : Nat := 0                -- local `pos` of lzh_decompress
  out          : Array UInt8 := #[]      -- everything `write` has accepted

def St.lens {σ} (st : St σ) : Tbl → Array UInt8
  | .MATCHLEN1 => st.matchlen1Len
  | .MATCHLEN2 => st.matchlen2Len
  | .LITLEN => st.litlenLen
  | .OFFSET => st.offsetLen
  | .LITERAL => st.literalLen

def St.setLens {σ} (st : St σ) (t : Tbl) (a : Array UInt8) : St σ :=
  match t with
  | .MATCHLEN1 => { st with matchlen1Len := a }
  | .MATCHLEN2 => { st with matchlen2Len := a }
  | .LITLEN => { st with litlenLen := a }
  | .OFFSET => { st with offsetLen := a }
  | .LITERAL => { st with literalLen := a }

/-- state survives a `throw` -/
abbrev LM (σ : Type) := ExceptT Halt (StateM (St σ))

variable {σ : Type} (S : Src σ)

/-- `lzh_init` (allocation succeeds; nothing but the three pointers is initialised) -/
def init (src : σ) (fill : UInt8) : St σ :=
  { src := src,
    matchlen1Len := Array.replicate kwajMATCHLEN1_SYMS 0,
    matchlen2Len := Array.replicate kwajMATCHLEN2_SYMS 0,
    litlenLen := Array.replicate kwajLITLEN_SYMS 0,
    offsetLen := Array.replicate kwajOFFSET_SYMS 0,
    literalLen := Array.replicate kwajLITERAL_SYMS 0,
    inbuf := Array.replicate kwajINPUT_SIZE fill,
    window := Array.replicate lzssWINDOW_SIZE fill }

def storeBits : LM σ Unit := modify fun st => { st with saved := st.cur }
def restoreBits : LM σ Unit := modify fun st => { st with cur := st.saved }

/-- `inbuf[k..] := bytes` (the destination of `sys->read`) -/
def blit (a : Array UInt8) : Nat → Bytes → Array UInt8
  | _, [] => a
  | k, b :: rest => blit (a.setIfInBounds k b) (k + 1) rest

/-- `lzh_read_input` -/
def readInput : LM σ Unit := do
  let st ← get
  if st.inputEnd ≠ 0 then
    set { st with inputEnd := st.inputEnd + 8, inbuf := st.inbuf.setIfInBounds 0 0,
                  saved := { st.saved with iPtr := 0, iEnd := 1 } }
  else
    match S.read st.src kwajINPUT_SIZE with
    | .error f => throw (.fault f)
    | .ok (none, src) => set { st with src := src }; throw (.ret .read)
    | .ok (some [], src) =>
      set { st with src := src, inputEnd := 8, inbuf := st.inbuf.setIfInBounds 0 0,
                    saved := { st.saved with iPtr := 0, iEnd := 1 } }
    | .ok (some got, src) =>
      if got.length > st.inbuf.size then throw (.fault (.oob "lzh->inbuf (read)")) else
      set { st with src := src, inbuf := blit st.inbuf 0 got,
                    saved := { st.saved with iPtr := 0, iEnd := got.length } }

def byteBitsMSB (b : UInt8) : List Bool := (List.range 8).map fun i => b.toNat.testBit (7 - i)
/-- value of a bit string, first bit most significant -/
def bitsValMSB (bs : List Bool) : Nat := bs.foldl (fun acc b => acc * 2 + (if b then 1 else 0)) 0

/-- `READ_BYTES` -/
def readBytes : LM σ Unit := do
  if (← get).cur.iPtr ≥ (← get).cur.iEnd then
    readInput S     -- an error code is returned from the enclosing function
    modify fun st => { st with cur := { st.cur with iPtr := st.saved.iPtr, iEnd := st.saved.iEnd } }
  let st ← get
  if h : st.cur.iPtr < st.inbuf.size then
    let b := st.inbuf[st.cur.iPtr]
    set { st with cur := { st.cur with iPtr := st.cur.iPtr + 1, bits := st.cur.bits ++ byteBitsMSB b } }
  else throw (.fault (.oob "lzh->inbuf (*i_ptr++)"))

/-- `ENSURE_BITS(n)`, n ≤ 16: at most two bytes are pulled -/
def ensureBits (n : Nat) : Nat → LM σ Unit
  | 0 => throw (.fault .hang)
  | fuel + 1 => do
    if (← get).cur.bits.length < n then
      readBytes S
      ensureBits n fuel
    else pure ()

def removeBits (n : Nat) : LM σ Unit :=
  modify fun st => { st with cur := { st.cur with bits := st.cur.bits.drop n } }

/-- `if (lzh->input_end && bits_left < lzh->input_end) return MSPACK_ERR_OK;` -/
def safeCheck : LM σ Unit := do
  let st ← get
  if st.inputEnd ≠ 0 ∧ st.cur.bits.length < st.inputEnd then throw (.ret .ok)

/-- `READ_BITS_SAFE(val, n)` -/
def readBitsSafe (n : Nat) : LM σ Nat := do
  ensureBits S n 4
  let v := bitsValMSB ((← get).cur.bits.take n)
  removeBits n
  safeCheck
  pure v

/-- `READ_HUFFSYM_SAFE(tbl, val)`: 16 bits are ensured, the symbol is looked up, its own length
    is removed.  `HUFF_ERROR` = `return MSPACK_ERR_DATAFORMAT`. -/
def readHuffSymSafe (c : Huff.Canon) : LM σ Nat := do
  ensureBits S 16 4
  match Huff.decode c (← get).cur.bits with
  | none => throw (.ret .dataformat)
  | some (sym, len) =>
    removeBits len
    safeCheck
    pure sym

/-- `lens[i] = c;` (`unsigned char` ← `unsigned int`) -/
def setLen (t : Tbl) (i c : Nat) : LM σ Unit := do
  let st ← get
  let a := st.lens t
  if h : i < a.size then set (st.setLens t (a.set i (UInt8.ofNat (c % 256))))
  else throw (.fault (.oob "lzh_read_lens: lens[i]"))

/-- case 0: `for (i = 0; i < numsyms; i++) lens[i] = c;` -/
def lensFill (t : Tbl) (c : Nat) : Nat → Nat → LM σ Unit
  | 0, _ => pure ()
  | k + 1, i => do setLen t i c; lensFill t c k (i + 1)

/-- case 1: the loop from `i` with `k` symbols to go; `c` = current length -/
def lensType1 (t : Tbl) : Nat → Nat → Nat → LM σ Unit
  | 0, _, _ => pure ()
  | k + 1, i, c => do
    let sel ← readBitsSafe S 1
    if sel = 0 then setLen t i c; lensType1 t k (i + 1) c
    else
      let sel ← readBitsSafe S 1
      if sel = 0 then
        let c := (c + 1) % 2^32
        setLen t i c; lensType1 t k (i + 1) c
      else
        let c ← readBitsSafe S 4
        setLen t i c; lensType1 t k (i + 1) c

/-- case 2 -/
def lensType2 (t : Tbl) : Nat → Nat → Nat → LM σ Unit
  | 0, _, _ => pure ()
  | k + 1, i, c => do
    let sel ← readBitsSafe S 2
    -- `if (sel == 3) READ_BITS_SAFE(c, 4); else c += (char) sel-1;`   (unsigned int arithmetic)
    let c ← if sel = 3 then readBitsSafe S 4 else pure ((c + sel + (2^32 - 1)) % 2^32)
    setLen t i c
    lensType2 t k (i + 1) c

/-- case 3 -/
def lensType3 (t : Tbl) : Nat → Nat → LM σ Unit
  | 0, _ => pure ()
  | k + 1, i => do
    let c ← readBitsSafe S 4
    setLen t i c
    lensType3 t k (i + 1)

/-- the body of `lzh_read_lens(lzh, type, numsyms, lens)`; a `throw (.ret e)` is its `return e` -/
def readLensBody (t : Tbl) (type : Nat) : LM σ Unit := do
  let numsyms := t.syms
  restoreBits
  if type = 0 then
    let c := if numsyms = 16 then 4 else if numsyms = 32 then 5 else if numsyms = 64 then 6
             else if numsyms = 256 then 8 else 0
    lensFill t c numsyms 0
  else if type = 1 then
    let c ← readBitsSafe S 4
    setLen t 0 c
    lensType1 S t (numsyms - 1) 1 c
  else if type = 2 then
    let c ← readBitsSafe S 4
    setLen t 0 c
    lensType2 S t (numsyms - 1) 1 c
  else if type = 3 then
    lensType3 S t numsyms 0
  else throw (.ret .dataformat)   -- `default:`: only four encodings exist
  storeBits

/-- `lzh_read_lens` as seen by its caller: the value it returned -/
def readLens (t : Tbl) (type : Nat) : LM σ Err :=
  tryCatch (do readLensBody S t type; pure Err.ok) fun
    | .ret e => pure e
    | .fault f => throw (.fault f)

/-- `BUILD_TREE(tbl, type)` -/
def buildTree (t : Tbl) (type : Nat) : LM σ Huff.Canon := do
  storeBits
  let err ← readLens S t type
  if err ≠ .ok then throw (.ret err)
  restoreBits
  match Huff.build kwajTABLEBITS (((← get).lens t).toList.map (·.toNat)) with
  | none => throw (.ret .dataformat)
  | some c => pure c

/-- `lzh->window[pos] = b; WRITE_BYTE; pos++; pos &= 4095;` -/
def emitByte (b : UInt8) : LM σ Unit := do
  let st ← get
  if h : st.pos < st.window.size then
    set { st with window := st.window.set st.pos b, out := st.out.push b, pos := (st.pos + 1) % 4096 }
  else throw (.fault (.oob "lzh->window[pos]"))

/-- `while (len-- > 0) { window[pos] = window[(pos+4096-offset) & 4095]; WRITE_BYTE; pos++ … }` -/
def copyMatch (offset : Nat) : Nat → LM σ Unit
  | 0 => pure ()
  | len + 1 => do
    let st ← get
    let from_ := (st.pos + 4096 - offset) % 4096
    if h : from_ < st.window.size then
      emitByte st.window[from_]
      copyMatch offset len
    else throw (.fault (.oob "lzh->window[(pos+4096-offset)&4095]"))

/-- `while (len-- > 0) { READ_HUFFSYM_SAFE(LITERAL, j); window[pos] = j; WRITE_BYTE; … }` -/
def literalRun (literal : Huff.Canon) : Nat → LM σ Unit
  | 0 => pure ()
  | len + 1 => do
    let j ← readHuffSymSafe S literal
    emitByte (UInt8.ofNat j)
    literalRun literal len

structure Trees where
  matchlen1 : Huff.Canon
  matchlen2 : Huff.Canon
  litlen    : Huff.Canon
  offset    : Huff.Canon
  literal   : Huff.Canon

/-- `while (!lzh->input_end) { … }`; every round consumes at least one bit -/
def mainLoop (tr : Trees) : Nat → Bool → LM σ Unit
  | 0, _ => throw (.fault .hang)
  | fuel + 1, litRun => do
    if (← get).inputEnd ≠ 0 then pure () else
    let len ← if litRun then readHuffSymSafe S tr.matchlen2 else readHuffSymSafe S tr.matchlen1
    if len > 0 then
      let len := len + 2
      let j ← readHuffSymSafe S tr.offset
      let offset := j <<< 6
      let j ← readBitsSafe S 6
      let offset := offset ||| j
      -- copy match as output and into the ring buffer
      copyMatch offset len
      mainLoop tr fuel false        -- not the end of a literal run
    else
      let len := (← readHuffSymSafe S tr.litlen) + 1
      literalRun S tr.literal len
      mainLoop tr fuel (len ≠ 32)   -- `lit_run = (len == 32) ? 0 : 1`

/-- six 4-bit reads: `for (i = 0; i < 6; i++) READ_BITS_SAFE(types[i], 4);` -/
def readTypes : Nat → List Nat → LM σ (List Nat)
  | 0, acc => pure acc.reverse
  | k + 1, acc => do
    let t ← readBitsSafe S 4
    readTypes k (t :: acc)

/-- the body of `lzh_decompress` -/
def decompressBody (fuel : Nat) : LM σ Unit := do
  -- INIT_BITS; RESTORE_BITS; memset(window, LZSS_WINDOW_FILL, LZSS_WINDOW_SIZE)
  modify fun st => { st with saved := {}, inputEnd := 0 }
  restoreBits
  modify fun st => { st with window := Array.replicate lzssWINDOW_SIZE (UInt8.ofNat lzssWINDOW_FILL), pos := 0 }
  -- read 6 encoding types (for byte alignment) but only 5 are needed
  let types ← readTypes S 6 []
  -- read huffman table symbol lengths and build huffman trees
  let m1 ← buildTree S .MATCHLEN1 (types.getD 0 0)
  let m2 ← buildTree S .MATCHLEN2 (types.getD 1 0)
  let ll ← buildTree S .LITLEN (types.getD 2 0)
  let of ← buildTree S .OFFSET (types.getD 3 0)
  let li ← buildTree S .LITERAL (types.getD 4 0)
  mainLoop S ⟨m1, m2, ll, of, li⟩ fuel false

structure Out (σ : Type) where
  err     : Err
  written : Bytes
  st      : St σ

/-- `lzh_decompress(lzh)` on a host whose `write` never fails -/
def decompress (fuel : Nat) (st : St σ) : Except Fault (Out σ) :=
  match (decompressBody S fuel).run.run st with
  | (.error (.fault f), _) => .error f
  | (.error (.ret e), st) => .ok ⟨e, st.out.toList, st⟩
  | (.ok (), st) => .ok ⟨.ok, st.out.toList, st⟩

end MsPack.Kwaj.Lzh
