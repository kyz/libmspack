import MsPack.Basic
import MsPack.IO
import MsPack.Generated.Consts
/-
kwajd.c: `kwajd_read_headers` and `kwajd_open` on a fault-free host.

Header: "KWAJ" 88 F0 27 D1, u16 method, u16 data offset, u16 flags, then the optional fields in
flag order.  The 8.3 name is assembled in a 13-byte allocation through a moving pointer `fn`; the
model keeps that buffer (pre-filled with the allocator's fill byte) and the index of `fn`, and the
resulting C string is read off the buffer the way `printf("%s")` would.

Defect kept as it is: when `kwajd_read_headers` returns before `hdr->filename`/`hdr->extra` are
set to NULL (short file, bad signature) `kwajd_open` calls `kwajd_close`, which frees both
uninitialised pointers.  On the model's host this has no visible effect on the result of `open`
(NULL, error code); the harness reports the bad `free` calls separately.
-/
namespace MsPack.Kwaj
open MsPack MsPack.Generated

/-- `MSKWAJ_COMP_*`, `MSKWAJ_HDR_*` (mspack.h) -/
def compNONE : Nat := 0
def compXOR : Nat := 1
def compSZDD : Nat := 2
def compLZH : Nat := 3
def compMSZIP : Nat := 4
def hdrHASLENGTH : Nat := 0x01
def hdrHASUNKNOWN1 : Nat := 0x02
def hdrHASUNKNOWN2 : Nat := 0x04
def hdrHASFILENAME : Nat := 0x08
def hdrHASFILEEXT : Nat := 0x10
def hdrHASEXTRATEXT : Nat := 0x20

/-- `struct mskwajd_header` -/
structure Header where
  compType    : Nat
  dataOffset  : Nat
  headers     : Nat
  length      : Nat
  filename    : Option Bytes      -- the C string (without its NUL); `none` = NULL
  extra       : Option Bytes      -- `extra_length` bytes; `none` = NULL
  extraLength : Nat
  deriving Repr, DecidableEq

/-- `for (i = 0; i < len; i++) if (!(*fn++ = buf[i])) break;` — returns `(fnbuf, fn, i)` -/
def copyName (buf : Bytes) (len : Nat) : Nat → Nat → Array UInt8 → Nat → Except Fault (Array UInt8 × Nat × Nat)
  | 0, i, fnbuf, fn => .ok (fnbuf, fn, i)
  | k + 1, i, fnbuf, fn =>
    if i < len then
      let b := byteAt buf i
      if h : fn < fnbuf.size then
        let fnbuf := fnbuf.set fn b
        if b = 0 then .ok (fnbuf, fn + 1, i)
        else copyName buf len k (i + 1) fnbuf (fn + 1)
      else .error (.oob "kwajd_read_headers: *fn++")
    else .ok (fnbuf, fn, i)

/-- one of the two string fields: `maxLen` = 9 (name) or 4 (extension).
    Returns the name buffer, `fn` after the `fn--`, and the handle. -/
def readNamePart (r : Rd) (maxLen : Nat) (fnbuf : Array UInt8) (fn : Nat) :
    Except Fault (Except Err (Array UInt8 × Nat) × Rd) :=
  -- read and copy up to maxLen bytes of a null terminated string
  let (buf, r) := r.read maxLen
  let len := buf.length
  if len < 2 then .ok (.error .read, r) else
  match copyName buf len (len + 1) 0 fnbuf fn with
  | .error f => .error f
  | .ok (fnbuf, fn, i) =>
    -- if string was maxLen bytes with no null terminator, reject it
    if i = maxLen ∧ byteAt buf (maxLen - 1) ≠ 0 then .ok (.error .dataformat, r) else
    -- seek to byte after string ended in file: `seek(fh, i + 1 - len, SEEK_CUR)`
    -- (i + 1 - len ≤ 1; when negative the target r.pos + i + 1 - len is still ≥ 0 because len
    --  bytes were just read)
    let r := { r with pos := r.pos + i + 1 - len }
    -- `fn--` (remove the null terminator — or, if the file ended first, the last character)
    if fn = 0 then .error (.oob "kwajd_read_headers: fn--") else
    .ok (.ok (fnbuf, fn - 1), r)

/-- the C string starting at the buffer's first byte (`none` of the 13 bytes being NUL would be an
    over-read) -/
def cstr (buf : Array UInt8) : Except Fault Bytes :=
  let l := buf.toList
  let s := l.takeWhile (· ≠ 0)
  if s.length < l.length then .ok s else .error (.oob "kwaj filename: no terminator")

def hasFlag (headers flag : Nat) : Bool := headers &&& flag ≠ 0

/-- 4 bytes: length of unpacked file (if the flag says so) -/
def readOptLength (hdr : Header) (r : Rd) : Except Err Header × Rd :=
  if hasFlag hdr.headers hdrHASLENGTH then
    match r.readExact 4 with
    | none => (.error .read, (r.read 4).2)
    | some (b, r) => (.ok { hdr with length := u32At b 0 }, r)
  else (.ok hdr, r)

/-- 2 bytes: unknown purpose -/
def skipUnknown1 (headers : Nat) (r : Rd) : Except Err Unit × Rd :=
  if hasFlag headers hdrHASUNKNOWN1 then
    match r.readExact 2 with
    | none => (.error .read, (r.read 2).2)
    | some (_, r) => (.ok (), r)
  else (.ok (), r)

/-- 2 bytes: length of section, then [length] bytes: unknown purpose -/
def skipUnknown2 (headers : Nat) (r : Rd) : Except Err Unit × Rd :=
  if hasFlag headers hdrHASUNKNOWN2 then
    match r.readExact 2 with
    | none => (.error .read, (r.read 2).2)
    | some (b, r) => (.ok (), r.seekCur (u16At b 0))
  else (.ok (), r)

/-- filename and extension, assembled in a 13-byte allocation -/
def readNames (fill : UInt8) (hdr : Header) (r : Rd) : Except Fault (Except Err Header × Rd) :=
  if hasFlag hdr.headers (hdrHASFILENAME ||| hdrHASFILEEXT) then
    -- allocate memory for maximum length filename
    let fnbuf : Array UInt8 := Array.replicate 13 fill
    -- copy filename if present
    let a : Except Fault (Except Err (Array UInt8 × Nat) × Rd) :=
      if hasFlag hdr.headers hdrHASFILENAME then readNamePart r 9 fnbuf 0
      else .ok (.ok (fnbuf, 0), r)
    match a with
    | .error f => .error f
    | .ok (.error e, r) => .ok (.error e, r)
    | .ok (.ok (fnbuf, fn), r) =>
    -- copy extension if present
    let b : Except Fault (Except Err (Array UInt8 × Nat) × Rd) :=
      if hasFlag hdr.headers hdrHASFILEEXT then
        if h : fn < fnbuf.size then readNamePart r 4 (fnbuf.set fn 0x2E) (fn + 1)
        else .error (.oob "kwajd_read_headers: *fn++ = '.'")
      else .ok (.ok (fnbuf, fn), r)
    match b with
    | .error f => .error f
    | .ok (.error e, r) => .ok (.error e, r)
    | .ok (.ok (fnbuf, fn), r) =>
      -- `*fn = '\0'`
      if h : fn < fnbuf.size then
        match cstr (fnbuf.set fn 0) with
        | .error f => .error f
        | .ok s => .ok (.ok { hdr with filename := some s }, r)
      else .error (.oob "kwajd_read_headers: *fn = 0")
  else .ok (.ok hdr, r)

/-- 2 bytes: extra text length then [length] bytes of extra text data -/
def readExtra (hdr : Header) (r : Rd) : Except Err Header × Rd :=
  if hasFlag hdr.headers hdrHASEXTRATEXT then
    match r.readExact 2 with
    | none => (.error .read, (r.read 2).2)
    | some (b, r) =>
      let i := u16At b 0
      match r.readExact i with
      | none => (.error .read, (r.read i).2)
      | some (ex, r) => (.ok { hdr with extra := some ex, extraLength := i }, r)
  else (.ok hdr, r)

/-- `kwajd_read_headers(sys, fh, hdr)`; `fill` = contents of fresh allocations.  (The optional parts are
    separate functions so that each can be reasoned about on its own.) -/
def readHeaders (fill : UInt8) (r : Rd) : Except Fault (Except Err Header × Rd) :=
  -- read in the header
  match r.readExact kwajhSIZEOF with
  | none => .ok (.error .read, (r.read kwajhSIZEOF).2)
  | some (buf, r) =>
    -- check for "KWAJ" signature
    if u32At buf 0 ≠ 0x4A41574B ∨ u32At buf 4 ≠ 0xD127F088 then .ok (.error .signature, r) else
    -- basic header fields
    let hdr : Header :=
      { compType := u16At buf 8, dataOffset := u16At buf 10, headers := u16At buf 12,
        length := 0, filename := none, extra := none, extraLength := 0 }
    match readOptLength hdr r with
    | (.error e, r) => .ok (.error e, r)
    | (.ok hdr, r) =>
    match skipUnknown1 hdr.headers r with
    | (.error e, r) => .ok (.error e, r)
    | (.ok (), r) =>
    match skipUnknown2 hdr.headers r with
    | (.error e, r) => .ok (.error e, r)
    | (.ok (), r) =>
    match readNames fill hdr r with
    | .error f => .error f
    | .ok (.error e, r) => .ok (.error e, r)
    | .ok (.ok hdr, r) => .ok (readExtra hdr r)

/-- an open KWAJ file: `struct mskwajd_header_p` -/
structure Handle where
  hdr : Header
  rd  : Rd
  deriving Repr

/-- `kwajd_open(base, filename)`: `file` = what `sys->open` finds (`none` = NULL); `err` = the
    value of `self->error` before the call.  Returns the header (or NULL) and `self->error`
    afterwards (a successful open records MSPACK_ERR_OK, so the result does not depend on `err`). -/
def open_ (fill : UInt8) (err : Err) (file : Option Bytes) : Except Fault (Option Handle × Err) :=
  match file with
  | none => .ok (none, .open_)
  | some bytes =>
    match readHeaders fill ⟨bytes, 0⟩ with
    | .error f => .error f
    | .ok (.ok hdr, r) => let _ := err; .ok (some ⟨hdr, r⟩, .ok)
    | .ok (.error e, _) => .ok (none, e)      -- kwajd_close (error := OK), then error := e

end MsPack.Kwaj
