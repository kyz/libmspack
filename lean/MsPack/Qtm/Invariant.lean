import MsPack.Qtm.Decoder
/-
Shape invariants of the Quantum decoder state: `init` establishes them (`init_wf`); that the pure model
functions (`qtmd_update_model`, the symbol search and interval update of `GET_SYMBOL`) keep them and never
index outside a model array is `decodeSym_ok` (`Proofs/Lemmas/QtmModelBounds.lean`).
-/
namespace MsPack.Qtm
open MsPack MsPack.Generated

/-- shape invariant of a model stored in an array of declared dimension `dim` -/
structure Model.WF (m : Model) (dim : Nat) : Prop where
  size    : m.syms.size = dim
  entries : m.entries < dim

/-- shape invariant of the stream state: what `init` establishes and every `decompress` keeps -/
structure St.WF {σ : Type} (st : St σ) : Prop where
  window   : st.window.size = st.windowSize
  posn     : st.windowPosn ≤ st.windowSize
  optr     : st.oPtr ≤ st.oEnd
  oend     : st.oEnd ≤ st.windowSize
  inbufSz  : 2 ≤ st.inbufSize
  m0 : st.model0.WF qtmM0Dim
  m1 : st.model1.WF qtmM0Dim
  m2 : st.model2.WF qtmM0Dim
  m3 : st.model3.WF qtmM0Dim
  m4 : st.model4.WF qtmM4Dim
  m5 : st.model5.WF qtmM5Dim
  m6 : st.model6.WF qtmM6Dim
  m6len : st.model6len.WF qtmM6lenDim
  m7 : st.model7.WF qtmM7Dim

theorem initModel_wf (dim start len : Nat) (fill : UInt8) (h : len < dim) :
    (initModel dim start len fill).WF dim :=
  ⟨by simp [initModel], by simpa [initModel] using h⟩

theorem init_wf {σ : Type} (src : σ) (wb ibs : Nat) (fill : UInt8) (st : St σ)
    (h : init src wb ibs fill = some st) : st.WF := by
  unfold init at h
  by_cases hwb : wb < 10 ∨ wb > 21
  · simp [hwb] at h
  · by_cases hsz : (ibs + 1) / 2 * 2 < 2
    · simp [hwb, hsz] at h
    · simp only [hwb, hsz, if_false] at h
      cases h
      have hwb1 : 10 ≤ wb := by omega
      have hwb2 : wb ≤ 21 := by omega
      refine ⟨by simp, by simp, by simp, by simp, by simp; omega, ?_, ?_, ?_, ?_, ?_, ?_, ?_, ?_, ?_⟩
      all_goals (apply initModel_wf; simp [qtmM0Dim, qtmM4Dim, qtmM5Dim, qtmM6Dim, qtmM6lenDim, qtmM7Dim])
      all_goals (try split) <;> omega

theorem Model.sym_ok (m : Model) (i : Nat) (h : i < m.syms.size) : m.sym i = .ok m.syms[i] := by
  simp [Model.sym, h]

theorem Model.setCumfreq_ok (m : Model) (i v : Nat) (h : i < m.syms.size) :
    m.setCumfreq i v = .ok { m with syms := m.syms.set i { sym := m.syms[i].sym, cumfreq := v } } := by
  simp [Model.setCumfreq, h]

theorem Model.setSym_ok (m : Model) (i : Nat) (s : ModelSym) (h : i < m.syms.size) :
    m.setSym i s = .ok { m with syms := m.syms.set i s } := by
  simp [Model.setSym, h]

end MsPack.Qtm
