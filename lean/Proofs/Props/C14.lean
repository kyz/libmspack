import Proofs.Lemmas.Find
import Proofs.Lemmas.Headers
import Proofs.Lemmas.FindPlanted
/-!
# C14 — search() finds every embedded cabinet, at any offset, with any buffer size

Model: `MsPack/Cab/Find.lean` (`find n salvage file` = `cabd_find` with `searchbuf_size = n` on a
fault-free file).  `cabd_param` refuses SEARCHBUF < 4, so `n ≥ 4` in every reachable call; the
theorems need only `n ≥ 1`.
-/
namespace MsPack.Cab

/-- the result does not depend on the search-buffer size (scanner state persists over refills) -/
theorem C14_chunk_independent (n m : Nat) (hn : 1 ≤ n) (hm : 1 ≤ m) (sv : Bool) (file : Bytes) :
    find n sv file = find m sv file :=
  findLoop_chunk_independent n m hn hm sv file 0 []

/-- the restart logic always advances: `cabd_find` terminates (the `hang` outcome is unreachable) -/
theorem C14_never_hangs (n : Nat) (hn : 1 ≤ n) (sv : Bool) (file : Bytes) :
    (find n sv file).2 = .done :=
  findLoop_never_hangs n hn sv file 0 []

/-- nothing is reported that does not parse as a cabinet at the reported offset; data that only
    resembles a header (signature, plausible lengths) is never reported -/
theorem C14_sound (n : Nat) (sv : Bool) (file : Bytes) :
    ∀ c ∈ (find n sv file).1, readHeaders file c.baseOffset sv = .ok c := by
  apply findLoop_sound n sv file 0 [] (fun c => readHeaders file c.baseOffset sv = .ok c)
  · intro c hc; cases hc
  · intro off c h
    have := (readHeaders_fields file off sv c h).1
    rw [this]; exact h

/-- **completeness**: a cabinet planted behind any bytes that do not contain the four signature bytes "MSCF" (they may
    contain any prefix of it, also directly in front of the cabinet) and whose two length fields pass the scanner's
    "likely cabinet" test is the first thing `search()` reports — for every search-buffer size, strict or salvage,
    whatever follows the cabinet's header area -/
theorem C14_finds_planted (n : Nat) (hn : 1 ≤ n) (sv : Bool) (junk rest : Bytes)
    (hj : ¬ sig <:+: junk) (c : Cabinet) (hc : readHeaders (junk ++ rest) junk.length sv = .ok c)
    (hpl : plausible (junk ++ rest).length sv ⟨junk.length, u32At rest 8, u32At rest 16⟩ = true) :
    ∃ tail, (find n sv (junk ++ rest)).1 = c :: tail := by
  obtain ⟨hlen, hsig⟩ := readHeaders_sig _ _ _ _ hc
  rw [List.drop_left] at hlen hsig
  have hscan := scanAll_seg (junk ++ rest) junk rest [] 0 (by rw [List.drop_zero, List.append_nil]) hj (by omega)
    (by rwa [List.append_nil])
  rw [← scanChunks_eq_scanAll n hn, Nat.zero_add] at hscan
  obtain ⟨tail, ht⟩ := findLoop_hit n sv (junk ++ rest) 0 [] _ hscan
  rw [atHit_ok sv _ _ [] c hpl hc] at ht
  exact ⟨tail, ht⟩

-- behind the filler "MM" the scanner reports the candidate
-- at offset 2 with the right length fields, and the 62-byte stored cabinet there parses
def exampleCab : Bytes :=
  [0x4D,0x53,0x43,0x46, 0,0,0,0, 62,0,0,0, 0,0,0,0, 44,0,0,0, 0,0,0,0, 3,1, 1,0, 1,0, 0,0, 0x34,0x12, 0,0,
   61,0,0,0, 1,0, 0,0,
   1,0,0,0, 0,0,0,0, 0,0, 0x6c,0x22, 0xba,0x59, 0x20,0, 0x61,0]

example : scanAll ([0x4D, 0x4D] ++ exampleCab) 0 {} = some ⟨2, 62, 44⟩ := by decide
example : (readHeaders ([0x4D, 0x4D] ++ exampleCab) 2 false).toOption.map (·.files.length) = some 1 := by
  decide

-- … and the completeness theorem's premises hold for it: the filler "MM" contains no signature, the cabinet parses, its
-- length fields are plausible
example : ¬ sig <:+: ([0x4D, 0x4D] : Bytes) ∧ (readHeaders ([0x4D, 0x4D] ++ exampleCab) 2 false).toOption.isSome = true ∧
    plausible ([0x4D, 0x4D] ++ exampleCab).length false ⟨2, u32At exampleCab 8, u32At exampleCab 16⟩ = true := by
  refine ⟨?_, by decide, by decide⟩
  rintro ⟨s, t, h⟩
  have := congrArg List.length h
  simp [sig] at this
  omega

end MsPack.Cab
