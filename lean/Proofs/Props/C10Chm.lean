import Proofs.Props.C10
import MsPack.Chm.Extract
import Proofs.Lemmas.ChmPost
/-!
# C10 (c) for CHM — wrong signatures

On the model of `chmd_read_headers` / `chmd_real_open` (`MsPack/Chm/Headers.lean`), for every file content and for
both `open` (`entire = true`) and `fast_open` (`false`):

* `chm_signature_refused`, `chm_guid_refused` (+ `chm_open_…`): ≥ 0x38 bytes and a wrong "ITSF" / wrong GUIDs at 0x18
  ⇒ MSPACK_ERR_SIGNATURE, NULL header.  `chm_short_is_read`: fewer than 0x38 bytes ⇒ MSPACK_ERR_READ.
* `chm_signature_only`, `chm_open_signature_only`: the converse — SIGNATURE is answered in no other case.
* ITSP (header section 1): not checked at all, neither by chmd.c nor by the model (example `itspBad`).
* PMGL/PMGI: the listing skips every chunk that does not start with "PMGL" silently (`chm_listing_skips_non_pmgl`);
  `read_chunk` (fast_find, and extract's `find_sys_file`) answers a chunk that is neither "PMGL" nor "PMGI" with
  MSPACK_ERR_SEEK (`chm_read_chunk_bad_signature`), which `chmd_fast_find` passes on when it got there through the
  index (`chm_find_index_bad_chunk`) and turns into MSPACK_ERR_DATAFORMAT when walking the PMGL chain with no
  successfully searched chunk before it (`chm_find_walk_bad_chunk`).
* LZXC (ControlData): wrong signature ⇒ `chmd_init_decomp` returns MSPACK_ERR_SIGNATURE (`chm_lzxc_signature_refused`).
-/
namespace MsPack.C10
open MsPack.Generated MsPack.Chm

theorem chm_head_read (file : Bytes) (hlen : 0x38 ≤ file.length) :
    (⟨file, 0⟩ : Rd).readExact chmheadSIZEOF = some (file.take 0x38, ⟨file, 0x38⟩) := by
  have h56 : chmheadSIZEOF = 0x38 := rfl
  rw [h56]
  have := readExact_some (file := file) (off := 0) (n := 0x38) (by omega)
  simpa using this

theorem chm_head_short (file : Bytes) (hlen : file.length < 0x38) :
    (⟨file, 0⟩ : Rd).readExact chmheadSIZEOF = none := by
  have h56 : chmheadSIZEOF = 0x38 := rfl
  rw [h56]
  unfold Rd.readExact Rd.read
  simp
  omega

theorem chm_head_of_read {file buf : Bytes} {r : Rd} (h : (⟨file, 0⟩ : Rd).readExact chmheadSIZEOF = some (buf, r)) :
    0x38 ≤ file.length ∧ buf = file.take 0x38 := by
  rcases Nat.lt_or_ge file.length 0x38 with hlen | hlen
  · rw [chm_head_short file hlen] at h; cases h
  · rw [chm_head_read file hlen] at h; cases h; exact ⟨hlen, rfl⟩

/-- ITSF: the 0x38 header bytes are there and the first four are not "ITSF" ⇒ `chmd_read_headers` returns
    MSPACK_ERR_SIGNATURE, for `open` (`entire = true`) and `fast_open` (`false`) alike -/
theorem chm_signature_refused (filename : String) (file : Bytes) (entire : Bool)
    (hlen : 0x38 ≤ file.length)
    (hsig : u32At (file.take 0x38) 0 ≠ 0x46535449) :
    Chm.readHeaders filename file entire = .ok (.error .signature) := by
  unfold Chm.readHeaders
  rw [matchRead_some _ _ _ (chm_head_read file hlen)]
  have hsig' : u32At (file.take 0x38) chmhead_Signature ≠ 0x46535449 := hsig
  rw [if_pos hsig']

theorem chm_guid_bytes (file : Bytes) : ((file.take 0x38).drop chmhead_GUID1).take 32 = (file.drop 0x18).take 32 := by
  unfold chmhead_GUID1
  rw [List.drop_take, List.take_take]
  rfl

/-- GUIDs: "ITSF" is there but the 32 bytes at 0x18 are not the two expected GUIDs ⇒ MSPACK_ERR_SIGNATURE -/
theorem chm_guid_refused (filename : String) (file : Bytes) (entire : Bool)
    (hlen : 0x38 ≤ file.length)
    (hsig : u32At (file.take 0x38) 0 = 0x46535449)
    (hguid : ((file.drop 0x18).take 32).map UInt8.toNat ≠ chmGuids) :
    Chm.readHeaders filename file entire = .ok (.error .signature) := by
  unfold Chm.readHeaders
  rw [matchRead_some _ _ _ (chm_head_read file hlen)]
  have hsig' : u32At (file.take 0x38) chmhead_Signature = 0x46535449 := hsig
  rw [hsig', if_neg (by decide : ¬ (1179866185 ≠ 1179866185)), chm_guid_bytes, if_pos hguid]

theorem chm_realOpen_of_error (filename : String) (file : Bytes) (entire : Bool) (e : Err)
    (h : Chm.readHeaders filename file entire = .ok (.error e)) :
    Chm.realOpen filename file entire = .ok (e, none) := by
  unfold Chm.realOpen
  rw [h]

/-- `open` / `fast_open` (`chmd_real_open`): wrong "ITSF" ⇒ NULL and `last_error` = MSPACK_ERR_SIGNATURE -/
theorem chm_open_signature_refused (filename : String) (file : Bytes) (entire : Bool)
    (hlen : 0x38 ≤ file.length) (hsig : u32At (file.take 0x38) 0 ≠ 0x46535449) :
    Chm.realOpen filename file entire = .ok (.signature, none) :=
  chm_realOpen_of_error _ _ _ _ (chm_signature_refused filename file entire hlen hsig)

/-- `open` / `fast_open`: wrong GUIDs ⇒ NULL and MSPACK_ERR_SIGNATURE -/
theorem chm_open_guid_refused (filename : String) (file : Bytes) (entire : Bool)
    (hlen : 0x38 ≤ file.length) (hsig : u32At (file.take 0x38) 0 = 0x46535449)
    (hguid : ((file.drop 0x18).take 32).map UInt8.toNat ≠ chmGuids) :
    Chm.realOpen filename file entire = .ok (.signature, none) :=
  chm_realOpen_of_error _ _ _ _ (chm_guid_refused filename file entire hlen hsig hguid)

/-- a file shorter than the ITSF header is a READ error, not a SIGNATURE error (why `hlen` is needed) -/
theorem chm_short_is_read (filename : String) (file : Bytes) (entire : Bool) (hlen : file.length < 0x38) :
    Chm.readHeaders filename file entire = .ok (.error .read) := by
  unfold Chm.readHeaders
  rw [chm_head_short file hlen]

def SigPost (file : Bytes) (res : Except Fault (Except Err Parsed)) : Prop :=
  (res = .ok (.error .signature) →
    0x38 ≤ file.length ∧
    (u32At (file.take 0x38) 0 ≠ 0x46535449 ∨ ((file.drop 0x18).take 32).map UInt8.toNat ≠ chmGuids)) ∧
  (∀ p, res = .ok (.ok p) → p.err ≠ .signature)

theorem sigPost_err (file : Bytes) (e : Err) (he : e ≠ .signature) : SigPost file (.ok (.error e)) :=
  ⟨fun h => (by cases h; exact absurd rfl he), fun p h => (by cases h)⟩
theorem sigPost_ok (file : Bytes) (p : Parsed) (hp : p.err ≠ .signature) : SigPost file (.ok (.ok p)) :=
  ⟨fun h => (by cases h), fun q h => (by cases h; exact hp)⟩
theorem sigPost_fault (file : Bytes) (f : Fault) : SigPost file (.error f) :=
  ⟨fun h => (by cases h), fun p h => (by cases h)⟩

theorem readHeaders_sigPost (filename : String) (file : Bytes) (entire : Bool) :
    SigPost file (Chm.readHeaders filename file entire) := by
  apply readHeaders_rule (Q := SigPost file)
  · exact fun _ => sigPost_err _ _ (by decide)
  · intro buf r hrd h
    obtain ⟨hlen, rfl⟩ := chm_head_of_read hrd
    rw [chm_guid_bytes] at h
    exact ⟨fun _ => ⟨hlen, h⟩, fun p h => nomatch h⟩
  · exact sigPost_err _
  · exact fun hdr _ _ _ _ => sigPost_ok _ _ (fun h => nomatch h)
  · exact fun _ _ _ f _ => sigPost_fault _ f
  · intro hdr n r w _ _ _ _ _
    refine sigPost_ok _ _ ?_
    show (if w.errors > 0 then Err.dataformat else Err.ok) ≠ Err.signature
    split <;> decide

/-- the converse of `chm_signature_refused` / `chm_guid_refused`: `chmd_read_headers` answers MSPACK_ERR_SIGNATURE
    **only** when the ITSF header was read in full and its signature or its GUIDs are wrong -/
theorem chm_signature_only (filename : String) (file : Bytes) (entire : Bool)
    (h : Chm.readHeaders filename file entire = .ok (.error .signature)) :
    0x38 ≤ file.length ∧
    (u32At (file.take 0x38) 0 ≠ 0x46535449 ∨ ((file.drop 0x18).take 32).map UInt8.toNat ≠ chmGuids) :=
  (readHeaders_sigPost filename file entire).1 h

/-- the same for `open` / `fast_open`: `last_error` = MSPACK_ERR_SIGNATURE only then (and the result is NULL) -/
theorem chm_open_signature_only (filename : String) (file : Bytes) (entire : Bool) (o : Option Header)
    (h : Chm.realOpen filename file entire = .ok (.signature, o)) :
    o = none ∧ 0x38 ≤ file.length ∧
    (u32At (file.take 0x38) 0 ≠ 0x46535449 ∨ ((file.drop 0x18).take 32).map UInt8.toNat ≠ chmGuids) := by
  have hp := readHeaders_sigPost filename file entire
  cases o with
  | some hdr => exact nomatch (Chm.realOpen_cases h).1
  | none =>
    refine ⟨rfl, ?_⟩
    rcases Chm.realOpen_cases h with hr | ⟨p, hr, he⟩
    · exact hp.1 hr
    · exact absurd he (hp.2 p hr)


/-! ## PMGL / PMGI chunk signatures

`chmd_read_headers` (listing): a chunk of the FirstPMGL..LastPMGL range whose first four bytes are not "PMGL"
(a PMGI index chunk or anything else) is skipped silently: no error, no entry. -/
theorem chm_listing_skips_non_pmgl (chunkSize n : Nat) (r r' : Rd) (w : Walk) (chunk : Bytes)
    (hread : r.readExact chunkSize = some (chunk, r'))
    (hsig : u32At chunk 0 ≠ 0x4C474D50) :
    readChunks chunkSize (n + 1) r w = readChunks chunkSize n r' w := by
  rw [readChunks.eq_2, matchRead_some _ _ _ hread]
  have hsig' : u32At chunk pmgl_Signature ≠ 0x4C474D50 := hsig
  rw [if_pos hsig']

/-- `read_chunk` (used by `fast_find`, and through `find_sys_file` by `extract`): a chunk that is not in the cache,
    can be read, and starts with neither "PMGL" nor "PMGI" gives NULL with `self->error` = MSPACK_ERR_SEEK (sic:
    neither SIGNATURE nor DATAFORMAT), and is not cached -/
theorem chm_read_chunk_bad_signature (st : FF) (file : Bytes) (n : Nat) (r r' : Rd) (buf : Bytes)
    (hn : n < st.hdr.numChunks)
    (hcache : (st.hdr.chunkCache.getD []).lookup n = none)
    (hseek : seekAbs ⟨file, 0⟩ (st.hdr.dirOffset + Int.ofNat ((n * st.hdr.chunkSize) % 4294967296)) = some r)
    (hread : r.readExact st.hdr.chunkSize = some (buf, r'))
    (hsig : ¬ (byteAt buf 0 = 0x50 ∧ byteAt buf 1 = 0x4D ∧ byteAt buf 2 = 0x47 ∧
              (byteAt buf 3 = 0x4C ∨ byteAt buf 3 = 0x49))) :
    readChunk st file n =
      (none, { hdr := { st.hdr with chunkCache := some (st.hdr.chunkCache.getD []) }, error := .seek }) := by
  unfold readChunk
  simp only [ge_iff_le, Nat.not_le.mpr hn, ↓reduceIte, hcache, hseek, hread, hsig, not_false_eq_true]

/-- what `chmd_fast_find` makes of it when the chunk is reached through the PMGI index (`index_root` valid): it
    returns `self->error`, i.e. MSPACK_ERR_SEEK -/
theorem chm_find_index_bad_chunk (st : FF) (file fname : Bytes) (fuel n : Nat) (r r' : Rd) (buf : Bytes)
    (hn : n < st.hdr.numChunks)
    (hcache : (st.hdr.chunkCache.getD []).lookup n = none)
    (hseek : seekAbs ⟨file, 0⟩ (st.hdr.dirOffset + Int.ofNat ((n * st.hdr.chunkSize) % 4294967296)) = some r)
    (hread : r.readExact st.hdr.chunkSize = some (buf, r'))
    (hsig : ¬ (byteAt buf 0 = 0x50 ∧ byteAt buf 1 = 0x4D ∧ byteAt buf 2 = 0x47 ∧
              (byteAt buf 3 = 0x4C ∨ byteAt buf 3 = 0x49))) :
    ∃ st', descend file fname (fuel + 1) n st = .ok ⟨.seek, st', {}⟩ ∧ st'.error = .seek := by
  rw [descend.eq_2, chm_read_chunk_bad_signature st file n r r' buf hn hcache hseek hread hsig]
  exact ⟨_, rfl, rfl⟩

/-- … and when it is reached by walking the PMGL chain (no index): the loop breaks with `err = self->error` = SEEK, but
    the final `else if (result < 0) err = MSPACK_ERR_DATAFORMAT` overrides it when no chunk has been searched
    successfully yet (`result` still -1, as for the first chunk): then the answer is MSPACK_ERR_DATAFORMAT -/
theorem chm_find_walk_bad_chunk (st : FF) (file fname : Bytes) (fuel n : Nat) (last : Search) (r r' : Rd) (buf : Bytes)
    (hle : n ≤ st.hdr.lastPmgl)
    (hn : n < st.hdr.numChunks)
    (hcache : (st.hdr.chunkCache.getD []).lookup n = none)
    (hseek : seekAbs ⟨file, 0⟩ (st.hdr.dirOffset + Int.ofNat ((n * st.hdr.chunkSize) % 4294967296)) = some r)
    (hread : r.readExact st.hdr.chunkSize = some (buf, r'))
    (hsig : ¬ (byteAt buf 0 = 0x50 ∧ byteAt buf 1 = 0x4D ∧ byteAt buf 2 = 0x47 ∧
              (byteAt buf 3 = 0x4C ∨ byteAt buf 3 = 0x49))) :
    ∃ st', walk file fname (fuel + 1) n last st =
      .ok ⟨if last = .bad then .dataformat else .seek, st', {}⟩ := by
  rw [walk.eq_2]
  simp only [hle, not_true_eq_false, ↓reduceIte,
    chm_read_chunk_bad_signature st file n r r' buf hn hcache hseek hread hsig]
  exact ⟨_, rfl⟩

/-! ## LZXC (ControlData of the compressed section)

`chmd_init_decomp`: both system files found, ControlData has the right size and can be read, but its signature at
offset 4 is not "LZXC" ⇒ MSPACK_ERR_SIGNATURE (returned and stored in `self->error`) -/
theorem chm_lzxc_signature_refused (files : Files) (fill : UInt8) (x x1 x2 x3 : X) (off : Int)
    (content control : CFile) (data : Bytes)
    (h1 : findSysFile files x .content = .ok (.ok, x1))
    (h2 : findSysFile files x1 .control = .ok (.ok, x2))
    (hc : x2.hdr.content = some content) (hk : x2.hdr.control = some control)
    (hl : control.length = Int.ofNat lzxcdSIZEOF)
    (hr : readSysFile files x2 control = (some data, x3))
    (hs : u32At data lzxcd_Signature ≠ 0x43585A4C) :
    initDecomp files fill x off = .ok (.signature, { x3 with error := .signature }) := by
  unfold initDecomp
  simp only [h1, h2, hc, hk, hl, hr, hs, ne_eq, not_true_eq_false, not_false_eq_true, ↓reduceIte]

example : Chm.realOpen "x.chm" (List.replicate 56 0) true = .ok (.signature, none) :=
  chm_open_signature_refused _ _ _ (by decide) (by decide)

example : Chm.realOpen "x.chm" ([0x49, 0x54, 0x53, 0x46] ++ List.replicate 52 0) false = .ok (.signature, none) :=
  chm_open_guid_refused _ _ _ (by decide) (by decide) (by decide)

/-- what `open` / `fast_open` answer and, if a header comes back, the names it lists -/
def openNames (file : Bytes) (entire : Bool) : Option (Err × List Bytes) :=
  match Chm.realOpen "x.chm" file entire with
  | .ok (e, some hdr) => some (e, hdr.files.map (·.name))
  | _ => none

/-- `encodeChm exampleSpec` of `Proofs/Props/C03Headers.lean` (two PMGL chunks, files "/a.htm" and "/b") with the
    "ITSP" signature of header section 1 (offset 120) overwritten by "XXXX" -/
def itspBad : Bytes := [
   73, 84, 83, 70, 3, 0, 0, 0, 96, 0, 0, 0, 1, 0, 0, 0, 18, 52, 86, 120, 9, 4, 0, 0,
   16, 253, 1, 124, 170, 123, 208, 17, 158, 12, 0, 160, 201, 34, 230, 236, 17, 253, 1, 124, 170, 123, 208, 17,
   158, 12, 0, 160, 201, 34, 230, 236, 96, 0, 0, 0, 0, 0, 0, 0, 24, 0, 0, 0, 0, 0, 0, 0,
   120, 0, 0, 0, 0, 0, 0, 0, 212, 0, 0, 0, 0, 0, 0, 0, 76, 1, 0, 0, 0, 0, 0, 0,
   254, 1, 0, 0, 0, 0, 0, 0, 82, 1, 0, 0, 0, 0, 0, 0, 0, 0, 0, 0, 0, 0, 0, 0,
   88, 88, 88, 88, 1, 0, 0, 0, 84, 0, 0, 0, 10, 0, 0, 0, 64, 0, 0, 0, 2, 0, 0, 0,
   1, 0, 0, 0, 255, 255, 255, 255, 0, 0, 0, 0, 1, 0, 0, 0, 255, 255, 255, 255, 2, 0, 0, 0,
   9, 4, 0, 0, 106, 146, 2, 93, 46, 33, 208, 17, 157, 249, 0, 160, 201, 34, 230, 236, 84, 0, 0, 0,
   255, 255, 255, 255, 255, 255, 255, 255, 255, 255, 255, 255, 80, 77, 71, 76, 26, 0, 0, 0, 0, 0, 0, 0,
   255, 255, 255, 255, 1, 0, 0, 0, 1, 47, 0, 0, 0, 6, 47, 97, 46, 104, 116, 109, 1, 130, 44, 132,
   162, 112, 0, 0, 0, 0, 0, 0, 0, 0, 0, 0, 0, 0, 0, 0, 0, 0, 0, 0, 0, 0, 0, 0,
   0, 0, 2, 0, 80, 77, 71, 76, 38, 0, 0, 0, 0, 0, 0, 0, 0, 0, 0, 0, 255, 255, 255, 255,
   2, 47, 98, 0, 5, 1, 0, 0, 0, 0, 0, 0, 0, 0, 0, 0, 0, 0, 0, 0, 0, 0, 0, 0,
   0, 0, 0, 0, 0, 0, 0, 0, 0, 0, 0, 0, 0, 0, 0, 0, 0, 0, 1, 0, 1, 2, 3, 4,
   5, 6]

/-- the ITSP signature is not looked at (chmd.c never reads `chmhs1_Signature`; the model has no such check): the
    file opens with MSPACK_ERR_OK and the same listing -/
theorem chm_itsp_signature_ignored_example : openNames itspBad true = some (.ok, [[0x2F, 0x61, 0x2E, 0x68, 0x74, 0x6D], [0x2F, 0x62]]) := by
  decide +kernel

/-- the same file with the first chunk's "PMGL" (offset 204) turned into "PMGI" -/
def pmglBad : Bytes := [
   73, 84, 83, 70, 3, 0, 0, 0, 96, 0, 0, 0, 1, 0, 0, 0, 18, 52, 86, 120, 9, 4, 0, 0,
   16, 253, 1, 124, 170, 123, 208, 17, 158, 12, 0, 160, 201, 34, 230, 236, 17, 253, 1, 124, 170, 123, 208, 17,
   158, 12, 0, 160, 201, 34, 230, 236, 96, 0, 0, 0, 0, 0, 0, 0, 24, 0, 0, 0, 0, 0, 0, 0,
   120, 0, 0, 0, 0, 0, 0, 0, 212, 0, 0, 0, 0, 0, 0, 0, 76, 1, 0, 0, 0, 0, 0, 0,
   254, 1, 0, 0, 0, 0, 0, 0, 82, 1, 0, 0, 0, 0, 0, 0, 0, 0, 0, 0, 0, 0, 0, 0,
   73, 84, 83, 80, 1, 0, 0, 0, 84, 0, 0, 0, 10, 0, 0, 0, 64, 0, 0, 0, 2, 0, 0, 0,
   1, 0, 0, 0, 255, 255, 255, 255, 0, 0, 0, 0, 1, 0, 0, 0, 255, 255, 255, 255, 2, 0, 0, 0,
   9, 4, 0, 0, 106, 146, 2, 93, 46, 33, 208, 17, 157, 249, 0, 160, 201, 34, 230, 236, 84, 0, 0, 0,
   255, 255, 255, 255, 255, 255, 255, 255, 255, 255, 255, 255, 80, 77, 71, 73, 26, 0, 0, 0, 0, 0, 0, 0,
   255, 255, 255, 255, 1, 0, 0, 0, 1, 47, 0, 0, 0, 6, 47, 97, 46, 104, 116, 109, 1, 130, 44, 132,
   162, 112, 0, 0, 0, 0, 0, 0, 0, 0, 0, 0, 0, 0, 0, 0, 0, 0, 0, 0, 0, 0, 0, 0,
   0, 0, 2, 0, 80, 77, 71, 76, 38, 0, 0, 0, 0, 0, 0, 0, 0, 0, 0, 0, 255, 255, 255, 255,
   2, 47, 98, 0, 5, 1, 0, 0, 0, 0, 0, 0, 0, 0, 0, 0, 0, 0, 0, 0, 0, 0, 0, 0,
   0, 0, 0, 0, 0, 0, 0, 0, 0, 0, 0, 0, 0, 0, 0, 0, 0, 0, 1, 0, 1, 2, 3, 4,
   5, 6]

/-- `open()` skips the chunk without any error: only "/b" of the second chunk is listed -/
theorem chm_listing_skips_non_pmgl_example : openNames pmglBad true = some (.ok, [[0x2F, 0x62]]) := by decide +kernel

end MsPack.C10
