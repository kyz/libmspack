import Proofs.Props.C08MszipCab
import Proofs.Props.C08
/-!
# C08 for MSZIP folders without assuming that anything decodes: a call on a re-used decoder is the call on a fresh one

Setting as in `C08MszipCab.lean` (folder data parts `part :: more`, fresh feeder `mszipFreshFeeder`, fresh decoder
`Zip.init`), without the premises "`[0, N)` decodes" and `o + l ≤ N`: the member requested is arbitrary and its
extraction may fail.

* `extract_full_fresh` — **one call, any member, failing or not**: the cache is nothing, or this folder's
  decoder/feeder pair as the fresh pair becomes by ONE decoder call (`Tracks`, `ZipChunkCab.lean`: an OK call, or in
  strict mode any call); then whenever `extract` returns (status and bytes; i.e. no model fault), the same call on a
  fresh instance returns the same status and the same bytes.  A decoder call from the cached pair is the tail of one
  call of the fresh pair (`runPhase_fresh`, from `Run.tail`: the chunking law, or for a failed decoder the fact that a
  failure does not depend on the request).  So where the cached instance skips `o - p` bytes the fresh one, skipping
  `o`, gets the same status and ends in the same `DState`, error or not; the skip output is discarded, and the output
  phase is the same call.  Where the cached decoder stands at the member, the fresh one skips to a state that answers
  like it (`Run.reach`).
* `extract_mszip_free`: the case `FreeCache` — the cached pair reached by a call *that returned OK*, repair mode allowed.
* `C08_mszip_free_after_ok` — after any history of successful extractions inside `[0, N)` (the setting of
  `C08_mszip_any_order`, whose invariant is `Tracks` with status OK), ANY further call — beyond `N`, failing, whatever —
  gives the fresh instance's result.

Fuel: the static condition `8 * feederLeft files fd0 + 17 ≤ decFuel files` of `C08_mszip_any_order` (none for a
single-cabinet folder: `…_single`); it makes every decoder call from the fresh pair and from pairs reached by an OK
call free of `hang` (`nohang_fresh`, `nohang_of_run`), which is what turns `Run` facts into the calls `runPhase` makes.

Histories *containing a failed call*: `C08MszipFull.lean` (`extract_mszip_after_failure`: the case of a cache that a
failed call left, strict mode) and `C08MszipHistory.lean` (`C08_mszip_history_free`).  Repair mode (`fix_mszip`) after a
failed call is not covered: a `read` failure inside a frame delivers bytes together with the status, so states agree
only up to `pending`.  Calls that end in a model *fault* are outside these statements (they speak about calls that
return).
-/
namespace MsPack.Zip.ZipFree

variable {σ : Type} (S : Src σ)

theorem skip_join (f0 f1 f2 : Nat) (Z0 Z : St σ) (hst : ZipInv Z0) (p k : Nat) (wp : Bytes) (o2 : Out σ)
    (hp : decompress S f0 Z0 p = .ok ⟨.ok, wp, Z⟩) (hk : decompress S f1 Z k = .ok o2)
    (hnh : decompress S f2 Z0 (p + k) ≠ .error .hang) :
    decompress S f2 Z0 (p + k) = .ok ⟨o2.err, wp ++ o2.written, o2.st⟩ :=
  (Run.join ⟨f0, hp⟩ hst ⟨f1, hk⟩).at_fuel f2 hnh

end MsPack.Zip.ZipFree

namespace MsPack.Cab
open MsPack.Generated

theorem subErr_ok (fd : Feeder) : subErr .ok fd = .ok := rfl

section
variable (files : Files) (fd0 : Feeder) (st0 : Zip.St Feeder)

def FreeReach (off : Nat) (Z : Zip.St Feeder) : Prop :=
  ∃ w, Zip.decompress (feederSrc files) (chainFuel files fd0) { st0 with src := fd0 } off = .ok ⟨.ok, w, Z⟩

/-- the cached `self->d`: nothing, or this folder's pair as reached from the fresh pair by one OK call for `offset` bytes -/
def FreeCache (key : Nat) (d : Option DState) : Prop :=
  d = none ∨ ∃ ds st, d = some ds ∧ ds.folder = key ∧ ds.dec = some (.mszip st) ∧
    FreeReach files fd0 st0 ds.offset { st with src := ds.feeder }

variable {files fd0 st0}

theorem FreeCache.tracks (hst : Zip.ZipInv st0) {key : Nat} {d : Option DState} (h : FreeCache files fd0 st0 key d)
    (ds : DState) (hd : d = some ds) : ∃ e, Tracks files fd0 st0 key ds e := by
  rcases h with rfl | ⟨ds', st, rfl, h1, h2, w, h4⟩
  · cases hd
  · cases hd
    exact ⟨.ok, st, _, w, h1, h2, ⟨_, h4⟩, Zip.Run.length ⟨_, h4⟩ hst, .inl rfl⟩

theorem runPhase_fresh (hst : Zip.ZipInv st0)
    (hf0 : st0.bits.length + 8 * st0.inbuf.length + 8 * feederLeft files fd0
      + (if st0.inputEnd then 0 else 16) + 1 ≤ decFuel files)
    {key : Nat} {ds ds' : DState} {e0 e : Err} (ht : Tracks files fd0 st0 key ds e0) {st : Zip.St Feeder}
    (hdec : ds.dec = some (.mszip st)) {k : Nat} {w : Bytes} (hk : 0 < k)
    (h : runPhase files ds (.mszip st) k = .ran e w ds') :
    ∃ w0, w0.length = ds.offset ∧
      runPhase files ⟨key, 0, fd0, some (.mszip st0)⟩ (.mszip st0) (ds.offset + k) = .ran e (w0 ++ w) ds' := by
  obtain ⟨R, e', w0, Z2, hr, hlen, rfl, rfl, hR⟩ := runPhase_tail hst ht hdec h
  cases hR (.inr hk)
  refine ⟨w0, hlen, ?_⟩
  rw [runPhase_of_run (ds := ⟨key, 0, fd0, some (.mszip st0)⟩) hr (nohang_fresh hf0 _)]
  simp only [List.length_append, hlen, Nat.zero_add]

theorem runPhases_fresh (hst : Zip.ZipInv st0)
    (hf0 : st0.bits.length + 8 * st0.inbuf.length + 8 * feederLeft files fd0
      + (if st0.inputEnd then 0 else 16) + 1 ≤ decFuel files)
    {key : Nat} {ds : DState} {e0 : Err} (ht : Tracks files fd0 st0 key ds e0)
    (m : Member) (L : Nat) (hoff : ds.offset ≤ m.offset) {e : Err} {w : Option Bytes} {d' : Option DState}
    (h : runPhases files ds m L = .done e w d') :
    ∃ d'', runPhases files ⟨key, 0, fd0, some (.mszip st0)⟩ m L = .done e w d'' := by
  obtain ⟨st, hdec⟩ := ht.dec
  unfold runPhases at h ⊢
  rw [hdec] at h
  simp only at h ⊢
  by_cases hl0 : L = 0
  · rw [if_pos hl0] at h ⊢
    simp only [ExtractResult.done.injEq] at h
    obtain ⟨rfl, rfl, _⟩ := h
    exact ⟨_, rfl⟩
  rw [if_neg hl0] at h ⊢
  rw [Nat.sub_zero]
  by_cases hs : m.offset - ds.offset = 0
  · have ho : m.offset = ds.offset := by omega
    rw [if_pos hs] at h
    cases hrp : runPhase files ds (.mszip st) L with
    | fault f => rw [hrp] at h; cases h
    | unsupported => rw [hrp] at h; cases h
    | ran e1 w1 ds1 =>
      rw [hrp] at h
      simp only [ExtractResult.done.injEq] at h
      obtain ⟨rfl, rfl, _⟩ := h
      by_cases hz : m.offset = 0
      · rw [if_pos hz]
        obtain ⟨w0, hlen, hf⟩ := runPhase_fresh hst hf0 ht hdec (by omega) hrp
        rw [show ds.offset = 0 by omega] at hlen hf
        rw [List.eq_nil_of_length_eq_zero hlen, Nat.zero_add, List.nil_append] at hf
        rw [hf]
        exact ⟨_, rfl⟩
      · -- the cached decoder stands at the member: the fresh one skips to a state that answers like it (`Run.reach`)
        rw [if_neg hz]
        obtain ⟨st', R, w0, _, hdec', hcall, hlen, hj⟩ := ht
        cases hdec.symm.trans hdec'
        obtain ⟨Zm, hm, hsame⟩ := hcall.reach hst hj
        obtain ⟨e', Z2, hz2, rfl, _⟩ := runPhase_run hrp
        rw [ho, ← hlen, runPhase_of_run (ds := ⟨key, 0, fd0, some (.mszip st0)⟩) hm (nohang_fresh hf0 _)]
        simp only [subErr_ok, ne_eq, not_true_eq_false, ↓reduceIte]
        rw [runPhase_of_run (ds := ⟨key, 0 + w0.length, Zm.src, some (.mszip Zm)⟩) (st := Zm)
          (hsame L _ (by omega) hz2) (nohang_of_run hf0 hm L)]
        exact ⟨_, rfl⟩
  · -- a real skip: the fresh skip is the reaching call joined with the cached skip, and ends in the same `DState`
    rw [if_neg hs] at h
    rw [if_neg (by omega : ¬ m.offset = 0)]
    cases hrp : runPhase files ds (.mszip st) (m.offset - ds.offset) with
    | fault f => rw [hrp] at h; cases h
    | unsupported => rw [hrp] at h; cases h
    | ran e1 w1 ds1 =>
      rw [hrp] at h
      obtain ⟨w0, _, hf⟩ := runPhase_fresh hst hf0 ht hdec (by omega) hrp
      rw [show ds.offset + (m.offset - ds.offset) = m.offset by omega] at hf
      rw [hf]
      exact ⟨d', h⟩

end

/-- **one call, any member, any cache the earlier calls can have left.**  Cache: nothing, or this folder's decoder as
    the fresh one becomes by ONE decoder call (`Tracks`: an OK call, or, in strict mode, any call).  Whenever `extract`
    returns status `e'` and bytes `w'` (no model fault), so does the same call on a fresh instance. -/
theorem extract_full_fresh (files : Files) (p : Params) (part : Part) (more : List Part) (bytes : Bytes)
    (nblocks key ct : Nat) (st0 : Zip.St Feeder)
    (hlook : files.lookup part.fname = some bytes) (hct : compMask ct = 1)
    (hinit : Zip.init nullFeeder p.bufSize p.fixMszip p.fill = some st0)
    (hfuel0 : 8 * feederLeft files (mszipFreshFeeder p bytes part more nblocks ct) + 17 ≤ decFuel files)
    (d : Option DState)
    (hcache : ∀ ds, d = some ds → ∃ e, Tracks files (mszipFreshFeeder p bytes part more nblocks ct) st0 key ds e)
    (o l : Nat) (e' : Err) (w' : Option Bytes) (d' : Option DState)
    (h : extract files p d (mszipMember (part :: more) nblocks key ct o l) = .done e' w' d') :
    (extract files p none (mszipMember (part :: more) nblocks key ct o l)).observable = some (e', w') := by
  have hst : Zip.ZipInv st0 := Zip.C02_zip_init_inv _ _ _ _ st0 hinit
  rcases extract_mszip_phases files p part more bytes nblocks key ct st0 hlook hct hinit o l with
    ⟨e0, _, he⟩ | ⟨filelen, _, hp⟩
  · rw [he] at h ⊢
    cases h; rfl
  · obtain ⟨_, h0, ⟨hn, _⟩ | rfl⟩ := hp none
    · cases hn
    rw [h0]
    obtain ⟨ds, hd, ⟨rfl, hr⟩ | rfl⟩ := hp d <;> rw [hd] at h
    · obtain ⟨e0, ht⟩ := hcache ds rfl
      obtain ⟨d'', hd''⟩ := runPhases_fresh hst (mszip_fresh_fuel hinit hfuel0) ht _ filelen (Nat.le_of_not_gt hr.2.1) h
      rw [hd'']; rfl
    · rw [h]; rfl

/-- **one call, any member, failing or not.**  Cache: nothing, or this folder's decoder as reached from the fresh one
    by one OK call for `offset` bytes.  Whenever `extract` returns status `e` and bytes `w` (no model fault), so does the
    same call on a fresh instance. -/
theorem extract_mszip_free (files : Files) (p : Params) (part : Part) (more : List Part) (bytes : Bytes)
    (nblocks key ct : Nat) (st0 : Zip.St Feeder)
    (hlook : files.lookup part.fname = some bytes) (hct : compMask ct = 1)
    (hinit : Zip.init nullFeeder p.bufSize p.fixMszip p.fill = some st0)
    (hfuel0 : 8 * feederLeft files (mszipFreshFeeder p bytes part more nblocks ct) + 17 ≤ decFuel files)
    (d : Option DState) (hcache : FreeCache files (mszipFreshFeeder p bytes part more nblocks ct) st0 key d)
    (o l : Nat) (e : Err) (w : Option Bytes) (d' : Option DState)
    (h : extract files p d (mszipMember (part :: more) nblocks key ct o l) = .done e w d') :
    (extract files p none (mszipMember (part :: more) nblocks key ct o l)).observable = some (e, w) :=
  extract_full_fresh files p part more bytes nblocks key ct st0 hlook hct hinit hfuel0 d
    (hcache.tracks (Zip.C02_zip_init_inv _ _ _ _ st0 hinit)) o l e w d' h

/-- **after any history of successful extractions, any further call is the fresh call.**  Setting and hypotheses of
    `C08_mszip_any_order` (`[0, N)` decodes in one call from the fresh pair; the history `ms` lies inside `[0, N)`, in
    any order); then ANY member `(o, l)` — beyond `N`, in a damaged part of the folder, whatever — extracted next
    returns, if it returns (no model fault), exactly the status and the bytes of the same call on a fresh instance. -/
theorem C08_mszip_free_after_ok (files : Files) (p : Params) (part : Part) (more : List Part) (bytes : Bytes)
    (nblocks key ct : Nat) (st0 : Zip.St Feeder)
    (hlook : files.lookup part.fname = some bytes) (hct : compMask ct = 1)
    (hinit : Zip.init nullFeeder p.bufSize p.fixMszip p.fill = some st0)
    (hfuel0 : 8 * feederLeft files (mszipFreshFeeder p bytes part more nblocks ct) + 17 ≤ decFuel files)
    (N : Nat) (hmax : N ≤ cabLENGTHMAX) (hblk : N ≤ nblocks * cabBLOCKMAX)
    (D : Bytes) (decN : Dec) (fdN : Feeder)
    (hfresh : decompress files (.mszip st0) (mszipFreshFeeder p bytes part more nblocks ct) N =
      .ok (some ⟨.ok, D, decN, fdN⟩))
    (ms : List (Nat × Nat)) (hms : ∀ m ∈ ms, m.1 + m.2 ≤ N)
    (o l : Nat) (e : Err) (w : Option Bytes) (d' : Option DState)
    (h : extract files p (mszipCacheAfter files p nblocks key ct (part :: more) ms none)
      (mszipMember (part :: more) nblocks key ct o l) = .done e w d') :
    (extract files p none (mszipMember (part :: more) nblocks key ct o l)).observable = some (e, w) := by
  obtain ⟨ZN, hz, _, _⟩ := ZipChunkCab.decompress_mszip_inv files st0 _ N _ hfresh
  exact extract_full_fresh files p part more bytes nblocks key ct st0 hlook hct hinit hfuel0 _
    (fun ds hd => ⟨.ok, (mszip_seq_cached files p part more bytes nblocks key ct st0 hlook hct hinit N hmax hblk D ZN
      ⟨_, hz⟩ (MszipNoHang.of_fresh files _ st0 N (Zip.C02_zip_init_inv _ _ _ _ st0 hinit)
        (mszip_fresh_fuel hinit hfuel0)) ms none (fun _ h => nomatch h) hms).2 ds hd⟩) o l e w d' h

/-- … for a folder that lies in one cabinet file: no condition on the fuel -/
theorem C08_mszip_free_after_ok_single (files : Files) (p : Params) (part : Part) (bytes : Bytes)
    (nblocks key ct : Nat) (st0 : Zip.St Feeder)
    (hlook : files.lookup part.fname = some bytes) (hct : compMask ct = 1)
    (hinit : Zip.init nullFeeder p.bufSize p.fixMszip p.fill = some st0)
    (N : Nat) (hmax : N ≤ cabLENGTHMAX) (hblk : N ≤ nblocks * cabBLOCKMAX)
    (D : Bytes) (decN : Dec) (fdN : Feeder)
    (hfresh : decompress files (.mszip st0) (mszipFreshFeeder p bytes part [] nblocks ct) N =
      .ok (some ⟨.ok, D, decN, fdN⟩))
    (ms : List (Nat × Nat)) (hms : ∀ m ∈ ms, m.1 + m.2 ≤ N)
    (o l : Nat) (e : Err) (w : Option Bytes) (d' : Option DState)
    (h : extract files p (mszipCacheAfter files p nblocks key ct [part] ms none)
      (mszipMember [part] nblocks key ct o l) = .done e w d') :
    (extract files p none (mszipMember [part] nblocks key ct o l)).observable = some (e, w) :=
  C08_mszip_free_after_ok files p part [] bytes nblocks key ct st0 hlook hct hinit (mszip_single_fuel p nblocks ct hlook)
    N hmax hblk D decN fdN hfresh ms hms o l e w d' h

theorem FreeCache.none (files : Files) (fd0 : Feeder) (st0 : Zip.St Feeder) (key : Nat) :
    FreeCache files fd0 st0 key none := Or.inl rfl

/-- after extracting `[0,2)` and `[3,5)`, a request that runs past the end of the folder fails — and fails exactly as
    on a fresh instance (status and bytes); evaluated, no theorem involved -/
example :
    (extract zccFiles {} (mszipCacheAfter zccFiles {} 2 7 1 [zccPart] [(0, 2), (3, 2)] none)
        (mszipMember [zccPart] 2 7 1 3 10)).observable =
      (extract zccFiles {} none (mszipMember [zccPart] 2 7 1 3 10)).observable ∧
    (extract zccFiles {} none (mszipMember [zccPart] 2 7 1 3 10)).observable ≠ none ∧
    ((extract zccFiles {} none (mszipMember [zccPart] 2 7 1 3 10)).observable.map (·.1)) ≠ some .ok := by
  decide +kernel

end MsPack.Cab
