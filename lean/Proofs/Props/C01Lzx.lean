import Proofs.Lemmas.LzxRoundFrame
import Proofs.Props.C01Mszip
/-!
# C01 — LZX: a stream of uncompressed blocks written by the specification writer is decoded to exactly its data

`MsPack/Spec/LzxEncode.lean` (`LzxEnc.encUncompressed blocks delta`) is the specification of an LZX
stream (LZX DELTA if `delta`) whose blocks are all UNCOMPRESSED: the one-bit Intel header (0), per
block the 3-bit type, the 24-bit length, the padding to the next 16-bit boundary, R0 R1 R2, the raw
bytes, a pad byte after an odd-sized block; in a DELTA stream every 32768-byte frame is preceded by
its 16-bit chunk-size word, wherever in a block the frame starts.

The theorems are about `Lzx.decompress` (the model of `lzxd_decompress`) on a stream freshly made by
`Lzx.init` (`lzxd_init`) with the output length declared, reset interval 0: for every window size
`init` accepts (15..21 bits, 17..25 for DELTA; the output may be many windows long), every input
buffer size, every source that hands out the file in pieces of any size (`Zip.Feeds`), whatever
follows the stream in the file:

* `C01_lzx_uncompressed_roundtrip` (`…_src`, `…_chunked`): any non-empty list of blocks (each
  1 .. 2^24-1 bytes, below 2 GiB together): one call asking for the whole length returns OK and has
  written exactly the concatenated blocks.
* `C01_lzx_uncompressed_roundtrip_calls`: the same in any number of calls whose sizes add up to the
  length (any split, calls of 0 bytes included).

Fuel: `blocks.length + 65538` (a frame's raw copy takes at most two loop iterations per byte).

Not covered: verbatim / aligned-offset blocks, E8 translation (header bit 1), a
reset interval other than 0 (the stream would restart with a new header at each reset), reference
data, streams whose length is not declared to `init`, outputs of 2 GiB and more.

Remark on the layout: after an odd-sized block that ends exactly where a frame ends, lzxd.c reads the
next frame's chunk-size word (LZX DELTA) *before* it skips the block's pad byte; the writer puts the
pad byte first.  Both are zero bytes here, and the decoder looks at neither value, so the streams
coincide (`pad_mark_comm`).
-/
namespace MsPack.Lzx
open MsPack.Generated
variable {σ : Type}

theorem flatten_pos {blocks : List Bytes} (hne : blocks ≠ []) (hB : BOk blocks) : 1 ≤ blocks.flatten.length := by
  cases blocks with
  | nil => exact absurd rfl hne
  | cons b bs =>
    have := (hB b (List.mem_cons_self ..)).1
    show 1 ≤ (b ++ bs.flatten).length
    rw [List.length_append]; omega

theorem init_G (content : σ → Bytes) (blocks : List Bytes) (delta : Bool) (extra : Bytes) (hne : blocks ≠ [])
    (hB : BOk blocks) (src : σ) (hsrc : content src = LzxEnc.encUncompressed blocks delta ++ extra)
    (windowBits inputBufferSize : Nat) (fill : UInt8) (st : St σ)
    (h : init src windowBits 0 inputBufferSize blocks.flatten.length delta fill = some st) :
    G content delta (extra ++ [0, 0]) blocks.flatten blocks.length st ∧ st.offset = 0 := by
  have hpos := flatten_pos hne hB
  unfold init at h
  cases delta
  all_goals
    simp only [Bool.false_eq_true, if_false, if_true] at h
    split at h
    · cases h
    · rename_i hbits
      split at h
      · cases h
      · rename_i hibs
        split at h
        · cases h
        · rename_i slots hslots
          simp only [Option.some.injEq] at h
          have hwb : 15 ≤ windowBits ∧ windowBits ≤ 25 := by
            simp only [Bool.not_eq_true', decide_eq_false_iff_not, Classical.not_not] at hbits
            omega
          obtain ⟨p1, p2, p3⟩ := pow_facts windowBits hwb.1 hwb.2
          subst h
          refine ⟨?_, rfl⟩
          exact
            { err := rfl, len := rfl
              win := by simp only [Array.size_replicate]
              dvd := p2, wsLe := p1, dl := rfl, ri := rfl
              ibs := by show 1 ≤ (inputBufferSize + 1) / 2 * 2; omega
              ple := Nat.le_refl _
              tle := Nat.zero_le _
              e8 := fun _ => ⟨rfl, rfl⟩
              pend := fun h => by cases h
              more := fun _ => by
                refine ⟨Nat.zero_mul _, rfl, rfl, p3, [], blocks, rfl, hB, by decide, by unfold cnt; simp, rfl, Or.inr ?_⟩
                cases blocks with
                | nil => exact absurd rfl hne
                | cons b bs' =>
                  refine ⟨rfl, rfl, rfl, (by show (0 : Nat) ≠ 3; decide), b, bs', rfl, ?_⟩
                  show [] ++ content src ++ [0, 0] = _
                  rw [hsrc, LzxEnc.encUncompressed, encBlocks_cons]
                  simp only [List.nil_append, List.append_assoc, LzxEnc.frameSize]
              fin := fun h => by
                have : 0 + (0 - 0) = blocks.flatten.length := h
                omega }

/-- **uncompressed blocks, any source, one call** -/
theorem C01_lzx_uncompressed_roundtrip_src (S : Src σ) (content : σ → Bytes) (hF : Zip.Feeds S content)
    (hN : ∀ s, S.lzxLength s = none) (blocks : List Bytes) (delta : Bool) (extra : Bytes)
    (hne : blocks ≠ []) (hB : ∀ b ∈ blocks, 1 ≤ b.length ∧ b.length < 16777216)
    (hn : blocks.flatten.length < 2147483648)
    (src : σ) (hsrc : content src = LzxEnc.encUncompressed blocks delta ++ extra)
    (windowBits inputBufferSize : Nat) (fill : UInt8) (st : St σ)
    (hinit : init src windowBits 0 inputBufferSize blocks.flatten.length delta fill = some st)
    (fuel : Nat) (hfuel : blocks.length + 65538 ≤ fuel) :
    ∃ st', decompress S fuel st blocks.flatten.length = .ok ⟨.ok, blocks.flatten, st'⟩ := by
  obtain ⟨g, h0⟩ := init_G content blocks delta extra hne hB src hsrc windowBits inputBufferSize fill st hinit
  obtain ⟨st', hr, _, _⟩ := decompress_tot hF hN delta _ blocks.flatten hn blocks.length fuel hfuel
    st blocks.flatten.length g (by rw [h0]; omega)
  refine ⟨st', ?_⟩
  rw [hr, h0, List.drop_zero, List.take_length]

/-- `decompress` called for `sizes` bytes one call after the other, as long as the calls return OK:
    status of the last call made, everything written, the state afterwards -/
def decompressCalls (S : Src σ) (fuel : Nat) : St σ → List Nat → Except Fault (Err × Bytes × St σ)
  | st, [] => .ok (.ok, [], st)
  | st, c :: cs =>
    match decompress S fuel st c with
    | .error f => .error f
    | .ok o =>
      if o.err ≠ .ok then .ok (o.err, o.written, o.st)
      else match decompressCalls S fuel o.st cs with
        | .error f => .error f
        | .ok (e, w, s) => .ok (e, o.written ++ w, s)

theorem calls_tot (S : Src σ) (content : σ → Bytes) (hF : Zip.Feeds S content) (hN : ∀ s, S.lzxLength s = none)
    (delta : Bool) (extra D : Bytes) (hn : D.length < 2147483648) (k fuel : Nat)
    (hfuel : k + 65538 ≤ fuel) : ∀ (sizes : List Nat) (st : St σ), G content delta extra D k st →
    st.offset + sizes.sum ≤ D.length →
    ∃ st', decompressCalls S fuel st sizes = .ok (.ok, (D.drop st.offset).take sizes.sum, st')
  | [], st, _, _ => ⟨st, by simp [decompressCalls]⟩
  | c :: cs, st, g, ho => by
    rw [List.sum_cons] at ho
    obtain ⟨s1, hr, g1, ho1⟩ := decompress_tot hF hN delta extra D hn k fuel hfuel st c g (by omega)
    obtain ⟨st', hr'⟩ := calls_tot S content hF hN delta extra D hn k fuel hfuel cs s1 g1 (by rw [ho1]; omega)
    refine ⟨st', ?_⟩
    rw [decompressCalls, hr]
    simp only [ne_eq, not_true_eq_false, if_false, hr']
    rw [ho1, List.sum_cons, ← List.drop_drop, List.take_add]

/-- **uncompressed blocks, any source, any number of calls** whose sizes add up to the length -/
theorem C01_lzx_uncompressed_roundtrip_calls_src (S : Src σ) (content : σ → Bytes) (hF : Zip.Feeds S content)
    (hN : ∀ s, S.lzxLength s = none) (blocks : List Bytes) (delta : Bool) (extra : Bytes)
    (hne : blocks ≠ []) (hB : ∀ b ∈ blocks, 1 ≤ b.length ∧ b.length < 16777216)
    (hn : blocks.flatten.length < 2147483648)
    (src : σ) (hsrc : content src = LzxEnc.encUncompressed blocks delta ++ extra)
    (windowBits inputBufferSize : Nat) (fill : UInt8) (st : St σ)
    (hinit : init src windowBits 0 inputBufferSize blocks.flatten.length delta fill = some st)
    (fuel : Nat) (hfuel : blocks.length + 65538 ≤ fuel)
    (sizes : List Nat) (hsum : sizes.sum = blocks.flatten.length) :
    ∃ st', decompressCalls S fuel st sizes = .ok (.ok, blocks.flatten, st') := by
  obtain ⟨g, h0⟩ := init_G content blocks delta extra hne hB src hsrc windowBits inputBufferSize fill st hinit
  obtain ⟨st', hr⟩ := calls_tot S content hF hN delta _ blocks.flatten hn blocks.length fuel hfuel
    sizes st g (by rw [h0, hsum]; omega)
  refine ⟨st', ?_⟩
  rw [hr, h0, hsum, List.drop_zero, List.take_length]

/-- **C01, LZX, uncompressed blocks**: the stream anywhere in a file, one call for the whole length -/
theorem C01_lzx_uncompressed_roundtrip (blocks : List Bytes) (delta : Bool) (extra : Bytes)
    (hne : blocks ≠ []) (hB : ∀ b ∈ blocks, 1 ≤ b.length ∧ b.length < 16777216)
    (hn : blocks.flatten.length < 2147483648)
    (file : Bytes) (pos : Nat) (hfile : file.drop pos = LzxEnc.encUncompressed blocks delta ++ extra)
    (windowBits inputBufferSize : Nat) (fill : UInt8) (st : St Rd)
    (hinit : init (⟨file, pos⟩ : Rd) windowBits 0 inputBufferSize blocks.flatten.length delta fill = some st)
    (fuel : Nat) (hfuel : blocks.length + 65538 ≤ fuel) :
    ∃ st', decompress Rd.src fuel st blocks.flatten.length = .ok ⟨.ok, blocks.flatten, st'⟩ :=
  C01_lzx_uncompressed_roundtrip_src Rd.src _ Zip.Rd.src_feeds (fun _ => rfl) blocks delta extra hne hB hn ⟨file, pos⟩
    hfile windowBits inputBufferSize fill st hinit fuel hfuel

/-- the same on a source that delivers the file in pieces of arbitrary prescribed sizes -/
theorem C01_lzx_uncompressed_roundtrip_chunked (blocks : List Bytes) (delta : Bool) (extra : Bytes)
    (hne : blocks ≠ []) (hB : ∀ b ∈ blocks, 1 ≤ b.length ∧ b.length < 16777216)
    (hn : blocks.flatten.length < 2147483648) (pieces : List Nat)
    (windowBits inputBufferSize : Nat) (fill : UInt8) (st : St (List Nat × Bytes))
    (hinit : init (pieces, LzxEnc.encUncompressed blocks delta ++ extra) windowBits 0 inputBufferSize
      blocks.flatten.length delta fill = some st)
    (fuel : Nat) (hfuel : blocks.length + 65538 ≤ fuel) :
    ∃ st', decompress Zip.chunkSrc fuel st blocks.flatten.length = .ok ⟨.ok, blocks.flatten, st'⟩ :=
  C01_lzx_uncompressed_roundtrip_src Zip.chunkSrc _ Zip.chunkSrc_feeds (fun _ => rfl) blocks delta extra hne hB hn _ rfl
    windowBits inputBufferSize fill st hinit fuel hfuel

/-- **C01, LZX, uncompressed blocks, several calls**: any split of the length into call sizes -/
theorem C01_lzx_uncompressed_roundtrip_calls (blocks : List Bytes) (delta : Bool) (extra : Bytes)
    (hne : blocks ≠ []) (hB : ∀ b ∈ blocks, 1 ≤ b.length ∧ b.length < 16777216)
    (hn : blocks.flatten.length < 2147483648)
    (file : Bytes) (pos : Nat) (hfile : file.drop pos = LzxEnc.encUncompressed blocks delta ++ extra)
    (windowBits inputBufferSize : Nat) (fill : UInt8) (st : St Rd)
    (hinit : init (⟨file, pos⟩ : Rd) windowBits 0 inputBufferSize blocks.flatten.length delta fill = some st)
    (fuel : Nat) (hfuel : blocks.length + 65538 ≤ fuel)
    (sizes : List Nat) (hsum : sizes.sum = blocks.flatten.length) :
    ∃ st', decompressCalls Rd.src fuel st sizes = .ok (.ok, blocks.flatten, st') :=
  C01_lzx_uncompressed_roundtrip_calls_src Rd.src _ Zip.Rd.src_feeds (fun _ => rfl) blocks delta extra hne hB hn
    ⟨file, pos⟩ hfile windowBits inputBufferSize fill st hinit fuel hfuel sizes hsum

theorem C01_lzx_uncompressed_roundtrip_calls_chunked (blocks : List Bytes) (delta : Bool) (extra : Bytes)
    (hne : blocks ≠ []) (hB : ∀ b ∈ blocks, 1 ≤ b.length ∧ b.length < 16777216)
    (hn : blocks.flatten.length < 2147483648) (pieces : List Nat)
    (windowBits inputBufferSize : Nat) (fill : UInt8) (st : St (List Nat × Bytes))
    (hinit : init (pieces, LzxEnc.encUncompressed blocks delta ++ extra) windowBits 0 inputBufferSize
      blocks.flatten.length delta fill = some st)
    (fuel : Nat) (hfuel : blocks.length + 65538 ≤ fuel)
    (sizes : List Nat) (hsum : sizes.sum = blocks.flatten.length) :
    ∃ st', decompressCalls Zip.chunkSrc fuel st sizes = .ok (.ok, blocks.flatten, st') :=
  C01_lzx_uncompressed_roundtrip_calls_src Zip.chunkSrc _ Zip.chunkSrc_feeds (fun _ => rfl) blocks delta extra hne hB hn
    _ rfl windowBits inputBufferSize fill st hinit fuel hfuel sizes hsum

theorem init_some (src : σ) (windowBits inputBufferSize n : Nat) (delta : Bool) (fill : UInt8)
    (hw : if delta then 17 ≤ windowBits ∧ windowBits ≤ 25 else 15 ≤ windowBits ∧ windowBits ≤ 21)
    (hi : 1 ≤ inputBufferSize) : ∃ st, init src windowBits 0 inputBufferSize n delta fill = some st := by
  have hwb : 15 ≤ windowBits ∧ windowBits ≤ 25 := by cases delta <;> simp at hw <;> omega
  have hs : ∃ slots, lzxPositionSlots[windowBits - 15]? = some slots := by
    have : windowBits - 15 < lzxPositionSlots.length := by
      simp only [lzxPositionSlots, List.length_cons, List.length_nil]; omega
    exact ⟨_, List.getElem?_eq_getElem this⟩
  obtain ⟨slots, hs⟩ := hs
  unfold init
  simp only [hs]
  cases delta
  · simp only [Bool.false_eq_true, if_false] at hw ⊢
    rw [if_neg (by simp [hw]), if_neg (by omega)]
    exact ⟨_, rfl⟩
  · simp only [if_true] at hw ⊢
    rw [if_neg (by simp [hw]), if_neg (by omega)]
    exact ⟨_, rfl⟩

/-- the stream of a 3-byte and a 2-byte block -/
example : LzxEnc.encUncompressed [[0x61, 0x62, 0x63], [0x64, 0x65]] false =
    [0x00, 0x30, 0x30, 0x00, 1, 0, 0, 0, 1, 0, 0, 0, 1, 0, 0, 0, 0x61, 0x62, 0x63, 0,
     0x00, 0x60, 0x40, 0x00, 1, 0, 0, 0, 1, 0, 0, 0, 1, 0, 0, 0, 0x64, 0x65] := by decide +kernel

/-- LZX DELTA: the chunk-size word in front -/
example : LzxEnc.encUncompressed [[0x61]] true =
    [0, 0, 0x00, 0x30, 0x10, 0x00, 1, 0, 0, 0, 1, 0, 0, 0, 1, 0, 0, 0, 0x61, 0] := by decide +kernel

/-- the model on the writer's output, 2-byte reads, three calls -/
def sampleRun : Option (Err × Bytes) :=
  (init (σ := Rd) ⟨LzxEnc.encUncompressed [[0x61, 0x62, 0x63], [0x64, 0x65]] false ++ [9, 9], 0⟩ 15 0 1 5 false 0xAA).bind
    fun st =>
      match decompressCalls Rd.src 70000 st [1, 0, 4] with
      | .ok (e, w, _) => some (e, w)
      | .error _ => none

example : sampleRun = some (.ok, [0x61, 0x62, 0x63, 0x64, 0x65]) := by decide +kernel

end MsPack.Lzx
