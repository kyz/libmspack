import Proofs.Lemmas.ZipStickyStrict
import Proofs.Props.C08MszipFree
/-!
# C08 for MSZIP folders, strict mode: what a failed call leaves, and calls after it

Two facts about `Zip.decompress` with `repair = false` (strict MSZIP, `fix_mszip` off), from
`Proofs/Lemmas/ZipStickyStrict.lean`:

* `C08_mszip_fail_sticky` — a call that returns `e ≠ ok` leaves `error = e` recorded, so every later call on that
  state returns `(e, [], same state)` at once (`C08_mszip_sticky_call`, `ZipRun.lean`);
* `C08_mszip_fail_request_free` — it wrote fewer bytes than asked, and the call for ANY request larger than what it
  wrote returns the very same status, bytes and state; the request for exactly the bytes it wrote succeeds and leaves
  a state from which every non-empty request returns `(e, [], that same state)`.

Lifted to `Zip.Run` (`Run.failed`, `Run.tail`, `Run.reach` in `ZipRun.lean`) they are what makes a decoder that a failed
call left as good as one reached by an OK call (`Tracks`), so `extract_mszip_after_failure` — the cache holds this
folder's decoder as a failed decoder call left it (reached from the fresh pair by one call that returned `e ≠ ok` after
writing `ds.offset` bytes): any later `extract()` of any member that returns, returns the fresh instance's status and
bytes — is a case of `extract_full_fresh` (`C08MszipFree.lean`), as `extract_mszip_free` (cache reached by an OK call)
is.  `C08_mszip_history_free` (`C08MszipHistory.lean`): every call re-establishes the invariant; induction over the call
list.
-/
namespace MsPack.Zip
open MsPack.Cab

/-- **sticky**: a failed strict-mode call has recorded its status -/
theorem C08_mszip_fail_sticky (files : Files) (fuel : Nat) (Z : St Feeder) (hw : ZipInv Z) (hr : Z.repair = false)
    (b : Nat) (e : Err) (w : Bytes) (Z' : St Feeder)
    (h : decompress (feederSrc files) fuel Z b = .ok ⟨e, w, Z'⟩) (hne : e ≠ .ok) : Z'.error = e := by
  by_cases he0 : Z.error = .ok
  · exact (ZipStickyStrict.fail_shape (feederSrc files) fuel fuel Z hw hr he0 b e w Z' h hne).1
  · rw [C08_mszip_sticky_call _ _ _ he0] at h
    cases h; rfl

/-- **a failure does not depend on the request** (strict mode, state without recorded error) -/
theorem C08_mszip_fail_request_free (files : Files) (fuel : Nat) (Z : St Feeder) (hw : ZipInv Z)
    (hr : Z.repair = false) (he0 : Z.error = .ok) (b : Nat) (e : Err) (w : Bytes) (Z' : St Feeder)
    (h : decompress (feederSrc files) fuel Z b = .ok ⟨e, w, Z'⟩) (hne : e ≠ .ok) :
    w.length < b ∧
    (∀ b', w.length < b' → decompress (feederSrc files) fuel Z b' = .ok ⟨e, w, Z'⟩) ∧
    ∃ Zm, decompress (feederSrc files) fuel Z w.length = .ok ⟨.ok, w, Zm⟩ ∧
      ∀ k, 0 < k → decompress (feederSrc files) fuel Zm k = .ok ⟨e, [], Z'⟩ :=
  (ZipStickyStrict.fail_shape (feederSrc files) fuel fuel Z hw hr he0 b e w Z' h hne).2

end MsPack.Zip

namespace MsPack.Cab

section
variable {files : Files} {fd0 : Feeder} {st0 : Zip.St Feeder}

theorem runPhase_sticky (ds : DState) (st : Zip.St Feeder) (e : Err) (hE : st.error = e) (hne : e ≠ .ok) (k : Nat) :
    runPhase files ds (.mszip st) k =
      .ran (subErr e ds.feeder) [] ⟨ds.folder, ds.offset + 0, ds.feeder, some (.mszip { st with src := ds.feeder })⟩ := by
  subst hE
  have he : ({ st with src := ds.feeder } : Zip.St Feeder).error ≠ .ok := hne
  exact runPhase_of_run (Zip.Run.sticky he k) (by rw [Zip.C08_mszip_sticky_call _ _ _ he]; exact fun h => nomatch h)

theorem runPhases_after_failure (hst : Zip.ZipInv st0) (hrep : st0.repair = false) (he00 : st0.error = .ok)
    (hf0 : st0.bits.length + 8 * st0.inbuf.length + 8 * feederLeft files fd0
      + (if st0.inputEnd then 0 else 16) + 1 ≤ decFuel files)
    (key : Nat) (ds : DState) (hfol : ds.folder = key) (st : Zip.St Feeder) (hdec : ds.dec = some (.mszip st))
    (R : Nat) (e : Err) (w : Bytes)
    (hfail : Zip.decompress (feederSrc files) (chainFuel files fd0) { st0 with src := fd0 } R =
      .ok ⟨e, w, { st with src := ds.feeder }⟩)
    (_ : e ≠ .ok) (hlen : w.length = ds.offset)
    (m : Member) (L : Nat) (hoff : ds.offset ≤ m.offset) (e' : Err) (w' : Option Bytes) (d' : Option DState)
    (h : runPhases files ds m L = .done e' w' d') :
    ∃ d'', runPhases files ⟨key, 0, fd0, some (.mszip st0)⟩ m L = .done e' w' d'' :=
  runPhases_fresh hst hf0 (e0 := e) ⟨st, R, w, hfol, hdec, ⟨_, hfail⟩, hlen, .inr ⟨hrep, he00⟩⟩ m L hoff h

end

theorem zipInit_repair_error {σ : Type} (src : σ) (n : Nat) (rep : Bool) (fill : UInt8) (st : Zip.St σ)
    (h : Zip.init src n rep fill = some st) : st.repair = rep ∧ st.error = .ok := by
  unfold Zip.init at h
  dsimp only at h
  split at h
  · cases h
  · cases h; exact ⟨rfl, rfl⟩

/-- **one call after a failed call** (strict MSZIP: `fix_mszip` off).  The cache holds this folder's decoder as a
    failed decoder call left it: reached from the fresh pair by ONE call (for `R` bytes) that returned `e ≠ ok` after
    writing `ds.offset` bytes.  Any member requested next — whenever `extract` returns status and bytes, so does the
    same call on a fresh instance. -/
theorem extract_mszip_after_failure (files : Files) (p : Params) (part : Part) (more : List Part) (bytes : Bytes)
    (nblocks key ct : Nat) (st0 : Zip.St Feeder)
    (hlook : files.lookup part.fname = some bytes) (hct : compMask ct = 1) (hstrict : p.fixMszip = false)
    (hinit : Zip.init nullFeeder p.bufSize p.fixMszip p.fill = some st0)
    (hfuel0 : 8 * feederLeft files (mszipFreshFeeder p bytes part more nblocks ct) + 17 ≤ decFuel files)
    (ds : DState) (hfol : ds.folder = key) (st : Zip.St Feeder) (hdec : ds.dec = some (.mszip st))
    (R : Nat) (e : Err) (w : Bytes)
    (hfail : Zip.decompress (feederSrc files) (chainFuel files (mszipFreshFeeder p bytes part more nblocks ct))
      { st0 with src := mszipFreshFeeder p bytes part more nblocks ct } R = .ok ⟨e, w, { st with src := ds.feeder }⟩)
    (hne : e ≠ .ok) (hlen : w.length = ds.offset)
    (o l : Nat) (e' : Err) (w' : Option Bytes) (d' : Option DState)
    (h : extract files p (some ds) (mszipMember (part :: more) nblocks key ct o l) = .done e' w' d') :
    (extract files p none (mszipMember (part :: more) nblocks key ct o l)).observable = some (e', w') := by
  obtain ⟨hrep, he00⟩ := zipInit_repair_error _ _ _ _ st0 hinit
  rw [hstrict] at hrep
  exact extract_full_fresh files p part more bytes nblocks key ct st0 hlook hct hinit hfuel0 (some ds)
    (fun _ hd => by cases hd; exact ⟨e, st, R, w, hfol, hdec, ⟨_, hfail⟩, hlen, .inr ⟨hrep, he00⟩⟩) o l e' w' d' h

end MsPack.Cab
