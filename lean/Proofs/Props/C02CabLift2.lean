import Proofs.Lemmas.FeederThread
import Proofs.Props.C02CabLift
/-!
# C02 — MSZIP folders of a cabinet: no fault of any kind but the loop bound

`C02CabLift.lean` bounds the faults of MSZIP in a cabinet up to the two null dereferences of the
block reader, reachable only from a feeder whose handle is closed — which a read error can leave
behind.  Here the reachable-state invariant

  `ZipInv st ∧ (st.error = .ok → FeederLive st.src)`

is threaded through every helper of the MSZIP model (`Proofs/Lemmas/FeederThread.lean`: the only
helper that touches `src` is `readInput`; a read that fails sets the sticky error before it
throws).  Result: one `Zip.decompress` over the CAB feeder from a state satisfying the invariant
raises no fault but `hang`, and the state it returns satisfies the invariant again
(`C02_cab_mszip_no_fault`); so does every sequence of `decompress` calls of `cabd_extract` on the
decoder `cabd_extract` sets up for a folder (`C02_cab_mszip_calls_no_fault`,
`C02_cab_mszip_fresh_no_fault`).
-/
namespace MsPack.CabLift
open MsPack.Cab

/-- the invariant of an MSZIP decoder state under the CAB feeder, between calls -/
def MszipLive (st : Zip.St Feeder) : Prop := Zip.ZipInv st ∧ (st.error = .ok → FeederLive st.src)

/-- **MSZIP in a cabinet, all fault kinds, unconditional on the source**: from a state satisfying
    the invariant a call ends in no fault but the iteration bound, and the invariant holds again
    of the state it returns -/
theorem C02_cab_mszip_no_fault (files : Files) (fuel : Nat) (st : Zip.St Feeder) (n : Nat) (h : MszipLive st) :
    (∀ f, Zip.decompress (feederSrc files) fuel st n = .error f → f = .hang) ∧
    (∀ o, Zip.decompress (feederSrc files) fuel st n = .ok o → MszipLive o.st) := by
  have ht := ZipThread.decompress_thr files fuel st n h.2
  refine ⟨fun f hf => ?_, fun o ho => ?_⟩
  · rw [hf] at ht
    rcases C02_cab_mszip_no_fault_partial files fuel st n h.1 f hf with h1 | h1 | h1
    · exact h1
    · exact absurd h1 (ht _)
    · exact absurd h1 (ht _)
  · rw [ho] at ht
    exact ⟨Zip.C02_zip_decompress_inv (feederSrc files) fuel st n h.1 o ho, ht⟩

/-- in particular none of the undefined-behaviour outcomes -/
theorem C02_cab_mszip_no_ub_all (files : Files) (fuel : Nat) (st : Zip.St Feeder) (n : Nat) (h : MszipLive st) :
    (∀ w, Zip.decompress (feederSrc files) fuel st n ≠ .error (.oob w)) ∧
    (∀ w, Zip.decompress (feederSrc files) fuel st n ≠ .error (.uninit w)) ∧
    (∀ w, Zip.decompress (feederSrc files) fuel st n ≠ .error (.nullDeref w)) ∧
    Zip.decompress (feederSrc files) fuel st n ≠ .error .divZero ∧
    Zip.decompress (feederSrc files) fuel st n ≠ .error .shiftWidth := by
  have := (C02_cab_mszip_no_fault files fuel st n h).1
  refine ⟨fun w hf => ?_, fun w hf => ?_, fun w hf => ?_, fun hf => ?_, fun hf => ?_⟩ <;> cases this _ hf

/-- the decoder/feeder pair `cabd_extract` keeps for an MSZIP folder, between calls -/
def MszipPair : Dec → Feeder → Prop
  | .mszip st, fd => Zip.ZipInv st ∧ (st.error = .ok → FeederLive fd)
  | _, _ => False

/-- one `decompress` of `cabd_extract` on an MSZIP folder -/
theorem C02_cab_mszip_decompress_no_fault (files : Files) (st : Zip.St Feeder) (fd : Feeder) (n : Nat)
    (h : MszipPair (.mszip st) fd) :
    (∀ f, Cab.decompress files (.mszip st) fd n = .error f → f = .hang) ∧
    (∀ o, Cab.decompress files (.mszip st) fd n = .ok (some o) → MszipPair o.dec o.feeder) ∧
    Cab.decompress files (.mszip st) fd n ≠ .ok none := by
  have hz := C02_cab_mszip_no_fault files (chainFuel files fd) { st with src := fd } n ⟨h.1, h.2⟩
  rw [Cab.decompress_mszip]
  exact Call.map hz.1 hz.2

/-- **any number of calls**: skip phases, output phases, the members of the folder one after the other -/
theorem C02_cab_mszip_calls_no_fault (files : Files) : ∀ (ns : List Nat) (dec : Dec) (fd : Feeder) (f : Fault),
    MszipPair dec fd → cabCalls files dec fd ns = .error f → f = .hang :=
  cabCalls_keeps files (P := fun _ => MszipPair) (F := (· = .hang)) fun n _ dec fd hp => by
    cases dec with
    | mszip st =>
      have hd := C02_cab_mszip_decompress_no_fault files st fd n hp
      exact ⟨hd.1, hd.2.1⟩
    | _ => exact hp.elim

/-- the decoder `cabd_extract` sets up for an MSZIP folder satisfies the invariant -/
theorem C02_cab_mszip_fresh (files : Files) (p : Params) (m : Member) (key : Nat) (ds : DState)
    (st : Zip.St Feeder) (h : freshDState files p m key = .ok ds) (hd : ds.dec = some (.mszip st)) :
    MszipPair (.mszip st) ds.feeder := by
  have hl := (C02_cab_fresh_feeder files p m key ds h).1
  refine ⟨?_, fun _ => hl⟩
  exact Zip.C02_zip_init_inv nullFeeder p.bufSize p.fixMszip p.fill st (initDec_some (CabFuel.fresh_initDec p m key ds _ h hd)).2

/-- **from the folder's fresh decoder, any sequence of calls**: no fault but the bound -/
theorem C02_cab_mszip_fresh_no_fault (files : Files) (p : Params) (m : Member) (key : Nat) (ds : DState)
    (st : Zip.St Feeder) (h : freshDState files p m key = .ok ds) (hd : ds.dec = some (.mszip st))
    (ns : List Nat) (f : Fault) (hf : cabCalls files (.mszip st) ds.feeder ns = .error f) : f = .hang :=
  C02_cab_mszip_calls_no_fault files ns _ _ f (C02_cab_mszip_fresh files p m key ds st h hd) hf

/-- an MSZIP folder: one block `CK` + stored deflate block `x y z` -/
def zipPayload : Bytes := [0x43, 0x4B, 0x01, 0x03, 0x00, 0xFC, 0xFF, 0x78, 0x79, 0x7A]
def zipCab : Bytes := [0, 0, 0, 0, 10, 0, 3, 0] ++ zipPayload
def zipFiles : Files := [("z.cab", zipCab)]
def zipMember : Member :=
  { length := 3, offset := 0, folderKey := some 0, mergePrev := false, numBlocks := 1, compType := 1,
    parts := [⟨"z.cab", 0, 0⟩] }

/-- fresh decoder, two calls (1 byte, 2 bytes): the folder's three bytes come out, status OK -/
example : (match freshDState zipFiles {} zipMember 0 with
    | .ok ds =>
      (match ds.dec with
       | some (.mszip st) =>
         (match Cab.decompress zipFiles (.mszip st) ds.feeder 1 with
          | .ok (some o1) =>
            (match Cab.decompress zipFiles o1.dec o1.feeder 2 with
             | .ok (some o2) => o1.err == .ok && o2.err == .ok && o1.written ++ o2.written == [0x78, 0x79, 0x7A]
             | _ => false)
          | _ => false)
       | _ => false)
    | .error _ => false) = true := by decide +kernel

end MsPack.CabLift
