import Proofs.Lemmas.ChmBounds
import Proofs.Props.C04CabSession
import Proofs.Props.C02ChmExtract
/-!
# C04 for CHM, whole sessions — `chmd_extract` never runs out of fuel

`C04_chm_extract_no_hang` (`C04Loops.lean`) leaves one way for `hang`: an `lzxd_decompress` call, and
`C04_chm_lzx_call_no_hang` excludes it under a bound on the input the cached decoder has buffered.  Here that bound is an
invariant of the decompressor instance:

* `C04StOk files st h pos`: `Lzx.M` of the cached state, taken at file position `pos` of its handle's file, is at most
  `8 × file length + 16` — the decoder has buffered no more than the file has delivered up to `pos`;
  `C04InstOk`: that, at the saved position `d->inoffset` (where `chmd_extract` seeks before it resumes the decoder).
* a fresh instance has it; a decoder `chmd_init_decomp` has just set up has it (`initDecomp_post` with "holds no input");
  an OK `lzxd_decompress` call keeps it (`Lzx.Term2.decompress_ok_M`; the handle's file does not change:
  `C04_lzx_src_forward`); a call with another status makes `chmd_extract` drop the decoder; section-0 calls move only the
  handle.  With the invariant `M + 3 ≤ lzxFuel file = 16 × length + 100000` (`Lzx.Term2.no_hang_M`).
* `C04_chm_extract_no_hang_inv`: every call (either section, any outcome) on a header with `HdrInv` (what `open` /
  `fast_find` return) yields no `hang` and keeps the invariant; `C04_chm_session_no_hang`, `…_fresh_…`: any `chmRun`.
-/
namespace MsPack.Chm
open MsPack.ChmLift

def c04File (files : Files) (h : InFh) : Bytes := (files.lookup h.name).getD []

/-- the cached LZX state holds no more input than the file has delivered up to position `pos`: the bits it can still
    obtain (`Lzx.M`: buffered bits + 8 × (buffered bytes + bytes of the file beyond `pos`) + the 16 made-up bits) are
    at most 8 × file length + 16 -/
def C04StOk (files : Files) (st : Lzx.St Rd) (h : InFh) (pos : Nat) : Prop :=
  Lzx.M Rd.left ({ st with src := ⟨c04File files h, pos⟩ } : Lzx.St Rd) ≤ 8 * (c04File files h).length + 16

/-- during a call: relative to the handle's position -/
def C04DI (files : Files) (d : DState) : Prop :=
  ∀ st h, d.state = some st → d.infh = some h → C04StOk files st h h.pos
/-- between calls: relative to the saved `d->inoffset` -/
def C04DJ (files : Files) (d : DState) : Prop :=
  ∀ st h, d.state = some st → d.infh = some h → C04StOk files st h d.inoffset.toNat

theorem c04_lzxCall (files : Files) (x : X) (b : Int) (hx : C04DI files x.d) :
    lzxCall files x b ≠ .error .hang ∧ lzxCall files x b ≠ .ok none ∧
    ∀ e w x', lzxCall files x b = .ok (some (e, w, x')) → e = .ok → C04DI files x'.d := by
  have fuel {st : Lzx.St Rd} {h : InFh} (hst : x.d.state = some st) (hin : x.d.infh = some h) :
      infhBytes files x = c04File files h ∧
      Lzx.M Rd.left ({ st with src := ⟨c04File files h, h.pos⟩ } : Lzx.St Rd) + 3 ≤ lzxFuel (c04File files h) := by
    have hm := hx st h hst hin
    unfold C04StOk at hm
    unfold lzxFuel
    exact ⟨by simp only [infhBytes, hin, c04File], by omega⟩
  refine ⟨fun hc => ?_, lzxCall_ne_none files x b, fun e w x' hc heok => ?_⟩
  · rcases lzxCall_error _ _ _ _ hc with ⟨_, hne⟩ | ⟨st, h, hst, hin, hf⟩
    · exact hne rfl
    · obtain ⟨hfile, hfuel⟩ := fuel hst hin
      rw [hfile] at hf
      exact Lzx.Term2.no_hang_M rdSrc Rd.left Rd.src_finite _ _ _ hfuel hf
  · rcases lzxCall_some _ _ _ _ _ _ hc with ⟨rfl, _, _⟩ | ⟨st, h, o, hst, hin, ho, rfl, _, rfl⟩
    · cases heok
    obtain ⟨hfile, hfuel⟩ := fuel hst hin
    rw [hfile] at ho
    have hmono := Lzx.Term2.decompress_ok_M rdSrc Rd.left Rd.src_finite _ _ _ hfuel o ho heok
    have hsrc : o.st.src.file = c04File files h :=
      Lzx.C04_lzx_src_forward rdSrc (fun a b => b.file = a.file) (fun _ => rfl) (fun _ _ _ h1 h2 => h2.trans h1)
        (fun s n x s' hr => by
          simp only [rdSrc, Except.ok.injEq, Prod.mk.injEq] at hr
          rw [← hr.2]; rfl) _ _ _ o ho
    intro st' h' hst' hin'
    cases hst'
    cases hin'
    have hm := hx st h hst hin
    unfold C04StOk at hm ⊢
    have e : ({ o.st with src := ⟨c04File files h, o.st.src.pos⟩ } : Lzx.St Rd) = o.st := by
      have : (⟨c04File files h, o.st.src.pos⟩ : Rd) = o.st.src := by rw [← hsrc]
      rw [this]
    show Lzx.M Rd.left ({ o.st with src := ⟨c04File files h, o.st.src.pos⟩ } : Lzx.St Rd) ≤
      8 * (c04File files h).length + 16
    rw [e]
    omega

/-- a decoder `lzxd_init` has just made holds no input -/
def C04Fresh (st : Lzx.St Rd) : Prop := st.bits = [] ∧ st.inbuf = [] ∧ st.inputEnd = false

theorem c04_fresh_ok (files : Files) (st : Lzx.St Rd) (hf : C04Fresh st) (h : InFh) (pos : Nat) :
    C04StOk files st h pos := by
  obtain ⟨h1, h2, h3⟩ := hf
  unfold C04StOk
  simp only [Lzx.M, h1, h2, h3, List.length_nil, Rd.left, Bool.false_eq_true, if_false]
  omega

theorem C04DJ.nostate {files : Files} {d : DState} (h : d.state = none) : C04DJ files d :=
  fun st _ hst _ => by rw [h] at hst; cases hst

def C04InstOk (files : Files) (inst : Inst) : Prop := ∀ d, inst.d = some d → C04DJ files d

/-- **every `chmd_extract` call** (either section, succeeding or failing) on a header `open` / `fast_find` returned:
    no `hang`, and the instance it leaves is in the invariant again -/
theorem C04_chm_extract_no_hang_inv (files : Files) (fill : UInt8) (inst : Inst) (key : Nat) (hdr : Header)
    (hi : HdrInv hdr) (sec : Nat) (offset length : Int) (hinst : C04InstOk files inst) :
    ExtractRes (fun _ d => C04DJ files d) (· ≠ .hang) (extract files fill inst key hdr sec offset length) := by
  refine (extract_inv (fun _ d => C04DJ files d) (fun x => x.error = .ok → C04DI files x.d) (· ≠ .hang) files fill inst
    key hdr sec offset length hinst (fun _ hs _ _ => .nostate hs)
    (fun d h p hd hh st h' hst hh' => by cases hh'; exact hd st h hst hh)
    (fun d _ _ => ?_) (fun x h hx hh _ st h' hst hh' => by cases hh'; exact hx st h hst hh)
    (fun x b hx he => ?_) (fun x hx => ?_)).mono (fun _ _ h => h) (fun _ h => h.2)
  · have hp := initDecomp_post C04Fresh
      (fun r wb ri ibs ol dl fl st hh => by
        obtain ⟨a, b, c, _⟩ := MsPack.CabFuel.lzx_init_fields _ _ _ _ _ _ _ _ hh
        exact ⟨a, b, c⟩)
      files fill ⟨.ok, hdr, { d with state := none }⟩ offset hi (fun st hs => (by cases hs))
    exact ⟨fun f hf => absurd hf (hp.1 f),
      fun _ _ hr st h hst _ => c04_fresh_ok files st ((hp.2 _ _ hr).2.1 st hst) h _⟩
  · have hc := c04_lzxCall files x b (hx he)
    exact ⟨fun f hf hh => hc.1 (hh ▸ hf), fun e w x' hr he' => hc.2.2 e w x' hr he'⟩
  · obtain ⟨io, he, hio⟩ := sec1End_eq x
    rw [he]
    intro st h hst hh
    split at hst
    · cases hst
    · rename_i hok
      have := hx (Decidable.not_not.mp hok) st h hst hh
      rw [hio h hh]
      exact this

theorem C04InstOk.fresh (files : Files) (e : Err) : C04InstOk files ⟨e, none⟩ := fun _ h => by cases h

/-- **C04 (CHM), whole sessions**: any list of `extract` calls on opened headers, stored and compressed members
    mixed, from any instance in the invariant (a fresh one is): no call runs out of fuel -/
theorem C04_chm_session_no_hang (files : Files) (fill : UInt8) :
    ∀ (calls : List (Nat × Header × Nat × Int × Int)) (inst : Inst), C04InstOk files inst →
    (∀ c ∈ calls, HdrInv c.2.1) → chmRun files fill calls inst ≠ some .hang
  | [], _, _, _ => by simp [chmRun]
  | (key, hdr, sec, offset, length) :: rest, inst, hinst, hc => by
    rw [chmRun]
    have h := C04_chm_extract_no_hang_inv files fill inst key hdr (hc _ (List.mem_cons_self ..)) sec offset length hinst
    have hrest : ∀ c ∈ rest, HdrInv c.2.1 := fun c hm => hc c (List.mem_cons_of_mem _ hm)
    split
    · rename_i e inst' hdr' out he
      rw [he] at h
      obtain ⟨d, hd, h1⟩ := h
      exact C04_chm_session_no_hang files fill rest inst' (fun d' hd' => by rw [hd] at hd'; cases hd'; exact h1) hrest
    · rename_i inst' hdr' he
      rw [he] at h
      exact h.elim
    · rename_i f he
      rw [he] at h
      intro hh; cases hh; exact h rfl

theorem C04_chm_session_fresh_no_hang (files : Files) (fill : UInt8) (calls : List (Nat × Header × Nat × Int × Int))
    (hc : ∀ c ∈ calls, HdrInv c.2.1) : chmRun files fill calls {} ≠ some .hang :=
  C04_chm_session_no_hang files fill calls {} (C04InstOk.fresh files .ok) hc

/-- non-vacuity: the example header of `C03Headers.lean`, a compressed member then stored ones -/
example : chmRun [("x.chm", encodeChm exampleSpec)] 0
    [(7, exampleSpec.listed "x.chm", 1, 300, 70000), (7, exampleSpec.listed "x.chm", 0, 2, 3)] {} ≠ some .hang :=
  C04_chm_session_fresh_no_hang _ _ _ (by
    intro c hc
    simp only [List.mem_cons, List.not_mem_nil, or_false] at hc
    rcases hc with rfl | rfl <;> exact ⟨by decide, fun _ h => by cases h⟩)

end MsPack.Chm
