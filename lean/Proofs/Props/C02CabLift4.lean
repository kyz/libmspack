import Proofs.Lemmas.FeederThreadLzx
import Proofs.Props.C02CabLift3
/-!
# C02 — LZX folders of a cabinet

`Proofs/Lemmas/FeederThreadLzx.lean` has the walk of every helper of the LZX model (`LzxSim.lean`) for two
sources, as the relational triple `Sim True`: from a decoder state whose feeder is live and satisfies `FeederLen files L` (the states of one
folder: closed under reads, announcing only `L`), the run over the CAB feeder `feederSrc files` and
the run over `lenFiltered files L` (same `read`, deaf to announcements other than `L`) coincide,
no fault is a null dereference, and the invariant holds again afterwards unless the sticky error
is set.  Since `lenFiltered files L` satisfies `LenStable` for every state, the decoder theorems of
`C02Lzx.lean` transfer:

* `C02_cab_lzx_no_oob`: no out-of-bounds outcome (below 2 GiB of output);
* `C02_cab_lzx_no_fault`: the only faults are the iteration bound and a read of a decode table that
  was never built (`uninit`, property C11); the invariant `LzxLive` is preserved;
* `C02_cab_lzx_fresh`: the decoder `cabd_extract` sets up for an LZX folder satisfies `LzxLive`
  for `L` = the folder's total uncompressed size as its block headers give it.
-/
namespace MsPack.CabLift
open MsPack.Cab

/-- the LZX invariant does not mention the input handle (the CAB layer swaps it before each call) -/
theorem Good_src {σ τ : Type} {L : Nat} {st : Lzx.St σ} (x : τ) (h : Lzx.Good L st) :
    Lzx.Good L ({ st with src := x } : Lzx.St τ) :=
  ⟨⟨h.inv.win, h.inv.wsLe, h.inv.wsDvd, h.inv.wsPos, h.inv.pre, h.inv.main, h.inv.len, h.inv.ali, h.inv.e8,
    h.inv.nOff, h.inv.ref, h.inv.tbl⟩, h.wpfp, h.fpLt, h.outLe, h.outSz, h.len, h.align, h.cnt⟩

/-- the invariant of an LZX decoder state under the CAB feeder of a folder announcing `L` -/
def LzxLive (files : Files) (L : Nat) (st : Lzx.St Feeder) : Prop :=
  Lzx.LzxInv L st ∧ (st.error = .ok → FeederLive st.src ∧ FeederLen files L st.src)

theorem C02_cab_lzx_run_eq (files : Files) (L : Nat) (fuel : Nat) (st : Lzx.St Feeder) (n : Nat)
    (h : st.error = .ok → FeederLive st.src ∧ FeederLen files L st.src) :
    Lzx.decompress (feederSrc files) fuel st n = Lzx.decompress (lenFiltered files L) fuel st n :=
  (LzxThread.decompress_cg files L fuel st n h).1

/-- **LZX in a cabinet: no out-of-bounds access** (below 2 GiB of output) -/
theorem C02_cab_lzx_no_oob (files : Files) (L : Nat) (fuel : Nat) (st : Lzx.St Feeder) (n : Nat)
    (h : LzxLive files L st) (ho : st.offset + n < 2147483648) (s : String) :
    Lzx.decompress (feederSrc files) fuel st n ≠ .error (.oob s) :=
  (C02_cab_lzx_no_oob_of_run_eq_partial
    files L fuel st n h.1 ho (C02_cab_lzx_run_eq files L fuel st n h.2) s)

/-- **LZX in a cabinet, all fault kinds**: the iteration bound or an unbuilt decode table; the
    invariant holds again of the state returned, whose offset has grown by at most the request -/
theorem C02_cab_lzx_no_fault (files : Files) (L : Nat) (fuel : Nat) (st : Lzx.St Feeder) (n : Nat)
    (h : LzxLive files L st) (ho : st.offset + n < 2147483648) :
    (∀ f, Lzx.decompress (feederSrc files) fuel st n = .error f → f = .hang ∨ ∃ s, f = .uninit s) ∧
    (∀ o, Lzx.decompress (feederSrc files) fuel st n = .ok o →
      LzxLive files L o.st ∧ (o.st.error = .ok → o.st.offset ≤ st.offset + n)) := by
  obtain ⟨heq, hout⟩ := LzxThread.decompress_cg files L fuel st n h.2
  refine ⟨fun f hf => ?_, fun o hk => ?_⟩
  · rw [hf] at hout
    rw [heq] at hf
    rcases (C02_cab_lzx_faults_partial
      files L fuel st n h.1 ho f hf) with h1 | h1 | h1 | h1
    · exact Or.inl h1
    · exact Or.inr h1
    · exact absurd h1 (hout _)
    · exact absurd h1 (hout _)
  · rw [hk] at hout
    rw [heq] at hk
    have := Lzx.C02_lzx_inv_preserved (lenFiltered files L) L (lenFiltered_stable files L) fuel st n h.1 ho o hk
    exact ⟨⟨this.1, fun he => (hout he).1⟩, this.2⟩

/-- a status other than OK is sticky: if the state returned is still alive, the call returned OK -/
theorem C02_cab_lzx_status_sticky (files : Files) (L : Nat) (fuel : Nat) (st : Lzx.St Feeder) (n : Nat)
    (h : LzxLive files L st) (o : DecodeOut (Lzx.St Feeder))
    (hk : Lzx.decompress (feederSrc files) fuel st n = .ok o) (he : o.st.error = .ok) : o.err = .ok := by
  have hout := (LzxThread.decompress_cg files L fuel st n h.2).2
  rw [hk] at hout
  exact (hout he).2

/-- none of the undefined-behaviour outcomes other than `uninit` (property C11) -/
theorem C02_cab_lzx_no_ub (files : Files) (L : Nat) (fuel : Nat) (st : Lzx.St Feeder) (n : Nat)
    (h : LzxLive files L st) (ho : st.offset + n < 2147483648) :
    (∀ w, Lzx.decompress (feederSrc files) fuel st n ≠ .error (.oob w)) ∧
    (∀ w, Lzx.decompress (feederSrc files) fuel st n ≠ .error (.nullDeref w)) ∧
    Lzx.decompress (feederSrc files) fuel st n ≠ .error .divZero ∧
    Lzx.decompress (feederSrc files) fuel st n ≠ .error .shiftWidth := by
  have := (C02_cab_lzx_no_fault files L fuel st n h ho).1
  refine ⟨fun w hf => ?_, fun w hf => ?_, fun hf => ?_, fun hf => ?_⟩ <;>
    rcases this _ hf with h1 | ⟨_, h1⟩ <;> cases h1

/-- the decoder `cabd_extract` sets up for an LZX folder satisfies the invariant, for the `L` the
    folder's block headers add up to -/
theorem C02_cab_lzx_fresh (files : Files) (p : Params) (m : Member) (key : Nat) (ds : DState)
    (st : Lzx.St Feeder) (h : freshDState files p m key = .ok ds) (hd : ds.dec = some (.lzx st)) :
    ∃ L, LzxLive files L ({ st with src := ds.feeder } : Lzx.St Feeder) ∧ st.offset = 0 := by
  have hf := C02_cab_fresh_feeder files p m key ds h
  obtain ⟨L, hL⟩ := C02_cab_lzx_len_exists files ds.feeder hf.2.1
  refine ⟨L, ?_⟩
  have hq := (initDec_some (CabFuel.fresh_initDec p m key ds _ h hd)).2
  have hinv := Lzx.C02_lzx_init_inv nullFeeder _ 0 p.bufSize 0 false p.fill st L (Or.inl rfl) hq
  refine ⟨⟨?_, fun _ => ⟨hf.1, hL⟩⟩, Lzx.init_offset nullFeeder _ 0 p.bufSize 0 false p.fill st hq⟩
  rcases hinv with he | hg
  · exact Or.inl he
  · exact Or.inr (Good_src _ hg)

end MsPack.CabLift
