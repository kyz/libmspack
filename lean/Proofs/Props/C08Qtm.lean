import MsPack.Qtm.Decoder
import MsPack.Lzss.Decoder
/-!
# C08, Quantum: does asking for `a` and then `b` bytes equal asking for `a + b`?

For MSZIP the answer is yes in both directions (`C08Mszip.lean`).  For `qtmd_decompress` (model: `Qtm.decompress`):

* **The converse law (`a + b` OK ⇒ `a` OK then `b` OK) fails on an evaluated input** (an observation made by running
  the model in the interpreter, not a theorem: no build step checks it), and — the model follows qtmd.c line by line
  here — so does the C.  `frame_end` depends on `out_bytes`; when a match crosses the end of the window the C has to
  flush `o_ptr .. window end` in the middle of the match and bails out with MSPACK_ERR_DECRUNCH if that is more than
  the bytes still asked for ("this should not happen, but if it does then this code can't handle the situation").
  It does happen when a request ends shortly before the window end and the match decoded there wraps.  Witness
  (evaluated with `#eval` in the interpreter; a run over 3000 input bytes is beyond what `decide +kernel` evaluates
  within a build, which is why it is not a theorem): stream `QtmChunk.witness` (3000 bytes of an LCG, seed 1), window
  2^10, buffer 4096, fuel 100000:
  ```
  open MsPack MsPack.Qtm MsPack.Qtm.QtmChunk in
  #eval (init (⟨witness, 0⟩ : Rd) 10 4096 0).map fun st =>
    (view (decompress Rd.src 100000 st 1200), view (decompress Rd.src 100000 st 1000))
  -- some (some (MsPack.Err.ok, 1200), some (MsPack.Err.decrunch, 0))
  ```
  one call for 1200 bytes returns OK with 1200 bytes; a call for 1000 bytes on the same fresh state returns
  MSPACK_ERR_DECRUNCH with nothing written (so do calls for 1001 … 1023 bytes; from 1024 on they are OK again; the
  one call for `a + 200` bytes is OK for all of them).  So whether the first 1200 bytes of a Quantum folder can be
  extracted depends on where the request boundaries (member boundaries, skip/extract phases of `cabd_extract`) fall.
* **The forward law restricted to OK results** (`a` OK, then `b` OK ⇒ `a + b` OK with `w1 ++ w2` and the same state)
  held in ≈ 490 (stream, a, b) combinations evaluated in the interpreter with both calls OK (the inputs are not part
  of the development; 12 pseudo-random streams,
  `a` ∈ {1, 5, 100, 500, 1000, 1020, 1023, 1024, 1025, 2000, 2047, 2048, 3000}, `b` ∈ {1, 30, 1000, 1024}, comparing
  status, bytes, `o_ptr`, `o_end`, `window_posn`, `frame_todo`).  It is **not proved here**.  With a non-OK second
  status it cannot hold for the bytes: the single call writes only at the end (or at a window wrap), the two calls
  have already written `w1`.
* Proved: the bookkeeping of the stored-up bytes — a request inside `o_ptr .. o_end` is served from them without
  decoding, and two such requests are one (`C08_qtm_pending_exact`, `C08_qtm_chunk_law_pending`).

What a proof of the forward law needs (none of it is proved): (1) `written` is append-only and never read
(a relational pass over all `QM` helpers; `get` hands the whole `Run` to its continuation, so this is not a one-line
frame rule); (2) `symbolLoop fe₁` followed by `symbolLoop fe₂` is `symbolLoop fe₂` for `fe₁ ≤ fe₂` as long as no
wrapping match is met, and at a wrapping match the test `fl > out_bytes` has the same outcome in both runs
(`fl - out_bytes` is invariant under handing out bytes); (3) the store/restore of the local state between the calls
is the identity on reachable states (`bitsLeft < 256`, `QtmTerm.Sync`).
-/
namespace MsPack.Qtm.QtmChunk

/-- a pseudo-random byte stream (any byte stream is a Quantum stream: the arithmetic decoder turns it into symbols) -/
def lcg (seed : Nat) : Nat → List UInt8
  | 0 => []
  | n + 1 =>
    let s := (seed * 1103515245 + 12345) % 2147483648
    UInt8.ofNat (s / 65536 % 256) :: lcg s n

def witness : Bytes := lcg 1 3000

def view {τ : Type} : Except Fault (DecodeOut τ) → Option (Err × Nat)
  | .ok o => some (o.err, o.written.length)
  | .error _ => none

end MsPack.Qtm.QtmChunk

namespace MsPack.Qtm

variable {σ : Type} (S : Src σ)

/-- a request inside the stored-up bytes: handed out from the window, nothing decoded, only `o_ptr` moves -/
theorem C08_qtm_pending_exact (fuel : Nat) (st : St σ) (he : st.error = .ok) (a : Nat)
    (ha : a ≤ st.oEnd - st.oPtr) (hb : st.oEnd ≤ st.window.size) :
    decompress S fuel st a =
      .ok ⟨.ok, (st.window.extract st.oPtr (st.oPtr + a)).toList, { st with oPtr := st.oPtr + a }⟩ := by
  have hi : (if st.oEnd - st.oPtr > a then a else st.oEnd - st.oPtr) = a := by split <;> omega
  unfold decompress
  rw [if_neg (fun h => h he)]
  dsimp only
  rw [hi, if_neg (by omega), Nat.sub_self, if_pos rfl]

/-- **chunking law, stored-up bytes**: `a` then `b` is `a + b` (status, bytes, state) when both fit into the bytes
    already decoded -/
theorem C08_qtm_chunk_law_pending (fuel : Nat) (st : St σ) (he : st.error = .ok) (a b : Nat)
    (hab : a + b ≤ st.oEnd - st.oPtr) (hb : st.oEnd ≤ st.window.size) :
    ∃ w1 st1 w2 st2, decompress S fuel st a = .ok ⟨.ok, w1, st1⟩ ∧ decompress S fuel st1 b = .ok ⟨.ok, w2, st2⟩ ∧
      decompress S fuel st (a + b) = .ok ⟨.ok, w1 ++ w2, st2⟩ := by
  refine ⟨_, _, _, _, C08_qtm_pending_exact S fuel st he a (by omega) hb,
    C08_qtm_pending_exact S fuel { st with oPtr := st.oPtr + a } he b (by dsimp only; omega) hb, ?_⟩
  rw [C08_qtm_pending_exact S fuel st he (a + b) hab hb]
  dsimp only
  rw [← Array.toList_append, Array.extract_append_extract, Nat.add_assoc]
  have h1 : min st.oPtr (st.oPtr + a) = st.oPtr := by omega
  have h2 : max (st.oPtr + a) (st.oPtr + (a + b)) = st.oPtr + (a + b) := by omega
  rw [h1, h2]

end MsPack.Qtm
