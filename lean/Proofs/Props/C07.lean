import Proofs.Lemmas.OabCount
import Proofs.Lemmas.Count
/-!
# C07 — OK means complete: output never exceeds, and on success equals, the declared size (CAB, OAB)

Generic over the stream decoders through two laws about one `decompress(state, n)` call:
`CountLaw` (L1: at most `n` bytes reach `write`; exactly `n` if it returns OK) and `ReadErrLaw`
(a decoder reporting READ has seen the feeder fail, so the `READ → read_error` substitution in
`cabd_extract` cannot produce OK).  `CountLaw` is proved for the stored-data decoder in
`Lemmas/Count.lean` (`countLaw_none`).  `C07Decoders.lean` does not prove the laws for every decoder state, as the
theorems below ask them (MSZIP's count needs its window; a READ goes with a failed feeder only as an invariant of decoder
and feeder together): it proves the same conclusions over invariants that `cabd_extract` sets up and keeps.

The second half is the same for OAB: `oabd_decompress` and `oabd_decompress_incremental` never write
more than the header's TargetSize and write exactly that on OK, given the LZX decoder's counting law
(`LzxCount`, discharged in `C07Decoders.lean` as `C07_lzxCount`).
-/
namespace MsPack.Cab

/-- whatever the cabinet, the parameters (strict or salvage) and the cached decoder state:
    `extract` never hands more than the member's declared length to the output -/
theorem C07_written_le_declared (files : Files) (hL : ∀ dec, CountLaw files dec) (p : Params)
    (d : Option DState) (m : Member) (e : Err) (w : Bytes) (d' : Option DState)
    (h : extract files p d m = .done e (some w) d') : w.length ≤ m.length :=
  (CountLaws.CabInv.extract_written_le files (fun _ => True) (fun dec _ => hL dec) (fun _ _ _ _ _ _ => trivial) p d m
    (fun _ _ _ _ => trivial) (fun _ _ => trivial) e w d' h).1

/-- strict mode: MSPACK_ERR_OK implies exactly the declared number of bytes
    (contrapositive: fewer bytes ⇒ a non-OK status) -/
theorem C07_ok_means_complete_partial (files : Files) (hL : ∀ dec, CountLaw files dec)
    (hR : ∀ dec, ReadErrLaw files dec) (p : Params) (hs : p.salvage = false)
    (d : Option DState) (m : Member) (w : Bytes) (d' : Option DState)
    (h : extract files p d m = .done .ok (some w) d') : w.length = m.length :=
  CountLaws.CabInv.extract_ok_complete files (fun _ => True) (fun dec _ => hL dec) (fun dec _ => hR dec)
    (fun _ _ _ _ _ _ => trivial) p hs d m (fun _ _ _ _ => trivial) (fun _ _ => trivial) w d' h

/-- the counting law holds for the stored-data decoder in every state -/
theorem C07_count_law_stored (files : Files) (bs : Nat) (e : Err) : CountLaw files (.none bs e) :=
  countLaw_none files bs e

end MsPack.Cab

namespace MsPack.Oab
open MsPack.Generated

/-- `oabd_decompress`, **every** input file: the bytes that reached the output never exceed the header's
    TargetSize, and MSPACK_ERR_OK means exactly TargetSize bytes — given the LZX decoder's counting law
    (`LzxCount`: `lzxd_decompress(lzx, n)` writes at most `n` bytes, exactly `n` on OK; stored blocks and
    `copy_fh` are proved) -/
theorem C07_oab_written_le_target (fuel bufSize : Nat) (hL : LzxCount fuel bufSize) (fill : UInt8) (file : Bytes)
    (outIsIn : Bool) (e : Err) (w : Bytes)
    (h : decompress fuel bufSize fill (some file) outIsIn = .ok ⟨e, some w⟩) :
    ∃ hdr infh, (⟨file, 0⟩ : Rd).readExact oabheadSIZEOF = some (hdr, infh) ∧
      w.length ≤ u32At hdr oabhead_TargetSize ∧ (e = .ok → w.length = u32At hdr oabhead_TargetSize) :=
  decompress_count fuel bufSize hL fill file outIsIn e w h

/-- the same for `oabd_decompress_incremental`, every patch and base file -/
theorem C07_oab_patch_written_le_target (fuel bufSize : Nat) (hL : LzxCount fuel bufSize) (fill : UInt8) (file : Bytes)
    (base : Option Bytes) (outIsIn outIsBase : Bool) (e : Err) (w : Bytes)
    (h : decompressIncremental fuel bufSize fill (some file) base outIsIn outIsBase = .ok ⟨e, some w⟩) :
    ∃ hdr infh, (⟨file, 0⟩ : Rd).readExact patchheadSIZEOF = some (hdr, infh) ∧
      w.length ≤ u32At hdr patchhead_TargetSize ∧ (e = .ok → w.length = u32At hdr patchhead_TargetSize) :=
  decompressIncremental_count fuel bufSize hL fill file base outIsIn outIsBase e w h

end MsPack.Oab
