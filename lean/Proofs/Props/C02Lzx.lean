import Proofs.Lemmas.LzxFrame
/-!
# C02 — memory safety of the LZX decoder model (`Lzx.decompress`)

Every array access of `lzxd.c` is a checked access in `MsPack/Lzx/Decoder.lean`; the out-of-bounds
outcome is `Fault.oob "<site>"`.  The theorems below say that `Lzx.decompress` never takes it:

* for **every** source `S : Src σ` whose own `read` does not report an oob fault and whose
  announcements of the output length (`S.lzxLength`, = `lzxd_set_output_length` called from inside
  `cabd_sys_read`) are *stable* (`LenStable S L₀`: every announcement is `0` or the one value `L₀`).
  Plain sources never announce (`lenStable_of_none`).  The CAB feeder meets the first condition
  (`C02_feeder_no_oob`) but NOT `LenStable` as stated (`C02_cab_lenStable_fails`, `Props/C02CabLift.lean`:
  the premise ranges over all source states); what is proved for it there is the form restricted to the
  feeder states of one folder (`C02_cab_lzx_lenStable_on`, `C02_cab_lzx_no_oob_partial`);
* for every fuel, every requested byte count, every state satisfying the invariant `LzxInv L₀`
  (established by `Lzx.init`, preserved by `Lzx.decompress` and `Lzx.setReferenceData`);
* as long as fewer than 2 GiB have been asked for in total (`st.offset + outBytes < 2^31`).

All twenty-odd sites are covered (window: literal / match source / match destination / raw copy /
E8 copy / write; `inbuf`; `buf`; `PRETREE_len`, `MAINTREE_len`, `LENGTH_len`, `ALIGNED_len`, `lens`;
`extra_bits`, `position_base`; `e8_buf`, `e8_buf (write)`).  The two side conditions are needed on the
model (the first has a witness at the end of this file, `matchBeyond2G`; the second has none):

* beyond 2 GiB of output `match_offset - window_posn` does not fit an `int` and the model's
  `oob "window (match source)"` branch of `copyMatch` is reachable;
* a source (or a caller of `setOutputLength`) that changes the announced length after a short
  last frame un-aligns `frame_posn`, and the next full frame runs over the end of the window.

The model has no `nullDeref` / `shiftWidth` / `divZero` sites; `C02_lzx_faults_benign` shows that
*every* fault of `decompress` is fuel exhaustion, a read of a decode table that was never built
(`Fault.uninit`, property C11), or a fault handed up by the source.
-/
namespace MsPack.Lzx
variable {σ : Type}

theorem lenStable_of_none (S : Src σ) (h : ∀ x, S.lzxLength x = none) (L₀ : Nat) : LenStable S L₀ := by
  intro x n got x' m _ hm; rw [h] at hm; contradiction

/-- every fault of `decompress` is benign: fuel, an unbuilt table, or a fault of the source itself -/
theorem C02_lzx_faults_benign (S : Src σ) (L₀ : Nat) (hL : LenStable S L₀) (fuel : Nat) (st : St σ)
    (outBytes : Nat) (hinv : LzxInv L₀ st) (ho : st.offset + outBytes < 2147483648) (f : Fault)
    (h : decompress S fuel st outBytes = .error f) :
    f = .hang ∨ (∃ s, f = .uninit s) ∨ (∃ x n, S.read x n = .error f) := by
  have := decompress_spec S L₀ hL fuel st outBytes hinv ho
  rw [h] at this
  exact this

/-- a fault other than the fuel bound and an unbuilt table that the source never returns is not returned
    by a call -/
theorem C02_lzx_no_fault (S : Src σ) (L₀ : Nat) (hL : LenStable S L₀) (f : Fault) (hf : f ≠ .hang)
    (hu : ∀ s, f ≠ .uninit s) (hS : ∀ x n, S.read x n ≠ .error f) (fuel : Nat) (st : St σ) (outBytes : Nat)
    (hinv : LzxInv L₀ st) (ho : st.offset + outBytes < 2147483648) :
    decompress S fuel st outBytes ≠ .error f := fun h =>
  (C02_lzx_faults_benign S L₀ hL fuel st outBytes hinv ho f h).elim hf
    (·.elim (fun ⟨s, e⟩ => hu s e) fun ⟨x, n, hr⟩ => hS x n hr)

/-- **C02 (LZX)**: no out-of-bounds access -/
theorem C02_lzx_no_oob (S : Src σ) (L₀ : Nat) (hL : LenStable S L₀)
    (hS : ∀ x n s, S.read x n ≠ .error (.oob s)) (fuel : Nat) (st : St σ) (outBytes : Nat)
    (hinv : LzxInv L₀ st) (ho : st.offset + outBytes < 2147483648) (s : String) :
    decompress S fuel st outBytes ≠ .error (.oob s) :=
  C02_lzx_no_fault S L₀ hL _ Fault.noConfusion (fun _ => Fault.noConfusion) (fun x n => hS x n s) fuel st outBytes hinv ho

theorem C02_lzx_no_nullDeref (S : Src σ) (L₀ : Nat) (hL : LenStable S L₀)
    (hS : ∀ x n s, S.read x n ≠ .error (.nullDeref s)) (fuel : Nat) (st : St σ) (outBytes : Nat)
    (hinv : LzxInv L₀ st) (ho : st.offset + outBytes < 2147483648) (s : String) :
    decompress S fuel st outBytes ≠ .error (.nullDeref s) :=
  C02_lzx_no_fault S L₀ hL _ Fault.noConfusion (fun _ => Fault.noConfusion) (fun x n => hS x n s) fuel st outBytes hinv ho

theorem C02_lzx_no_shiftWidth (S : Src σ) (L₀ : Nat) (hL : LenStable S L₀)
    (hS : ∀ x n, S.read x n ≠ .error .shiftWidth) (fuel : Nat) (st : St σ) (outBytes : Nat)
    (hinv : LzxInv L₀ st) (ho : st.offset + outBytes < 2147483648) :
    decompress S fuel st outBytes ≠ .error .shiftWidth :=
  C02_lzx_no_fault S L₀ hL _ Fault.noConfusion (fun _ => Fault.noConfusion) hS fuel st outBytes hinv ho

theorem C02_lzx_no_divZero (S : Src σ) (L₀ : Nat) (hL : LenStable S L₀)
    (hS : ∀ x n, S.read x n ≠ .error .divZero) (fuel : Nat) (st : St σ) (outBytes : Nat)
    (hinv : LzxInv L₀ st) (ho : st.offset + outBytes < 2147483648) :
    decompress S fuel st outBytes ≠ .error .divZero :=
  C02_lzx_no_fault S L₀ hL _ Fault.noConfusion (fun _ => Fault.noConfusion) hS fuel st outBytes hinv ho

/-- `lzxd_init` establishes the invariant -/
theorem C02_lzx_init_inv (src : σ) (windowBits resetInterval inputBufferSize outputLength : Nat)
    (isDelta : Bool) (fill : UInt8) (st : St σ) (L₀ : Nat) (hl : outputLength = 0 ∨ outputLength = L₀)
    (h : init src windowBits resetInterval inputBufferSize outputLength isDelta fill = some st) :
    LzxInv L₀ st :=
  init_inv src windowBits resetInterval inputBufferSize outputLength isDelta fill st L₀ hl h

/-- `lzxd_decompress` preserves the invariant, and `offset` grows by at most what was asked for -/
theorem C02_lzx_inv_preserved (S : Src σ) (L₀ : Nat) (hL : LenStable S L₀) (fuel : Nat) (st : St σ)
    (outBytes : Nat) (hinv : LzxInv L₀ st) (ho : st.offset + outBytes < 2147483648) (o : DecodeOut (St σ))
    (h : decompress S fuel st outBytes = .ok o) :
    LzxInv L₀ o.st ∧ (o.st.error = .ok → o.st.offset ≤ st.offset + outBytes) := by
  have := decompress_spec S L₀ hL fuel st outBytes hinv ho
  rw [h] at this
  rcases this with h1 | ⟨h1, h2⟩
  · exact ⟨Or.inl h1, fun e => absurd e h1⟩
  · exact ⟨Or.inr h1, fun _ => h2⟩

/-- `lzxd_set_reference_data` preserves the invariant -/
theorem C02_lzx_setReferenceData_inv (L₀ : Nat) (st : St σ) (length : Nat) (ref : Option Bytes)
    (h : LzxInv L₀ st) : LzxInv L₀ (setReferenceData st length ref).2 :=
  setReferenceData_inv L₀ st length ref h

/-- a sequence of `lzxd_decompress` calls on one stream -/
def decompressSeq (S : Src σ) (fuel : Nat) : St σ → List Nat → Except Fault (St σ)
  | st, [] => .ok st
  | st, n :: ns =>
    match decompress S fuel st n with
    | .error f => .error f
    | .ok o => decompressSeq S fuel o.st ns

/-- **C02 (LZX), any number of calls**: from a state satisfying the invariant, no sequence of requests
    adding up to less than 2 GiB makes the decoder touch memory out of bounds -/
theorem C02_lzx_seq_no_oob (S : Src σ) (L₀ : Nat) (hL : LenStable S L₀)
    (hS : ∀ x n s, S.read x n ≠ .error (.oob s)) (fuel : Nat) :
    ∀ (ns : List Nat) (st : St σ), LzxInv L₀ st → (st.error = .ok → st.offset + ns.sum < 2147483648) →
      ∀ s, decompressSeq S fuel st ns ≠ .error (.oob s)
  | [], st, _, _, s => by simp [decompressSeq]
  | n :: ns, st, hinv, ho, s => by
    rw [decompressSeq]
    by_cases he : st.error = .ok
    · have ho' := ho he
      simp only [List.sum_cons] at ho'
      split
      · rename_i f hf
        intro hc
        simp only [Except.error.injEq] at hc
        subst hc
        exact C02_lzx_no_oob S L₀ hL hS fuel st n hinv (by omega) s hf
      · rename_i o hok
        obtain ⟨hi', hoff⟩ := C02_lzx_inv_preserved S L₀ hL fuel st n hinv (by omega) o hok
        exact C02_lzx_seq_no_oob S L₀ hL hS fuel ns o.st hi' (fun e => by have := hoff e; omega) s
    · rw [decompress_dead S fuel st n he]
      exact C02_lzx_seq_no_oob S L₀ hL hS fuel ns st hinv (fun e => absurd e he) s

/-- … in particular from `lzxd_init`, for a source that makes no length announcements -/
theorem C02_lzx_from_init_no_oob (S : Src σ) (hN : ∀ x, S.lzxLength x = none)
    (hS : ∀ x n s, S.read x n ≠ .error (.oob s)) (fuel : Nat)
    (src : σ) (windowBits resetInterval inputBufferSize outputLength : Nat) (isDelta : Bool) (fill : UInt8)
    (st : St σ) (h : init src windowBits resetInterval inputBufferSize outputLength isDelta fill = some st)
    (ns : List Nat) (hs : ns.sum < 2147483648) (s : String) :
    decompressSeq S fuel st ns ≠ .error (.oob s) := by
  have hinv := C02_lzx_init_inv src windowBits resetInterval inputBufferSize outputLength isDelta fill st
    outputLength (Or.inr rfl) h
  have hoff : st.offset = 0 :=
    init_offset src windowBits resetInterval inputBufferSize outputLength isDelta fill st h
  exact C02_lzx_seq_no_oob S outputLength (lenStable_of_none S hN _) hS fuel ns st hinv
    (fun _ => by rw [hoff]; omega) s

/-- a plain in-memory source: never faults, never announces a length -/
def listSrc : Src Bytes := { read := fun bs n => .ok (some (bs.take n), bs.drop n) }

/-- an LZX stream: intel header bit 0, one UNCOMPRESSED block of 5 bytes (R0 = R1 = R2 = 1), "hello" -/
def helloStream : Bytes :=
  [0x00, 0x30, 0x50, 0x00, 1, 0, 0, 0, 1, 0, 0, 0, 1, 0, 0, 0, 104, 101, 108, 108, 111]

def runHello : Option (Err × Bytes) :=
  match init (σ := Bytes) helloStream 15 0 4096 5 false 0 with
  | none => none
  | some st =>
    match decompress listSrc 1000 st 5 with
    | .error _ => none
    | .ok o => some (o.err, o.written)

/-- the entry point does real work on a state produced by `init` and returns normally -/
theorem C02_lzx_example_runs : runHello = some (.ok, [104, 101, 108, 108, 111]) := by decide +kernel

/-- the hypotheses of the theorems are satisfiable: for the in-memory source every call sequence from
    `init` (any parameters, any bytes, any fuel) asking for less than 2 GiB is free of oob outcomes -/
example (bs : Bytes) (wb ri ibs ol : Nat) (d : Bool) (fill : UInt8) (st : St Bytes)
    (h : init bs wb ri ibs ol d fill = some st) (fuel : Nat) (ns : List Nat) (hs : ns.sum < 2147483648)
    (s : String) : decompressSeq listSrc fuel st ns ≠ .error (.oob s) :=
  C02_lzx_from_init_no_oob listSrc (fun _ => rfl) (fun _ _ _ h => by simp [listSrc] at h) fuel bs wb ri ibs ol d
    fill st h ns hs s

/-- why the 2 GiB bound is a hypothesis: with `lzx->offset ≥ 2^31` a match offset just above
    `window_posn + 2^31` passes both checks of "copy match" and the model's
    `oob "window (match source)"` branch is taken (`j = match_offset - window_posn` is negative as an `int`) -/
def matchBeyond2G : Option Fault :=
  match init (σ := Bytes) [] 15 0 4096 0 false 0 with
  | none => none
  | some st =>
    match ((copyMatch (σ := Bytes) ⟨none, none, none, false, false, false, 32768, 0, 2147483648 + 10⟩
        (2147483648 + 1) 3).run.run st).1 with
    | .error (.fault f) => some f
    | _ => none

example : matchBeyond2G = some (.oob "window (match source)") := by decide +kernel

end MsPack.Lzx
