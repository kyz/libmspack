import Proofs.Lemmas.FeederFaults
/-!
# C02 — memory safety (CAB container part)

`d->input[CAB_INPUTBUF]` is the one fixed buffer file data is read into.  The model's block
reader has an explicit `fault (oob "d->input")` outcome where a read would not fit the buffer
size extracted from `cab.h` (`cabInputDim`); the theorems say that outcome is unreachable
for every file content, every parameter setting and every split-block chain, because of the size
checks the code makes — a removed or loosened check, or a shrunk buffer, breaks them.
-/
namespace MsPack.Cab
open MsPack.Generated

/-- every block the reader delivers leaves room for the Quantum trailer byte the feeder appends -/
theorem C02_block_fits_buffer (files : Files) (ignoreCksum ignoreBlocksize : Bool) (fuel : Nat)
    (rd : Option Rd) (parts : List Part) (acc p : Bytes) (out : Nat) (rd' : Option Rd) (parts' : List Part)
    (h : readBlock files ignoreCksum ignoreBlocksize fuel rd parts acc = .ok p out rd' parts') :
    p.length + 1 ≤ cabInputDim := by
  have := readBlock_spec files ignoreCksum ignoreBlocksize fuel rd parts acc
  rw [h] at this
  exact this.2.2.1

/-- the block reader never reads past the input buffer -/
theorem C02_readBlock_no_oob (files : Files) (ignoreCksum ignoreBlocksize : Bool) (fuel : Nat)
    (rd : Option Rd) (parts : List Part) (acc : Bytes) (s : String) :
    readBlock files ignoreCksum ignoreBlocksize fuel rd parts acc ≠ .fault (.oob s) :=
  readBlock_no_oob files ignoreCksum ignoreBlocksize fuel rd parts acc s

/-- … and neither does the stream feeder built on it -/
theorem C02_feeder_no_oob (files : Files) (fuel : Nat) (fd : Feeder) (todo : Nat) (got : Bytes) (s : String) :
    feederRead files fuel fd todo got ≠ .error (.oob s) :=
  feederRead_no_oob files fuel fd todo got s

end MsPack.Cab
