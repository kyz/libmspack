import Proofs.Lemmas.RelaxSim
import Proofs.Props.C18
/-!
# C18 — salvage / repair modes through the feeder and the MSZIP decoder

`C18.lean` has the headers and the block reader, `C18Stored.lean` stored folders through `extract`.  Here
(`Proofs/Lemmas/RelaxSim.lean`): the stream feeder, and the MSZIP decoder as a whole.

* `C18_feeder_read_relaxed`: a `cabd_sys_read` that delivers bytes from a strict-mode feeder delivers the same
  bytes from a feeder that differs only in the SALVAGE / FIXMSZIP flags (and in the `read_error` bookkeeping,
  which salvage mode skips at the end of a folder), and the feeders stay related (`FR`).
* `C18_mszip_decompress_relaxed`: an `mszipd_decompress` call that returns MSPACK_ERR_OK in strict mode
  (feeder strict, `repair_mode` off) returns MSPACK_ERR_OK with the same bytes from a state that differs only in
  those flags, and the states stay related (`ZR`) — so this holds along any sequence of OK calls.  The flags are
  consulted only after a checksum / block-size failure, at the end of the folder, or after an inflate error; the
  strict run answers each of these with a non-OK status (`Throws HaltOk`, and `repair_mode` stays off: the
  invariant `NR` of the walk), so on an OK strict run they are never consulted.  Proved by a relational walk
  (`Sim False`, `ZipSim.lean`) over every helper of the decoder, carried through the block loop by
  `ZipSim.decompress_sim` (`CountLaws.lean`).

`cabd_extract` itself for stored and MSZIP folders is `C18Extract.lean` / `C18ExtractLift.lean`; the LZX decoder is
`C18Lzx.lean` (it never looks at the flags; only `readInput` meets the feeder); there is no such statement for Quantum.
-/
namespace MsPack.Cab
open MsPack.CountLaws.Relax

/-- the feeder under relaxed flags: same bytes, related feeders -/
theorem C18_feeder_read_relaxed (files : Files) (fd1 fd2 : Feeder) (n : Nat) (g : Bytes) (fd1' : Feeder)
    (hr : FR fd1 fd2) (h : (feederSrc files).read fd1 n = .ok (some g, fd1')) :
    ∃ fd2', (feederSrc files).read fd2 n = .ok (some g, fd2') ∧ FR fd1' fd2' :=
  feederSrc_rel files fd1 fd2 n g fd1' hr h

/-- `FR` is what setting SALVAGE and/or FIXMSZIP does to a strict feeder -/
theorem C18_feeder_flags (fd : Feeder) (hs : fd.salvage = false) (hf : fd.fixMszip = false) (s f : Bool) (e : Err) :
    FR fd { fd with salvage := s, fixMszip := f, readError := e } :=
  ⟨rfl, rfl, rfl, rfl, rfl, rfl, rfl, rfl, hs, hf⟩

end MsPack.Cab

namespace MsPack.Zip
open MsPack.Cab MsPack.CountLaws.Relax

/-- **C18, MSZIP**: an OK `mszipd_decompress` call in strict mode is repeated verbatim under SALVAGE and/or
    FIXMSZIP (`repair_mode`), and the two decoder states stay related -/
theorem C18_mszip_decompress_relaxed (files : Files) (fuel : Nat) (s1 s2 : St Feeder) (n : Nat) (o1 : Out Feeder)
    (hr : ZR s1 s2) (h : decompress (feederSrc files) fuel s1 n = .ok o1) (he : o1.err = .ok) :
    ∃ o2, decompress (feederSrc files) fuel s2 n = .ok o2 ∧ o2.err = .ok ∧ o2.written = o1.written ∧
      ZR o1.st o2.st :=
  zip_relax files fuel s1 s2 n o1 hr h he

/-- `ZR` is what the relaxed parameters do to a strict MSZIP state over a strict feeder -/
theorem C18_mszip_flags (st : St Feeder) (hrep : st.repair = false) (hs : st.src.salvage = false)
    (hf : st.src.fixMszip = false) (s f r : Bool) :
    ZR st { st with src := { st.src with salvage := s, fixMszip := f }, repair := r } :=
  ⟨⟨rfl, rfl, rfl, rfl, rfl, rfl, rfl, rfl, hs, hf⟩, rfl, rfl, rfl, rfl, rfl, rfl, rfl, rfl, rfl, rfl, rfl, hrep⟩

end MsPack.Zip
