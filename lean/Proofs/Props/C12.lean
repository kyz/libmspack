import Proofs.Lemmas.Checksum
/-!
# C12 — checksummed data is never accepted after being altered (CAB part, block level)

`blockCheck ck sizes payload` is the test `cabd_sys_read_block` applies (model in
`MsPack/Cab/Checksum.lean`, tied to `cabd_checksum` by the `prim cksum` correspondence and to the
block reader by the `cab.corrupt` family).  Strict mode lets a block through iff it is `true`.
-/
namespace MsPack.Cab

/-- one altered payload byte ⇒ the block is refused -/
theorem C12_payload_altered (ck : Nat) (sizes payload : Bytes) (i : Nat) (v : UInt8)
    (hck : ck ≠ 0) (hok : blockCheck ck sizes payload = true)
    (h : i < payload.length) (hv : v ≠ payload[i]) :
    blockCheck ck sizes (payload.set i v) = false := by
  simp only [blockCheck, Bool.or_eq_true, beq_iff_eq, Bool.or_eq_false_iff, beq_eq_false_iff_ne] at *
  refine ⟨hck, ?_⟩
  rcases hok with h0 | hok
  · exact absurd h0 hck
  · intro hc
    rw [← hok, cksum_seed sizes, cksum_seed sizes (cksum payload 0)] at hc
    exact cksum_set_ne payload i v 0 h hv (xor_right_cancel hc)

/-- one altered byte of the size fields (this covers both bytes of the uncompressed-size field,
    `sizes[2]`, `sizes[3]`; the payload read is the same) ⇒ the block is refused -/
theorem C12_sizes_altered (ck : Nat) (sizes payload : Bytes) (i : Nat) (v : UInt8)
    (hck : ck ≠ 0) (hok : blockCheck ck sizes payload = true)
    (h : i < sizes.length) (hv : v ≠ sizes[i]) :
    blockCheck ck (sizes.set i v) payload = false := by
  simp only [blockCheck, Bool.or_eq_true, beq_iff_eq, Bool.or_eq_false_iff, beq_eq_false_iff_ne] at *
  refine ⟨hck, ?_⟩
  rcases hok with h0 | hok
  · exact absurd h0 hck
  · intro hc
    rw [← hok] at hc
    exact cksum_set_ne sizes i v _ h hv hc

/-- an altered stored checksum is either refused, or it became 0 ("no checksum") — in which case
    the data handed on is the untouched original -/
theorem C12_stored_altered (ck ck' : Nat) (sizes payload : Bytes)
    (hck : ck ≠ 0) (hok : blockCheck ck sizes payload = true) (hne : ck' ≠ ck) :
    blockCheck ck' sizes payload = true → ck' = 0 := by
  simp only [blockCheck, Bool.or_eq_true, beq_iff_eq] at *
  rcases hok with h0 | hok
  · exact absurd h0 hck
  · rintro (h | h)
    · exact h
    · exact absurd (h.symm.trans hok) hne

/-- the raw statement about `cabd_checksum` itself, every seed -/
theorem C12_cksum_single_byte (d : Bytes) (i : Nat) (v : UInt8) (seed : Nat)
    (h : i < d.length) (hv : v ≠ d[i]) : cksum (d.set i v) seed ≠ cksum d seed :=
  cksum_set_ne d i v seed h hv

-- a concrete checksummed block passes, so the hypotheses are satisfiable
example : blockCheck (cksum [5, 0, 5, 0] (cksum [1, 2, 3, 4, 5] 0)) [5, 0, 5, 0] [1, 2, 3, 4, 5] = true
    ∧ cksum [5, 0, 5, 0] (cksum [1, 2, 3, 4, 5] 0) ≠ 0 := by decide

end MsPack.Cab
