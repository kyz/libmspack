import Proofs.Lemmas.FeederThreadQtm
import Proofs.Props.C02CabLift2
/-!
# C02 — Quantum folders of a cabinet: no fault of any kind but the loop bound

The Quantum counterpart of `C02CabLift2.lean`: the reachable-state invariant

  `StInv st ∧ (st.error = .ok → FeederLive st.src)`

is threaded through every helper of the Quantum model (`Proofs/Lemmas/FeederThreadQtm.lean`), so
one `Qtm.decompress` over the CAB feeder from a state satisfying it raises no fault but `hang`
and returns a state satisfying it again (`C02_cab_qtm_no_fault`); hence every sequence of
`decompress` calls of `cabd_extract` on the decoder it sets up for a folder
(`C02_cab_qtm_calls_no_fault`, `C02_cab_qtm_fresh_no_fault`).
-/
namespace MsPack.CabLift
open MsPack.Cab

/-- the invariant of a Quantum decoder state under the CAB feeder, between calls -/
def QtmLive (st : Qtm.St Feeder) : Prop := Qtm.StInv st ∧ (st.error = .ok → FeederLive st.src)

/-- **Quantum in a cabinet, all fault kinds, unconditional on the source** -/
theorem C02_cab_qtm_no_fault (files : Files) (fuel : Nat) (st : Qtm.St Feeder) (n : Nat) (h : QtmLive st) :
    (∀ f, Qtm.decompress (feederSrc files) fuel st n = .error f → f = .hang) ∧
    (∀ o, Qtm.decompress (feederSrc files) fuel st n = .ok o → QtmLive o.st) := by
  have ht := QtmThread.decompress_thr files fuel st n h.2
  refine ⟨fun f hf => ?_, fun o ho => ?_⟩
  · rw [hf] at ht
    rcases (C02_cab_qtm_no_fault_partial
      files fuel st n h.1 f hf) with h1 | h1 | h1
    · exact h1
    · exact absurd h1 (ht _)
    · exact absurd h1 (ht _)
  · rw [ho] at ht
    exact ⟨Qtm.C02_qtm_preserved (feederSrc files) fuel st n h.1 o ho, ht⟩

/-- in particular none of the undefined-behaviour outcomes -/
theorem C02_cab_qtm_no_ub_all (files : Files) (fuel : Nat) (st : Qtm.St Feeder) (n : Nat) (h : QtmLive st) :
    (∀ w, Qtm.decompress (feederSrc files) fuel st n ≠ .error (.oob w)) ∧
    (∀ w, Qtm.decompress (feederSrc files) fuel st n ≠ .error (.uninit w)) ∧
    (∀ w, Qtm.decompress (feederSrc files) fuel st n ≠ .error (.nullDeref w)) ∧
    Qtm.decompress (feederSrc files) fuel st n ≠ .error .divZero ∧
    Qtm.decompress (feederSrc files) fuel st n ≠ .error .shiftWidth := by
  have := (C02_cab_qtm_no_fault files fuel st n h).1
  refine ⟨fun w hf => ?_, fun w hf => ?_, fun w hf => ?_, fun hf => ?_, fun hf => ?_⟩ <;> cases this _ hf

/-- the decoder/feeder pair `cabd_extract` keeps for a Quantum folder, between calls -/
def QtmPair : Dec → Feeder → Prop
  | .qtm st, fd => Qtm.StInv st ∧ (st.error = .ok → FeederLive fd)
  | _, _ => False

/-- one `decompress` of `cabd_extract` on a Quantum folder -/
theorem C02_cab_qtm_decompress_no_fault (files : Files) (st : Qtm.St Feeder) (fd : Feeder) (n : Nat)
    (h : QtmPair (.qtm st) fd) :
    (∀ f, Cab.decompress files (.qtm st) fd n = .error f → f = .hang) ∧
    (∀ o, Cab.decompress files (.qtm st) fd n = .ok (some o) → QtmPair o.dec o.feeder) ∧
    Cab.decompress files (.qtm st) fd n ≠ .ok none := by
  have hz := C02_cab_qtm_no_fault files (chainFuel files fd) { st with src := fd } n ⟨Qtm.StInv_src st fd h.1, h.2⟩
  rw [Cab.decompress_qtm]
  exact Call.map hz.1 hz.2

/-- **any number of calls** -/
theorem C02_cab_qtm_calls_no_fault (files : Files) : ∀ (ns : List Nat) (dec : Dec) (fd : Feeder) (f : Fault),
    QtmPair dec fd → cabCalls files dec fd ns = .error f → f = .hang :=
  cabCalls_keeps files (P := fun _ => QtmPair) (F := (· = .hang)) fun n _ dec fd hp => by
    cases dec with
    | qtm st =>
      have hd := C02_cab_qtm_decompress_no_fault files st fd n hp
      exact ⟨hd.1, hd.2.1⟩
    | _ => exact hp.elim

/-- the decoder `cabd_extract` sets up for a Quantum folder satisfies the invariant -/
theorem C02_cab_qtm_fresh (files : Files) (p : Params) (m : Member) (key : Nat) (ds : DState)
    (st : Qtm.St Feeder) (h : freshDState files p m key = .ok ds) (hd : ds.dec = some (.qtm st)) :
    QtmPair (.qtm st) ds.feeder := by
  have hl := (C02_cab_fresh_feeder files p m key ds h).1
  refine ⟨?_, fun _ => hl⟩
  exact Qtm.C02_qtm_init nullFeeder _ p.bufSize p.fill st (initDec_some (CabFuel.fresh_initDec p m key ds _ h hd)).2

/-- **from the folder's fresh decoder, any sequence of calls**: no fault but the bound -/
theorem C02_cab_qtm_fresh_no_fault (files : Files) (p : Params) (m : Member) (key : Nat) (ds : DState)
    (st : Qtm.St Feeder) (h : freshDState files p m key = .ok ds) (hd : ds.dec = some (.qtm st))
    (ns : List Nat) (f : Fault) (hf : cabCalls files (.qtm st) ds.feeder ns = .error f) : f = .hang :=
  C02_cab_qtm_calls_no_fault files ns _ _ f (C02_cab_qtm_fresh files p m key ds st h hd) hf

/-- a Quantum folder: one block with the 24 input bytes of `C02Qtm.exampleInput`, 24 bytes out -/
def qtmCab : Bytes := [0, 0, 0, 0, 24, 0, 24, 0] ++ Qtm.exampleInput
def qtmFiles : Files := [("q.cab", qtmCab)]
def qtmMember : Member :=
  { length := 24, offset := 0, folderKey := some 0, mergePrev := false, numBlocks := 1,
    compType := 2 + 10 * 256, parts := [⟨"q.cab", 0, 0⟩] }

/-- fresh decoder (window 2^10), two calls (10 + 14 bytes): both return OK; the 24 bytes of `C02Qtm`'s example come out -/
example : (match freshDState qtmFiles {} qtmMember 0 with
    | .ok ds =>
      (match ds.dec with
       | some (.qtm st) =>
         (match Cab.decompress qtmFiles (.qtm st) ds.feeder 10 with
          | .ok (some o1) =>
            (match Cab.decompress qtmFiles o1.dec o1.feeder 14 with
             | .ok (some o2) => o1.err == .ok && o2.err == .ok && o1.written ++ o2.written ==
                 [50, 15, 13, 22, 0, 0, 0, 15, 13, 15, 7, 62, 7, 62, 7, 44, 58, 3, 52, 3, 52, 3, 56, 61]
             | _ => false)
          | _ => false)
       | _ => false)
    | .error _ => false) = true := by decide +kernel

end MsPack.CabLift
