import Proofs.Props.C11
import Proofs.Props.C11Decoders
import Proofs.Props.C02CabExtract
import Proofs.Lemmas.ExtractSim
/-!
# C11 — `cabd_extract`: status and output do not depend on what fresh memory contained

The models hand every fresh allocation (`struct`s, windows, tables) the byte `p.fill`
(`Params.fill`).  `C11.lean` shows that stored and MSZIP extraction does not depend on it (the states
are literally equal); `C11Decoders.lean` shows by two-run simulation that the LZX and Quantum decoders'
statuses and output do not depend on it, although their states do (cells never read before written).
This file lifts both through `cabd_extract`:

* `decompress_R`: one `decompress` call of `cabd_extract` from related decoders (`DecR`: equal, or
  Quantum/LZX states related by the decoders' simulation relations) and the same feeder gives the
  same fault, or the same status, bytes and feeder, and related decoders again;
* `C11_cab_extract_fill_independent`: `extract` with two parameter sets differing only in `fill`, from
  no cache or related caches (`DStateR`): same fault, or same status and same bytes, related caches
  (`extract_sim` of `ExtractSim.lean` over one phase, `fill_phaseWalk`, and the fresh decoder, `freshDState_R`);
* `C11_cab_session_fill_independent`: any list of `extract` calls threaded through the cache from a
  fresh decompressor: the same observations, for every cabinet set, well-formed or not.

`Qtm.TS` keeps, after a status return, only "same sticky error", not that the two structs are still
related; `cabd_extract` reads `read_error` from the feeder, so the CAB layer needs the input handles
equal in that case too.  `Q.TS` keeps `StSim` there (it is `Qtm.TSd`; `Qtm.decompress_live` proves the
decoder call for it), `Lzx.Fill.TS` keeps `Sim`.  Both relations are insensitive to the input handle,
which the CAB layer swaps in before each call (`TS.swap`).
-/
namespace MsPack.CabFill
open MsPack.Cab MsPack.FillSim

namespace Q
open MsPack.Qtm
variable {σ : Type}

/-- between calls: in step, or both dead (sticky error) with the structs, hence the input handles,
    still related -/
def TS (a b : Qtm.St σ) : Prop := StSimH a b ∨ (StSim a b ∧ a.error ≠ .ok)

theorem decompress_sim (S : Src σ) (fuel : Nat) {a b : Qtm.St σ} (h : TS a b) (n : Nat) :
    OutRel TS (Qtm.decompress S fuel a n) (Qtm.decompress S fuel b n) := by
  rcases h with h | ⟨hs, hne⟩
  · exact decompress_live S fuel h n
  · rw [Qtm.decompress_dead S fuel a n hne, Qtm.decompress_dead S fuel b n (hs.error_eq ▸ hne)]
    exact ⟨hs.error_eq, rfl, .inr ⟨hs, hne⟩⟩

theorem TS_of {a b : Qtm.St σ} (h : Qtm.TS a b) (hd : a.error ≠ .ok → StSim a b) : TS a b := by
  rcases h with h | ⟨_, hne⟩
  · exact Or.inl h
  · exact Or.inr ⟨hd hne, hne⟩

theorem TS.src {a b : Qtm.St σ} (h : TS a b) : a.src = b.src := by
  rcases h with h | ⟨h, _⟩
  · obtain ⟨y, rfl⟩ := h.1.split; rfl
  · obtain ⟨y, rfl⟩ := h.split; rfl

theorem StSim.swap {τ : Type} {a b : Qtm.St σ} (h : StSim a b) (x : τ) :
    StSim ({ a with src := x } : Qtm.St τ) ({ b with src := x } : Qtm.St τ) := by
  obtain ⟨y, rfl⟩ := h.split
  exact ⟨rfl, h.ms⟩

theorem TS.swap {τ : Type} {a b : Qtm.St σ} (h : TS a b) (x : τ) :
    TS ({ a with src := x } : Qtm.St τ) ({ b with src := x } : Qtm.St τ) := by
  rcases h with h | ⟨h, hne⟩
  · exact Or.inl ⟨StSim.swap h.1 x, h.2⟩
  · exact Or.inr ⟨StSim.swap h x, hne⟩

end Q

namespace X
open MsPack.Lzx.Fill
variable {σ : Type}

theorem Sim.src {μ} {a b : Lzx.St σ} (h : Sim μ a b) : a.src = b.src := by
  obtain ⟨x, rfl⟩ := h.split; rfl

theorem Sim.swap {τ : Type} {μ} {a b : Lzx.St σ} (h : Sim μ a b) (x : τ) :
    Sim μ ({ a with src := x } : Lzx.St τ) ({ b with src := x } : Lzx.St τ) := by
  obtain ⟨x, rfl⟩ := h.split
  exact { h with eq := rfl }

theorem TS.src {a b : Lzx.St σ} (h : TS a b) : a.src = b.src := by
  rcases h with h | ⟨⟨bt, h⟩, _⟩
  · exact Sim.src h
  · exact Sim.src h

theorem TS.swap {τ : Type} {a b : Lzx.St σ} (h : TS a b) (x : τ) :
    TS ({ a with src := x } : Lzx.St τ) ({ b with src := x } : Lzx.St τ) := by
  rcases h with h | ⟨⟨bt, h⟩, hne⟩
  · exact Or.inl (Sim.swap h x)
  · exact Or.inr ⟨⟨bt, Sim.swap h x⟩, hne⟩

end X

def DecR (d1 d2 : Dec) : Prop :=
  d1 = d2 ∨ (∃ a b, d1 = .qtm a ∧ d2 = .qtm b ∧ Q.TS a b) ∨ (∃ a b, d1 = .lzx a ∧ d2 = .lzx b ∧ Lzx.Fill.TS a b)

def OptR {α : Type} (R : α → α → Prop) : Option α → Option α → Prop
  | some a, some b => R a b
  | none, none => True
  | _, _ => False

def CallR : Except Fault (Option DecOut) → Except Fault (Option DecOut) → Prop :=
  RelX (OptR fun o1 o2 => o1.err = o2.err ∧ o1.written = o2.written ∧ o1.feeder = o2.feeder ∧ DecR o1.dec o2.dec)

theorem CallR.refl (r : Except Fault (Option DecOut)) : CallR r r := by
  cases r with
  | error f => exact rfl
  | ok o =>
    cases o with
    | none => trivial
    | some o => exact ⟨rfl, rfl, rfl, Or.inl rfl⟩

theorem decompress_R (files : Files) (dec1 dec2 : Dec) (fd : Feeder) (n : Nat) (h : DecR dec1 dec2) :
    CallR (Cab.decompress files dec1 fd n) (Cab.decompress files dec2 fd n) := by
  rcases h with rfl | ⟨a, b, rfl, rfl, hts⟩ | ⟨a, b, rfl, rfl, hts⟩
  · exact CallR.refl _
  · rw [Cab.decompress_qtm, Cab.decompress_qtm]
    exact (Q.decompress_sim (feederSrc files) (chainFuel files fd) (Q.TS.swap hts fd) n).relX.map fun _ _ hs =>
      ⟨hs.1, hs.2.1, Q.TS.src hs.2.2, .inr (.inl ⟨_, _, rfl, rfl, hs.2.2⟩)⟩
  · rw [Cab.decompress_lzx, Cab.decompress_lzx]
    exact (Lzx.Fill.decompress_sim (feederSrc files) (chainFuel files fd) (X.TS.swap hts fd) n).map fun _ _ hs =>
      ⟨hs.1, hs.2.1, X.TS.src hs.2.2, .inr (.inr ⟨_, _, rfl, rfl, hs.2.2⟩)⟩

structure DStateR (d1 d2 : DState) : Prop where
  folder : d1.folder = d2.folder
  offset : d1.offset = d2.offset
  feeder : d1.feeder = d2.feeder
  dec : OptR DecR d1.dec d2.dec

def ExtractR : ExtractResult → ExtractResult → Prop
  | .done e1 w1 d1, .done e2 w2 d2 => e1 = e2 ∧ w1 = w2 ∧ OptR DStateR d1 d2
  | .unsupported, .unsupported => True
  | .fault f1, .fault f2 => f1 = f2
  | _, _ => False

theorem optR_iff {α : Type} {R : α → α → Prop} {a b : Option α} : OptR R a b ↔ Option.Rel R a b := by
  cases a <;> cases b
  · exact ⟨fun _ => .none, fun _ => trivial⟩
  · exact ⟨False.elim, nofun⟩
  · exact ⟨False.elim, nofun⟩
  · exact ⟨fun h => .some h, fun | .some h => h⟩

theorem OptR.isSome_eq {α : Type} {R : α → α → Prop} {a b : Option α} (h : OptR R a b) : b.isSome = a.isSome := by
  cases optR_iff.mp h <;> rfl

theorem ExtractR.of_sim {r1 r2 : ExtractResult} (h : ExtractSim (fun _ => True) True DStateR r1 r2) :
    ExtractR r1 r2 := by
  cases r1 with
  | unsupported => rw [h trivial]; trivial
  | fault f => rw [h trivial]; exact rfl
  | done e w d1 =>
    cases w with
    | none => obtain ⟨d2, rfl, hd⟩ := h trivial; exact ⟨rfl, rfl, optR_iff.mpr hd⟩
    | some w => obtain ⟨d2, rfl, hd⟩ := h trivial; exact ⟨rfl, rfl, optR_iff.mpr hd⟩

theorem fill_phaseWalk (files : Files) : PhaseWalk (fun _ => True) True DStateR files where
  ok := trivial
  offset := fun h => h.offset.symm
  folder := fun h => h.folder.symm
  dec := fun h => h.dec.isSome_eq
  phase := fun {a b} dec1 dec2 n h h1 h2 => by
    have hc := decompress_R files dec1 dec2 a.feeder n (by have := h.dec; rwa [h1, h2] at this)
    unfold runPhase
    rw [← h.feeder]
    rcases hc.cases with ⟨f, e1, e2⟩ | ⟨o1, o2, e1, e2, ho⟩ <;> rw [e1, e2]
    · exact fun _ => rfl
    · cases optR_iff.mp ho with
      | none => exact fun _ => rfl
      | some ho =>
        dsimp only
        rw [ho.1, ho.2.1, ho.2.2.1]
        exact fun _ => ⟨_, rfl, h.folder, congrArg (· + _) h.offset, rfl, ho.2.2.2⟩

theorem initDec_R (p : Params) (ct : Nat) (f1 f2 : UInt8) :
    OptR DecR (initDec { p with fill := f1 } ct) (initDec { p with fill := f2 } ct) := by
  unfold initDec
  split
  · exact Or.inl rfl
  · simp only
    rw [C11.mszip_init_fill_independent nullFeeder p.bufSize p.fixMszip f1 f2]
    cases Zip.init nullFeeder p.bufSize p.fixMszip f2 with
    | none => trivial
    | some z => exact Or.inl rfl
  · simp only
    split
    · have hi := Qtm.init_sim nullFeeder ((ct >>> 8) &&& 0x1f) p.bufSize f1 f2
      generalize Qtm.init nullFeeder ((ct >>> 8) &&& 0x1f) p.bufSize f1 = i1 at hi
      generalize Qtm.init nullFeeder ((ct >>> 8) &&& 0x1f) p.bufSize f2 = i2 at hi
      cases i1 <;> cases i2 <;> first | exact hi.elim | trivial | skip
      exact Or.inr (Or.inl ⟨_, _, rfl, rfl, Or.inl hi⟩)
    · exact Or.inl rfl
  · simp only
    split
    · have hi := Lzx.Fill.init_sim nullFeeder ((ct >>> 8) &&& 0x1f) 0 p.bufSize 0 false f1 f2
      generalize Lzx.init nullFeeder ((ct >>> 8) &&& 0x1f) 0 p.bufSize 0 false f1 = i1 at hi
      generalize Lzx.init nullFeeder ((ct >>> 8) &&& 0x1f) 0 p.bufSize 0 false f2 = i2 at hi
      cases i1 <;> cases i2 <;> first | exact hi.elim | trivial | skip
      exact Or.inr (Or.inr ⟨_, _, rfl, rfl, hi⟩)
    · exact Or.inl rfl
  · trivial

theorem freshDState_R (files : Files) (p : Params) (m : Member) (key : Nat) (f1 f2 : UInt8) :
    RelX DStateR (freshDState files { p with fill := f1 } m key) (freshDState files { p with fill := f2 } m key) := by
  have hi := initDec_R p m.compType f1 f2
  unfold freshDState
  split
  · exact rfl
  · split
    · exact rfl
    · generalize initDec { p with fill := f1 } m.compType = i1 at hi
      generalize initDec { p with fill := f2 } m.compType = i2 at hi
      cases optR_iff.mp hi with
      | none => exact rfl
      | some hi => exact ⟨rfl, rfl, rfl, hi⟩

/-- **`cabd_extract`**: two runs that differ only in the fill byte of fresh memory, from no cache or
    related caches: the same fault, or the same status and the same bytes, and related caches -/
theorem C11_cab_extract_fill_independent (files : Files) (p : Params) (f1 f2 : UInt8) (d1 d2 : Option DState)
    (hd : OptR DStateR d1 d2) (m : Member) :
    ExtractR (extract files { p with fill := f1 } d1 m) (extract files { p with fill := f2 } d2 m) := by
  have hc : memberCheck { p with fill := f1 } m = memberCheck { p with fill := f2 } m := by
    unfold memberCheck; rfl
  exact .of_sim (extract_sim (fill_phaseWalk files) (fun r h => hc ▸ h) (fun _ e h => hc ▸ h)
    (fun key => (freshDState_R files p m key f1 f2).follows.1) (fun _ key => (freshDState_R files p m key f1 f2).follows.2)
    (optR_iff.mp hd))

def obs : ExtractResult → Except Fault (Option (Err × Option Bytes))
  | .fault f => .error f
  | .unsupported => .ok none
  | .done e w _ => .ok (some (e, w))

theorem obs_eq {r1 r2 : ExtractResult} (h : ExtractR r1 r2) : obs r1 = obs r2 := by
  cases r1 <;> cases r2 <;> first | exact h.elim | rfl | skip
  · obtain ⟨rfl, rfl, _⟩ := h; rfl
  · cases h; rfl

/-- the observations of a session: `extract` calls threaded through the cache (a fault ends it) -/
def sessionObs (files : Files) (p : Params) : Option DState → List Member →
    List (Except Fault (Option (Err × Option Bytes)))
  | _, [] => []
  | d, m :: ms =>
    obs (extract files p d m) ::
      (match extract files p d m with
       | .fault _ => []
       | .unsupported => sessionObs files p d ms
       | .done _ _ d' => sessionObs files p d' ms)

theorem sessionObs_R (files : Files) (p : Params) (f1 f2 : UInt8) : ∀ (ms : List Member) (d1 d2 : Option DState),
    OptR DStateR d1 d2 →
    sessionObs files { p with fill := f1 } d1 ms = sessionObs files { p with fill := f2 } d2 ms
  | [], _, _, _ => rfl
  | m :: ms, d1, d2, hd => by
    have h := C11_cab_extract_fill_independent files p f1 f2 d1 d2 hd m
    rw [sessionObs, sessionObs, obs_eq h]
    congr 1
    generalize extract files { p with fill := f1 } d1 m = r1 at h
    generalize extract files { p with fill := f2 } d2 m = r2 at h
    cases r1 <;> cases r2 <;> first | exact h.elim | rfl | skip
    · exact sessionObs_R files p f1 f2 ms _ _ h.2.2
    · exact sessionObs_R files p f1 f2 ms d1 d2 hd

/-- **a whole session from a fresh decompressor**: every status and every byte is the same whatever
    fresh memory contained — stored, MSZIP, Quantum and LZX folders, well-formed or not -/
theorem C11_cab_session_fill_independent (files : Files) (p : Params) (f1 f2 : UInt8) (ms : List Member) :
    sessionObs files { p with fill := f1 } none ms = sessionObs files { p with fill := f2 } none ms :=
  sessionObs_R files p f1 f2 ms none none trivial


open MsPack.CabLift in
/-- the session of the MSZIP, Quantum and LZX demo folders does real work (three OK results with
    bytes), with fill byte 0 … -/
example : (sessionObs (zipFiles ++ qtmFiles ++ lzxFiles) { fill := 0 } none [zipMember, qtmMember, lzxMember]).map
    (fun r => match r with
      | .ok (some (e, some w)) => e == .ok && w.length > 0
      | _ => false) = [true, true, true] := by decide +kernel

open MsPack.CabLift in
/-- … while the decoder states the two runs start from do differ (Quantum: `H` holds the fill pattern) -/
example : ((initDec { fill := 0 } qtmMember.compType).map fun d => match d with | .qtm st => st.H | _ => 0) ≠
    ((initDec { fill := 1 } qtmMember.compType).map fun d => match d with | .qtm st => st.H | _ => 0) := by
  decide +kernel

end MsPack.CabFill

#print axioms MsPack.CabFill.C11_cab_extract_fill_independent
#print axioms MsPack.CabFill.C11_cab_session_fill_independent
