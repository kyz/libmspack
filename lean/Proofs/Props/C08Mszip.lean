import Proofs.Lemmas.ZipRun
import Proofs.Props.C01Mszip
/-!
# C08 for MSZIP, decoder level: the chunking law of `Zip.decompress` and what follows from it

`mszipd_decompress(zip, n)` hands out the not yet delivered bytes of the current frame (`pending`) and inflates the
next `CK` frame when they run out.  Here, for every source, every state with `ZipInv` (the window is the 32 KiB
frame — what `init` establishes and every call keeps, `C02Zip`), every input, repair mode on or off (the fuel-free
reading of these laws is `Zip.Run`, `Proofs/Lemmas/ZipRun.lean`):

* `C08_mszip_chunk_law` — **asking for `a` and then for `b` is asking for `a + b`**: if the `a`-call returns OK
  with `w1`, and the `b`-call from the state it left returns status `e2` with `w2`, then the single `a + b`-call
  returns `e2` with `w1 ++ w2` and leaves *exactly the same state* (all fields; nothing has to be quotiented out).
  Fuel: `fuel` bounds the inner loops (`scanCK`, `inflate`) and, in `decompress`, also the number of block rounds;
  a round count that suffices for the single call is the sum of the two (`decompressN S fuel (fuel + fuel)`,
  inner bound unchanged); with the round count `fuel` the single call gives that result or `hang`, and for a
  source with a byte budget (`SrcOK`, e.g. the CAB feeder) and `fuel` above the bits still obtainable it is not
  `hang` (`C08_mszip_chunk_law_src`).
* `C08_mszip_chunk_split` — the converse, with no condition on the fuel: an `a + b`-call that returns OK with `w`
  is an `a`-call returning OK with `w.take a` followed by a `b`-call returning OK with `w.drop a`, same final state.

From these: any way of cutting `N` into call sizes (`C08_mszip_calls`), and history independence for a decoder-level
model of `cabd_extract`'s cache (`C08_mszip_any_order_model`).

What makes the law true (and would break it): a frame step that ends the call early must carry a real error —
`inflate`/`scanCK` raise `sys e` only with `e = read ≠ ok`; and the sticky `error` field must still be `ok` after a
frame that was delivered — it is written only immediately before a `sys` exception (`ZipChunk.frameStep_status`,
from the status walk of `ZipChunk.lean`).  The frame itself has `bytesOutput ≤ 32768 = window.size` bytes (`ZipBounds`), so the C's
`min(out_bytes, bytes_output)` is the number of bytes actually taken.

The lift to `Cab.extract` itself: `C08MszipCab.lean`.
-/
namespace MsPack.Zip
open MsPack.Zip.ZipChunk (decompressN)

variable {σ : Type} (S : Src σ)

theorem C08_mszip_chunk_law (fuel : Nat) (st : St σ) (hst : ZipInv st) (a b : Nat)
    (w1 : Bytes) (st1 : St σ) (e2 : Err) (w2 : Bytes) (st2 : St σ)
    (h1 : decompress S fuel st a = .ok ⟨.ok, w1, st1⟩)
    (h2 : decompress S fuel st1 b = .ok ⟨e2, w2, st2⟩) :
    decompressN S fuel (fuel + fuel) st (a + b) = .ok ⟨e2, w1 ++ w2, st2⟩ ∧
    (decompress S fuel st (a + b) ≠ .error .hang →
      decompress S fuel st (a + b) = .ok ⟨e2, w1 ++ w2, st2⟩) := by
  have hj := ZipChunk.chunk_joinN S fuel fuel st a w1 st1 hst h1 fuel b e2 w2 st2 h2
  refine ⟨hj, fun hnh => ?_⟩
  exact (ZipChunk.decompressN_more S fuel 0 fuel fuel st (a + b) hnh).symm.trans hj

/-- the round count is a parameter of its own in the law: `n` rounds for `a`, `m` for `b`, `n + m` for `a + b` -/
theorem C08_mszip_chunk_lawN (fuel n m : Nat) (st : St σ) (hst : ZipInv st) (a b : Nat)
    (w1 : Bytes) (st1 : St σ) (e2 : Err) (w2 : Bytes) (st2 : St σ)
    (h1 : decompressN S fuel n st a = .ok ⟨.ok, w1, st1⟩)
    (h2 : decompressN S fuel m st1 b = .ok ⟨e2, w2, st2⟩) :
    decompressN S fuel (n + m) st (a + b) = .ok ⟨e2, w1 ++ w2, st2⟩ :=
  ZipChunk.chunk_joinN S fuel n st a w1 st1 hst h1 m b e2 w2 st2 h2

/-- the law with one fuel for a source with a byte budget: `fuel` above the bits still obtainable -/
theorem C08_mszip_chunk_law_src {rem : σ → Nat} (hS : SrcOK S rem) (fuel : Nat) (st : St σ) (hst : ZipInv st)
    (hf : bitsLeft rem st + 1 ≤ fuel) (a b : Nat)
    (w1 : Bytes) (st1 : St σ) (e2 : Err) (w2 : Bytes) (st2 : St σ)
    (h1 : decompress S fuel st a = .ok ⟨.ok, w1, st1⟩)
    (h2 : decompress S fuel st1 b = .ok ⟨e2, w2, st2⟩) :
    decompress S fuel st (a + b) = .ok ⟨e2, w1 ++ w2, st2⟩ :=
  (C08_mszip_chunk_law S fuel st hst a b w1 st1 e2 w2 st2 h1 h2).2
    (C04_zip_decompress_no_hang hS fuel st (a + b) hf)

/-- more fuel never changes a result that is not `hang` (inner loops and block rounds alike) -/
theorem C08_mszip_fuel_mono (fuel k : Nat) (st : St σ) (n : Nat) (h : decompress S fuel st n ≠ .error .hang) :
    decompress S (fuel + k) st n = decompress S fuel st n :=
  ZipChunk.decompress_fuel_mono S fuel k st n h

/-- two fuels that both suffice give the same answer and the same state -/
theorem C08_mszip_fuel_irrelevant (f1 f2 : Nat) (st : St σ) (n : Nat) (o1 o2 : Out σ)
    (h1 : decompress S f1 st n = .ok o1) (h2 : decompress S f2 st n = .ok o2) : o1 = o2 :=
  Run.det ⟨f1, h1⟩ ⟨f2, h2⟩

/-- **chunking law, one fuel, no side condition**: whatever fuel sufficed for the two calls, twice that (or more)
    suffices for the single call, which returns the second status, `w1 ++ w2` and the same state -/
theorem C08_mszip_chunk_law_fuel (fuel : Nat) (st : St σ) (hst : ZipInv st) (a b : Nat)
    (w1 : Bytes) (st1 : St σ) (e2 : Err) (w2 : Bytes) (st2 : St σ)
    (h1 : decompress S fuel st a = .ok ⟨.ok, w1, st1⟩)
    (h2 : decompress S fuel st1 b = .ok ⟨e2, w2, st2⟩)
    (fuel' : Nat) (hf : fuel + fuel ≤ fuel') :
    decompress S fuel' st (a + b) = .ok ⟨e2, w1 ++ w2, st2⟩ := by
  have hj := ZipChunk.chunk_join S fuel st hst a b w1 st1 e2 w2 st2 h1 h2
  obtain ⟨k, rfl⟩ := Nat.exists_eq_add_of_le hf
  rw [C08_mszip_fuel_mono S (fuel + fuel) k st (a + b) (by rw [hj]; exact fun hc => nomatch hc), hj]

theorem C08_mszip_chunk_split (fuel : Nat) (st : St σ) (hst : ZipInv st) (a b : Nat) (w : Bytes) (st2 : St σ)
    (h : decompress S fuel st (a + b) = .ok ⟨.ok, w, st2⟩) :
    ∃ st1, decompress S fuel st a = .ok ⟨.ok, w.take a, st1⟩ ∧ ZipInv st1 ∧
      decompress S fuel st1 b = .ok ⟨.ok, w.drop a, st2⟩ ∧ w.length = a + b :=
  ZipChunk.chunk_split S fuel st hst a b w st2 h

theorem C08_mszip_ok_length (fuel : Nat) (st : St σ) (hst : ZipInv st) (n : Nat) (w : Bytes) (st1 : St σ)
    (h : decompress S fuel st n = .ok ⟨.ok, w, st1⟩) : w.length = n :=
  ZipChunk.ok_length S fuel fuel st n w st1 hst h

/-- a client's sequence of `decompress` calls of the given sizes, the decoder state threaded through: what each
    call returned, and the state at the end (a fault ends the sequence) -/
def mszipCalls (fuel : Nat) : List Nat → St σ → List (Err × Bytes) × St σ
  | [], st => ([], st)
  | c :: cs, st =>
    match decompress S fuel st c with
    | .ok o => let r := mszipCalls fuel cs o.st; ((o.err, o.written) :: r.1, r.2)
    | .error _ => ([], st)

def okSlices : Bytes → List Nat → List (Err × Bytes)
  | _, [] => []
  | D, c :: cs => (.ok, D.take c) :: okSlices (D.drop c) cs

/-- **any split of `N` into call sizes gives `D`**: piece by piece, and the same final state -/
theorem C08_mszip_calls (fuel : Nat) : ∀ (cs : List Nat) (st : St σ) (D : Bytes) (stN : St σ), ZipInv st →
    decompress S fuel st cs.sum = .ok ⟨.ok, D, stN⟩ →
    mszipCalls S fuel cs st = (okSlices D cs, stN) := by
  intro cs
  induction cs with
  | nil =>
    intro st D stN _ h
    rw [List.sum_nil, ZipChunk.decompress_zero S fuel st (ZipChunk.decompressN_err_ok S fuel fuel st _ D stN h)] at h
    cases h
    rfl
  | cons c cs ih =>
    intro st D stN hst h
    rw [List.sum_cons] at h
    obtain ⟨st1, k1, hst1, k2, _⟩ := C08_mszip_chunk_split S fuel st hst c cs.sum D stN h
    simp only [mszipCalls, k1, okSlices]
    rw [ih st1 (D.drop c) stN hst1 k2]

theorem okSlices_flatten : ∀ (cs : List Nat) (D : Bytes), D.length = cs.sum →
    ((okSlices D cs).map (·.2)).flatten = D := by
  intro cs
  induction cs with
  | nil => intro D h; rw [List.sum_nil] at h; rw [List.eq_nil_of_length_eq_zero h]; rfl
  | cons c cs ih =>
    intro D h
    rw [List.sum_cons] at h
    simp only [okSlices, List.map_cons, List.flatten_cons]
    rw [ih (D.drop c) (by rw [List.length_drop]; omega), List.take_append_drop]

/-- the decoder `extract` works with: the cached one iff it has not passed `o`, otherwise the fresh state -/
def cachePick (st0 : St σ) (cache : Option (St σ × Nat)) (o : Nat) : St σ × Nat :=
  match cache with
  | some (st, off) => if off ≤ o then (st, off) else (st0, 0)
  | none => (st0, 0)

/-- one `extract(offset o, length l)` against a cached decoder `(state, offset reached)`: re-use it iff it has not
    passed `o`, otherwise the fresh state `st0`; nothing to do for an empty member; skip phase (output discarded)
    unless already there; output phase.  (`Cab.extract` / `obtainDState` / `runPhases` with the CAB bookkeeping
    taken away and one fuel for all calls.) -/
def cacheExtract (fuel : Nat) (st0 : St σ) (cache : Option (St σ × Nat)) (o l : Nat) :
    Except Fault (Err × Bytes × (St σ × Nat)) :=
  let c : St σ × Nat := cachePick st0 cache o
  if l = 0 then .ok (.ok, [], c) else
  let skip := o - c.2
  if skip = 0 then
    match decompress S fuel c.1 l with
    | .error f => .error f
    | .ok r => .ok (r.err, r.written, (r.st, c.2 + r.written.length))
  else
    match decompress S fuel c.1 skip with
    | .error f => .error f
    | .ok r1 =>
      if r1.err ≠ .ok then .ok (r1.err, [], (r1.st, c.2 + r1.written.length)) else
      match decompress S fuel r1.st l with
      | .error f => .error f
      | .ok r => .ok (r.err, r.written, (r.st, c.2 + r1.written.length + r.written.length))

def cacheSeq (fuel : Nat) (st0 : St σ) : List (Nat × Nat) → Option (St σ × Nat) → List (Err × Bytes)
  | [], _ => []
  | (o, l) :: rest, c =>
    match cacheExtract S fuel st0 c o l with
    | .ok (e, w, c') => (e, w) :: cacheSeq fuel st0 rest (some c')
    | .error _ => []

/-- the cache invariant: the decoder at offset `off` can still deliver `[off, N)` in one call -/
def CacheOk (fuel : Nat) (N : Nat) (D : Bytes) (stN : St σ) (c : St σ × Nat) : Prop :=
  ZipInv c.1 ∧ c.2 ≤ N ∧ decompress S fuel c.1 (N - c.2) = .ok ⟨.ok, D.drop c.2, stN⟩

theorem cache_advance (fuel N : Nat) (D : Bytes) (stN : St σ) (c : St σ × Nat) (hc : CacheOk S fuel N D stN c)
    (k : Nat) (hk : c.2 + k ≤ N) :
    ∃ st1, decompress S fuel c.1 k = .ok ⟨.ok, (D.drop c.2).take k, st1⟩ ∧ ((D.drop c.2).take k).length = k ∧
      CacheOk S fuel N D stN (st1, c.2 + k) := by
  obtain ⟨h1, h2, h3⟩ := hc
  have e : N - c.2 = k + (N - (c.2 + k)) := by omega
  rw [e] at h3
  obtain ⟨st1, k1, hst1, k2, _⟩ := C08_mszip_chunk_split S fuel c.1 h1 k _ _ stN h3
  refine ⟨st1, k1, C08_mszip_ok_length S fuel c.1 h1 k _ st1 k1, hst1, hk, ?_⟩
  rw [List.drop_drop] at k2
  exact k2

theorem cacheExtract_ok (fuel N : Nat) (D : Bytes) (st0 stN : St σ) (h0 : CacheOk S fuel N D stN (st0, 0))
    (cache : Option (St σ × Nat)) (hcache : ∀ c, cache = some c → CacheOk S fuel N D stN c)
    (o l : Nat) (hfit : o + l ≤ N) :
    ∃ c', cacheExtract S fuel st0 cache o l = .ok (.ok, (D.drop o).take l, c') ∧ CacheOk S fuel N D stN c' := by
  unfold cacheExtract
  have hpick : ∃ c : St σ × Nat, cachePick st0 cache o = c ∧ CacheOk S fuel N D stN c ∧ c.2 ≤ o := by
    cases cache with
    | none => exact ⟨_, rfl, h0, Nat.zero_le _⟩
    | some c =>
      obtain ⟨st, off⟩ := c
      by_cases hle : off ≤ o
      · exact ⟨(st, off), by simp only [cachePick, if_pos hle], hcache _ rfl, hle⟩
      · exact ⟨(st0, 0), by simp only [cachePick, if_neg hle], h0, Nat.zero_le _⟩
  obtain ⟨c, hc, hok, hle⟩ := hpick
  rw [hc]
  dsimp only
  by_cases hl : l = 0
  · subst hl
    exact ⟨c, by simp, hok⟩
  · rw [if_neg hl]
    by_cases hs : o - c.2 = 0
    · rw [if_pos hs]
      have ho : c.2 = o := by omega
      obtain ⟨st1, k1, kl, kc⟩ := cache_advance S fuel N D stN c hok l (by omega)
      rw [k1]
      dsimp only
      rw [kl, ← ho]
      exact ⟨_, rfl, kc⟩
    · rw [if_neg hs]
      obtain ⟨st1, k1, kl, kc⟩ := cache_advance S fuel N D stN c hok (o - c.2) (by omega)
      rw [k1]
      dsimp only
      rw [if_neg (fun h => h rfl), kl]
      have ho : c.2 + (o - c.2) = o := by omega
      rw [ho] at kc ⊢
      obtain ⟨st2, k2, kl2, kc2⟩ := cache_advance S fuel N D stN (st1, o) kc l hfit
      dsimp only at k2 kl2 kc2
      rw [k2]
      dsimp only
      rw [kl2]
      exact ⟨_, rfl, kc2⟩

/-- **history independence, MSZIP, decoder-level cache model**: if the fresh decoder state can deliver `[0, N)` in
    one call with OK and data `D`, then whatever members were requested before and in whatever order (forward
    through the cached decoder, backward through a fresh one, the same member twice), every request `(o, l)` inside
    `[0, N)` returns OK with exactly `D[o, o + l)` -/
theorem C08_mszip_any_order_model (fuel N : Nat) (D : Bytes) (st0 stN : St σ) (hst : ZipInv st0)
    (hfresh : decompress S fuel st0 N = .ok ⟨.ok, D, stN⟩)
    (ms : List (Nat × Nat)) (hms : ∀ m ∈ ms, m.1 + m.2 ≤ N) :
    cacheSeq S fuel st0 ms none = ms.map fun m => (.ok, (D.drop m.1).take m.2) := by
  have h0 : CacheOk S fuel N D stN (st0, 0) := ⟨hst, Nat.zero_le _, hfresh⟩
  suffices h : ∀ (ms : List (Nat × Nat)) (cache : Option (St σ × Nat)),
      (∀ c, cache = some c → CacheOk S fuel N D stN c) → (∀ m ∈ ms, m.1 + m.2 ≤ N) →
      cacheSeq S fuel st0 ms cache = ms.map fun m => (.ok, (D.drop m.1).take m.2) from
    h ms none (fun _ hc => nomatch hc) hms
  intro ms
  induction ms with
  | nil => intro _ _ _; rfl
  | cons m ms ih =>
    intro cache hc hm
    obtain ⟨o, l⟩ := m
    obtain ⟨c', e, hc'⟩ := cacheExtract_ok S fuel N D st0 stN h0 cache hc o l (hm (o, l) (List.mem_cons_self ..))
    simp only [cacheSeq, e, List.map_cons]
    rw [ih (some c') (fun c hcc => by cases hcc; exact hc') (fun x hx => hm x (List.mem_cons_of_mem _ hx))]

/-- one frame (two stored blocks), premise from the round-trip theorem `C01_mszip_stored_roundtrip`: three calls
    of sizes 2, 1, 2 return the three pieces -/
example (st : St Rd)
    (hinit : init (⟨Deflate.encFrame [.stored [1, 2, 3], .stored [4, 5]], 0⟩ : Rd) 1 false 0 = some st) :
    (mszipCalls Rd.src 100 [2, 1, 2] st).1 = [(.ok, [1, 2]), (.ok, [3]), (.ok, [4, 5])] := by
  obtain ⟨stN, h⟩ := C01_mszip_stored_roundtrip [[1, 2, 3], [4, 5]] [1, 2, 3, 4, 5] [] rfl (by simp) (by simp) (by simp)
    _ 0 (by simp) 1 false 0 st hinit 100 (by simp)
  have hst := C02_zip_init_inv _ _ _ _ st hinit
  rw [C08_mszip_calls Rd.src 100 [2, 1, 2] st _ stN hst h]
  rfl

/-- two `CK` frames of 3 and 2 bytes, 1-byte reads -/
def twoFrames : Bytes := Deflate.encFrame [.stored [1, 2, 3]] ++ Deflate.encFrame [.stored [4, 5]]

/-- The kernel builds the 32 KiB window once per declaration, so the runs on `twoFrames` that the examples below
    state are evaluated together. -/
theorem twoFramesRuns :
    ((init (σ := Rd) ⟨twoFrames, 0⟩ 1 false 0).map fun st =>
      match decompress Rd.src 100 st 5 with
      | .ok o => some (o.err, o.written)
      | .error _ => none) = some (some (.ok, [1, 2, 3, 4, 5])) ∧
    ((init (σ := Rd) ⟨twoFrames, 0⟩ 1 false 0).map fun st => (mszipCalls Rd.src 100 [2, 2, 1] st).1) =
      some [(.ok, [1, 2]), (.ok, [3, 4]), (.ok, [5])] ∧
    ((init (σ := Rd) ⟨twoFrames, 0⟩ 1 false 0).map fun st =>
      cacheSeq Rd.src 100 st [(3, 2), (0, 2), (1, 3), (1, 3), (4, 0), (2, 3)] none) =
      some [(.ok, [4, 5]), (.ok, [1, 2]), (.ok, [2, 3, 4]), (.ok, [2, 3, 4]), (.ok, []), (.ok, [3, 4, 5])] := by
  decide +kernel

/-- the model itself (no theorem involved): one call for 5 bytes goes through both frames … -/
example : ((init (σ := Rd) ⟨twoFrames, 0⟩ 1 false 0).map fun st =>
    match decompress Rd.src 100 st 5 with
    | .ok o => some (o.err, o.written)
    | .error _ => none) = some (some (.ok, [1, 2, 3, 4, 5])) := twoFramesRuns.1

/-- … and so do calls of sizes 2, 2, 1 (the second one crosses the frame boundary) -/
example : ((init (σ := Rd) ⟨twoFrames, 0⟩ 1 false 0).map fun st => (mszipCalls Rd.src 100 [2, 2, 1] st).1) =
    some [(.ok, [1, 2]), (.ok, [3, 4]), (.ok, [5])] := twoFramesRuns.2.1

/-- status and bytes of a call (the state left out, so that results can be compared by evaluation) -/
def outView {σ : Type} : Except Fault (Out σ) → Option (Err × Bytes)
  | .ok o => some (o.err, o.written)
  | .error _ => none

theorem ok_of_view {σ : Type} (r : Except Fault (Out σ)) (D : Bytes)
    (h : outView r = some (.ok, D)) : ∃ stN, r = .ok ⟨.ok, D, stN⟩ := by
  cases r with
  | error f => cases h
  | ok o =>
    obtain ⟨e, w, st⟩ := o
    simp only [outView, Option.some.injEq, Prod.mk.injEq] at h
    obtain ⟨rfl, rfl⟩ := h
    exact ⟨st, rfl⟩

/-- the cache model on the two frames, premise by evaluation: members requested backward, forward, overlapping and
    twice all get their slice -/
example (st : St Rd) (hinit : init (⟨twoFrames, 0⟩ : Rd) 1 false 0 = some st) :
    cacheSeq Rd.src 100 st [(3, 2), (0, 2), (1, 3), (1, 3), (4, 0), (2, 3)] none =
      [(.ok, [4, 5]), (.ok, [1, 2]), (.ok, [2, 3, 4]), (.ok, [2, 3, 4]), (.ok, []), (.ok, [3, 4, 5])] := by
  have hv := twoFramesRuns.1
  rw [hinit] at hv
  simp only [Option.map_some, Option.some.injEq] at hv
  obtain ⟨stN, h⟩ := ok_of_view (decompress Rd.src 100 st 5) _
    (by cases hd : decompress Rd.src 100 st 5 <;> rw [hd] at hv <;> exact hv)
  rw [C08_mszip_any_order_model Rd.src 100 5 [1, 2, 3, 4, 5] st stN (C02_zip_init_inv _ _ _ _ st hinit) h _ (by decide)]
  rfl

/-- the same list evaluated directly -/
example : ((init (σ := Rd) ⟨twoFrames, 0⟩ 1 false 0).map fun st =>
    cacheSeq Rd.src 100 st [(3, 2), (0, 2), (1, 3), (1, 3), (4, 0), (2, 3)] none) =
    some [(.ok, [4, 5]), (.ok, [1, 2]), (.ok, [2, 3, 4]), (.ok, [2, 3, 4]), (.ok, []), (.ok, [3, 4, 5])] :=
  twoFramesRuns.2.2

end MsPack.Zip

namespace MsPack.Cab

/-- **chunking law for `Cab.decompress` on an MSZIP folder** (the call `runPhase` makes; the fuel there is
    `chainFuel files fd`, which differs from call to call): a call for `a` bytes that returned OK followed by a call
    for `b` bytes with the decoder and feeder it left is a single call for `a + b` bytes — status, bytes, decoder
    state and feeder — provided the single call does not run out of fuel. -/
theorem C08_mszip_cab_chunk (files : Files) (st : Zip.St Feeder) (fd : Feeder) (hst : Zip.ZipInv st) (a b : Nat)
    (w1 : Bytes) (st1 : Zip.St Feeder) (fd1 : Feeder) (o2 : DecOut)
    (h1 : decompress files (.mszip st) fd a = .ok (some ⟨.ok, w1, .mszip st1, fd1⟩))
    (h2 : decompress files (.mszip st1) fd1 b = .ok (some o2))
    (hnh : decompress files (.mszip st) fd (a + b) ≠ .error .hang) :
    decompress files (.mszip st) fd (a + b) = .ok (some ⟨o2.err, w1 ++ o2.written, o2.dec, o2.feeder⟩) := by
  obtain ⟨Z1, z1, hd, hf⟩ := ZipChunkCab.decompress_mszip_inv files st fd a _ h1
  cases hd
  cases hf
  obtain ⟨Z2, z2, hd, hf⟩ := ZipChunkCab.decompress_mszip_inv files _ _ b o2 h2
  rw [ZipChunkCab.decompress_mszip_ok files st fd (a + b) _
    ((Zip.Run.join ⟨_, z1⟩ hst ⟨_, z2⟩).at_fuel _ (mt ZipChunkCab.decompress_mszip_hang.2 hnh)), hd, hf]

/-- … and it does not run out of fuel when `chainFuel` is above the bits still obtainable (`C04_zip_cab_no_hang`) -/
theorem C08_mszip_cab_chunk_fuel (files : Files) (st : Zip.St Feeder) (fd : Feeder) (hst : Zip.ZipInv st) (a b : Nat)
    (w1 : Bytes) (st1 : Zip.St Feeder) (fd1 : Feeder) (o2 : DecOut)
    (hf : st.bits.length + 8 * st.inbuf.length + 8 * feederLeft files fd
            + (if st.inputEnd then 0 else 16) + 1 ≤ chainFuel files fd)
    (h1 : decompress files (.mszip st) fd a = .ok (some ⟨.ok, w1, .mszip st1, fd1⟩))
    (h2 : decompress files (.mszip st1) fd1 b = .ok (some o2)) :
    decompress files (.mszip st) fd (a + b) = .ok (some ⟨o2.err, w1 ++ o2.written, o2.dec, o2.feeder⟩) :=
  C08_mszip_cab_chunk files st fd hst a b w1 st1 fd1 o2 h1 h2 (C04_zip_cab_no_hang files st fd (a + b) hf)

end MsPack.Cab
