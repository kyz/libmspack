import Proofs.Props.C07Chm
import Proofs.Lemmas.ChmBounds
import Proofs.Props.C07Decoders
/-!
# C07 — OK means complete for compressed (section 1) CHM members

`chmd_extract` asks the LZX decoder for `len = length`, or — when the member reaches beyond the section's
uncompressed length `d->length` — for `d->length - offset + 1` bytes ("should decompress but still error
out").  With the LZX counting law (`Lzx.C07_lzx_ok_complete`: OK means exactly as many as asked) and
`extract_sec1_out` of `C07Chm.lean` (the output is that of one decoder call for `askLen` bytes; `chmd_init_decomp`
returns `self->error`):

* `C07_chm_sec1_ok_asked`: MSPACK_ERR_OK ⇒ the output is exactly the `askLen` bytes the decoder was asked for —
  every input, every cached decompressor state;
* `C07_chm_sec1_ok_complete`: hence MSPACK_ERR_OK ⇒ exactly the declared length for every member lying within
  the section's uncompressed length (`length ≤ d->length - offset`, the section length being the one the
  returned decompressor state holds, i.e. what `chmd_init_decomp` read from the reset table / SpanInfo);
  `C07_chm_ok_complete` the same for either section.

What is **not** covered (the statements are conditional): a member reaching beyond `d->length`.  There the C relies on the decoder *failing* when asked
for one byte more than the stream has; a counting law cannot give that — it needs the decoder's own
`offset ≤ length` bookkeeping (`lzx->length`, the D24 break) tied to `d->offset`/`d->length` of the cached
CHM state across calls (and `length - offset` survives `wrapI64` only for sane headers).
-/
namespace MsPack.Chm

theorem lzxCall_ok (files : Files) (x : X) (bytes : Int) (e : Err) (w : Bytes) (x' : X)
    (h : lzxCall files x bytes = .ok (some (e, w, x'))) (he : e = .ok) : w.length = bytes.toNat := by
  rcases lzxCall_some _ _ _ _ _ _ h with ⟨rfl, _, _⟩ | ⟨_, _, o, _, _, ho, rfl, rfl, _⟩
  · cases he
  · exact Lzx.C07_lzx_ok_complete rdSrc _ _ _ o ho he

theorem askLen_zero (dlen offset : Int) : (askLen dlen offset 0).toNat = 0 := by
  unfold askLen; split <;> omega

/-- **C07, CHM section 1, every input and decompressor state**: MSPACK_ERR_OK means the output is exactly the
    number of bytes `chmd_extract` asked the LZX decoder for -/
theorem C07_chm_sec1_ok_asked (files : Files) (fill : UInt8) (inst : Inst) (key : Nat) (hdr : Header)
    (sec : Nat) (hsec : sec ≠ 0) (offset length : Int) (inst' : Inst) (hdr' : Header) (w : Bytes) (d' : DState)
    (h : extract files fill inst key hdr sec offset length = .done .ok inst' hdr' (some w))
    (hd : inst'.d = some d') : w.length = (askLen d'.length offset length).toNat := by
  have := extract_sec1_out files fill inst key hdr sec hsec offset length
  rw [h] at this
  obtain ⟨d, rfl, ⟨rfl, h0⟩ | ⟨x, x', hc, hl⟩⟩ := this <;> cases hd
  · rw [h0 rfl, askLen_zero]; rfl
  · rw [hl]; exact lzxCall_ok _ _ _ _ _ _ hc rfl

theorem extract_done_some (files : Files) (fill : UInt8) (inst : Inst) (key : Nat) (hdr : Header)
    (sec : Nat) (hsec : sec ≠ 0) (offset length : Int) (inst' : Inst) (hdr' : Header) (w : Bytes)
    (h : extract files fill inst key hdr sec offset length = .done .ok inst' hdr' (some w)) :
    ∃ d', inst'.d = some d' := by
  have := extract_sec1_out files fill inst key hdr sec hsec offset length
  rw [h] at this
  obtain ⟨d, rfl, _⟩ := this
  exact ⟨d, rfl⟩

/-- **C07, OK means complete, compressed members within the section**: MSPACK_ERR_OK implies exactly the
    declared length whenever the member does not reach beyond the section's uncompressed length (as held by
    the decompressor state handed back) -/
theorem C07_chm_sec1_ok_complete (files : Files) (fill : UInt8) (inst : Inst) (key : Nat) (hdr : Header)
    (sec : Nat) (hsec : sec ≠ 0) (offset length : Int) (inst' : Inst) (hdr' : Header) (w : Bytes) (d' : DState)
    (h : extract files fill inst key hdr sec offset length = .done .ok inst' hdr' (some w))
    (hd : inst'.d = some d') (hfit : length ≤ wrapI64 (d'.length - offset)) : w.length = length.toNat := by
  rw [C07_chm_sec1_ok_asked files fill inst key hdr sec hsec offset length inst' hdr' w d' h hd]
  unfold askLen
  rw [if_neg (by omega)]

/-- contrapositive reading: an OK result shorter than declared can only be the "one byte beyond the section"
    request -/
theorem C07_chm_sec1_ok_short (files : Files) (fill : UInt8) (inst : Inst) (key : Nat) (hdr : Header)
    (sec : Nat) (hsec : sec ≠ 0) (offset length : Int) (inst' : Inst) (hdr' : Header) (w : Bytes) (d' : DState)
    (h : extract files fill inst key hdr sec offset length = .done .ok inst' hdr' (some w))
    (hd : inst'.d = some d') (hs : w.length ≠ length.toNat) :
    length > wrapI64 (d'.length - offset) ∧ w.length = (wrapI64 (d'.length - offset) + 1).toNat := by
  have h1 := C07_chm_sec1_ok_asked files fill inst key hdr sec hsec offset length inst' hdr' w d' h hd
  unfold askLen at h1
  split at h1
  · rename_i hgt; exact ⟨hgt, h1⟩
  · exact absurd h1 hs

theorem C07_chm_ok_complete (files : Files) (fill : UInt8) (inst : Inst) (key : Nat) (hdr : Header)
    (sec : Nat) (offset length : Int) (inst' : Inst) (hdr' : Header) (w : Bytes)
    (h : extract files fill inst key hdr sec offset length = .done .ok inst' hdr' (some w))
    (hfit : sec ≠ 0 → ∀ d', inst'.d = some d' → length ≤ wrapI64 (d'.length - offset)) :
    w.length = length.toNat := by
  by_cases hsec : sec = 0
  · subst hsec
    exact C07_chm_sec0_ok_complete files fill inst key hdr offset length inst' hdr' w h
  · obtain ⟨d', hd⟩ := extract_done_some files fill inst key hdr sec hsec offset length inst' hdr' w h
    exact C07_chm_sec1_ok_complete files fill inst key hdr sec hsec offset length inst' hdr' w d' h hd
      (hfit hsec d' hd)

end MsPack.Chm
