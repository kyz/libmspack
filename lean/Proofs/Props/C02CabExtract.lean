import Proofs.Props.C02CabLift4
import Proofs.Props.C07Decoders
/-!
# C02 — `cabd_extract`, end to end

The per-method results of `C02CabLift.lean` … `C02CabLift4.lean` (stored, MSZIP, Quantum, LZX under
the CAB block feeder) are joined here into statements about `Cab.extract` itself:

* `C02_cab_lzx_calls_no_fault`, `C02_cab_lzx_fresh_no_fault`: any sequence of `decompress` calls on an
  LZX folder whose requests add up to at most `cabLENGTHMAX` (< 2 GiB, which is what `memberCheck`
  enforces) ends in no fault but the iteration bound or an unbuilt decode table (`uninit`, C11);
* `C02_cab_extract_no_ub`: for every `files`, parameters, member and every cached decoder that is
  absent or satisfies the pair invariant `AllPair` (`StateOk`), `extract` never yields an
  out-of-bounds access, a null dereference, a division by zero or an over-wide shift — in the
  container layer, the block feeder or any of the four decoders — and the cache it hands back
  satisfies the invariant again;
* `C02_cab_session_no_ub`: hence any number of `extract` calls threaded through the cache, starting
  from no cache at all.

The 2 GiB premise of the LZX theorems is discharged by `memberCheck` (`offset + filelen ≤
cabLENGTHMAX = 0x7FFF8000`), through the invariant `st.offset ≤ d->offset` of the LZX pair
(`LzxPair`), which needs that a status other than OK is sticky (`C02_cab_lzx_status_sticky`) and the
counting law (`C07Decoders`).
-/
namespace MsPack.CabLift
open MsPack.Generated MsPack.Cab

/-- the undefined-behaviour outcomes C02 is about -/
def Bad (f : Fault) : Prop := (∃ w, f = .oob w) ∨ (∃ w, f = .nullDeref w) ∨ f = .divZero ∨ f = .shiftWidth

theorem not_bad_hang : ¬ Bad .hang := by
  rintro (⟨_, h⟩ | ⟨_, h⟩ | h | h) <;> cases h
theorem not_bad_uninit (s : String) : ¬ Bad (.uninit s) := by
  rintro (⟨_, h⟩ | ⟨_, h⟩ | h | h) <;> cases h

theorem lengthMax_lt : cabLENGTHMAX < 2147483648 := by decide

/-- decoder/feeder pair of an LZX folder, with `d->offset`: the decoder's own count of bytes produced
    never exceeds it (while the decoder is alive) -/
def LzxPair (files : Files) : Dec → Feeder → Nat → Prop
  | .lzx st, fd, off =>
    ∃ L, Lzx.LzxInv L st ∧ (st.error = .ok → (FeederLive fd ∧ FeederLen files L fd) ∧ st.offset ≤ off)
  | _, _, _ => False

theorem LzxInv_src {σ τ : Type} {L : Nat} {st : Lzx.St σ} (x : τ) (h : Lzx.LzxInv L st) :
    Lzx.LzxInv L ({ st with src := x } : Lzx.St τ) := by
  rcases h with he | hg
  · exact Or.inl he
  · exact Or.inr (Good_src x hg)

/-- one `decompress` of `cabd_extract` on an LZX folder, asked for no more than the length cap -/
theorem C02_cab_lzx_decompress_no_fault (files : Files) (st : Lzx.St Feeder) (fd : Feeder) (off n : Nat)
    (h : LzxPair files (.lzx st) fd off) (hn : off + n ≤ cabLENGTHMAX) :
    (∀ f, Cab.decompress files (.lzx st) fd n = .error f → f = .hang ∨ ∃ s, f = .uninit s) ∧
    (∀ o, Cab.decompress files (.lzx st) fd n = .ok (some o) →
      LzxPair files o.dec o.feeder (off + o.written.length)) ∧
    Cab.decompress files (.lzx st) fd n ≠ .ok none := by
  obtain ⟨L, hinv, hl⟩ := h
  have hlt := lengthMax_lt
  rw [Cab.decompress_lzx]
  by_cases he : st.error = .ok
  · have hlive : LzxLive files L ({ st with src := fd } : Lzx.St Feeder) :=
      ⟨LzxInv_src fd hinv, fun _ => (hl he).1⟩
    have h2 := (hl he).2
    have hz := C02_cab_lzx_no_fault files L (chainFuel files fd) _ n hlive (show st.offset + n < 2147483648 by omega)
    refine Call.map hz.1 fun o hk => ?_
    obtain ⟨hlv, hoff⟩ := hz.2 o hk
    refine ⟨L, hlv.1, fun heo => ⟨hlv.2 heo, ?_⟩⟩
    have hs := C02_cab_lzx_status_sticky files L _ _ n hlive o hk heo
    have hc := (CountLaws.Lzx.decompress_count (feederSrc files) _ _ n o hk).2 hs
    have h1 := hoff heo
    have h3 : ({ st with src := fd } : Lzx.St Feeder).offset = st.offset := rfl
    show o.st.offset ≤ off + o.written.length
    omega
  · rw [Lzx.decompress_dead _ _ { st with src := fd } n he]
    exact Call.map nofun fun o hk => by cases hk; exact ⟨L, LzxInv_src fd hinv, fun heo => absurd heo he⟩

/-- **LZX, any number of calls** whose requests add up to no more than the length cap -/
theorem C02_cab_lzx_calls_no_fault (files : Files) : ∀ (ns : List Nat) (dec : Dec) (fd : Feeder) (off : Nat)
    (f : Fault), LzxPair files dec fd off → off + ns.sum ≤ cabLENGTHMAX →
    cabCalls files dec fd ns = .error f → f = .hang ∨ ∃ s, f = .uninit s :=
  fun ns dec fd off f hinv hsum =>
    cabCalls_keeps files (P := fun ns dec fd => ∃ off, LzxPair files dec fd off ∧ off + ns.sum ≤ cabLENGTHMAX)
      (F := fun f => f = .hang ∨ ∃ s, f = .uninit s) (fun n ns dec fd ⟨off, hp, hsum⟩ => by
        cases dec with
        | lzx st =>
          rw [List.sum_cons] at hsum
          have hd := C02_cab_lzx_decompress_no_fault files st fd off n hp (by omega)
          refine ⟨hd.1, fun o hc => ⟨_, hd.2.1 o hc, ?_⟩⟩
          have hw := (Cab.C07_count_law_lzx files st fd n o hc).1
          omega
        | _ => exact hp.elim) ns dec fd f ⟨off, hinv, hsum⟩

/-- the decoder `cabd_extract` sets up for an LZX folder satisfies the pair invariant at offset 0 -/
theorem C02_cab_lzx_fresh_pair (files : Files) (p : Params) (m : Member) (key : Nat) (ds : DState)
    (st : Lzx.St Feeder) (h : freshDState files p m key = .ok ds) (hd : ds.dec = some (.lzx st)) :
    LzxPair files (.lzx st) ds.feeder 0 := by
  obtain ⟨L, hl, hoff⟩ := C02_cab_lzx_fresh files p m key ds st h hd
  refine ⟨L, ?_, fun he => ⟨hl.2 he, by omega⟩⟩
  have := LzxInv_src (st := ({ st with src := ds.feeder } : Lzx.St Feeder)) st.src hl.1
  exact this

/-- **LZX from the folder's fresh decoder** -/
theorem C02_cab_lzx_fresh_no_fault (files : Files) (p : Params) (m : Member) (key : Nat) (ds : DState)
    (st : Lzx.St Feeder) (h : freshDState files p m key = .ok ds) (hd : ds.dec = some (.lzx st))
    (ns : List Nat) (hs : ns.sum ≤ cabLENGTHMAX) (f : Fault)
    (hf : cabCalls files (.lzx st) ds.feeder ns = .error f) : f = .hang ∨ ∃ s, f = .uninit s :=
  C02_cab_lzx_calls_no_fault files ns _ _ 0 f (C02_cab_lzx_fresh_pair files p m key ds st h hd) (by omega) hf

/-- what `cabd_extract` keeps between calls, by method (`off` = `d->offset`) -/
def AllPair (files : Files) : Dec → Feeder → Nat → Prop
  | .none _ e, fd, _ => e = .ok → FeederLive fd
  | .mszip st, fd, _ => Zip.ZipInv st ∧ (st.error = .ok → FeederLive fd)
  | .qtm st, fd, _ => Qtm.StInv st ∧ (st.error = .ok → FeederLive fd)
  | .lzx st, fd, off => LzxPair files (.lzx st) fd off
  | .unsupported _, _, _ => True

theorem allPair_of_none {files : Files} {dec : Dec} {fd : Feeder} (off : Nat) (h : NoneInv dec fd) :
    AllPair files dec fd off := by
  cases dec <;> first | exact h | exact h.elim
theorem allPair_of_mszip {files : Files} {dec : Dec} {fd : Feeder} (off : Nat) (h : MszipPair dec fd) :
    AllPair files dec fd off := by
  cases dec <;> first | exact h | exact h.elim
theorem allPair_of_qtm {files : Files} {dec : Dec} {fd : Feeder} (off : Nat) (h : QtmPair dec fd) :
    AllPair files dec fd off := by
  cases dec <;> first | exact h | exact h.elim
theorem allPair_of_lzx {files : Files} {dec : Dec} {fd : Feeder} {off : Nat} (h : LzxPair files dec fd off) :
    AllPair files dec fd off := by
  cases dec <;> first | exact h | exact h.elim

theorem allPair_decOk {files : Files} {dec : Dec} {fd : Feeder} {off : Nat} (h : AllPair files dec fd off) :
    Cab.CabDecOk dec := by
  cases dec with
  | mszip st => exact h.1
  | none bs e => trivial
  | qtm st => trivial
  | lzx st => trivial
  | unsupported k => trivial

theorem allPair_call (files : Files) (dec : Dec) (fd : Feeder) (off n : Nat)
    (h : AllPair files dec fd off) (hn : off + n ≤ cabLENGTHMAX) :
    (∀ f, Cab.decompress files dec fd n = .error f → ¬ Bad f) ∧
    (∀ o, Cab.decompress files dec fd n = .ok (some o) →
      AllPair files o.dec o.feeder (off + o.written.length) ∧ o.written.length ≤ n) := by
  have hcount := Cab.C07_count_law_decOk files dec (allPair_decOk h)
  refine ⟨fun f hf => ?_, fun o ho => ⟨?_, (hcount fd n o ho).1⟩⟩
  · cases dec with
    | none bs e => rw [(C02_cab_none_decompress_no_fault files bs e fd n h).1 f hf]; exact not_bad_hang
    | mszip st => rw [(C02_cab_mszip_decompress_no_fault files st fd n h).1 f hf]; exact not_bad_hang
    | qtm st => rw [(C02_cab_qtm_decompress_no_fault files st fd n h).1 f hf]; exact not_bad_hang
    | lzx st =>
      rcases (C02_cab_lzx_decompress_no_fault files st fd off n h hn).1 f hf with h1 | ⟨s, h1⟩
      · rw [h1]; exact not_bad_hang
      · rw [h1]; exact not_bad_uninit s
    | unsupported k => exact (decompress_error_iff.1 hf).elim
  · cases dec with
    | none bs e => exact allPair_of_none _ ((C02_cab_none_decompress_no_fault files bs e fd n h).2 o ho)
    | mszip st => exact allPair_of_mszip _ ((C02_cab_mszip_decompress_no_fault files st fd n h).2.1 o ho)
    | qtm st => exact allPair_of_qtm _ ((C02_cab_qtm_decompress_no_fault files st fd n h).2.1 o ho)
    | lzx st => exact allPair_of_lzx ((C02_cab_lzx_decompress_no_fault files st fd off n h hn).2.1 o ho)
    | unsupported k => exact (decompress_ok_iff.1 ho).elim

def StateOk (files : Files) (ds : DState) : Prop := ∀ dec, ds.dec = some dec → AllPair files dec ds.feeder ds.offset

theorem runPhase_safe (files : Files) (ds : DState) (dec : Dec) (n : Nat)
    (hj : AllPair files dec ds.feeder ds.offset) (hn : ds.offset + n ≤ cabLENGTHMAX) :
    (∀ f, runPhase files ds dec n = .fault f → ¬ Bad f) ∧
    (∀ e w ds', runPhase files ds dec n = .ran e w ds' → StateOk files ds' ∧ ds'.offset ≤ ds.offset + n) := by
  have hc := allPair_call files dec ds.feeder ds.offset n hj hn
  refine ⟨fun f h => hc.1 _ (runPhase_fault h), fun e w ds' h => ?_⟩
  obtain ⟨o, ho, _, _, rfl⟩ := runPhase_ran h
  obtain ⟨h1, h2⟩ := hc.2 o ho
  exact ⟨fun dec' hd => by cases hd; exact h1, Nat.add_le_add_left h2 _⟩

def ResOk (files : Files) : ExtractResult → Prop
  | .fault f => ¬ Bad f
  | .done _ _ d => ∀ ds, d = some ds → StateOk files ds
  | .unsupported => True

theorem ResOk.of_inv {files : Files} {r : ExtractResult} (h : ResInv (fun _ => StateOk files) (¬ Bad ·) r) :
    ResOk files r := by
  cases r <;> exact h

theorem phaseInv_safe (files : Files) : PhaseInv files True (StateOk files) (fun _ => StateOk files) (¬ Bad ·) :=
  ⟨fun _ _ h => h, fun _ h => h, fun ds dec n hds hdec hn =>
    have h := runPhase_safe files ds dec n (hds dec hdec) (hn trivial)
    ⟨h.1, fun e w ds' hr => ⟨(h.2 e w ds' hr).1, fun _ => (h.2 e w ds' hr).2⟩⟩⟩

theorem memberCheck_cap (p : Params) (m : Member) (filelen key : Nat) (h : memberCheck p m = .ok (filelen, key)) :
    m.offset + filelen ≤ cabLENGTHMAX :=
  Cab.memberCheck_cap h

theorem fresh_offset (files : Files) (p : Params) (m : Member) (key : Nat) (ds : DState)
    (h : freshDState files p m key = .ok ds) : ds.offset = 0 :=
  freshDState_offset files p m key ds h

theorem fresh_stateOk (files : Files) (p : Params) (m : Member) (key : Nat) (ds : DState)
    (h : freshDState files p m key = .ok ds) : StateOk files ds := by
  intro dec hd
  rw [fresh_offset files p m key ds h]
  cases dec with
  | none bs e => exact fun _ => (C02_cab_fresh_feeder files p m key ds h).1
  | mszip st => exact C02_cab_mszip_fresh files p m key ds st h hd
  | qtm st => exact C02_cab_qtm_fresh files p m key ds st h hd
  | lzx st => exact C02_cab_lzx_fresh_pair files p m key ds st h hd
  | unsupported k => trivial

/-- **`cabd_extract`**: from no cache or a cache satisfying the invariant, the result is never an
    undefined-behaviour fault, and the cache handed back satisfies the invariant again -/
theorem C02_cab_extract_safe (files : Files) (p : Params) (d : Option DState) (m : Member)
    (hd : ∀ ds, d = some ds → StateOk files ds) : ResOk files (extract files p d m) :=
  .of_inv (extract_keeps (phaseInv_safe files) p d m hd (fresh_stateOk files p m))

/-- **C02 for `cabd_extract`**: no out-of-bounds access, null dereference, division by zero or
    over-wide shift, in any layer -/
theorem C02_cab_extract_no_ub (files : Files) (p : Params) (d : Option DState) (m : Member)
    (hd : ∀ ds, d = some ds → StateOk files ds) :
    (∀ w, extract files p d m ≠ .fault (.oob w)) ∧ (∀ w, extract files p d m ≠ .fault (.nullDeref w)) ∧
    extract files p d m ≠ .fault .divZero ∧ extract files p d m ≠ .fault .shiftWidth := by
  have h := C02_cab_extract_safe files p d m hd
  refine ⟨fun w he => ?_, fun w he => ?_, fun he => ?_, fun he => ?_⟩ <;> rw [he] at h
  · exact h (Or.inl ⟨w, rfl⟩)
  · exact h (Or.inr (Or.inl ⟨w, rfl⟩))
  · exact h (Or.inr (Or.inr (Or.inl rfl)))
  · exact h (Or.inr (Or.inr (Or.inr rfl)))

/-- a session: `extract` calls threaded through the cache; the first fault met, if any -/
def extractSeq (files : Files) (p : Params) : Option DState → List Member → Option Fault
  | _, [] => none
  | d, m :: ms =>
    match extract files p d m with
    | .fault f => some f
    | .unsupported => extractSeq files p d ms
    | .done _ _ d' => extractSeq files p d' ms

theorem extractSeq_keeps {files : Files} {capped : Prop} {I : DState → Prop} {F : Fault → Prop} (hp : PhaseInv files capped I (fun _ => I) F)
    (p : Params) :
    ∀ (ms : List Member) (d : Option DState) (f : Fault), (∀ ds, d = some ds → I ds) →
    (∀ m ∈ ms, ∀ key ds, freshDState files p m key = .ok ds → I ds) → extractSeq files p d ms = some f → F f
  | [], _, _, _, _, h => nomatch h
  | m :: ms, d, f, hd, hm, h => by
    rw [extractSeq] at h
    have hs := extract_keeps hp p d m hd (hm m (List.mem_cons_self ..))
    have hrest : ∀ m' ∈ ms, _ := fun m' h' => hm m' (List.mem_cons_of_mem _ h')
    split at h
    · rename_i f' he
      rw [he] at hs
      cases h
      exact hs
    · exact extractSeq_keeps hp p ms d f hd hrest h
    · rename_i e w d' he
      rw [he] at hs
      exact extractSeq_keeps hp p ms d' f hs hrest h

/-- **a whole session**, any members in any order, any parameters, any files: no undefined behaviour -/
theorem C02_cab_session_no_ub (files : Files) (p : Params) (ms : List Member) (d : Option DState)
    (f : Fault) (hd : ∀ ds, d = some ds → StateOk files ds) (h : extractSeq files p d ms = some f) : ¬ Bad f :=
  extractSeq_keeps (phaseInv_safe files) p ms d f hd (fun m _ => fresh_stateOk files p m) h

/-- … in particular from a fresh instance (no cache) -/
theorem C02_cab_session_fresh_no_ub (files : Files) (p : Params) (ms : List Member) (f : Fault)
    (h : extractSeq files p none ms = some f) : ¬ Bad f :=
  C02_cab_session_no_ub files p ms none f (fun _ h => by cases h) h

/-- an LZX folder: one block holding `Lzx.helloStream` (an uncompressed LZX block, 5 bytes out) -/
def lzxCab : Bytes := [0, 0, 0, 0, 21, 0, 5, 0] ++ Lzx.helloStream
def lzxFiles : Files := [("l.cab", lzxCab)]
def lzxMember : Member :=
  { length := 5, offset := 0, folderKey := some 0, mergePrev := false, numBlocks := 1,
    compType := 3 + 15 * 256, parts := [⟨"l.cab", 0, 0⟩] }

/-- The kernel builds the 32 KiB window once per declaration, so the two runs below are evaluated together. -/
theorem demoRuns :
    (match freshDState lzxFiles {} lzxMember 0 with
      | .ok ds =>
        (match ds.dec with
         | some (.lzx st) =>
           (match Cab.decompress lzxFiles (.lzx st) ds.feeder 2 with
            | .ok (some o1) =>
              (match Cab.decompress lzxFiles o1.dec o1.feeder 3 with
               | .ok (some o2) => o1.err == .ok && o2.err == .ok &&
                   o1.written ++ o2.written == [104, 101, 108, 108, 111] && o2.feeder.lzxLen == some 5
               | _ => false)
            | _ => false)
         | _ => false)
      | .error _ => false) = true ∧
    extractSeq (zipFiles ++ qtmFiles ++ lzxFiles) {} none [zipMember, qtmMember, lzxMember] = none := by
  decide +kernel

/-- fresh decoder (window 2^15), two calls (2 + 3 bytes): both return OK, "hello" comes out, and the
    feeder has announced the folder's length 5 -/
example : (match freshDState lzxFiles {} lzxMember 0 with
    | .ok ds =>
      (match ds.dec with
       | some (.lzx st) =>
         (match Cab.decompress lzxFiles (.lzx st) ds.feeder 2 with
          | .ok (some o1) =>
            (match Cab.decompress lzxFiles o1.dec o1.feeder 3 with
             | .ok (some o2) => o1.err == .ok && o2.err == .ok &&
                 o1.written ++ o2.written == [104, 101, 108, 108, 111] && o2.feeder.lzxLen == some 5
             | _ => false)
          | _ => false)
       | _ => false)
    | .error _ => false) = true := demoRuns.1

/-- the session does real work: the MSZIP, Quantum and LZX demo members, one after the other
    through one cache, end without any fault -/
example : extractSeq (zipFiles ++ qtmFiles ++ lzxFiles) {} none [zipMember, qtmMember, lzxMember] = none :=
  demoRuns.2

end MsPack.CabLift
