import Proofs.Lemmas.CabEncode
import Proofs.Lemmas.LoopTerm
import MsPack.Kwaj.Extract
import MsPack.Spec.Kwaj
import MsPack.Spec.LzhEncode
/-!
# C05 — KWAJ: header fields and stored / xor payloads

`encodeKwaj` lays out a KWAJ file without a name or extension field (those go through `kwajd.c`'s
pointer arithmetic over a 13-byte buffer and are covered by differential runs only): signature, method
(0 = stored, 1 = xor 0xFF), data offset, flags, then the optional parts the flags announce — unpacked
length, a 2-byte field, a length-prefixed blob, length-prefixed extra text — then the payload.

`C05_kwaj_plain_roundtrip`: for all 16 combinations of those optional parts, any field values, any
payload, both methods: `open()` reports exactly the method, data offset, flag word, length and extra
text, and `decompress()` returns OK and writes exactly the data.
-/
namespace MsPack.Kwaj
open MsPack.Generated
open MsPack.Oab (enc32)
open MsPack.Cab (enc16)

def KwajSpec.wf (k : KwajSpec) : Prop :=
  (∀ n, k.length = some n → n < 4294967296) ∧ (∀ n, k.unk1 = some n → n < 65536) ∧
  (∀ b, k.unk2 = some b → b.length < 65536) ∧ (∀ b, k.extra = some b → b.length < 65536) ∧ k.dataOffset < 65536

theorem flags_has (k : KwajSpec) :
    hasFlag k.flags hdrHASLENGTH = k.length.isSome ∧ hasFlag k.flags hdrHASUNKNOWN1 = k.unk1.isSome ∧
    hasFlag k.flags hdrHASUNKNOWN2 = k.unk2.isSome ∧ hasFlag k.flags (hdrHASFILENAME ||| hdrHASFILEEXT) = false ∧
    hasFlag k.flags hdrHASEXTRATEXT = k.extra.isSome ∧ k.flags < 65536 := by
  unfold KwajSpec.flags
  cases k.length.isSome <;> cases k.unk1.isSome <;> cases k.unk2.isSome <;> cases k.extra.isSome <;> decide

def KwajSpec.listed (k : KwajSpec) : Header :=
  { compType := if k.xor then 1 else 0, dataOffset := k.dataOffset, headers := k.flags, length := k.length.getD 0,
    filename := none, extra := k.extra, extraLength := (k.extra.getD []).length }

theorem step_length (k : KwajSpec) (hw : ∀ n, k.length = some n → n < 4294967296) (hdr : Header) (hh : hdr.headers = k.flags)
    (file : Bytes) (pos : Nat) (rest : Bytes) (hd : file.drop pos = optLength k ++ rest) :
    readOptLength hdr ⟨file, pos⟩ = (.ok { hdr with length := if k.length.isSome then k.length.getD 0 else hdr.length },
                                     ⟨file, pos + (optLength k).length⟩) := by
  unfold readOptLength
  rw [hh, (flags_has k).1]
  cases hl : k.length with
  | none => simp [optLength, hl]; cases hdr; simp_all
  | some n =>
    have hre := (Rd.readExact_at (show file.drop pos = enc32 n ++ rest by simpa [optLength, hl] using hd)
      (Cab.enc32_length n)).1
    simp only [Option.isSome_some, ↓reduceIte, hre, optLength, hl, Cab.u32At_enc32_nil (hw n hl), Option.getD_some,
      Cab.enc32_length]

theorem step_unk1 (k : KwajSpec) (hw : ∀ n, k.unk1 = some n → n < 65536) (file : Bytes) (pos : Nat) (rest : Bytes)
    (hd : file.drop pos = optUnk1 k ++ rest) :
    skipUnknown1 k.flags ⟨file, pos⟩ = (.ok (), ⟨file, pos + (optUnk1 k).length⟩) := by
  unfold skipUnknown1
  rw [(flags_has k).2.1]
  cases hl : k.unk1 with
  | none => simp [optUnk1, hl]
  | some n =>
    have hre := (Rd.readExact_at (show file.drop pos = enc16 n ++ rest by simpa [optUnk1, hl] using hd)
      (Cab.enc16_length n)).1
    simp only [Option.isSome_some, ↓reduceIte, hre, optUnk1, hl, Cab.enc16_length]

theorem step_unk2 (k : KwajSpec) (hw : ∀ b, k.unk2 = some b → b.length < 65536) (file : Bytes) (pos : Nat) (rest : Bytes)
    (hd : file.drop pos = optUnk2 k ++ rest) :
    skipUnknown2 k.flags ⟨file, pos⟩ = (.ok (), ⟨file, pos + (optUnk2 k).length⟩) := by
  unfold skipUnknown2
  rw [(flags_has k).2.2.1]
  cases hl : k.unk2 with
  | none => simp [optUnk2, hl]
  | some b =>
    have hre := (Rd.readExact_at (show file.drop pos = enc16 b.length ++ (b ++ rest) by
      simpa [optUnk2, hl, List.append_assoc] using hd) (Cab.enc16_length _)).1
    simp only [Option.isSome_some, ↓reduceIte, hre, optUnk2, hl, Cab.u16At_enc16_nil (hw b hl), Rd.seekCur, List.length_append,
      Cab.enc16_length]
    congr 2; omega

theorem step_extra (k : KwajSpec) (hw : ∀ b, k.extra = some b → b.length < 65536) (hdr : Header) (hh : hdr.headers = k.flags)
    (file : Bytes) (pos : Nat) (rest : Bytes) (hd : file.drop pos = optExtra k ++ rest) :
    readExtra hdr ⟨file, pos⟩ = (.ok { hdr with extra := if k.extra.isSome then k.extra else hdr.extra,
                                                extraLength := if k.extra.isSome then (k.extra.getD []).length else hdr.extraLength },
                                 ⟨file, pos + (optExtra k).length⟩) := by
  unfold readExtra
  rw [hh, (flags_has k).2.2.2.2.1]
  cases hl : k.extra with
  | none => simp [optExtra, hl]; cases hdr; simp_all
  | some b =>
    obtain ⟨hre, hd2⟩ := Rd.readExact_at (show file.drop pos = enc16 b.length ++ (b ++ rest) by
      simpa [optExtra, hl, List.append_assoc] using hd) (Cab.enc16_length _)
    obtain ⟨hre2, _⟩ := Rd.readExact_at hd2 rfl
    simp only [Option.isSome_some, ↓reduceIte, hre, Cab.u16At_enc16_nil (hw b hl), hre2, optExtra, hl, Option.getD_some,
      List.length_append, Cab.enc16_length]
    congr 2; omega

/-- the header `open` reports for `encodeKwajWith method k _` -/
def listedWith (method : Nat) (k : KwajSpec) : Header :=
  { compType := method, dataOffset := k.dataOffset, headers := k.flags, length := k.length.getD 0,
    filename := none, extra := k.extra, extraLength := (k.extra.getD []).length }

theorem kwaj_hdr_fields_with (method : Nat) (hm : method < 65536) (k : KwajSpec) (hwf : k.wf) :
    let h := enc32 0x4A41574B ++ enc32 0xD127F088 ++ enc16 method ++ enc16 k.dataOffset ++ enc16 k.flags
    h.length = 14 ∧ u32At h 0 = 0x4A41574B ∧ u32At h 4 = 0xD127F088 ∧ u16At h 8 = method ∧
    u16At h 10 = k.dataOffset ∧ u16At h 12 = k.flags := by
  have hfl := (flags_has k).2.2.2.2.2
  have hdo := hwf.2.2.2.2
  simp only [List.append_assoc, List.length_append, Cab.u32At_skip, Cab.u16At_skip, Cab.enc32_length, Cab.enc16_length,
    Nat.reduceLeDiff, Nat.reduceSub, Cab.u32At_enc32, Cab.u16At_enc16, Cab.u16At_enc16_nil, Nat.reduceLT, hm, hfl, hdo, and_self]

theorem readHeaders_with (fill : UInt8) (method : Nat) (hm : method < 65536) (k : KwajSpec) (hwf : k.wf) (pl : Bytes) :
    readHeaders fill ⟨LzhEnc.encodeKwajWith method k pl, 0⟩ =
      .ok (.ok (listedWith method k), ⟨LzhEnc.encodeKwajWith method k pl, k.dataOffset⟩) := by
  obtain ⟨hl14, s0, s4, f8, f10, f12⟩ := kwaj_hdr_fields_with method hm k hwf
  obtain ⟨g1, g2, g3, g4, g5, _⟩ := flags_has k
  obtain ⟨w1, w2, w3, w4, _⟩ := hwf
  have hd0 : (LzhEnc.encodeKwajWith method k pl).drop 0 = _ ++ (optLength k ++ (optUnk1 k ++ (optUnk2 k ++ (optExtra k ++ pl)))) := rfl
  obtain ⟨hre, hd14⟩ := Rd.readExact_at hd0 hl14
  unfold readHeaders
  rw [show kwajhSIZEOF = 14 from rfl, hre]
  generalize enc32 0x4A41574B ++ enc32 0xD127F088 ++ enc16 method ++ enc16 k.dataOffset ++ enc16 k.flags = hb at s0 s4 f8 f10 f12
  simp only [s0, s4, f8, f10, f12, ne_eq, not_true_eq_false, or_self, ↓reduceIte]
  generalize hfile : LzhEnc.encodeKwajWith method k pl = file at hd14 ⊢
  have e1 : ∃ P1, P1 = 0 + 14 + (optLength k).length ∧ file.drop P1 = optUnk1 k ++ (optUnk2 k ++ (optExtra k ++ pl)) :=
    ⟨_, rfl, (Rd.readExact_at hd14 rfl).2⟩
  obtain ⟨P1, hP1, hd1⟩ := e1
  have e2 : ∃ P2, P2 = P1 + (optUnk1 k).length ∧ file.drop P2 = optUnk2 k ++ (optExtra k ++ pl) := ⟨_, rfl, (Rd.readExact_at hd1 rfl).2⟩
  obtain ⟨P2, hP2, hd2⟩ := e2
  have e3 : ∃ P3, P3 = P2 + (optUnk2 k).length ∧ file.drop P3 = optExtra k ++ pl := ⟨_, rfl, (Rd.readExact_at hd2 rfl).2⟩
  obtain ⟨P3, hP3, hd3⟩ := e3
  have hdo : k.dataOffset = P3 + (optExtra k).length := by simp only [KwajSpec.dataOffset]; omega
  rw [step_length k w1 _ rfl file (0 + 14) _ hd14]
  simp only
  rw [← hP1, step_unk1 k w2 file P1 _ hd1]
  simp only
  rw [← hP2, step_unk2 k w3 file P2 _ hd2]
  simp only
  rw [← hP3]
  have hnames : ∀ (h : Header), h.headers = k.flags → readNames fill h ⟨file, P3⟩ = .ok (.ok h, ⟨file, P3⟩) := by
    intro h hh; unfold readNames; rw [hh, g4]; rfl
  rw [hnames _ rfl]
  simp only
  rw [step_extra k w4 _ rfl file P3 _ hd3, ← hdo]
  congr 3
  simp only [listedWith]
  cases k.length <;> cases k.extra <;> simp

theorem drop_dataOffset (method : Nat) (k : KwajSpec) (pl : Bytes) :
    (LzhEnc.encodeKwajWith method k pl).drop k.dataOffset = pl := by
  have h0 : (LzhEnc.encodeKwajWith method k pl).drop 0 = ((enc32 0x4A41574B ++ enc32 0xD127F088 ++ enc16 method ++ enc16 k.dataOffset ++ enc16 k.flags) ++
      (optLength k ++ (optUnk1 k ++ (optUnk2 k ++ optExtra k)))) ++ pl := by
    simp [LzhEnc.encodeKwajWith, List.append_assoc]
  have hl : (enc32 0x4A41574B ++ enc32 0xD127F088 ++ enc16 method ++ enc16 k.dataOffset ++ enc16 k.flags ++
      (optLength k ++ (optUnk1 k ++ (optUnk2 k ++ optExtra k)))).length = k.dataOffset := by
    simp only [KwajSpec.dataOffset, List.length_append, enc32, enc16, List.length_cons, List.length_nil]; omega
  have := (Rd.readExact_at h0 hl).2
  rwa [Nat.zero_add] at this

theorem readHeaders_spec (fill : UInt8) (k : KwajSpec) (hwf : k.wf) :
    readHeaders fill ⟨encodeKwaj k, 0⟩ = .ok (.ok k.listed, ⟨encodeKwaj k, k.dataOffset⟩) :=
  readHeaders_with fill (if k.xor then 1 else 0) (by split <;> omega) k hwf (payload k)

theorem xor_ff_twice (b : UInt8) : (b ^^^ 0xFF) ^^^ 0xFF = b := by
  rw [UInt8.xor_assoc, UInt8.xor_self, UInt8.xor_zero]

theorem extract_plain (fill : UInt8) (fuel : Nat) (h : Handle) (xor : Bool) (hct : h.hdr.compType = if xor then 1 else 0)
    (w : Array UInt8) (r : Rd) (hcopy : copyLoop xor fuel (h.rd.seekStart h.hdr.dataOffset) #[] = .ok (w, r)) :
    extract fill fuel h = .ok ⟨.ok, w.toList, { h with rd := r }⟩ := by
  have c : h.hdr.compType = compNONE ∨ h.hdr.compType = compXOR := by rw [hct]; cases xor <;> simp [compNONE, compXOR]
  have d : decide (h.hdr.compType = compXOR) = xor := by rw [hct]; cases xor <;> simp [compXOR]
  unfold extract
  simp only [c, ↓reduceIte, d, hcopy]

/-- **KWAJ, stored and xor methods**: the header values are reported exactly and `decompress` writes exactly the data -/
theorem C05_kwaj_plain_roundtrip (fill : UInt8) (err : Err) (k : KwajSpec) (hwf : k.wf) (fuel : Nat)
    (hfuel : k.data.length / 2048 + 2 ≤ fuel) :
    open_ fill err (some (encodeKwaj k)) = .ok (some ⟨k.listed, ⟨encodeKwaj k, k.dataOffset⟩⟩, .ok) ∧
    decompress fill fuel err (some (encodeKwaj k)) = .ok ⟨.ok, some k.data⟩ := by
  have hopen : open_ fill err (some (encodeKwaj k)) = .ok (some ⟨k.listed, ⟨encodeKwaj k, k.dataOffset⟩⟩, .ok) := by
    simp only [open_, readHeaders_spec fill k hwf]
  refine ⟨hopen, ?_⟩
  have hdrop : (encodeKwaj k).drop k.dataOffset = payload k := drop_dataOffset _ k (payload k)
  have hplen : (payload k).length = k.data.length := by unfold payload; split <;> simp
  obtain ⟨r, e⟩ := copyLoop_spec k.xor (encodeKwaj k) fuel k.dataOffset (payload k) #[] hdrop (Or.inr (by rw [hplen]; exact hfuel))
  have hex := extract_plain fill fuel ⟨k.listed, ⟨encodeKwaj k, k.dataOffset⟩⟩ k.xor rfl _ r e
  unfold decompress
  rw [hopen]
  simp only [hex, Array.empty_append, List.toList_toArray]
  have hid : (if k.xor = true then List.map (fun x => x ^^^ 255) (payload k) else payload k) = k.data := by
    unfold payload
    cases k.xor with
    | false => simp
    | true =>
      simp only [↓reduceIte, List.map_map]
      have : ((fun x : UInt8 => x ^^^ 255) ∘ fun x => x ^^^ 255) = id := by
        funext b; exact xor_ff_twice b
      rw [this, List.map_id]
  rw [hid]

end MsPack.Kwaj
