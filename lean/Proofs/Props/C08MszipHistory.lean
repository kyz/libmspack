import Proofs.Props.C08MszipFull
/-!
# C08, MSZIP folders, strict mode: full history freedom

`C08_mszip_history_free`: for an MSZIP folder (setting of `C08MszipCab.lean`), strict MSZIP (`fix_mszip` off), ANY list of
`extract()` calls on ANY members of the folder — in any order, succeeding or failing, nothing assumed to decode —
threaded through the decoder cache: every call that returns (status and bytes; i.e. no model fault) returns exactly
what the same call on a fresh instance returns.  `…_single`: a folder inside one cabinet file, no fuel condition.

Invariant: the cache is nothing, or this folder's decoder/feeder pair as reached from the fresh pair by ONE decoder
call (`Tracks` of `ZipChunkCab.lean`).  Every decoder call of `cabd_extract` keeps it (`runPhase_tracks`: the call is
the tail of one call of the fresh pair), hence so do both phases (`runPhases_tracks`) and `extract`
(`extract_full_cache`).  One call against such a cache is the fresh call (`extract_full_fresh`, `C08MszipFree.lean`).
-/
namespace MsPack.Cab

theorem runPhases_tracks {files : Files} {fd0 : Feeder} {st0 : Zip.St Feeder} (hst : Zip.ZipInv st0)
    (hs : st0.repair = false ∧ st0.error = .ok) {key : Nat} {ds : DState} {e0 : Err}
    (ht : Tracks files fd0 st0 key ds e0) (m : Member) (L : Nat) {e' : Err} {w' : Option Bytes} {d' : Option DState}
    (h : runPhases files ds m L = .done e' w' d') : ∀ ds', d' = some ds' → ∃ e, Tracks files fd0 st0 key ds' e := by
  refine (CountLaws.CabInv.runPhases_reach (I := fun ds => ∃ e, Tracks files fd0 st0 key ds e) (G := fun _ => True)
    trivial (fun ds dec n e1 w1 ds1 hi hd hr _ => ?_) ⟨e0, ht⟩ h).1 trivial
  obtain ⟨e, hi⟩ := hi
  obtain ⟨st, hdec⟩ := hi.dec
  cases hdec.symm.trans hd
  exact runPhase_tracks hst hs hi hdec hr

theorem extract_full_cache (files : Files) (p : Params) (part : Part) (more : List Part) (bytes : Bytes)
    (nblocks key ct : Nat) (st0 : Zip.St Feeder)
    (hlook : files.lookup part.fname = some bytes) (hct : compMask ct = 1) (hstrict : p.fixMszip = false)
    (hinit : Zip.init nullFeeder p.bufSize p.fixMszip p.fill = some st0)
    (d : Option DState)
    (hcache : ∀ ds, d = some ds → ∃ e, Tracks files (mszipFreshFeeder p bytes part more nblocks ct) st0 key ds e)
    (o l : Nat) (e' : Err) (w' : Option Bytes) (d' : Option DState)
    (h : extract files p d (mszipMember (part :: more) nblocks key ct o l) = .done e' w' d') :
    ∀ ds, d' = some ds → ∃ e, Tracks files (mszipFreshFeeder p bytes part more nblocks ct) st0 key ds e := by
  have hst : Zip.ZipInv st0 := Zip.C02_zip_init_inv _ _ _ _ st0 hinit
  obtain ⟨hrep, he00⟩ := zipInit_repair_error _ _ _ _ st0 hinit
  rw [hstrict] at hrep
  rcases extract_mszip_phases files p part more bytes nblocks key ct st0 hlook hct hinit o l with
    ⟨e0, _, he⟩ | ⟨filelen, _, hp⟩
  · rw [he] at h
    cases h; exact hcache
  · obtain ⟨ds, hd, ⟨rfl, _⟩ | rfl⟩ := hp d <;> rw [hd] at h
    · obtain ⟨e, ht⟩ := hcache ds rfl
      exact runPhases_tracks hst ⟨hrep, he00⟩ ht _ filelen h
    · exact runPhases_tracks hst ⟨hrep, he00⟩ (Tracks.fresh he00 key) _ filelen h

/-- **full history freedom, MSZIP folders, strict mode.**  ANY list `ms` of `extract()` calls on ANY members
    `(offset, length)` of the folder, threaded through the decoder cache as `mszipRunSeq` does (it stops at a call
    that ends in a model fault): every call's status and bytes are those of the same call on a fresh instance. -/
theorem C08_mszip_history_free (files : Files) (p : Params) (part : Part) (more : List Part) (bytes : Bytes)
    (nblocks key ct : Nat) (st0 : Zip.St Feeder)
    (hlook : files.lookup part.fname = some bytes) (hct : compMask ct = 1) (hstrict : p.fixMszip = false)
    (hinit : Zip.init nullFeeder p.bufSize p.fixMszip p.fill = some st0)
    (hfuel0 : 8 * feederLeft files (mszipFreshFeeder p bytes part more nblocks ct) + 17 ≤ decFuel files)
    (ms : List (Nat × Nat)) :
    ∀ x ∈ (mszipRunSeq files p nblocks key ct (part :: more) ms none).zip ms,
      (extract files p none (mszipMember (part :: more) nblocks key ct x.2.1 x.2.2)).observable = some x.1 := by
  suffices hgen : ∀ (ms : List (Nat × Nat)) (d : Option DState),
      (∀ ds, d = some ds → ∃ e, Tracks files (mszipFreshFeeder p bytes part more nblocks ct) st0 key ds e) →
      ∀ x ∈ (mszipRunSeq files p nblocks key ct (part :: more) ms d).zip ms,
        (extract files p none (mszipMember (part :: more) nblocks key ct x.2.1 x.2.2)).observable = some x.1 from
    hgen ms none (fun _ hd => nomatch hd)
  intro ms
  induction ms with
  | nil => intro d _ x hx; simp [mszipRunSeq] at hx
  | cons m ms ih =>
    intro d hc x hx
    obtain ⟨o, l⟩ := m
    cases hex : extract files p d (mszipMember (part :: more) nblocks key ct o l) with
    | done e' w' d' =>
      simp only [mszipRunSeq, hex, List.zip_cons_cons, List.mem_cons] at hx
      rcases hx with rfl | hx
      · exact extract_full_fresh files p part more bytes nblocks key ct st0 hlook hct hinit hfuel0 d hc o l e' w' d' hex
      · exact ih d' (extract_full_cache files p part more bytes nblocks key ct st0 hlook hct hstrict hinit d hc
          o l e' w' d' hex) x hx
    | unsupported => simp [mszipRunSeq, hex] at hx
    | fault f => simp [mszipRunSeq, hex] at hx

/-- … for a folder that lies in one cabinet file: no condition on the fuel -/
theorem C08_mszip_history_free_single (files : Files) (p : Params) (part : Part) (bytes : Bytes)
    (nblocks key ct : Nat) (st0 : Zip.St Feeder)
    (hlook : files.lookup part.fname = some bytes) (hct : compMask ct = 1) (hstrict : p.fixMszip = false)
    (hinit : Zip.init nullFeeder p.bufSize p.fixMszip p.fill = some st0)
    (ms : List (Nat × Nat)) :
    ∀ x ∈ (mszipRunSeq files p nblocks key ct [part] ms none).zip ms,
      (extract files p none (mszipMember [part] nblocks key ct x.2.1 x.2.2)).observable = some x.1 :=
  C08_mszip_history_free files p part [] bytes nblocks key ct st0 hlook hct hstrict hinit
    (mszip_single_fuel p nblocks ct hlook) ms

/-- a history with two failing calls (past the end of the folder) in the middle: every call returns, and returns what
    a fresh instance returns -/
example :
    (mszipRunSeq zccFiles {} 2 7 1 [zccPart] [(0, 2), (3, 10), (3, 2), (4, 5), (0, 5), (5, 1)] none).map some =
      [(0, 2), (3, 10), (3, 2), (4, 5), (0, 5), (5, 1)].map fun m =>
        (extract zccFiles {} none (mszipMember [zccPart] 2 7 1 m.1 m.2)).observable := by
  decide +kernel

/-- the hypotheses of `C08_mszip_history_free_single` hold for it (default parameters: `fix_mszip` off) -/
example (st0 : Zip.St Feeder) (hinit : Zip.init nullFeeder 4096 false 0xa5 = some st0)
    (ms : List (Nat × Nat)) :
    ∀ x ∈ (mszipRunSeq zccFiles {} 2 7 1 [zccPart] ms none).zip ms,
      (extract zccFiles {} none (mszipMember [zccPart] 2 7 1 x.2.1 x.2.2)).observable = some x.1 :=
  C08_mszip_history_free_single zccFiles {} zccPart zccFile 2 7 1 st0 rfl rfl rfl hinit ms

end MsPack.Cab
