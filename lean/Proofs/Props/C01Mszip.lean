import Proofs.Lemmas.DeflateRound
/-!
# C01 — MSZIP: a frame written by the specification writer is inflated to exactly its data

`MsPack/Spec/Deflate.lean` is the specification of the MSZIP frame format as far as these theorems
go: `encFrame blocks` = 'C', 'K', then the deflate blocks, each either *stored* (BFINAL, BTYPE 00,
padding to the byte boundary, LEN, NLEN, the bytes) or *fixed Huffman* (BTYPE 01, literal/length and
distance symbols in the RFC 1951 fixed codes with their extra bits, end-of-block); stored and
fixed blocks may be mixed in one frame, the last block carries BFINAL.  `blocksData` is what the
blocks mean (`expand` = the LZ77 reference semantics of the tokens).

The theorems are about `Zip.decompress` (the model of `mszipd_decompress`) on a freshly initialised
stream, for every input buffer size `mszipd_init` accepts, every source that hands out the file in
pieces of any size (`Feeds`; `Rd.src`, the plain file handle, is one, `chunkSrc` with an arbitrary
list of piece sizes another), whatever follows the frame in the file:

* `C01_mszip_stored_roundtrip`: `data` (1..32768 bytes) cut into any number of stored blocks
  (each ≤ 65535 bytes, empty ones allowed): the call asking for `data.length` bytes returns OK and
  has written exactly `data`.
* `C01_mszip_fixed_literals_roundtrip`: `data` as one fixed-Huffman block of literals.
* `C01_mszip_fixed_roundtrip`: one fixed-Huffman block of literals and matches (lengths 3..258,
  distances 1..32768 reaching back no further than the start of the frame, overlapping copies
  included): exactly `expand toks []` is written.
* `C01_mszip_blocks_roundtrip` (`…_src` for any `Feeds` source, `…_chunked`): any non-empty list of
  stored and fixed blocks in one frame, stored blocks starting at any bit position.

Not covered: dynamic-Huffman blocks (BTYPE 10), matches that reach into the previous frame's
window, several frames in one call, the KWAJ entry point, repair mode (never entered here).
-/
namespace MsPack.Zip

theorem Rd.src_feeds : Feeds Rd.src (fun r => r.file.drop r.pos) := by
  constructor
  intro s n hn
  refine ⟨(s.file.drop s.pos).take n, { s with pos := s.pos + ((s.file.drop s.pos).take n).length }, rfl, ?_, ?_⟩
  · show List.take n (List.drop s.pos s.file) ++ List.drop (s.pos + _) s.file = _
    rw [← List.drop_drop, List.length_take]
    by_cases h : n ≤ (List.drop s.pos s.file).length
    · rw [Nat.min_eq_left h, List.take_append_drop]
    · rw [Nat.min_eq_right (by omega), List.drop_length, List.append_nil, List.take_of_length_le (by omega)]
  · intro h
    cases hd : List.drop s.pos s.file with
    | nil => rfl
    | cons x xs =>
      obtain ⟨m, rfl⟩ : ∃ m, n = m + 1 := ⟨n - 1, by omega⟩
      rw [hd] at h; simp at h

/-- a source that hands out the rest of its data in pieces of prescribed sizes (at least one byte
    each, whatever was asked for; once the sizes are used up, everything that is left) -/
def chunkSrc : Src (List Nat × Bytes) where
  read s _ :=
    let k := match s.1 with | [] => s.2.length | k :: _ => k + 1
    .ok (some (s.2.take k), (s.1.tail, s.2.drop k))

theorem chunkSrc_feeds : Feeds chunkSrc (fun s => s.2) := by
  constructor
  intro s n _
  refine ⟨_, _, rfl, List.take_append_drop .., ?_⟩
  intro h
  cases hs : s.1 with
  | nil => rw [hs] at h; simpa using h
  | cons k ks =>
    rw [hs] at h
    cases hd : s.2 with
    | nil => rfl
    | cons x xs => rw [hd] at h; simp at h

theorem init_at {σ : Type} (content : σ → Bytes) (src : σ) (n : Nat) (repair : Bool) (fill : UInt8) (st : St σ)
    (h : init src n repair fill = some st) :
    st.error = .ok ∧ st.pending = [] ∧ st.bits = [] ∧ At content st (Deflate.bytesBits (content src ++ [0, 0])) [] := by
  obtain ⟨hb, hi, hs, he, hp, ho, hr, hq, hz, hw⟩ := init_fields h
  refine ⟨hr, hq, hb, ?_, Nat.le_of_succ_le hz, by rw [hb]; exact Nat.zero_le _, hw, rfl, .inl ⟨ho, hp, by decide⟩⟩
  unfold avail remBytes
  rw [hb, hi, hs, he]
  rfl

theorem stored_blocksData : ∀ (chunks : List Bytes) (out : Bytes),
    Deflate.blocksData (chunks.map Deflate.Block.stored) out = out ++ chunks.flatten
  | [], out => by simp [Deflate.blocksData]
  | c :: cs, out => by
    rw [List.map_cons, Deflate.blocksData, List.foldl_cons]
    exact (stored_blocksData cs (out ++ c)).trans (by simp)

theorem stored_blocksWF : ∀ (chunks : List Bytes) (out : Bytes), (∀ c ∈ chunks, c.length ≤ 65535) →
    Deflate.BlocksWF out (chunks.map Deflate.Block.stored)
  | [], _, _ => trivial
  | c :: cs, _, h => ⟨h c (List.mem_cons_self ..), stored_blocksWF cs _ (fun c' hc' => h c' (List.mem_cons_of_mem _ hc'))⟩

/-- **any blocks, any source** -/
theorem C01_mszip_blocks_roundtrip_src {σ : Type} (S : Src σ) (content : σ → Bytes) (hF : Feeds S content)
    (blocks : List Deflate.Block) (extra : Bytes) (hne : blocks ≠ []) (hwf : Deflate.BlocksWF [] blocks)
    (h1 : 1 ≤ (Deflate.blocksData blocks []).length) (h2 : (Deflate.blocksData blocks []).length ≤ 32768)
    (src : σ) (hsrc : content src = Deflate.encFrame blocks ++ extra)
    (inputBufferSize : Nat) (repair : Bool) (fill : UInt8) (st : St σ)
    (hinit : init src inputBufferSize repair fill = some st)
    (fuel : Nat) (hfuel2 : 2 ≤ fuel) (hfuel : ∀ b ∈ blocks, blocks.length + blockCost b ≤ fuel) :
    ∃ st', decompress S fuel st (Deflate.blocksData blocks []).length =
      .ok ⟨.ok, Deflate.blocksData blocks [], st'⟩ := by
  obtain ⟨i1, i2, i3, i4⟩ := init_at content src inputBufferSize repair fill st hinit
  obtain ⟨f, rfl⟩ : ∃ f, fuel = f + 2 := ⟨fuel - 2, by omega⟩
  exact decompress_frame hF blocks extra f st hne hfuel hwf h2 h1 i1 i2 i3 (hsrc ▸ i4)

/-- **stored blocks, any source.**  `data` cut into stored blocks `chunks`, the frame anywhere a
    `Feeds` source delivers it (followed by anything): one `decompress` call for `data.length`
    bytes returns OK and has written `data`. -/
theorem C01_mszip_stored_roundtrip_src {σ : Type} (S : Src σ) (content : σ → Bytes) (hF : Feeds S content)
    (chunks : List Bytes) (data extra : Bytes) (hdata : chunks.flatten = data)
    (hchunk : ∀ c ∈ chunks, c.length ≤ 65535) (h1 : 1 ≤ data.length) (h2 : data.length ≤ 32768)
    (src : σ) (hsrc : content src = Deflate.encFrame (chunks.map .stored) ++ extra)
    (inputBufferSize : Nat) (repair : Bool) (fill : UInt8) (st : St σ)
    (hinit : init src inputBufferSize repair fill = some st)
    (fuel : Nat) (hfuel : chunks.length + 2 ≤ fuel) :
    ∃ st', decompress S fuel st data.length = .ok ⟨.ok, data, st'⟩ := by
  have hd : Deflate.blocksData (chunks.map Deflate.Block.stored) [] = data := by
    rw [stored_blocksData, List.nil_append, hdata]
  have hne : chunks.map Deflate.Block.stored ≠ [] := by
    intro h
    rw [List.map_eq_nil_iff] at h
    rw [h] at hdata
    rw [← hdata] at h1
    simp at h1
  have := C01_mszip_blocks_roundtrip_src S content hF (chunks.map .stored) extra hne (stored_blocksWF chunks [] hchunk)
    (by rw [hd]; exact h1) (by rw [hd]; exact h2) src hsrc inputBufferSize repair fill st hinit fuel (by omega) ?_
  · rw [hd] at this; exact this
  · intro b hb
    obtain ⟨c, _, rfl⟩ := List.mem_map.mp hb
    rw [List.length_map]
    show chunks.length + 0 ≤ fuel
    omega

/-- **C01, MSZIP, stored blocks** on the file handle: wherever the frame sits in the file -/
theorem C01_mszip_stored_roundtrip (chunks : List Bytes) (data extra : Bytes) (hdata : chunks.flatten = data)
    (hchunk : ∀ c ∈ chunks, c.length ≤ 65535) (h1 : 1 ≤ data.length) (h2 : data.length ≤ 32768)
    (file : Bytes) (pos : Nat) (hfile : file.drop pos = Deflate.encFrame (chunks.map .stored) ++ extra)
    (inputBufferSize : Nat) (repair : Bool) (fill : UInt8) (st : St Rd)
    (hinit : init (⟨file, pos⟩ : Rd) inputBufferSize repair fill = some st)
    (fuel : Nat) (hfuel : chunks.length + 2 ≤ fuel) :
    ∃ st', decompress Rd.src fuel st data.length = .ok ⟨.ok, data, st'⟩ :=
  C01_mszip_stored_roundtrip_src Rd.src _ Rd.src_feeds chunks data extra hdata hchunk h1 h2 ⟨file, pos⟩ hfile
    inputBufferSize repair fill st hinit fuel hfuel

/-- the same on a source that delivers the file in pieces of arbitrary prescribed sizes -/
theorem C01_mszip_stored_roundtrip_chunked (chunks : List Bytes) (data extra : Bytes) (hdata : chunks.flatten = data)
    (hchunk : ∀ c ∈ chunks, c.length ≤ 65535) (h1 : 1 ≤ data.length) (h2 : data.length ≤ 32768)
    (sizes : List Nat)
    (inputBufferSize : Nat) (repair : Bool) (fill : UInt8) (st : St (List Nat × Bytes))
    (hinit : init (sizes, Deflate.encFrame (chunks.map .stored) ++ extra) inputBufferSize repair fill = some st)
    (fuel : Nat) (hfuel : chunks.length + 2 ≤ fuel) :
    ∃ st', decompress chunkSrc fuel st data.length = .ok ⟨.ok, data, st'⟩ :=
  C01_mszip_stored_roundtrip_src chunkSrc _ chunkSrc_feeds chunks data extra hdata hchunk h1 h2 _ rfl
    inputBufferSize repair fill st hinit fuel hfuel

/-- **C01, MSZIP, stored and fixed-Huffman blocks** on the file handle -/
theorem C01_mszip_blocks_roundtrip (blocks : List Deflate.Block) (extra : Bytes) (hne : blocks ≠ [])
    (hwf : Deflate.BlocksWF [] blocks)
    (h1 : 1 ≤ (Deflate.blocksData blocks []).length) (h2 : (Deflate.blocksData blocks []).length ≤ 32768)
    (file : Bytes) (pos : Nat) (hfile : file.drop pos = Deflate.encFrame blocks ++ extra)
    (inputBufferSize : Nat) (repair : Bool) (fill : UInt8) (st : St Rd)
    (hinit : init (⟨file, pos⟩ : Rd) inputBufferSize repair fill = some st)
    (fuel : Nat) (hfuel2 : 2 ≤ fuel) (hfuel : ∀ b ∈ blocks, blocks.length + blockCost b ≤ fuel) :
    ∃ st', decompress Rd.src fuel st (Deflate.blocksData blocks []).length =
      .ok ⟨.ok, Deflate.blocksData blocks [], st'⟩ :=
  C01_mszip_blocks_roundtrip_src Rd.src _ Rd.src_feeds blocks extra hne hwf h1 h2 ⟨file, pos⟩ hfile
    inputBufferSize repair fill st hinit fuel hfuel2 hfuel

/-- the same on a source that delivers the file in pieces of arbitrary prescribed sizes -/
theorem C01_mszip_blocks_roundtrip_chunked (blocks : List Deflate.Block) (extra : Bytes) (hne : blocks ≠ [])
    (hwf : Deflate.BlocksWF [] blocks)
    (h1 : 1 ≤ (Deflate.blocksData blocks []).length) (h2 : (Deflate.blocksData blocks []).length ≤ 32768)
    (sizes : List Nat) (inputBufferSize : Nat) (repair : Bool) (fill : UInt8) (st : St (List Nat × Bytes))
    (hinit : init (sizes, Deflate.encFrame blocks ++ extra) inputBufferSize repair fill = some st)
    (fuel : Nat) (hfuel2 : 2 ≤ fuel) (hfuel : ∀ b ∈ blocks, blocks.length + blockCost b ≤ fuel) :
    ∃ st', decompress chunkSrc fuel st (Deflate.blocksData blocks []).length =
      .ok ⟨.ok, Deflate.blocksData blocks [], st'⟩ :=
  C01_mszip_blocks_roundtrip_src chunkSrc _ chunkSrc_feeds blocks extra hne hwf h1 h2 _ rfl
    inputBufferSize repair fill st hinit fuel hfuel2 hfuel

/-- **C01, MSZIP, fixed-Huffman block of literals and matches**: the frame is inflated to the LZ77
    expansion of its tokens -/
theorem C01_mszip_fixed_roundtrip (toks : List Deflate.Tok) (extra : Bytes) (hwf : Deflate.WF [] toks)
    (h1 : 1 ≤ (Deflate.expand toks []).length) (h2 : (Deflate.expand toks []).length ≤ 32768)
    (file : Bytes) (pos : Nat) (hfile : file.drop pos = Deflate.encFrame [.fixed toks] ++ extra)
    (inputBufferSize : Nat) (repair : Bool) (fill : UInt8) (st : St Rd)
    (hinit : init (⟨file, pos⟩ : Rd) inputBufferSize repair fill = some st)
    (fuel : Nat) (hfuel : toks.length + 2 ≤ fuel) :
    ∃ st', decompress Rd.src fuel st (Deflate.expand toks []).length =
      .ok ⟨.ok, Deflate.expand toks [], st'⟩ := by
  refine C01_mszip_blocks_roundtrip [.fixed toks] extra (by simp) ⟨hwf, trivial⟩ h1 h2 file pos hfile
    inputBufferSize repair fill st hinit fuel (by omega) ?_
  intro b hb
  rw [List.mem_singleton] at hb
  subst hb
  show 1 + (toks.length + 1) ≤ fuel
  omega

theorem expand_lits : ∀ (data out : Bytes), Deflate.expand (data.map Deflate.Tok.lit) out = out ++ data
  | [], out => by simp [Deflate.expand]
  | b :: bs, out => by
    rw [List.map_cons, Deflate.expand, List.foldl_cons]
    exact (expand_lits bs (out ++ [b])).trans (by simp)

theorem wf_lits : ∀ (data out : Bytes), Deflate.WF out (data.map Deflate.Tok.lit)
  | [], _ => trivial
  | _ :: bs, _ => ⟨trivial, wf_lits bs _⟩

/-- **C01, MSZIP, fixed-Huffman block of literals** -/
theorem C01_mszip_fixed_literals_roundtrip (data extra : Bytes) (h1 : 1 ≤ data.length) (h2 : data.length ≤ 32768)
    (file : Bytes) (pos : Nat) (hfile : file.drop pos = Deflate.encFrame [.fixed (data.map .lit)] ++ extra)
    (inputBufferSize : Nat) (repair : Bool) (fill : UInt8) (st : St Rd)
    (hinit : init (⟨file, pos⟩ : Rd) inputBufferSize repair fill = some st)
    (fuel : Nat) (hfuel : data.length + 2 ≤ fuel) :
    ∃ st', decompress Rd.src fuel st data.length = .ok ⟨.ok, data, st'⟩ := by
  have he : Deflate.expand (data.map Deflate.Tok.lit) [] = data := by rw [expand_lits, List.nil_append]
  have := C01_mszip_fixed_roundtrip (data.map .lit) extra (wf_lits data []) (by rw [he]; exact h1) (by rw [he]; exact h2)
    file pos hfile inputBufferSize repair fill st hinit fuel (by rw [List.length_map]; exact hfuel)
  rw [he] at this
  exact this

/-- literals, a plain match, an overlapping match (distance 1, run), the longest length, a long distance code -/
def sampleToks : List Deflate.Tok :=
  [.lit 0x61, .lit 0x62, .lit 200, .mat 3 3, .mat 10 1, .mat 258 7, .lit 0, .mat 4 270]

example : Deflate.WF [] sampleToks := by
  simp [sampleToks, Deflate.WF, Deflate.Tok.wf, Deflate.Tok.apply, copyFrom_length]

/-- stored and fixed blocks mixed: the stored blocks start at bit positions 0 and 5 -/
def sampleBlocks : List Deflate.Block :=
  [.stored [1, 2, 3], .fixed [.lit 9, .mat 3 2], .stored [], .stored [4, 5], .fixed [.mat 5 4]]

example : Deflate.BlocksWF [] sampleBlocks := by
  simp [sampleBlocks, Deflate.BlocksWF, Deflate.Block.wf, Deflate.Block.apply, Deflate.WF, Deflate.Tok.wf,
    Deflate.expand, Deflate.Tok.apply, Deflate.copyFrom]

example : Deflate.encFrame [.stored [0x78, 0x79, 0x7A]] = [0x43, 0x4B, 0x01, 0x03, 0x00, 0xFC, 0xFF, 0x78, 0x79, 0x7A] := by
  decide +kernel

/-- the hand-made sample of C02Zip (`abc` + match 3/3 in a fixed block) is what the writer produces -/
example : Deflate.encFrame [.fixed [.lit 0x61, .lit 0x62, .lit 0x63, .mat 3 3]] =
    [0x43, 0x4B, 0x4b, 0x4c, 0x4a, 0x06, 0x22, 0x00] := by decide +kernel

/-- the model on the writer's output, 2-byte reads (buffer size 2 is the smallest `init` makes) -/
example : ((init (σ := Rd) ⟨Deflate.encFrame sampleBlocks, 0⟩ 1 false 0).map fun st =>
    match decompress Rd.src 100 st (Deflate.blocksData sampleBlocks []).length with
    | .ok o => some (o.err, o.written)
    | .error _ => none) = some (some (.ok, Deflate.blocksData sampleBlocks [])) := by decide +kernel

example : Deflate.blocksData sampleBlocks [] = [1, 2, 3, 9, 3, 9, 3, 4, 5, 9, 3, 4, 5, 9] := by decide +kernel

end MsPack.Zip
