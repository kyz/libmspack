import Proofs.Lemmas.Count
import Proofs.Lemmas.FeederFaults
import Proofs.Props.C02Lzx
import Proofs.Props.C02Qtm
import Proofs.Props.C02Zip
/-!
# C02 — lifting the decoder memory-safety theorems through the CAB layer

The decoder theorems (`C02Lzx`, `C02Qtm`, `C02Zip`) are conditional on the *source*: `hS`
("the source's own `read` raises no fault of kind …") and, for LZX, `LenStable S L₀`.  In CAB
extraction the source is the block feeder `Cab.feederSrc files`.  This file discharges what can be
discharged from the feeder side (`Proofs/Lemmas/FeederFaults.lean`):

* **the feeder's faults** (`C02_cab_feeder_fault_kinds`): for EVERY feeder state the only faults
  of `feederSrc.read` are the two null dereferences of `cabd_sys_read_block` (`d->infh`,
  `d->data`); never `oob`, `uninit`, `divZero`, `shiftWidth`, and — with the fuel `feederSrc`
  passes — never `hang`.  From a live feeder (`FeederLive`: handle open, part list non-empty)
  there is no fault at all (`C02_cab_feeder_no_fault`); liveness is kept by every read that
  delivers bytes; a read returning -1 may close the handle and records `readError ≠ ok`.
* **Quantum, MSZIP** (`C02_cab_qtm_no_fault_partial`, `C02_cab_mszip_no_fault_partial`): under
  the decoders' own invariants a CAB decode call can end only in `hang` or one of those two null
  dereferences — so no `oob`, `uninit`, `divZero`, `shiftWidth`, for every feeder state.
* **stored folders** (`C02_cab_none_no_fault`): from a live feeder, no fault but the loop bound.
* **LZX**: `LenStable (feederSrc files) L₀` is FALSE as stated, for every `L₀` and every `files`
  (`C02_cab_lenStable_fails`): the hypothesis quantifies over all source states, and feeder
  states that were never reached from a fresh folder announce whatever is in `lzxLen`.  What holds
  is the restricted form (`C02_cab_lzx_lenStable_on`): the states satisfying `FeederLen files L`
  are closed under `read` and announce only `L`; a fresh feeder satisfies it for
  `L = totalOut …` (the folder's total uncompressed size as the block headers give it).
  `C02_cab_lzx_no_oob_partial` is the decoder theorem for the source that differs from the
  feeder only by ignoring announcements other than `L`.

The `nullDeref` outcome for Quantum/MSZIP and every outcome for LZX need a *source-state invariant*
(`st.error = .ok → I st.src`) carried through every helper of the decoder: `C02CabLift2.lean` (MSZIP),
`C02CabLift3.lean` (Quantum), `C02CabLift4.lean` (LZX).  The theorems named `…_partial` here are the statements
for every feeder state (Quantum, MSZIP) and for the filtered feeder (LZX).
-/
namespace MsPack.CabLift
open MsPack.Cab

/-- every fault of the feeder, in any state: one of the two null dereferences of the block reader -/
theorem C02_cab_feeder_fault_kinds (files : Files) (fd : Feeder) (n : Nat) (f : Fault)
    (h : (feederSrc files).read fd n = .error f) : f = ndInfh ∨ f = ndData :=
  feederSrc_read_fault_kinds files fd n f h

/-- a live feeder raises no fault -/
theorem C02_cab_feeder_no_fault (files : Files) (fd : Feeder) (n : Nat) (f : Fault) (hl : FeederLive fd) :
    (feederSrc files).read fd n ≠ .error f :=
  feederSrc_read_no_fault files fd n f hl

/-- … stays live when it delivers bytes … -/
theorem C02_cab_feeder_live (files : Files) (fd : Feeder) (n : Nat) (g : Bytes) (fd' : Feeder)
    (hl : FeederLive fd) (h : (feederSrc files).read fd n = .ok (some g, fd')) : FeederLive fd' :=
  feederSrc_read_live files fd n g fd' hl h

/-- … and has recorded an error when it returns -1 -/
theorem C02_cab_feeder_none (files : Files) (fd : Feeder) (n : Nat) (fd' : Feeder)
    (h : (feederSrc files).read fd n = .ok (none, fd')) : fd'.readError ≠ .ok :=
  feederSrc_read_none files fd n fd' h

/-- the feeder `cabd_extract` sets up for a folder is live and has announced nothing -/
theorem C02_cab_fresh_feeder (files : Files) (p : Params) (m : Member) (key : Nat) (ds : DState)
    (h : freshDState files p m key = .ok ds) :
    FeederLive ds.feeder ∧ ds.feeder.lzxLen = none ∧ ds.feeder.block = 0 ∧ ds.feeder.outlen = 0 := by
  obtain ⟨part, rest, bytes, dec, hp, _, _, rfl⟩ := freshDState_ok h
  exact ⟨⟨rfl, by rw [hp]; simp⟩, rfl, rfl, rfl⟩

/-- a split block whose chain of cabinets ends -/
def deadFile : Bytes := [0, 0, 0, 0, 1, 0, 0, 0, 65]   -- one block, 1 byte, `out = 0` (split), no next cabinet
def deadFiles : Files := [("a.cab", deadFile)]
def deadFeeder : Feeder :=
  { rd := some ⟨deadFile, 0⟩, parts := [⟨"a.cab", 0, 0⟩], block := 0, numBlocks := 2, outlen := 0, buf := [],
    compType := 1, readError := .ok, lzxLen := none, salvage := false, fixMszip := false }

def deadAfterError : Bool :=
  match (feederSrc deadFiles).read deadFeeder 1 with
  | .ok (none, fd') =>
    fd'.rd.isNone && fd'.readError == .dataformat &&
      (match (feederSrc deadFiles).read fd' 1 with
       | .error (.nullDeref _) => true
       | _ => false)
  | _ => false

/-- the liveness invariant is not preserved by a read that returns -1: the handle is closed (so safety after a read
    error rests on the decoders' sticky error) -/
example : deadAfterError = true := by decide +kernel

/-- **Quantum in a cabinet, all fault kinds**: under the decoder invariant a call ends, if in a
    fault at all, in the iteration bound or in one of the block reader's two null dereferences —
    for every feeder state; in particular never `oob`, `uninit`, `divZero`, `shiftWidth` -/
theorem C02_cab_qtm_no_fault_partial (files : Files) (fuel : Nat) (st : Qtm.St Feeder) (n : Nat)
    (h : Qtm.StInv st) (f : Fault) (hf : Qtm.decompress (feederSrc files) fuel st n = .error f) :
    f = .hang ∨ f = ndInfh ∨ f = ndData := by
  rcases Qtm.C02_qtm_fault_origin (feederSrc files) fuel st n h f hf with hh | ⟨s, k, hr⟩
  · exact Or.inl hh
  · exact Or.inr (feederSrc_read_fault_kinds files s k f hr)

theorem C02_cab_qtm_no_ub (files : Files) (fuel : Nat) (st : Qtm.St Feeder) (n : Nat) (h : Qtm.StInv st) :
    (∀ w, Qtm.decompress (feederSrc files) fuel st n ≠ .error (.oob w)) ∧
    (∀ w, Qtm.decompress (feederSrc files) fuel st n ≠ .error (.uninit w)) ∧
    Qtm.decompress (feederSrc files) fuel st n ≠ .error .divZero ∧
    Qtm.decompress (feederSrc files) fuel st n ≠ .error .shiftWidth := by
  refine ⟨fun w hf => ?_, fun w hf => ?_, fun hf => ?_, fun hf => ?_⟩ <;>
    rcases C02_cab_qtm_no_fault_partial files fuel st n h _ hf with h1 | h1 | h1 <;> cases h1

/-- **MSZIP in a cabinet, all fault kinds**: the same -/
theorem C02_cab_mszip_no_fault_partial (files : Files) (fuel : Nat) (st : Zip.St Feeder) (n : Nat)
    (h : Zip.ZipInv st) (f : Fault) (hf : Zip.decompress (feederSrc files) fuel st n = .error f) :
    f = .hang ∨ f = ndInfh ∨ f = ndData := by
  cases Zip.C02_zip_decompress_faults (feederSrc files) fuel st n h f hf with
  | hang => exact Or.inl rfl
  | src s k _ hr => exact Or.inr (feederSrc_read_fault_kinds files s k f hr)

theorem C02_cab_mszip_no_ub (files : Files) (fuel : Nat) (st : Zip.St Feeder) (n : Nat) (h : Zip.ZipInv st) :
    (∀ w, Zip.decompress (feederSrc files) fuel st n ≠ .error (.oob w)) ∧
    (∀ w, Zip.decompress (feederSrc files) fuel st n ≠ .error (.uninit w)) ∧
    Zip.decompress (feederSrc files) fuel st n ≠ .error .divZero ∧
    Zip.decompress (feederSrc files) fuel st n ≠ .error .shiftWidth := by
  refine ⟨fun w hf => ?_, fun w hf => ?_, fun hf => ?_, fun hf => ?_⟩ <;>
    rcases C02_cab_mszip_no_fault_partial files fuel st n h _ hf with h1 | h1 | h1 <;> cases h1

theorem live_reads (files : Files) : NonedReads files FeederLive (fun _ => True) (fun _ => False) where
  fault := fun hl h => feederSrc_read_no_fault files _ _ _ hl h
  failed := fun _ _ => trivial
  short := fun _ _ _ => trivial
  full := fun hl h _ => feederSrc_read_live files _ _ _ _ hl h

theorem any_reads (files : Files) :
    NonedReads files (fun _ => True) (fun _ => True) (fun f => f = ndInfh ∨ f = ndData) where
  fault := fun _ h => feederSrc_read_fault_kinds files _ _ _ h
  failed := fun _ _ => trivial
  short := fun _ _ _ => trivial
  full := fun _ _ _ => trivial

theorem nonedDecompress_no_fault (files : Files) (bs : Nat) (fuel : Nat) (fd : Feeder) (bytes : Nat)
    (w : Bytes) (f : Fault) (hl : FeederLive fd) (h : nonedDecompress files bs fuel fd bytes w = .error f) : f = .hang := by
  have := nonedDecompress_walk (live_reads files) bs fuel fd bytes w hl
  rw [h] at this
  exact this.resolve_right id

/-- **stored (`none`) folders**: from a live feeder, a `decompress` call of `cabd_extract` ends in no
    fault but its own loop bound -/
theorem C02_cab_none_no_fault (files : Files) (bs : Nat) (e : Err) (fd : Feeder) (n : Nat) (f : Fault)
    (hl : FeederLive fd) (h : Cab.decompress files (.none bs e) fd n = .error f) : f = .hang :=
  nonedDecompress_no_fault files bs _ fd n [] f hl (decompress_error_iff.1 h).2

def NoneOut (bs : Nat) (o : DecOut) : Prop := o.dec = .none bs o.err ∧ (o.err = .ok → FeederLive o.feeder)

theorem nonedDecompress_out (files : Files) (bs : Nat) : ∀ (fuel : Nat) (fd : Feeder) (bytes : Nat)
    (w : Bytes) (o : DecOut), FeederLive fd → nonedDecompress files bs fuel fd bytes w = .ok o → NoneOut bs o := by
  intro fuel fd bytes w o hl h
  have := nonedDecompress_walk (live_reads files) bs fuel fd bytes w hl
  rw [h] at this
  obtain ⟨hd, ⟨_, hl', _⟩ | ⟨he, _⟩⟩ := this
  · exact ⟨hd, fun _ => hl'⟩
  · exact ⟨hd, fun e => by rw [he] at e; cases e⟩

/-- between the calls on a stored folder: the sticky status is set, or the feeder is live -/
def NoneInv : Dec → Feeder → Prop
  | .none _ e, fd => e = .ok → FeederLive fd
  | _, _ => False

/-- any number of `decompress` calls of `cabd_extract` on one folder (skip phases, output phases, the
    members of the folder one after the other) -/
def cabCalls (files : Files) : Dec → Feeder → List Nat → Except Fault (Dec × Feeder)
  | dec, fd, [] => .ok (dec, fd)
  | dec, fd, n :: ns =>
    match Cab.decompress files dec fd n with
    | .error f => .error f
    | .ok none => .ok (dec, fd)
    | .ok (some o) => cabCalls files o.dec o.feeder ns

/-- the invariant `P` of the decoder/feeder pair may look at the requests still to come -/
theorem cabCalls_keeps (files : Files) {P : List Nat → Dec → Feeder → Prop} {F : Fault → Prop}
    (step : ∀ n ns dec fd, P (n :: ns) dec fd → (∀ f, Cab.decompress files dec fd n = .error f → F f) ∧
      ∀ o, Cab.decompress files dec fd n = .ok (some o) → P ns o.dec o.feeder) :
    ∀ (ns : List Nat) (dec : Dec) (fd : Feeder) (f : Fault), P ns dec fd → cabCalls files dec fd ns = .error f → F f
  | [], _, _, _, _, h => by rw [cabCalls] at h; cases h
  | n :: ns, dec, fd, f, hinv, h => by
    rw [cabCalls] at h
    have hd := step n ns dec fd hinv
    cases hc : Cab.decompress files dec fd n with
    | error f' => rw [hc] at h; cases h; exact hd.1 _ hc
    | ok r =>
      rw [hc] at h
      cases r with
      | none => cases h
      | some o => exact cabCalls_keeps files step ns o.dec o.feeder f (hd.2 o hc) h

/-- one `decompress` of `cabd_extract` on a stored folder -/
theorem C02_cab_none_decompress_no_fault (files : Files) (bs : Nat) (e : Err) (fd : Feeder) (n : Nat)
    (hinv : NoneInv (.none bs e) fd) :
    (∀ f, Cab.decompress files (.none bs e) fd n = .error f → f = .hang) ∧
    (∀ o, Cab.decompress files (.none bs e) fd n = .ok (some o) → NoneInv o.dec o.feeder) := by
  refine ⟨fun f hd => C02_cab_none_no_fault files bs e fd n f (hinv (decompress_error_iff.1 hd).1) hd, fun o hd => ?_⟩
  obtain ⟨he, rfl⟩ | ⟨he, hn⟩ := decompress_ok_iff.1 hd
  · exact fun e' => absurd e' he
  · have ho := nonedDecompress_out files bs _ fd n [] o (hinv he) hn
    rw [ho.1]
    exact ho.2

/-- **stored folders, any number of calls**: from a live feeder (`C02_cab_fresh_feeder`) no sequence of
    calls ends in a fault other than the loop bound — read errors included, because the status is
    sticky -/
theorem C02_cab_none_calls_no_fault (files : Files) : ∀ (ns : List Nat) (dec : Dec) (fd : Feeder) (f : Fault),
    NoneInv dec fd → cabCalls files dec fd ns = .error f → f = .hang :=
  cabCalls_keeps files (P := fun _ => NoneInv) (F := (· = .hang)) fun n _ dec fd hinv => by
    cases dec with
    | none bs e => exact C02_cab_none_decompress_no_fault files bs e fd n hinv
    | _ => exact hinv.elim

/-- the decoder's own invariant, by method (LZX excluded) -/
def DecInv : Dec → Prop
  | .none _ _ => True
  | .mszip st => Zip.ZipInv st
  | .qtm st => Qtm.StInv st
  | .lzx _ => False
  | .unsupported _ => True

theorem nonedDecompress_fault_kinds (files : Files) (bs : Nat) (fuel : Nat) (fd : Feeder) (bytes : Nat)
    (w : Bytes) (f : Fault) (h : nonedDecompress files bs fuel fd bytes w = .error f) :
    f = .hang ∨ f = ndInfh ∨ f = ndData := by
  have := nonedDecompress_walk (any_reads files) bs fuel fd bytes w trivial
  rwa [h] at this

theorem C02_cab_decompress_fault_kinds (files : Files) (dec : Dec) (fd : Feeder) (n : Nat) (f : Fault)
    (hd : DecInv dec) (h : Cab.decompress files dec fd n = .error f) : f = .hang ∨ f = ndInfh ∨ f = ndData := by
  have h := decompress_error_iff.1 h
  cases dec with
  | none bs e => exact nonedDecompress_fault_kinds files bs _ fd n [] f h.2
  | mszip st => exact C02_cab_mszip_no_fault_partial files _ { st with src := fd } n hd f h
  | qtm st => exact C02_cab_qtm_no_fault_partial files _ { st with src := fd } n (Qtm.StInv_src st fd hd) f h
  | lzx st => exact hd.elim
  | unsupported m => exact h.elim

/-- `LenStable` does not hold for the feeder, whatever `L₀` and `files`: the hypothesis ranges over
    all source states, and a feeder state that holds `lzxLen = some 7` announces 7 (after a read of
    0 bytes), another one 9 -/
theorem C02_cab_lenStable_fails (files : Files) (L₀ : Nat) : ¬ Lzx.LenStable (feederSrc files) L₀ := by
  intro h
  have h7 := h { nullFeeder with lzxLen := some 7 } 0 (some []) { nullFeeder with lzxLen := some 7 } 7 rfl rfl
  have h9 := h { nullFeeder with lzxLen := some 9 } 0 (some []) { nullFeeder with lzxLen := some 9 } 9 rfl rfl
  omega

/-- **`LenStable` restricted to the feeders of one folder**: the states satisfying `FeederLen files L`
    are closed under `read` (whatever it returns), and every announcement made from them is `L` -/
theorem C02_cab_lzx_lenStable_on (files : Files) (L : Nat) (fd : Feeder) (n : Nat) (r : Option Bytes)
    (fd' : Feeder) (hL : FeederLen files L fd) (h : (feederSrc files).read fd n = .ok (r, fd')) :
    FeederLen files L fd' ∧ ∀ m, (feederSrc files).lzxLength fd' = some m → m = L :=
  feederSrc_len_stable files L fd n r fd' hL h

/-- a feeder that has announced nothing satisfies the invariant for exactly one `L`: the sum of the
    uncompressed sizes in the headers of the blocks still to come (+ `outlen`) -/
theorem C02_cab_lzx_len_exists (files : Files) (fd : Feeder) (h : fd.lzxLen = none) :
    ∃ L, FeederLen files L fd :=
  ⟨_, feederLen_exists files fd h⟩

/-- the feeder, deaf to announcements other than `L` -/
def lenFiltered (files : Files) (L : Nat) : Src Feeder :=
  { read := (feederSrc files).read
    lzxLength := fun fd => if fd.lzxLen = some L then some L else none }

theorem lenFiltered_stable (files : Files) (L : Nat) : Lzx.LenStable (lenFiltered files L) L := by
  intro x n got x' m _ hm
  simp only [lenFiltered] at hm
  split at hm
  · exact Or.inr (Option.some.inj hm).symm
  · contradiction

theorem lenFiltered_agrees (files : Files) (L : Nat) (fd : Feeder) (hL : FeederLen files L fd) :
    (lenFiltered files L).lzxLength fd = (feederSrc files).lzxLength fd := by
  show (if fd.lzxLen = some L then some L else none) = fd.lzxLen
  rcases hL.1 with h | h
  · rw [h]; simp
  · rw [h]; simp

/-- **LZX in a cabinet (partial)**: for the filtered feeder — which reads exactly like the feeder and
    agrees with it on every state of the folder (`lenFiltered_agrees`, `C02_cab_lzx_lenStable_on`) —
    no out-of-bounds outcome below 2 GiB.  (The runs over the two feeders coincide from a state whose source
    satisfies `FeederLen files L`: `C02_cab_lzx_run_eq`, `C02CabLift4.lean`.) -/
theorem C02_cab_lzx_no_oob_partial (files : Files) (L : Nat) (fuel : Nat) (st : Lzx.St Feeder) (n : Nat)
    (hinv : Lzx.LzxInv L st) (ho : st.offset + n < 2147483648) (s : String) :
    Lzx.decompress (lenFiltered files L) fuel st n ≠ .error (.oob s) :=
  Lzx.C02_lzx_no_oob (lenFiltered files L) L (lenFiltered_stable files L)
    (fun x k s => feederRead_no_oob files _ x k [] s) fuel st n hinv ho s

/-- … and every fault of that run is the bound, an unbuilt table, or one of the two null dereferences -/
theorem C02_cab_lzx_faults_partial (files : Files) (L : Nat) (fuel : Nat) (st : Lzx.St Feeder) (n : Nat)
    (hinv : Lzx.LzxInv L st) (ho : st.offset + n < 2147483648) (f : Fault)
    (h : Lzx.decompress (lenFiltered files L) fuel st n = .error f) :
    f = .hang ∨ (∃ s, f = .uninit s) ∨ f = ndInfh ∨ f = ndData := by
  rcases Lzx.C02_lzx_faults_benign (lenFiltered files L) L (lenFiltered_stable files L) fuel st n hinv ho f h
    with h1 | h1 | ⟨x, k, h1⟩
  · exact Or.inl h1
  · exact Or.inr (Or.inl h1)
  · exact Or.inr (Or.inr (feederSrc_read_fault_kinds files x k f h1))

/-- if the run over the feeder coincides with the run over the filtered feeder (`C02_cab_lzx_run_eq`,
    `C02CabLift4.lean`), the CAB LZX call has no out-of-bounds outcome -/
theorem C02_cab_lzx_no_oob_of_run_eq_partial (files : Files) (L : Nat) (fuel : Nat) (st : Lzx.St Feeder) (n : Nat)
    (hinv : Lzx.LzxInv L st) (ho : st.offset + n < 2147483648)
    (hrun : Lzx.decompress (feederSrc files) fuel st n = Lzx.decompress (lenFiltered files L) fuel st n)
    (s : String) : Lzx.decompress (feederSrc files) fuel st n ≠ .error (.oob s) := by
  rw [hrun]
  exact C02_cab_lzx_no_oob_partial files L fuel st n hinv ho s

/-- a source-state invariant in the form a decoder proof can thread (`st.error = .ok → I st.src`): no
    fault from a state satisfying it, kept by every read that delivers bytes, announcements only `L` -/
structure SrcInvOK {σ : Type} (S : Src σ) (I : σ → Prop) (L : Nat) : Prop where
  no_fault : ∀ x n f, I x → S.read x n ≠ .error f
  keep : ∀ x n g x', I x → S.read x n = .ok (some g, x') → I x'
  len : ∀ x n r x' m, I x → S.read x n = .ok (r, x') → S.lzxLength x' = some m → m = L

theorem C02_cab_feeder_srcInv (files : Files) (L : Nat) :
    SrcInvOK (feederSrc files) (fun fd => FeederLive fd ∧ FeederLen files L fd) L where
  no_fault := fun x n f hi => feederSrc_read_no_fault files x n f hi.1
  keep := fun x n g x' hi h =>
    ⟨feederSrc_read_live files x n g x' hi.1 h, (feederSrc_len_stable files L x n _ x' hi.2 h).1⟩
  len := fun x n r x' m hi h hm => (feederSrc_len_stable files L x n r x' hi.2 h).2 m hm

/-- a one-block LZX folder: header (no checksum, 3 bytes in, 3 bytes out) + payload -/
def demoFile : Bytes := [0, 0, 0, 0, 3, 0, 3, 0, 10, 20, 30]
def demoFiles : Files := [("a.cab", demoFile)]
def demoFeeder : Feeder :=
  { rd := some ⟨demoFile, 0⟩, parts := [⟨"a.cab", 0, 0⟩], block := 0, numBlocks := 1, outlen := 0, buf := [],
    compType := 3, readError := .ok, lzxLen := none, salvage := false, fixMszip := false }

example : FeederLive demoFeeder := ⟨rfl, by simp [demoFeeder]⟩
example : FeederLen demoFiles 3 demoFeeder := ⟨Or.inl rfl, fun _ => by decide +kernel⟩

/-- a read from it delivers the block's bytes and announces the folder's length, 3 -/
example : (match (feederSrc demoFiles).read demoFeeder 2 with
    | .ok (some g, fd') => g == [10, 20] && fd'.lzxLen == some 3 && fd'.buf == [30]
    | _ => false) = true := by decide +kernel

/-- a stored folder: `decompress` through `Cab.decompress` returns the bytes -/
example : (match Cab.decompress demoFiles (.none 4096 .ok) { demoFeeder with compType := 0 } 3 with
    | .ok (some o) => o.err == .ok && o.written == [10, 20, 30]
    | _ => false) = true := by decide +kernel

example : (match cabCalls demoFiles (.none 4096 .ok) { demoFeeder with compType := 0 } [1, 2] with
    | .ok (.none _ e, fd) => e == .ok && fd.block == 1
    | _ => false) = true := by decide +kernel

end MsPack.CabLift
