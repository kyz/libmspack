import Proofs.Lemmas.CountLaws
import Proofs.Lemmas.CountLawsZip
import Proofs.Lemmas.CountLawsQtm
import Proofs.Lemmas.CountLawsRead
import Proofs.Props.C02Qtm
import Proofs.Props.C07
import Proofs.Props.C07Chm
import Proofs.Props.C02Zip
import Proofs.Props.C02Lzx
/-!
# C07 — the counting laws of the stream decoders

"never more than asked; OK means exactly as many as asked" for one `decompress(state, n)` call:

* **MSZIP** (`Zip.decompress`, the CAB entry point): `≤ n` for every source, fuel and state;
  `= n` on MSPACK_ERR_OK for every state satisfying `ZipInv` (window = the 32 KiB frame; without it
  a frame can be shorter than `bytes_output` says and an OK call comes out short).
* **LZX** (`Lzx.decompress`): both halves for every source, fuel and state — no invariant needed.
* **Quantum** (`Qtm.decompress`): both halves for every source, fuel and state — no invariant needed.

What the laws rest on (`Proofs/Lemmas/CountLaws.lean`, `CountLawsQtm.lean`): the decoders hand a
thrown status back as the call's result, and no `throw`/`fail`/`read_input` site of the models carries
MSPACK_ERR_OK (`Throws HaltOk`, from the walk of every helper of the three decoders); the rest is the
arithmetic of the output loops (Quantum: `Bal T` — written + owed = request — is kept by every step,
the two `writeOut n; out_bytes -= n` sites taken as one step each).

Consequences:
* `cabd_extract`.  `C07.lean` assumes `∀ dec, CountLaw files dec`, which MSZIP does not satisfy in *every* state.
  Here the upper bound is proved over a predicate on decoders that `initDec` establishes and `decompress` keeps
  (`CabInv.extract_written_le`), instantiated with `CabDecOk` (an MSZIP state has its window; nothing asked of
  the others): `C07_cab_written_le` assumes only that a cached decoder is in `CabDecOk`, for every compression
  type and either mode.
  "OK ⇒ complete" (strict mode) needs that a decoder reporting READ has seen the feeder fail.  As a property of
  the decoder alone (`ReadErrLaw` of `Count.lean`, for every feeder) this does not hold; it is an invariant of
  decoder and feeder together, `CabJAll` (feeder not in salvage mode, a sticky READ goes with `readError ≠ OK`,
  a real input buffer; defined below, over `CabJ` of `Proofs/Lemmas/CountLawsRead.lean`), which a strict-mode
  `extract` sets up and every `decompress` keeps.  `C07_cab_ok_complete` assumes strict mode and a cache that
  is absent or in `CabJAll`; `C07_cab_cache_kept`: `extract` hands back a cache in `CabJAll`;
  `C07_cab_fresh_ok_complete`: no cache.  `C07_cab_mszip_ok_complete`, `…_cache_kept`, `…_fresh_ok_complete` are
  the same over `CabJ` (`CabJAll` restricted to stored and MSZIP folders).  `C07_cab_ok_complete_partial` and
  `C07_cab_anymode_ok_len_partial` take `ReadErrLaw` on `CabDecOk` as a hypothesis.
* `chmd_extract`: `C07_chm_written_le_unconditional` is `C07Chm.lean`'s bound with its premise `LzxBound`
  proved (`C07_lzxBound`).
* `oabd_decompress` / `_incremental`: the bounds of `OabCount.lean` with their premise `LzxCount` proved (`C07_lzxCount`).
-/

namespace MsPack.Zip
variable {σ : Type} (S : Src σ)

/-- `mszipd_decompress(zip, n)` hands at most `n` bytes to `write` — every source, fuel, state -/
theorem C07_mszip_written_le (fuel : Nat) (st : St σ) (n : Nat) (o : Out σ)
    (h : decompress S fuel st n = .ok o) : o.written.length ≤ n :=
  (CountLaws.Zip.decompress_count S fuel st n o h).1

/-- … and exactly `n` if it returns MSPACK_ERR_OK, from every state satisfying `ZipInv` -/
theorem C07_mszip_ok_complete (fuel : Nat) (st : St σ) (n : Nat) (hst : ZipInv st) (o : Out σ)
    (h : decompress S fuel st n = .ok o) (he : o.err = .ok) : o.written.length = n :=
  (CountLaws.Zip.decompress_count S fuel st n o h).2 hst he

theorem C07_mszip_short_not_ok (fuel : Nat) (st : St σ) (n : Nat) (hst : ZipInv st) (o : Out σ)
    (h : decompress S fuel st n = .ok o) (hl : o.written.length < n) : o.err ≠ .ok :=
  fun he => by have := C07_mszip_ok_complete S fuel st n hst o h he; omega

/-- the status a failed `read_input`/`inflate` hands back is never OK -/
theorem C07_mszip_status_not_ok (fuel : Nat) (st s : St σ) (e : Err)
    (h : (inflate S fuel).run.run st = (.error (.sys e), s)) : e ≠ .ok :=
  (CountLaws.Zip.inflate_throws S fuel).out _ _ _ h

end MsPack.Zip

namespace MsPack.Lzx
variable {σ : Type} (S : Src σ)

/-- `lzxd_decompress(lzx, n)` hands at most `n` bytes to `write` — every source, fuel, state -/
theorem C07_lzx_written_le (fuel : Nat) (st : St σ) (n : Nat) (o : DecodeOut (St σ))
    (h : decompress S fuel st n = .ok o) : o.written.length ≤ n :=
  (CountLaws.Lzx.decompress_count S fuel st n o h).1

/-- … and exactly `n` if it returns MSPACK_ERR_OK — every source, fuel, state -/
theorem C07_lzx_ok_complete (fuel : Nat) (st : St σ) (n : Nat) (o : DecodeOut (St σ))
    (h : decompress S fuel st n = .ok o) (he : o.err = .ok) : o.written.length = n :=
  (CountLaws.Lzx.decompress_count S fuel st n o h).2 he

theorem C07_lzx_short_not_ok (fuel : Nat) (st : St σ) (n : Nat) (o : DecodeOut (St σ))
    (h : decompress S fuel st n = .ok o) (hl : o.written.length < n) : o.err ≠ .ok :=
  fun he => by have := C07_lzx_ok_complete S fuel st n o h he; omega

end MsPack.Lzx

namespace MsPack.Qtm
variable {σ : Type} (S : Src σ)

/-- `qtmd_decompress(qtm, n)` hands at most `n` bytes to `write` — every source, fuel, state -/
theorem C07_qtm_written_le (fuel : Nat) (st : St σ) (n : Nat) (o : DecodeOut (St σ))
    (h : decompress S fuel st n = .ok o) : o.written.length ≤ n :=
  (CountLaws.Qtm.decompress_count S fuel st n o h).1

/-- … and exactly `n` if it returns MSPACK_ERR_OK — every source, fuel, state -/
theorem C07_qtm_ok_complete (fuel : Nat) (st : St σ) (n : Nat) (o : DecodeOut (St σ))
    (h : decompress S fuel st n = .ok o) (he : o.err = .ok) : o.written.length = n :=
  (CountLaws.Qtm.decompress_count S fuel st n o h).2 he

theorem C07_qtm_short_not_ok (fuel : Nat) (st : St σ) (n : Nat) (o : DecodeOut (St σ))
    (h : decompress S fuel st n = .ok o) (hl : o.written.length < n) : o.err ≠ .ok :=
  fun he => by have := C07_qtm_ok_complete S fuel st n o h he; omega

/-- a status return out of the body of `qtmd_decompress` never carries MSPACK_ERR_OK -/
theorem C07_qtm_status_not_ok (fuel : Nat) (r r' : Run σ) (e : Err)
    (h : (body S fuel).run.run r = (.error (.sys e), r')) : e ≠ .ok :=
  (CountLaws.Qtm.body_throws S fuel).out _ _ _ h

end MsPack.Qtm

namespace MsPack.Cab
open MsPack.CountLaws MsPack.CountLaws.CabInv

/-- the decoder states `cabd_extract` meets: an MSZIP state has its 32 KiB window (`ZipInv`); the
    other decoders' counting laws hold in every state -/
def CabDecOk : Dec → Prop
  | .mszip st => Zip.ZipInv st
  | _ => True

theorem C07_count_law_mszip (files : Files) (st : Zip.St Feeder) (hst : Zip.ZipInv st) :
    CountLaw files (.mszip st) := by
  intro fd n o h
  obtain ⟨zo, hz, rfl⟩ := decompress_ok_iff.1 h
  have := CountLaws.Zip.decompress_count (feederSrc files) _ _ n zo hz
  exact ⟨this.1, this.2 hst⟩

theorem C07_count_law_lzx (files : Files) (st : Lzx.St Feeder) : CountLaw files (.lzx st) := by
  intro fd n o h
  obtain ⟨zo, hz, rfl⟩ := decompress_ok_iff.1 h
  exact CountLaws.Lzx.decompress_count (feederSrc files) _ _ n zo hz

theorem C07_count_law_qtm (files : Files) (st : Qtm.St Feeder) : CountLaw files (.qtm st) := by
  intro fd n o h
  obtain ⟨zo, hz, rfl⟩ := decompress_ok_iff.1 h
  exact CountLaws.Qtm.decompress_count (feederSrc files) _ _ n zo hz

theorem C07_count_law_decOk (files : Files) (dec : Dec) (h : CabDecOk dec) : CountLaw files dec := by
  cases dec with
  | none bs e => exact countLaw_none files bs e
  | mszip st => exact C07_count_law_mszip files st h
  | qtm st => exact C07_count_law_qtm files st
  | lzx st => exact C07_count_law_lzx files st
  | unsupported k => exact fun fd n o h' => (decompress_ok_iff.1 h').elim

theorem C07_decOk_kept (files : Files) : Kept files CabDecOk := by
  intro dec fd n o hp h
  have h := decompress_ok_iff.1 h
  cases dec with
  | none bs e =>
    obtain ⟨_, rfl⟩ | ⟨_, hd⟩ := h
    · exact hp
    · rw [(noned_count files bs _ _ _ _ _ hd).1]; trivial
  | mszip st =>
    obtain ⟨zo, hz, rfl⟩ := h
    exact Zip.C02_zip_decompress_inv (feederSrc files) _ _ n (by exact hp) zo hz
  | qtm st => obtain ⟨zo, _, rfl⟩ := h; trivial
  | lzx st => obtain ⟨zo, _, rfl⟩ := h; trivial
  | unsupported k => exact h.elim

theorem C07_initDec_decOk (p : Params) (ct : Nat) (dec : Dec)
    (h : initDec p ct = some dec) : CabDecOk dec := by
  have hi := initDec_some h
  cases dec with
  | mszip st => exact Zip.C02_zip_init_inv _ _ _ _ _ hi.2
  | _ => trivial

/-- C07, upper bound, every compression type: whatever the cabinet files and the parameters (strict or
    salvage), with no cached decoder or one in `CabDecOk`, `cabd_extract` never hands more than the member's
    declared length to the output; and the cache it leaves is in `CabDecOk` again -/
theorem C07_cab_written_le (files : Files) (p : Params) (d : Option DState) (m : Member)
    (hd : CacheOk CabDecOk d) (e : Err) (w : Bytes) (d' : Option DState)
    (h : extract files p d m = .done e (some w) d') : w.length ≤ m.length ∧ CacheOk CabDecOk d' :=
  CabInv.extract_written_le files CabDecOk (C07_count_law_decOk files) (C07_decOk_kept files) p d m hd
    (C07_initDec_decOk p m.compType) e w d' h

/-- the same statement under a second name -/
theorem C07_cab_mszip_written_le (files : Files) (p : Params) (d : Option DState) (m : Member)
    (hd : CacheOk CabDecOk d) (e : Err) (w : Bytes) (d' : Option DState)
    (h : extract files p d m = .done e (some w) d') : w.length ≤ m.length ∧ CacheOk CabDecOk d' :=
  C07_cab_written_le files p d m hd e w d' h

/-- … with no cached decoder: the conclusion of `C07_written_le_declared` (`C07.lean`), no premise on the decoders -/
theorem C07_cab_fresh_written_le (files : Files) (p : Params) (m : Member)
    (e : Err) (w : Bytes) (d' : Option DState)
    (h : extract files p none m = .done e (some w) d') : w.length ≤ m.length :=
  (C07_cab_written_le files p none m (fun _ _ h => by cases h) e w d' h).1

/-- strict mode, every compression type: MSPACK_ERR_OK implies exactly the declared number of bytes, assuming
    `ReadErrLaw` for the decoders in `CabDecOk` (and a cache in `CabDecOk`) -/
theorem C07_cab_ok_complete_partial (files : Files) (hR : ∀ dec, CabDecOk dec → ReadErrLaw files dec)
    (p : Params) (hs : p.salvage = false) (d : Option DState) (m : Member)
    (hd : CacheOk CabDecOk d) (w : Bytes) (d' : Option DState)
    (h : extract files p d m = .done .ok (some w) d') : w.length = m.length :=
  CabInv.extract_ok_complete files CabDecOk (C07_count_law_decOk files) hR (C07_decOk_kept files) p hs d m hd
    (C07_initDec_decOk p m.compType) w d' h

open MsPack.CountLaws.CabJoint in
/-- C07, OK means complete, stored and MSZIP folders: in strict
    mode, whatever the cabinet files, with no cached decoder or one in `CabJ` (what a strict-mode
    `extract` on such a folder sets up and every `decompress` call keeps: feeder not in salvage mode, a
    sticky READ goes with a failed feeder, an MSZIP state has its window and input buffer),
    MSPACK_ERR_OK implies exactly the declared number of bytes -/
theorem C07_cab_mszip_ok_complete (files : Files) (p : Params) (hs : p.salvage = false)
    (d : Option DState) (m : Member) (hct : compMask m.compType ≤ 1)
    (hd : ∀ ds, d = some ds → StateOk CabJ ds) (w : Bytes) (d' : Option DState)
    (h : extract files p d m = .done .ok (some w) d') : w.length = m.length :=
  CabJoint.extract_ok_complete files CabJ (cabJ_callOk files) p hs d m hd
    (fun key ds hf => fresh_stateOk files p hs m hct key ds hf) w d' h

open MsPack.CountLaws.CabJoint in
/-- `CabJ` is an invariant of strict-mode sessions on such folders: the cache
    `extract` hands back, whatever the status, is in `CabJ` again -/
theorem C07_cab_mszip_cache_kept (files : Files) (p : Params) (hs : p.salvage = false)
    (d : Option DState) (m : Member) (hct : compMask m.compType ≤ 1)
    (hd : ∀ ds, d = some ds → StateOk CabJ ds) (e : Err) (w : Option Bytes) (ds' : DState)
    (h : extract files p d m = .done e w (some ds')) : StateOk CabJ ds' :=
  CabJoint.extract_stateOk files CabJ (cabJ_callOk files) p d m hd
    (fun key ds hf => fresh_stateOk files p hs m hct key ds hf) e w ds' h

/-- … with no cached decoder: assumes strict mode and the folder's method only -/
theorem C07_cab_mszip_fresh_ok_complete (files : Files) (p : Params) (hs : p.salvage = false)
    (m : Member) (hct : compMask m.compType ≤ 1) (w : Bytes) (d' : Option DState)
    (h : extract files p none m = .done .ok (some w) d') : w.length = m.length :=
  C07_cab_mszip_ok_complete files p hs none m hct (fun _ h => by cases h) w d' h

/-- a decoder's READ report is backed by the feeder, for decoder/feeder pairs in `CabJ` -/
theorem C07_cab_mszip_read_means_feeder_failed (files : Files) (dec : Dec) (fd : Feeder) (n : Nat) (o : DecOut)
    (hj : CountLaws.CabJoint.CabJ dec fd) (h : decompress files dec fd n = .ok (some o)) (he : o.err = .read) :
    o.feeder.readError ≠ .ok :=
  (CountLaws.CabJoint.cabJ_callOk files dec fd n o hj h).2.2 he

section all
open MsPack.CountLaws.CabJoint MsPack.CountLaws.ReadErrLzx MsPack.CountLaws.ReadErrQtm

/-- the joint decoder/feeder invariant of strict-mode sessions, every compression type: the feeder
    is not in salvage mode, a sticky READ in the decoder goes with a failed feeder, the decoder has a
    real input buffer (and an MSZIP state its window) -/
def CabJAll : Dec → Feeder → Prop
  | .none _ e, fd => fd.salvage = false ∧ (e = .read → fd.readError ≠ .ok)
  | .mszip st, fd => fd.salvage = false ∧ st.inbufSize ≠ 0 ∧ Zip.WinOk st ∧ (st.error = .read → fd.readError ≠ .ok)
  | .lzx st, fd => fd.salvage = false ∧ st.inbufSize ≠ 0 ∧ (st.error = .read → fd.readError ≠ .ok)
  | .qtm st, fd => fd.salvage = false ∧ st.inbufSize ≠ 0 ∧ (st.error = .read → fd.readError ≠ .ok)
  | .unsupported _, _ => True

theorem CabJAll_of_CabJ (dec : Dec) (fd : Feeder) (h : CabJ dec fd) : CabJAll dec fd := by
  cases dec with
  | none bs e => exact h
  | mszip st => exact h
  | qtm st => exact absurd h id
  | lzx st => exact absurd h id
  | unsupported k => trivial

theorem cabJAll_callOk (files : Files) : CallOk files CabJAll := by
  intro dec fd n o hj h
  cases dec with
  | none bs e =>
    obtain ⟨h1, h2, h3⟩ := cabJ_callOk files (.none bs e) fd n o hj h
    exact ⟨CabJAll_of_CabJ _ _ h1, h2, h3⟩
  | mszip st =>
    obtain ⟨h1, h2, h3⟩ := cabJ_callOk files (.mszip st) fd n o hj h
    exact ⟨CabJAll_of_CabJ _ _ h1, h2, h3⟩
  | lzx st =>
    obtain ⟨hs, hb, hr⟩ := hj
    obtain ⟨zo, hz, rfl⟩ := decompress_ok_iff.1 h
    have hlj : LJ ({ st with src := fd } : Lzx.St Feeder) := ⟨hs, hb, hr⟩
    obtain ⟨⟨z1, z2, z3⟩, z4⟩ := lzx_readErr files _ _ n zo hlj hz
    exact ⟨⟨z1, z2, z3⟩, (CountLaws.Lzx.decompress_count (feederSrc files) _ _ n zo hz).2, z4⟩
  | qtm st =>
    obtain ⟨hs, hb, hr⟩ := hj
    obtain ⟨zo, hz, rfl⟩ := decompress_ok_iff.1 h
    have hqj : QJ ({ st with src := fd } : Qtm.St Feeder) := ⟨hs, hb, hr⟩
    obtain ⟨⟨z1, z2, z3⟩, z4⟩ := qtm_readErr files _ _ n zo hqj hz
    exact ⟨⟨z1, z2, z3⟩, (CountLaws.Qtm.decompress_count (feederSrc files) _ _ n zo hz).2, z4⟩
  | unsupported k => exact (decompress_ok_iff.1 h).elim

theorem freshAll_stateOk (files : Files) (p : Params) (hs : p.salvage = false) (m : Member)
    (key : Nat) (ds : DState) (h : freshDState files p m key = .ok ds) : StateOk CabJAll ds := by
  obtain ⟨_, _, _, dec, _, _, hi, rfl⟩ := freshDState_ok h
  rintro _ ⟨⟩
  have hi := initDec_some hi
  cases dec with
  | none bs e => obtain ⟨_, _, rfl⟩ := hi; exact ⟨hs, fun hc => nomatch hc⟩
  | mszip st =>
    have h1 := zipInit_ok _ _ _ _ _ hi.2
    exact ⟨hs, h1.1, Zip.init_winOk _ _ _ _ _ hi.2, fun hc => by rw [h1.2] at hc; cases hc⟩
  | qtm st =>
    have h1 := qtmInit_ok _ _ _ _ _ hi.2
    exact ⟨hs, h1.1, fun hc => by rw [h1.2] at hc; cases hc⟩
  | lzx st =>
    have h1 := lzxInit_ok _ _ _ _ _ _ _ _ hi.2
    exact ⟨hs, h1.1, fun hc => by rw [h1.2] at hc; cases hc⟩
  | unsupported k => trivial

/-- C07, OK means complete, every compression type: in strict
    mode, whatever the cabinet files, with no cached decoder or one in `CabJAll` (what a strict-mode
    `extract` sets up and every `decompress` call keeps, see `C07_cab_cache_kept`), MSPACK_ERR_OK
    implies exactly the declared number of bytes -/
theorem C07_cab_ok_complete (files : Files) (p : Params) (hs : p.salvage = false)
    (d : Option DState) (m : Member) (hd : ∀ ds, d = some ds → StateOk CabJAll ds)
    (w : Bytes) (d' : Option DState)
    (h : extract files p d m = .done .ok (some w) d') : w.length = m.length :=
  CabJoint.extract_ok_complete files CabJAll (cabJAll_callOk files) p hs d m hd
    (fun key ds hf => freshAll_stateOk files p hs m key ds hf) w d' h

/-- `CabJAll` is an invariant of strict-mode sessions: the cache `extract` hands
    back, whatever the status, is in `CabJAll` again -/
theorem C07_cab_cache_kept (files : Files) (p : Params) (hs : p.salvage = false)
    (d : Option DState) (m : Member) (hd : ∀ ds, d = some ds → StateOk CabJAll ds)
    (e : Err) (w : Option Bytes) (ds' : DState)
    (h : extract files p d m = .done e w (some ds')) : StateOk CabJAll ds' :=
  CabJoint.extract_stateOk files CabJAll (cabJAll_callOk files) p d m hd
    (fun key ds hf => freshAll_stateOk files p hs m key ds hf) e w ds' h

/-- with no cached decoder: the conclusion of `C07_ok_means_complete_partial` (`C07.lean`), assuming strict mode only -/
theorem C07_cab_fresh_ok_complete (files : Files) (p : Params) (hs : p.salvage = false)
    (m : Member) (w : Bytes) (d' : Option DState)
    (h : extract files p none m = .done .ok (some w) d') : w.length = m.length :=
  C07_cab_ok_complete files p hs none m (fun _ h => by cases h) w d' h

/-- a decoder's READ report is backed by the feeder, for decoder/feeder pairs in `CabJAll` -/
theorem C07_cab_read_means_feeder_failed (files : Files) (dec : Dec) (fd : Feeder) (n : Nat) (o : DecOut)
    (hj : CabJAll dec fd) (h : decompress files dec fd n = .ok (some o)) (he : o.err = .read) :
    o.feeder.readError ≠ .ok :=
  (cabJAll_callOk files dec fd n o hj h).2.2 he

theorem CabDecOk_of_CabJAll (dec : Dec) (fd : Feeder) (h : CabJAll dec fd) : CabDecOk dec := by
  cases dec with
  | mszip st => exact h.2.2.1
  | none bs e => trivial
  | qtm st => trivial
  | lzx st => trivial
  | unsupported k => trivial

def Counts (m : Member) (e : Err) (w : Option Bytes) : Prop :=
  ∀ w', w = some w' → w'.length ≤ m.length ∧ (e = .ok → w'.length = m.length)

def CacheJAll (d : Option DState) : Prop := ∀ ds, d = some ds → StateOk CabJAll ds

/-- C07 for one `cabd_extract` call: strict mode, every compression type, every cabinet
    content, cache absent or in `CabJAll`: never more than the declared length is written, MSPACK_ERR_OK
    means exactly the declared length, and the cache handed back is in `CabJAll` again -/
theorem C07_cab_extract_counts (files : Files) (p : Params) (hs : p.salvage = false)
    (d : Option DState) (m : Member) (hd : CacheJAll d) (e : Err) (w : Option Bytes) (d' : Option DState)
    (h : extract files p d m = .done e w d') : Counts m e w ∧ CacheJAll d' := by
  refine ⟨fun w' hw => ?_, fun ds' hds => ?_⟩
  · subst hw
    have hc : CacheOk CabDecOk d := fun ds dec h1 h2 => CabDecOk_of_CabJAll _ _ (hd ds h1 dec h2)
    refine ⟨(C07_cab_written_le files p d m hc e w' d' h).1, fun he => ?_⟩
    subst he
    exact C07_cab_ok_complete files p hs d m hd w' d' h
  · subst hds
    exact C07_cab_cache_kept files p hs d m hd e w ds' h

/-- a client's sequence of `extract()` calls, the decoder cache threaded through; each call's member,
    status and output (the sequence ends at a fault or an unsupported method) -/
def runMembers (files : Files) (p : Params) : List Member → Option DState → List (Member × Err × Option Bytes)
  | [], _ => []
  | m :: rest, d =>
    match extract files p d m with
    | .done e w d' => (m, e, w) :: runMembers files p rest d'
    | _ => []

/-- C07 over whole sessions: strict mode, any members of any folders in any order, starting
    without a cache (or with one in `CabJAll`): every call writes at most its member's declared
    length, and exactly that if it returns MSPACK_ERR_OK -/
theorem C07_cab_session_counts (files : Files) (p : Params) (hs : p.salvage = false) :
    ∀ (ms : List Member) (d : Option DState), CacheJAll d →
      ∀ r ∈ runMembers files p ms d, Counts r.1 r.2.1 r.2.2 := by
  intro ms
  induction ms with
  | nil => intro d _ r hr; cases hr
  | cons m rest ih =>
    intro d hd r hr
    unfold runMembers at hr
    split at hr
    · rename_i e w d' hx
      have hc := C07_cab_extract_counts files p hs d m hd e w d' hx
      rcases List.mem_cons.mp hr with rfl | hr
      · exact hc.1
      · exact ih d' hc.2 r hr
    · cases hr

theorem C07_cab_session_counts_fresh (files : Files) (p : Params) (hs : p.salvage = false) (ms : List Member) :
    ∀ r ∈ runMembers files p ms none, Counts r.1 r.2.1 r.2.2 :=
  C07_cab_session_counts files p hs ms none (fun _ h => by cases h)

/-- the length `cabd_extract` actually asks for: the declared one, clamped (salvage mode only; strict mode
    refuses) to what fits below `CAB_LENGTHMAX` -/
theorem memberCheck_filelen (p : Params) (m : Member) (filelen key : Nat)
    (h : memberCheck p m = .ok (filelen, key)) :
    filelen = min m.length (Generated.cabLENGTHMAX - m.offset) := by
  rw [(memberCheck_ok h).2.2.1]
  split <;> omega

/-- either mode (salvage included): the upper bound needs nothing (`C07_cab_written_le`); "OK ⇒ exactly
    the length asked for" holds in either mode given `ReadErrLaw` — and that is what salvage mode
    gives up: at the end of a folder the feeder delivers a short read without recording an error, the decoder
    reports READ, `cabd_extract` substitutes the feeder's (OK) `read_error`, and the call returns OK with a
    short output (the example below).  In strict mode the joint invariant `CabJAll` takes the place of
    `ReadErrLaw` (`C07_cab_ok_complete`). -/
theorem C07_cab_anymode_ok_len_partial (files : Files) (hR : ∀ dec, CabDecOk dec → ReadErrLaw files dec)
    (p : Params) (d : Option DState) (m : Member) (hd : CacheOk CabDecOk d) (w : Bytes) (d' : Option DState)
    (h : extract files p d m = .done .ok (some w) d') :
    w.length = min m.length (Generated.cabLENGTHMAX - m.offset) :=
  let ⟨_, filelen, key, hm, _, heq⟩ := CabInv.extract_counts files CabDecOk (C07_count_law_decOk files) (C07_decOk_kept files)
    p d m hd (C07_initDec_decOk p m.compType) .ok w d' h
  (heq hR rfl).trans (memberCheck_filelen p m filelen key hm)

end all

end MsPack.Cab

namespace MsPack.Chm
open MsPack

theorem C07_lzxBound : LzxBound :=
  fun fuel st n o h => Lzx.C07_lzx_written_le rdSrc fuel st n o h

/-- `chmd_extract`, either section, every input and decompressor state:
    never more than the declared length reaches the output -/
theorem C07_chm_written_le_unconditional (files : Files) (fill : UInt8) (inst : Inst) (key : Nat) (hdr : Header)
    (sec : Nat) (offset length : Int) (e : Err) (inst' : Inst) (hdr' : Header) (w : Bytes)
    (h : extract files fill inst key hdr sec offset length = .done e inst' hdr' (some w)) :
    w.length ≤ length.toNat :=
  C07_chm_written_le C07_lzxBound files fill inst key hdr sec offset length e inst' hdr' w h

end MsPack.Chm

namespace MsPack.Oab
open MsPack MsPack.Generated

theorem C07_lzxCount (fuel bufSize : Nat) : LzxCount fuel bufSize := fun lzx n crc b h =>
  lzxBlockTail_walk (P := fun x => ∀ b, x = .ok b → b.written.length ≤ n ∧ (b.err = .ok → b.written.length = n))
    fuel bufSize lzx n crc (fun _ _ _ => nofun)
    (fun o ho hne b hb => by
      cases hb; exact ⟨(CountLaws.Lzx.decompress_count sysRead fuel lzx n o ho).1, fun he => absurd he hne⟩)
    (fun o ho hok => by
      have hc := CountLaws.Lzx.decompress_count sysRead fuel lzx n o ho
      split
      · nofun
      · exact fun e b hb => by cases hb; exact ⟨hc.1, fun _ => hc.2 hok⟩) b h

/-- `oabd_decompress`, every input file: the output never exceeds the
    header's TargetSize, and MSPACK_ERR_OK means exactly TargetSize bytes -/
theorem C07_oab_written_le_target_unconditional (fuel bufSize : Nat) (fill : UInt8) (file : Bytes)
    (outIsIn : Bool) (e : Err) (w : Bytes)
    (h : decompress fuel bufSize fill (some file) outIsIn = .ok ⟨e, some w⟩) :
    ∃ hdr infh, (⟨file, 0⟩ : Rd).readExact oabheadSIZEOF = some (hdr, infh) ∧
      w.length ≤ u32At hdr oabhead_TargetSize ∧ (e = .ok → w.length = u32At hdr oabhead_TargetSize) :=
  C07_oab_written_le_target fuel bufSize (C07_lzxCount fuel bufSize) fill file outIsIn e w h

theorem C07_oab_patch_written_le_target_unconditional (fuel bufSize : Nat) (fill : UInt8) (file : Bytes)
    (base : Option Bytes) (outIsIn outIsBase : Bool) (e : Err) (w : Bytes)
    (h : decompressIncremental fuel bufSize fill (some file) base outIsIn outIsBase = .ok ⟨e, some w⟩) :
    ∃ hdr infh, (⟨file, 0⟩ : Rd).readExact patchheadSIZEOF = some (hdr, infh) ∧
      w.length ≤ u32At hdr patchhead_TargetSize ∧ (e = .ok → w.length = u32At hdr patchhead_TargetSize) :=
  C07_oab_patch_written_le_target fuel bufSize (C07_lzxCount fuel bufSize) fill file base outIsIn outIsBase e w h

end MsPack.Oab

/-! ## the theorems are about runs that happen -/
namespace MsPack.C07Decoders
open MsPack MsPack.Cab

def zipRun (stream : Bytes) (n : Nat) : Option (Err × Bytes) :=
  (Zip.init (σ := Rd) ⟨stream, 0⟩ 4096 false 0).bind fun st =>
    match Zip.decompress Rd.src 1000 st n with
    | .ok o => some (o.err, o.written)
    | .error _ => none

/-- a one-block MSZIP folder: CFDATA header (checksum 0 = not checked, 10 compressed, 3 uncompressed bytes)
    and the frame `CK` + one stored block `x y z` -/
def cabFile : Bytes := [0, 0, 0, 0, 10, 0, 3, 0] ++ Zip.sampleStored

def cabMember (len : Nat) : Member :=
  { length := len, offset := 0, folderKey := some 0, mergePrev := false, numBlocks := 1, compType := 1,
    parts := [⟨"a.cab", 0, 0⟩] }

def runCab (len : Nat) : Option (Err × Option Bytes) :=
  match extract [("a.cab", cabFile)] {} none (cabMember len) with
  | .done e w _ => some (e, w)
  | _ => none

/-- The kernel builds the 32 KiB window once per declaration, so the MSZIP runs of this section, on the bare decoder
    and through `cabd_extract`, are evaluated together; the examples read their part off. -/
theorem mszipRuns :
    (zipRun Zip.sampleHuff 6 = some (.ok, [0x61, 0x62, 0x63, 0x61, 0x62, 0x63]) ∧
      zipRun Zip.sampleHuff 4 = some (.ok, [0x61, 0x62, 0x63, 0x61]) ∧
      zipRun Zip.sampleHuff 9 = some (.read, [0x61, 0x62, 0x63, 0x61, 0x62, 0x63])) ∧
    (runCab 3 = some (.ok, some [0x78, 0x79, 0x7A]) ∧
      runCab 5 = some (.dataformat, some [0x78, 0x79, 0x7A])) ∧
    (runMembers [("a.cab", cabFile)] {} [cabMember 3, cabMember 3] none).map (fun r => (r.2.1, r.2.2)) =
      [(.ok, some [0x78, 0x79, 0x7A]), (.ok, some [0x78, 0x79, 0x7A])] := by decide +kernel

/-- MSZIP, a 6-byte frame: asked for 6 — OK and 6 bytes; asked for 4 — OK and 4 (the rest stays pending);
    asked for 9 — the 6 there are, and the status is not OK -/
example : zipRun Zip.sampleHuff 6 = some (.ok, [0x61, 0x62, 0x63, 0x61, 0x62, 0x63]) ∧
    zipRun Zip.sampleHuff 4 = some (.ok, [0x61, 0x62, 0x63, 0x61]) ∧
    zipRun Zip.sampleHuff 9 = some (.read, [0x61, 0x62, 0x63, 0x61, 0x62, 0x63]) := mszipRuns.1

/-- `ZipInv` cannot be dropped from `C07_mszip_ok_complete`: on a state whose window is not the 32 KiB frame the stored
    block's three bytes fall outside it (the model's `copyStored` ignores stores beyond the array),
    `bytes_output` still says 3, and the call returns OK having written nothing -/
example : ((Zip.init (σ := Rd) ⟨Zip.sampleStored, 0⟩ 4096 false 0).bind fun st =>
    match Zip.decompress Rd.src 1000 { st with window := #[] } 3 with
    | .ok o => some (o.err, o.written)
    | .error _ => none) = some (.ok, []) := by decide +kernel

def lzxRun (n : Nat) : Option (Err × Bytes) :=
  (Lzx.init (σ := Bytes) Lzx.helloStream 15 0 4096 5 false 0).bind fun st =>
    match Lzx.decompress Lzx.listSrc 1000 st n with
    | .ok o => some (o.err, o.written)
    | .error _ => none

/-- a one-block LZX folder (window bits 15): CFDATA header and the stream of `C02Lzx.lean` -/
def lzxCabFile : Bytes := [0, 0, 0, 0, 21, 0, 5, 0] ++ Lzx.helloStream

def lzxMember (len : Nat) : Member :=
  { length := len, offset := 0, folderKey := some 0, mergePrev := false, numBlocks := 1, compType := 0x0F03,
    parts := [⟨"l.cab", 0, 0⟩] }

def runLzxCab (len : Nat) : Option (Err × Option Bytes) :=
  match extract [("l.cab", lzxCabFile)] {} none (lzxMember len) with
  | .done e w _ => some (e, w)
  | _ => none

/-- the LZX runs of this section, together for the same reason as `mszipRuns` -/
theorem lzxRuns :
    (lzxRun 5 = some (.ok, [104, 101, 108, 108, 111]) ∧ lzxRun 3 = some (.ok, [104, 101, 108]) ∧
      lzxRun 9 = some (.decrunch, [104, 101, 108, 108, 111])) ∧
    (({} : Params).salvage = false ∧ runLzxCab 5 = some (.ok, some [104, 101, 108, 108, 111]) ∧
      runLzxCab 7 = some (.decrunch, some [104, 101, 108, 108, 111])) := by decide +kernel

/-- LZX, a 5-byte stream: 5 — OK and 5 bytes; 3 — OK and 3; 9 — the 5 there are and DECRUNCH -/
example : lzxRun 5 = some (.ok, [104, 101, 108, 108, 111]) ∧ lzxRun 3 = some (.ok, [104, 101, 108]) ∧
    lzxRun 9 = some (.decrunch, [104, 101, 108, 108, 111]) := lzxRuns.1

def qtmRun (n : Nat) : Option (Err × Nat) :=
  (Qtm.init (⟨Qtm.exampleInput, 0⟩ : Rd) 10 16 0xAA).bind fun st =>
    match Qtm.decompress Rd.src 200 st n with
    | .ok o => some (o.err, o.written.length)
    | .error _ => none

/-- Quantum, 24 input bytes: asked for 24 — OK and 24 bytes; asked for 10 — OK and 10 -/
example : qtmRun 24 = some (.ok, 24) ∧ qtmRun 10 = some (.ok, 10) := by decide +kernel

/-- `cabd_extract` on the MSZIP folder (no cache): a member declared 3 long — OK, 3 bytes; declared 5 — the 3 there are, and not OK -/
example : runCab 3 = some (.ok, some [0x78, 0x79, 0x7A]) ∧
    runCab 5 = some (.dataformat, some [0x78, 0x79, 0x7A]) := mszipRuns.2.1

/-- a session on the MSZIP folder: the same member twice (the second time through a rebuilt decoder, the
    cached one having passed the offset), each time OK and the three bytes -/
example : (runMembers [("a.cab", cabFile)] {} [cabMember 3, cabMember 3] none).map (fun r => (r.2.1, r.2.2)) =
    [(.ok, some [0x78, 0x79, 0x7A]), (.ok, some [0x78, 0x79, 0x7A])] := mszipRuns.2.2

/-- a stored folder of one 3-byte block and a member declared 5 long -/
def storedFile : Bytes := [0, 0, 0, 0, 3, 0, 3, 0, 7, 8, 9]
def storedMember5 : Member :=
  { length := 5, offset := 0, folderKey := some 0, mergePrev := false, numBlocks := 1, compType := 0,
    parts := [⟨"s.cab", 0, 0⟩] }
def runStored (salv : Bool) : Option (Err × Option Bytes) :=
  match extract [("s.cab", storedFile)] { salvage := salv } none storedMember5 with
  | .done e w _ => some (e, w)
  | _ => none

/-- "OK ⇒ complete" does not survive salvage mode, by design: the folder ends before the member does;
    strict mode answers DATAFORMAT, salvage mode answers OK having written 0 of the 5 declared bytes -/
example : runStored false = some (.dataformat, some []) ∧ runStored true = some (.ok, some []) := by
  decide +kernel

/-- `cabd_extract` on the LZX folder, strict mode, no cache (the hypotheses of `C07_cab_fresh_ok_complete`):
    a member declared 5 long — OK, 5 bytes; declared 7 — the 5 there are, and not OK -/
example : ({} : Params).salvage = false ∧ runLzxCab 5 = some (.ok, some [104, 101, 108, 108, 111]) ∧
    runLzxCab 7 = some (.decrunch, some [104, 101, 108, 108, 111]) := lzxRuns.2

end MsPack.C07Decoders
