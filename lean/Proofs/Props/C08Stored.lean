import Proofs.Props.C01
/-!
# C08 for stored folders: any sequence of extractions gives every member its fresh-instance bytes

`cabd_extract` keeps the folder's decoder between calls and re-uses it when the next member starts at or after
the position it has reached.  For a stored folder (blocks as in `C01_stored_extract`) the cached state after any
successful call is again "the feeder stands at plaintext position `offset` of the folder" (`StoredCache`,
`extract_stored_cached` in `Lemmas/CabData`), so by induction over the call list every call — forward (re-using the
cache), backward (rebuilding it), repeated, in any order — returns OK with exactly bytes `[offset, offset+length)` of
the folder's data: what a fresh decompressor returns.
-/
namespace MsPack.Cab
open MsPack.Generated

/-- a client's sequence of `extract()` calls on members of one stored folder, the cache threaded through -/
def runSeq (files : Files) (p : Params) (fname : String) (off nblocks key ctHigh : Nat) :
    List (Nat × Nat) → Option DState → List (Err × Option Bytes)
  | [], _ => []
  | (o, l) :: rest, d =>
    match extract files p d (storedMember fname off nblocks key o l ctHigh) with
    | .done e w d' => (e, w) :: runSeq files p fname off nblocks key ctHigh rest d'
    | _ => []

/-- **history independence, stored folders**: whatever members were extracted before, in whatever order (forward
    through the cached decoder, backward through a rebuilt one, the same member twice), every call returns OK with
    exactly the member's bytes — the result of a fresh decompressor (`C01_stored_extract`) -/
theorem C08_stored_any_order (files : Files) (fname : String) (bytes : Bytes) (hlook : files.lookup fname = some bytes)
    (off : Nat) (blks : List DataBlk) (hwf : ∀ b ∈ blks, b.wf) (rest : Bytes)
    (hd : bytes.drop off = blks.flatMap encData ++ rest)
    (p : Params) (hbs : 0 < p.bufSize) (key : Nat) (ctHigh : Nat) (hct : compMask (ctHigh * 16) = 0)
    (nblocks : Nat) (hnb : blks.length ≤ nblocks) (hmax : (plainOf blks).length ≤ cabLENGTHMAX)
    (ms : List (Nat × Nat)) (hms : ∀ m ∈ ms, m.1 + m.2 ≤ (plainOf blks).length) :
    runSeq files p fname off nblocks key ctHigh ms none =
      ms.map fun m => (.ok, some (((plainOf blks).drop m.1).take m.2)) := by
  suffices h : ∀ (ms : List (Nat × Nat)) (d : Option DState), StoredCache ⟨bytes, rest, blks.length⟩ key p.bufSize (plainOf blks) d →
      (∀ m ∈ ms, m.1 + m.2 ≤ (plainOf blks).length) →
      runSeq files p fname off nblocks key ctHigh ms d = ms.map fun m => (.ok, some (((plainOf blks).drop m.1).take m.2)) from
    h ms none (Or.inl rfl) hms
  intro ms
  induction ms with
  | nil => intro _ _ _; rfl
  | cons m ms ih =>
    intro d hc hm
    obtain ⟨o, l⟩ := m
    have hfit := hm (o, l) (List.mem_cons_self ..)
    obtain ⟨d', e, hc'⟩ := extract_stored_cached files fname bytes hlook off blks hwf rest hd p hbs key ctHigh hct nblocks hnb d hc o l
      hfit (by simp only at hfit; omega)
    simp only [runSeq, e, List.map_cons]
    rw [ih d' hc' (fun x hx => hm x (List.mem_cons_of_mem _ hx))]

end MsPack.Cab
