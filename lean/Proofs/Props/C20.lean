import MsPack.Generated.Inventory
import MsPack.Generated.Consts
/-!
# C20 — the caller's mspack_system is used as documented (open modes and names)

The translator lists every call `…->open(sys, NAME, MODE)` in the library's translation units
(`Generated.openCallSites`, regenerated from the sources at every check).  Proved here: the list is exactly
the eighteen known call sites; each passes either a filename parameter of the public API function
it sits in (`filename`, `input`, `output`, `base`) or the filename stored at open time in a cabinet
/ helpfile structure (`…->filename`), and a literal mode: READ for archives, patches and bases,
WRITE only where the argument is an output name (read off the list: the translator records the argument text, not
the enclosing function).  Handle liveness and release are theorems on the effect models (`C09.lean`, `C09Cab.lean`,
`C09Chm.lean`, `C09Kwaj.lean`, `C09Oab.lean`);
the remaining clauses of C20 (sizes, buffers, copy) are checked dynamically.
-/
namespace MsPack.C20
open MsPack.Generated

theorem open_call_sites :
    openCallSites =
      [("cabd.c", "filename", "MSPACK_SYS_OPEN_READ"),
       ("cabd.c", "filename", "MSPACK_SYS_OPEN_READ"),
       ("cabd.c", "fol->data.cab->base.filename", "MSPACK_SYS_OPEN_READ"),
       ("cabd.c", "filename", "MSPACK_SYS_OPEN_WRITE"),
       ("cabd.c", "d->incab->base.filename", "MSPACK_SYS_OPEN_READ"),
       ("chmd.c", "filename", "MSPACK_SYS_OPEN_READ"),
       ("chmd.c", "chm->filename", "MSPACK_SYS_OPEN_READ"),
       ("chmd.c", "chm->filename", "MSPACK_SYS_OPEN_READ"),
       ("chmd.c", "filename", "MSPACK_SYS_OPEN_WRITE"),
       ("kwajd.c", "filename", "MSPACK_SYS_OPEN_READ"),
       ("kwajd.c", "filename", "MSPACK_SYS_OPEN_WRITE"),
       ("szddd.c", "filename", "MSPACK_SYS_OPEN_READ"),
       ("szddd.c", "filename", "MSPACK_SYS_OPEN_WRITE"),
       ("oabd.c", "input", "MSPACK_SYS_OPEN_READ"),
       ("oabd.c", "output", "MSPACK_SYS_OPEN_WRITE"),
       ("oabd.c", "input", "MSPACK_SYS_OPEN_READ"),
       ("oabd.c", "base", "MSPACK_SYS_OPEN_READ"),
       ("oabd.c", "output", "MSPACK_SYS_OPEN_WRITE")] := rfl

/-- every call site uses one of the two documented modes, stored archive names are only ever
    opened for reading, and the numeric values are those of mspack.h -/
theorem open_modes_fixed :
    (∀ s ∈ openCallSites, s.2.2 = "MSPACK_SYS_OPEN_READ" ∨ s.2.2 = "MSPACK_SYS_OPEN_WRITE") ∧
    (∀ s ∈ openCallSites, s.2.1 ≠ "filename" → s.2.1 ≠ "output" → s.2.2 = "MSPACK_SYS_OPEN_READ") ∧
    (∀ s ∈ openCallSites, s.2.1 = "output" → s.2.2 = "MSPACK_SYS_OPEN_WRITE") ∧
    sysOpenRead = 0 ∧ sysOpenWrite = 1 := by decide +kernel

end MsPack.C20
