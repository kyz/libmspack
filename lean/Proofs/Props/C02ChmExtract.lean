import Proofs.Lemmas.Src
import Proofs.Lemmas.LzxMildFaults
import Proofs.Props.C02Chm
import Proofs.Props.C02Lzx
/-!
# C02 — `chmd_extract` end to end: what is unconditional and what is not

`C02Chm.lean` shows that `readHeaders`, `fastFind` and the CHM layer of `extract` raise no fault of
their own: every fault of `Chm.extract` is one a `lzxd_decompress` call over the file handle
(`Chm.rdSrc`) reported.  This file adds the decoder side for that source:

* `rdSrc` never faults and never announces a length, so both side conditions of `C02Lzx.lean`
  (`hS`, `LenStable`) hold outright (`C02_chm_lzx_no_oob`: no out-of-bounds access from a state
  satisfying `LzxInv` while `offset + n < 2^31`);
* **unconditionally** — every file, fill byte, decompressor instance (no invariant needed), header
  satisfying `HdrInv` (every header `open`/`fast_find` return does), member — `Chm.extract` never
  yields a null dereference, a division by zero or an over-wide shift: its faults are `oob`, `uninit`
  or `hang` only (`C02_chm_extract_faults_mild`, `C02_chm_extract_no_ub_but_oob`), because the LZX
  model raises no other kind from any state (`Proofs/Lemmas/LzxMildFaults.lean`); so for any list of
  `extract` calls threaded through the instance (`C02_chm_session_no_ub_but_oob`);
* the `oob` outcome is NOT excluded here.  See the note at the end: the 2 GiB premise of the LZX
  theorem cannot be attached through the interface `C02_extract_faults_from_lzx` offers.
-/
namespace MsPack.ChmLift
open MsPack.Chm MsPack.CabLift.LzxMild

theorem rdSrc_lenStable (L₀ : Nat) : Lzx.LenStable Chm.rdSrc L₀ :=
  Lzx.lenStable_of_none Chm.rdSrc (fun _ => rfl) L₀

/-- **LZX over the CHM handle**: from a state satisfying the decoder invariant, no out-of-bounds
    access while fewer than 2 GiB have been asked for — no side condition on the source left -/
theorem C02_chm_lzx_no_oob (L₀ : Nat) (fuel : Nat) (st : Lzx.St Rd) (n : Nat) (hinv : Lzx.LzxInv L₀ st)
    (ho : st.offset + n < 2147483648) (s : String) :
    Lzx.decompress Chm.rdSrc fuel st n ≠ .error (.oob s) :=
  Lzx.C02_lzx_no_oob Chm.rdSrc L₀ (rdSrc_lenStable L₀) (fun x k _ => Rd.src_faultFree x k _) fuel st n hinv ho s

/-- every fault of `lzxd_decompress` over the CHM handle, from ANY state: `oob`, `uninit` or `hang` -/
theorem C02_chm_lzx_faults_mild (fuel : Nat) (st : Lzx.St Rd) (n : Nat) (f : Fault)
    (h : Lzx.decompress Chm.rdSrc fuel st n = .error f) : Mild f :=
  decompress_mild Chm.rdSrc Rd.src_faultFree fuel st n f h

/-- the undefined-behaviour outcomes excluded unconditionally -/
def Bad3 (f : Fault) : Prop := (∃ w, f = .nullDeref w) ∨ f = .divZero ∨ f = .shiftWidth

theorem Mild.not_bad3 {f : Fault} (h : Mild f) : ¬ Bad3 f := by
  rintro (⟨w, hw⟩ | hw | hw)
  · exact h.not_nullDeref w hw
  · exact h.not_divZero hw
  · exact h.not_shiftWidth hw

theorem instInv_true (inst : Inst) : InstInv (fun _ => True) inst := fun _ _ _ _ => trivial

/-- **every fault of `chmd_extract`** — any files, fill, instance, member; header with `HdrInv` — is `oob`,
    `uninit` or `hang`, and is raised only for members of the compressed section -/
theorem C02_chm_extract_faults_mild (files : Files) (fill : UInt8) (inst : Inst) (key : Nat) (hdr : Header)
    (sec : Nat) (offset length : Int) (hi : HdrInv hdr) (f : Fault)
    (h : extract files fill inst key hdr sec offset length = .fault f) : Mild f ∧ sec ≠ 0 := by
  obtain ⟨fuel, st, n, hd⟩ := C02_extract_chm_layer_no_fault files fill inst key hdr sec offset length hi f h
  refine ⟨C02_chm_lzx_faults_mild fuel st n f hd, fun h0 => ?_⟩
  subst h0
  exact C02_extract_sec0_no_fault files fill inst key hdr offset length hi f h

/-- **C02 for `chmd_extract` (all kinds but `oob`)**: no null dereference, no division by zero,
    no over-wide shift; the header handed back satisfies the invariant again -/
theorem C02_chm_extract_no_ub_but_oob (files : Files) (fill : UInt8) (inst : Inst) (key : Nat) (hdr : Header)
    (sec : Nat) (offset length : Int) (hi : HdrInv hdr) :
    (∀ w, extract files fill inst key hdr sec offset length ≠ .fault (.nullDeref w)) ∧
    extract files fill inst key hdr sec offset length ≠ .fault .divZero ∧
    extract files fill inst key hdr sec offset length ≠ .fault .shiftWidth ∧
    (∀ ret inst' hdr' out, extract files fill inst key hdr sec offset length = .done ret inst' hdr' out →
      HdrInv hdr') := by
  refine ⟨fun w h => ?_, fun h => ?_, fun h => ?_, fun ret inst' hdr' out h => ?_⟩
  · exact (C02_chm_extract_faults_mild files fill inst key hdr sec offset length hi _ h).1.not_nullDeref w rfl
  · exact (C02_chm_extract_faults_mild files fill inst key hdr sec offset length hi _ h).1.not_divZero rfl
  · exact (C02_chm_extract_faults_mild files fill inst key hdr sec offset length hi _ h).1.not_shiftWidth rfl
  · exact (C02_extract_inv lzxInv_true files fill inst key hdr sec offset length hi (instInv_true inst)
      ret inst' hdr' out h).1

/-- uncompressed members: no fault at all -/
theorem C02_chm_extract_sec0_no_fault (files : Files) (fill : UInt8) (inst : Inst) (key : Nat) (hdr : Header)
    (offset length : Int) (hi : HdrInv hdr) (f : Fault) :
    extract files fill inst key hdr 0 offset length ≠ .fault f :=
  C02_extract_sec0_no_fault files fill inst key hdr offset length hi f

/-- a client's `extract` calls `(key, hdr, section, offset, length)`, the decompressor threaded through;
    the first fault met, if any -/
def chmRun (files : Files) (fill : UInt8) : List (Nat × Header × Nat × Int × Int) → Inst → Option Fault
  | [], _ => none
  | (key, hdr, sec, offset, length) :: rest, inst =>
    match extract files fill inst key hdr sec offset length with
    | .done _ inst' _ _ => chmRun files fill rest inst'
    | .unsupported inst' _ => chmRun files fill rest inst'
    | .fault f => some f

/-- **a whole session** of `extract` calls on headers that `open` / `fast_find` returned (`HdrInv`:
    `C02_realOpen_inv`, `C02_fastFind_inv`), from any instance: no null dereference, division by zero
    or over-wide shift; a fault is `oob`, `uninit` or `hang` -/
theorem C02_chm_session_no_ub_but_oob (files : Files) (fill : UInt8) :
    ∀ (calls : List (Nat × Header × Nat × Int × Int)) (inst : Inst) (f : Fault),
    (∀ c ∈ calls, HdrInv c.2.1) → chmRun files fill calls inst = some f → Mild f ∧ ¬ Bad3 f
  | [], _, _, _, h => by simp only [chmRun] at h; contradiction
  | (key, hdr, sec, offset, length) :: rest, inst, f, hc, h => by
    have hi : HdrInv hdr := hc (key, hdr, sec, offset, length) (by simp)
    have hrest : ∀ c ∈ rest, HdrInv c.2.1 := fun c hm => hc c (by simp [hm])
    rw [chmRun] at h
    split at h
    · exact C02_chm_session_no_ub_but_oob files fill rest _ f hrest h
    · exact C02_chm_session_no_ub_but_oob files fill rest _ f hrest h
    · rename_i f' he
      cases h
      have := (C02_chm_extract_faults_mild files fill inst key hdr sec offset length hi _ he).1
      exact ⟨this, Mild.not_bad3 this⟩

/-- `open` and `fast_find` themselves raise no fault (`C02Chm.lean`) -/
theorem C02_chm_open_find_no_fault (filename : String) (file : Bytes) (entire : Bool) (f : Fault) :
    realOpen filename file entire ≠ .error f ∧
    ∀ (fl : Option Bytes) (st : FF) (name : Bytes), HdrInv st.hdr → fastFind fl st name ≠ .error f :=
  ⟨C02_realOpen_no_fault filename file entire f, fun fl st name hi => C02_fastFind_no_fault fl st name hi f⟩

/-- a session that does real work: the section-0 member and the section-1 member of the example file,
    one after the other through one instance, end without a fault -/
example : chmRun [("x.chm", encodeChm exampleSpec)] 0
    [(7, exampleSpec.listed "x.chm", 0, 2, 3), (7, exampleSpec.listed "x.chm", 1, 300, 70000)] {} = none := by
  decide +kernel

/-!
## Why `oob` is not excluded here

`Lzx.C02_lzx_no_oob` needs `st.offset + n < 2^31` for each call.  The CHM layer's fault theorem
(`C02_extract_faults_from_lzx`, over an invariant `P` of the decoder state alone) quantifies over every request
size `n`, and the fault it hands up is `∃ fuel st n, P st ∧ decompress … st n = .error f` with no relation between
`n`, `st.offset` and the member.  No predicate on the decoder state alone is kept by calls of arbitrary size and
excludes `oob`; excluding it takes an invariant of the pair (`DState`, decoder state) and the premise
`offset + length < 2^31` on the member (CHM offsets are 64-bit; the format does not give it).
-/

end MsPack.ChmLift
