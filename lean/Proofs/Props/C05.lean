import Proofs.Lemmas.Lzss
import Proofs.Lemmas.CabEncode
import MsPack.Szdd.Decompress
/-!
# C05 — SZDD: headers are reported and payloads expanded exactly (LZSS round trip)

`Tok`, `expand` and `encode` (MsPack/Spec/Lzss.lean) are the specification of the LZSS format
lzssd.c decodes: tokens are literals or (ring position, length 3..18) copies, coded in groups of
eight behind a control byte; `expand` is the reference semantics on the 4096-byte ring.

* `C05_lzss_roundtrip`: on the model of `lzss_decompress`, for **every** token list, every input
  buffer size ≥ 1 (i.e. wherever buffer refills fall inside tokens), both ring start positions, and
  wherever the coded stream sits in a file: the decoder returns OK and has written exactly
  `expand toks`.
* `C05_szdd_roundtrip`: a well-formed SZDD file (signature, 'A', missing character, 32-bit length,
  LZSS stream) is opened with exactly those header values, and `decompress` writes exactly the
  expansion of its tokens.

* `C05_szdd_qbasic_roundtrip`: the same for the QBasic variant (other signature, data at 12, ring start 18 below the end).

KWAJ: headers and methods 0/1 in `C05Kwaj.lean`, method 3 (LZH with flat tables) in `C05Lzh.lean`; its name
fields, LZH with arbitrary codes and MSZIP-KWAJ are validated by differential runs (checks/c05.py).
-/
namespace MsPack.Lzss
open MsPack.Generated

theorem initRing_ok (mode : Nat) : (initRing mode).ok := by
  refine ⟨by simp [initRing], ?_⟩
  simp only [initRing]; split <;> decide

theorem C05_lzss_roundtrip (toks : List Tok) (hwf : ∀ t ∈ toks, t.wf) (file : Bytes) (pos bufSize : Nat)
    (hb : 1 ≤ bufSize) (mode : Nat) (hmode : mode = lzssMODE_EXPAND ∨ mode = lzssMODE_QBASIC)
    (fuel : Nat) (hfuel : toks.length + 1 ≤ fuel) (hfile : file.drop pos = encode toks) :
    ∃ src', decompress Rd.src fuel (⟨file, pos⟩ : Rd) bufSize mode =
      .ok ⟨.ok, (expand toks (initRing mode)).out.toList, src'⟩ := by
  have := mainLoop_at (F := fun _ => False) (r := initRing mode) toks fuel (st := initSt ⟨file, pos⟩ bufSize mode) hfuel hwf
    ⟨rfl, initRing_ok mode, by simpa [rem, initSt] using hfile, hb⟩
  unfold decompress
  have h1 : ¬(bufSize < 1 ∨ (mode ≠ lzssMODE_EXPAND ∧ mode ≠ lzssMODE_MSHELP ∧ mode ≠ lzssMODE_QBASIC)) := by
    rcases hmode with h | h <;> simp [h, lzssMODE_EXPAND, lzssMODE_QBASIC] <;> omega
  have h2 : (if mode = lzssMODE_MSHELP then 0xFFFFFFFF else 0) = 0 := by
    rcases hmode with h | h <;> simp [h, lzssMODE_EXPAND, lzssMODE_QBASIC, lzssMODE_MSHELP]
  rw [if_neg h1]
  simp only [h2]
  cases hm : mainLoop Rd.src 0 fuel (initSt ⟨file, pos⟩ bufSize mode) with
  | ok _ _ => rw [hm] at this; exact this.elim
  | fault _ => rw [hm] at this; exact this.elim
  | ret e st' =>
    rw [hm] at this
    obtain ⟨rfl, hr⟩ := this
    exact ⟨st'.src, by rw [← hr]; rfl⟩

end MsPack.Lzss

namespace MsPack.Szdd
open MsPack.Generated MsPack.Lzss

open MsPack.Oab (enc32)

/-- a well-formed SZDD file of the common variant -/
def encodeSzdd (missing : UInt8) (length : Nat) (toks : List Tok) : Bytes :=
  szddSignatureExpand.map UInt8.ofNat ++ ([0x41, missing] ++ enc32 length) ++ encode toks

theorem sig_roundtrip : sigMatches (szddSignatureExpand.map UInt8.ofNat) szddSignatureExpand = true := by decide

theorem roundtrip_of {sig blk : Bytes} {n : Nat} {hdr : Header} (hs : sig.length = 8) (hn : blk.length = n)
    (hoff : 8 + n = if hdr.format = fmtNORMAL then 14 else 12)
    (hparse : ∀ r r1 r2 : Rd, r.readExact 8 = some (sig, r1) → r1.readExact n = some (blk, r2) →
      readHeaders r = (.ok hdr, r2))
    (toks : List Tok) (hwf : ∀ t ∈ toks, t.wf) (fuel : Nat) (hfuel : toks.length + 1 ≤ fuel) :
    (∃ rd, open_ (some (sig ++ blk ++ encode toks)) = (some ⟨hdr, rd⟩, .ok)) ∧
    decompress fuel (some (sig ++ blk ++ encode toks)) =
      .ok ⟨.ok, some (expand toks
        (initRing (if hdr.format = fmtNORMAL then lzssMODE_EXPAND else lzssMODE_QBASIC))).out.toList⟩ := by
  generalize hfile : sig ++ blk ++ encode toks = file
  have hd0 : file.drop 0 = sig ++ (blk ++ encode toks) := by rw [← hfile, List.append_assoc]; rfl
  obtain ⟨hr0, hd8⟩ := Rd.readExact_at hd0 hs
  obtain ⟨hr8, hdata⟩ := Rd.readExact_at hd8 hn
  rw [Nat.zero_add, hoff] at hdata
  have hopen : open_ (some file) = (some ⟨hdr, ⟨file, 0 + 8 + n⟩⟩, .ok) := by
    unfold open_
    simp only [hparse _ _ _ hr0 hr8]
  refine ⟨⟨_, hopen⟩, ?_⟩
  obtain ⟨src', hdec⟩ := C05_lzss_roundtrip toks hwf file _ szddINPUT_SIZE (by decide)
    (if hdr.format = fmtNORMAL then lzssMODE_EXPAND else lzssMODE_QBASIC)
    (iteInduction (motive := fun m => m = lzssMODE_EXPAND ∨ m = lzssMODE_QBASIC) (fun _ => .inl rfl) fun _ => .inr rfl)
    fuel hfuel hdata
  unfold decompress
  rw [hopen]
  simp only [extract, Rd.seekStart, hdec]

theorem C05_szdd_roundtrip (missing : UInt8) (length : Nat) (hlen : length < 4294967296) (toks : List Tok)
    (hwf : ∀ t ∈ toks, t.wf) (fuel : Nat) (hfuel : toks.length + 1 ≤ fuel) :
    (∃ rd, open_ (some (encodeSzdd missing length toks)) = (some ⟨⟨fmtNORMAL, length, missing⟩, rd⟩, .ok)) ∧
    decompress fuel (some (encodeSzdd missing length toks)) =
      .ok ⟨.ok, some (expand toks (initRing lzssMODE_EXPAND)).out.toList⟩ :=
  roundtrip_of (blk := [0x41, missing] ++ enc32 length) (n := 6) (by decide) rfl rfl
    (fun r r1 r2 h0 h8 => by
      have hA : byteAt ([0x41, missing] ++ enc32 length) 0 = 0x41 := rfl
      have hM : byteAt ([0x41, missing] ++ enc32 length) 1 = missing := rfl
      have hL : u32At ([0x41, missing] ++ enc32 length) 2 = length := by
        rw [Cab.u32At_skip _ rfl (Nat.le_refl 2)]; exact Cab.u32At_enc32_nil hlen
      unfold readHeaders
      simp only [h0, sig_roundtrip, ↓reduceIte, h8]
      generalize [0x41, missing] ++ enc32 length = hdr at hA hM hL
      simp only [hA, hM, hL, ne_eq, not_true_eq_false, ↓reduceIte])
    toks hwf fuel hfuel

/-- the QBasic 4.5 variant: other signature, no 'A' / missing-character bytes, data from offset 12, ring start 18 below the end -/
def encodeSzddQbasic (length : Nat) (toks : List Tok) : Bytes :=
  szddSignatureQbasic.map UInt8.ofNat ++ enc32 length ++ encode toks

theorem sig_qbasic_roundtrip : sigMatches (szddSignatureQbasic.map UInt8.ofNat) szddSignatureQbasic = true := by decide
theorem sig_qbasic_not_expand : sigMatches (szddSignatureQbasic.map UInt8.ofNat) szddSignatureExpand = false := by decide

theorem C05_szdd_qbasic_roundtrip (length : Nat) (hlen : length < 4294967296) (toks : List Tok)
    (hwf : ∀ t ∈ toks, t.wf) (fuel : Nat) (hfuel : toks.length + 1 ≤ fuel) :
    (∃ rd, open_ (some (encodeSzddQbasic length toks)) = (some ⟨⟨fmtQBASIC, length, 0⟩, rd⟩, .ok)) ∧
    decompress fuel (some (encodeSzddQbasic length toks)) =
      .ok ⟨.ok, some (expand toks (initRing lzssMODE_QBASIC)).out.toList⟩ :=
  roundtrip_of (blk := enc32 length) (n := 4) (by decide) rfl rfl
    (fun r r1 r2 h0 h8 => by
      have hL : u32At (enc32 length) 0 = length := Cab.u32At_enc32_nil hlen
      unfold readHeaders
      simp only [h0, sig_qbasic_roundtrip, sig_qbasic_not_expand, Bool.false_eq_true, ↓reduceIte, h8]
      generalize enc32 length = hdr at hL
      simp only [hL])
    toks hwf fuel hfuel

end MsPack.Szdd

/-- the premises are satisfiable by non-trivial streams (a literal run, an overlapping match into the
    initial spaces region, a full group followed by a short one) -/
example : ∀ t ∈ [MsPack.Lzss.Tok.lit 65, .lit 66, .mat 4080 5, .lit 67, .mat 0 18, .lit 1, .lit 2, .lit 3, .lit 4, .mat 4095 3],
    MsPack.Lzss.Tok.wf t := by
  intro t ht
  simp only [List.mem_cons, List.not_mem_nil, or_false] at ht
  rcases ht with rfl | rfl | rfl | rfl | rfl | rfl | rfl | rfl | rfl | rfl <;> simp [MsPack.Lzss.Tok.wf]
