import MsPack.Cab.Set
/-!
# C13 — cabinet sets join consistently; bad joins change nothing

Model: `MsPack/Cab/Set.lean` (`Heap.merge` = `cabd_merge`, split into its checking half
`mergeCheck` — every early `return self->error = …` — and its mutating half `mergeApply`).

Proved here: every refusal leaves the heap exactly as it was (so both cabinets keep their own
lists and can be closed independently), and each of the refusal conditions the property lists is
indeed refused.  Order-independence of successful joins is `C13_join_order_independent` in
`Proofs/Props/C13Order.lean` (and is checked by the correspondence `cab.sets`: all join orders and
directions, lists compared after every call).
-/
namespace MsPack.Cab

/-- a refused join changes nothing -/
theorem C13_refused_unchanged (h : Heap) (l r : Option CabId) :
    (h.merge l r).1 ≠ .ok → (h.merge l r).2 = h := by
  unfold Heap.merge
  split <;> simp

/-- … and a join that is not refused reports OK (there is no third outcome) -/
theorem C13_ok_or_unchanged (h : Heap) (l r : Option CabId) :
    (h.merge l r).1 = .ok ∨ (h.merge l r) = ((h.merge l r).1, h) := by
  unfold Heap.merge
  split <;> simp

/-- NULL arguments are refused with MSPACK_ERR_ARGS -/
theorem C13_refuses_null (h : Heap) (c : Option CabId) :
    h.merge none c = (.args, h) ∧ h.merge c none = (.args, h) := by
  constructor <;> (unfold Heap.merge Heap.mergeCheck; cases c <;> rfl)

/-- joining a cabinet with itself is refused -/
theorem C13_refuses_same (h : Heap) (c : CabId) : h.merge (some c) (some c) = (.args, h) := by
  simp [Heap.merge, Heap.mergeCheck]

/-- a left cabinet that already has a successor, or a right one that already has a predecessor,
    is refused -/
theorem C13_refuses_joined (h : Heap) (lc rc : CabId) (ln rn : CabNode)
    (hl : h.cab? lc = some ln) (hr : h.cab? rc = some rn)
    (hj : ln.next.isSome ∨ rn.prev.isSome) : h.merge (some lc) (some rc) = (.args, h) := by
  by_cases hne : lc = rc
  · subst hne; exact C13_refuses_same h lc
  · simp [Heap.merge, Heap.mergeCheck, hne, hl, hr, hj]

/-- a join that would close a cycle is refused -/
theorem C13_refuses_circular (h : Heap) (lc rc : CabId) (ln rn : CabNode)
    (hl : h.cab? lc = some ln) (hr : h.cab? rc = some rn)
    (hc : (h.prevChain lc).contains rc ∨ (h.nextChain rc).contains lc) :
    h.merge (some lc) (some rc) = (.args, h) := by
  by_cases hne : lc = rc
  · subst hne; exact C13_refuses_same h lc
  · by_cases hj : ln.next.isSome ∨ rn.prev.isSome
    · exact C13_refuses_joined h lc rc ln rn hl hr hj
    · have hc' : rc ∈ h.prevChain lc ∨ lc ∈ h.nextChain rc := by simpa using hc
      simp [Heap.merge, Heap.mergeCheck, hne, hl, hr, hj, hc']

/-- split folders that do not fit (`cabd_can_merge_folders` says no) are refused with
    MSPACK_ERR_DATAFORMAT -/
theorem C13_refuses_mismatch (h : Heap) (lc rc : CabId) (ln rn : CabNode) (lfid rfid : FolderId)
    (lf rf : FolderNode)
    (hne : lc ≠ rc) (hl : h.cab? lc = some ln) (hr : h.cab? rc = some rn)
    (hj : ¬ (ln.next.isSome ∨ rn.prev.isSome))
    (hc : ¬ ((h.prevChain lc).contains rc ∨ (h.nextChain rc).contains lc))
    (hlf : ln.folders.getLast? = some lfid) (hrf : rn.folders.head? = some rfid)
    (hlf' : h.folder? lfid = some lf) (hrf' : h.folder? rfid = some rf)
    (hm : ¬ (lf.mergeNext.isNone ∧ rf.mergePrev.isNone))
    (hcan : Heap.canMergeFolders h ln.files rn.files lf rf = false) :
    h.merge (some lc) (some rc) = (.dataformat, h) := by
  have hc' : ¬ (rc ∈ h.prevChain lc ∨ lc ∈ h.nextChain rc) := by simpa using hc
  have hm' : ¬ (lf.mergeNext = none ∧ rf.mergePrev = none) := by simpa using hm
  simp [Heap.merge, Heap.mergeCheck, hne, hl, hr, hj, hc', hlf, hrf, hlf', hrf', hm', hcan]

end MsPack.Cab
