import Proofs.Lemmas.Count
/-!
# C11 — results depend only on the input

The models take the allocator's fill byte as a parameter (`fill`) exactly where the C reads memory
it did not initialise.  The MSZIP model has no fill-dependent cell: `mszipd_init` clears the window
and the C writes everything else before reading it, so `Zip.init` discards `fill` and
`mszip_init_fill_independent` is `rfl`.  Hence extraction from stored and MSZIP folders of any
cabinet, well-formed or not, is the same function of the input whatever fresh memory contained.
The Quantum, LZX and KWAJ-LZH states do contain the fill byte, in cells the C never reads before
writing; that their statuses and output do not depend on it is proved, by two-run simulation, in
`Proofs/Props/C11Decoders.lean` (`C11_lzh_fill_independent`, `C11_lzx_fill_independent`,
`C11_qtm_fill_independent`).
-/
namespace MsPack.C11
open MsPack.Cab

theorem mszip_init_fill_independent {σ : Type} (src : σ) (n : Nat) (repair : Bool) (f1 f2 : UInt8) :
    Zip.init src n repair f1 = Zip.init src n repair f2 := by
  unfold Zip.init; rfl

theorem initDec_fill_independent (p : Params) (ct : Nat) (f1 f2 : UInt8) (h : compMask ct ≤ 1) :
    initDec { p with fill := f1 } ct = initDec { p with fill := f2 } ct := by
  unfold initDec
  have : compMask ct = 0 ∨ compMask ct = 1 := by omega
  rcases this with h0 | h1
  · simp [h0]
  · simp [h1, mszip_init_fill_independent _ _ _ f1 f2]

/-- extraction from a stored or MSZIP folder, from a fresh decompressor: same result for any two
    fill bytes (status, bytes, and the decoder state left behind) -/
theorem cab_stored_mszip_fill_independent (files : Files) (p : Params) (m : Member) (f1 f2 : UInt8)
    (h : compMask m.compType ≤ 1) :
    extract files { p with fill := f1 } none m = extract files { p with fill := f2 } none m := by
  have hf : ∀ key, freshDState files { p with fill := f1 } m key = freshDState files { p with fill := f2 } m key := by
    intro key
    unfold freshDState
    rw [initDec_fill_independent p m.compType f1 f2 h]
  cases hc : memberCheck { p with fill := f2 } m with
  | error e => rw [extract_refused hc, extract_refused (p := { p with fill := f1 }) hc]
  | ok v =>
    rw [extract_checked hc, extract_checked (p := { p with fill := f1 }) hc,
      show obtainDState files { p with fill := f1 } none m v.2 = obtainDState files { p with fill := f2 } none m v.2 from hf v.2]

end MsPack.C11
