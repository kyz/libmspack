import MsPack.Chm.Encint
/-!
# C03 — CHM listing and extraction: the ENCINT round trip

`encodeEncint j n` is the specification of a `j+1`-byte ENCINT (7-bit groups, most significant
first, continuation bit on all but the last; leading zero groups allowed, i.e. every legal
coding).  `C03_encint_roundtrip`: wherever such a coding sits in a chunk, the model of
`read_encint` returns `n`, advances exactly over it and does not fail — for every `n < 2^63`
representable in the chosen length.  The directory and header round trips are in `C03Headers.lean`
(`C03_headers_roundtrip`, `C03_open_roundtrip`).
-/
namespace MsPack.Chm

theorem enc_step (r : Nat) (c : UInt8) : (r <<< 7) ||| (c.toNat &&& 0x7F) = r * 128 + c.toNat % 128 := by
  have h1 : c.toNat &&& 0x7F = c.toNat % 2^7 := Nat.and_two_pow_sub_one_eq_mod c.toNat 7
  have h2 : c.toNat % 2^7 < 2^7 := Nat.mod_lt _ (by decide)
  rw [h1, ← Nat.shiftLeft_add_eq_or_of_lt h2, Nat.shiftLeft_eq]

def encintDigits : Nat → Nat → List Nat
  | 0, _ => []
  | k + 1, n => encintDigits k (n / 128) ++ [n % 128]

/-- the specification: `j` groups of 7 bits (`encintDigits`), most significant first, with the continuation bit, then
    the last group without it (leading zero groups allowed: every legal coding) -/
def encodeEncint (j n : Nat) : Bytes :=
  (encintDigits j (n / 128)).map (fun d => UInt8.ofNat (d + 128)) ++ [UInt8.ofNat (n % 128)]

theorem digits_length (k n : Nat) : (encintDigits k n).length = k := by
  induction k generalizing n with
  | zero => rfl
  | succ k ih => simp [encintDigits, ih]

theorem digits_lt (k n : Nat) : ∀ d ∈ encintDigits k n, d < 128 := by
  induction k generalizing n with
  | zero => simp [encintDigits]
  | succ k ih =>
    intro d hd
    simp only [encintDigits, List.mem_append, List.mem_singleton] at hd
    rcases hd with h | h
    · exact ih _ _ h
    · omega

theorem digits_value (k n : Nat) (h : n < 128 ^ k) :
    (encintDigits k n).foldl (fun r d => r * 128 + d) 0 = n := by
  induction k generalizing n with
  | zero => simp [encintDigits] at *; omega
  | succ k ih =>
    have h' : n / 128 < 128 ^ k := by
      rw [Nat.pow_succ] at h; exact Nat.div_lt_of_lt_mul (by rw [Nat.mul_comm]; exact h)
    simp only [encintDigits, List.foldl_append, List.foldl_cons, List.foldl_nil, ih _ h']
    omega

theorem getElem?_of_drop {bs : Bytes} {p : Nat} {x : UInt8} {xs : Bytes} (h : bs.drop p = x :: xs) :
    bs[p]? = some x := by
  have := congrArg List.head? h
  simpa [List.head?_drop] using this

theorem drop_succ_of_drop {bs : Bytes} {p : Nat} {x : UInt8} {xs : Bytes} (h : bs.drop p = x :: xs) :
    bs.drop (p + 1) = xs := by
  have : bs.drop (p + 1) = (bs.drop p).drop 1 := by rw [List.drop_drop]
  rw [this, h]; rfl

theorem encLoop_run (bs : Bytes) (e : Nat) : ∀ (cont : Bytes) (last : UInt8) (rest : Bytes) (fuel i p r : Nat) (c : UInt8),
    bs.drop p = cont ++ last :: rest → (∀ x ∈ cont, x &&& 0x80 ≠ 0) → last &&& 0x80 = 0 → c &&& 0x80 ≠ 0 →
    i + cont.length < 9 → p + cont.length < e → cont.length + 2 ≤ fuel →
    encLoop bs e fuel i p r c =
      .ok ⟨false, i + cont.length + 1, p + cont.length + 1,
           (cont ++ [last]).foldl (fun r x => r * 128 + x.toNat % 128) r, last⟩ := by
  intro cont
  induction cont with
  | nil =>
    intro last rest fuel i p r c hd _ hl hc hi hp hf
    simp only [List.nil_append, List.length_nil, Nat.add_zero] at *
    match fuel, hf with
    | fuel + 2, _ =>
      have hget := getElem?_of_drop hd
      rw [encLoop]
      simp only [hc, ↓reduceIte, encintMaxBytes, hi, not_true_eq_false, Nat.not_le.mpr hp, hget]
      rw [encLoop]
      simp [hl, enc_step]
  | cons x xs ih =>
    intro last rest fuel i p r c hd hall hl hc hi hp hf
    simp only [List.cons_append, List.length_cons] at *
    match fuel, hf with
    | fuel + 1, hf =>
      have hget := getElem?_of_drop hd
      have hx : x &&& 0x80 ≠ 0 := hall x (by simp)
      rw [encLoop]
      have hi' : i < encintMaxBytes := by unfold encintMaxBytes; omega
      have hp' : ¬ p ≥ e := by omega
      simp only [hc, ↓reduceIte, hi', not_true_eq_false, hp', hget]
      rw [ih last rest fuel (i + 1) (p + 1) _ x (drop_succ_of_drop hd) (fun y hy => hall y (by simp [hy])) hl hx
        (by omega) (by omega) (by omega)]
      simp only [enc_step, List.foldl_cons]
      congr 2 <;> omega


theorem cont_byte (d : Nat) (h : d < 128) :
    UInt8.ofNat (d + 128) &&& 0x80 ≠ 0 ∧ (UInt8.ofNat (d + 128)).toNat % 128 = d := by
  have : ∀ d : Fin 128, UInt8.ofNat (d.val + 128) &&& 0x80 ≠ 0 ∧ (UInt8.ofNat (d.val + 128)).toNat % 128 = d.val := by decide
  exact this ⟨d, h⟩

theorem last_byte (d : Nat) (h : d < 128) :
    UInt8.ofNat d &&& 0x80 = 0 ∧ (UInt8.ofNat d).toNat % 128 = d := by
  have : ∀ d : Fin 128, UInt8.ofNat d.val &&& 0x80 = 0 ∧ (UInt8.ofNat d.val).toNat % 128 = d.val := by decide
  exact this ⟨d, h⟩

theorem foldl_cont (ds : List Nat) (hds : ∀ d ∈ ds, d < 128) (r : Nat) :
    (ds.map (fun d => UInt8.ofNat (d + 128))).foldl (fun r x => r * 128 + x.toNat % 128) r =
      ds.foldl (fun r d => r * 128 + d) r := by
  induction ds generalizing r with
  | nil => rfl
  | cons d ds ih =>
    simp only [List.map_cons, List.foldl_cons]
    rw [(cont_byte d (hds d (by simp))).2]
    exact ih (fun x hx => hds x (by simp [hx])) _

/-- **ENCINT round trip**: every legal coding of `n` (1 to 9 bytes, leading zero groups allowed)
    placed anywhere in a chunk decodes to `n`, consumes exactly its bytes and does not fail -/
theorem C03_encint_roundtrip (pre rest : Bytes) (j n e : Nat) (hj : j < 9) (hn : n < 128 ^ (j + 1))
    (he : pre.length + j < e) :
    readEncint (pre ++ encodeEncint j n ++ rest) pre.length e = .ok ⟨n, pre.length + j + 1, false⟩ := by
  have hdl := digits_length j (n / 128)
  have hdlt := digits_lt j (n / 128)
  have hnd : n / 128 < 128 ^ j := by
    rw [Nat.pow_succ] at hn; exact Nat.div_lt_of_lt_mul (by rw [Nat.mul_comm]; exact hn)
  have hdrop : (pre ++ encodeEncint j n ++ rest).drop pre.length =
      (encintDigits j (n / 128)).map (fun d => UInt8.ofNat (d + 128)) ++ UInt8.ofNat (n % 128) :: rest := by
    simp [encodeEncint, List.append_assoc]
  have hmod : n % 128 < 128 := Nat.mod_lt _ (by decide)
  have hrun := encLoop_run (pre ++ encodeEncint j n ++ rest) e
    ((encintDigits j (n / 128)).map (fun d => UInt8.ofNat (d + 128))) (UInt8.ofNat (n % 128)) rest
    (encintMaxBytes + 1) 0 pre.length 0 0x80 hdrop
    (by intro x hx; simp only [List.mem_map] at hx; obtain ⟨d, hd, rfl⟩ := hx; exact (cont_byte d (hdlt d hd)).1)
    (last_byte _ hmod).1 (by decide)
    (by simp [hdl]; omega) (by simp [hdl]; omega) (by simp [hdl, encintMaxBytes]; omega)
  unfold readEncint
  rw [hrun]
  simp only [List.length_map, hdl, List.foldl_append, List.foldl_cons, List.foldl_nil]
  rw [foldl_cont _ hdlt, digits_value _ _ hnd, (last_byte _ hmod).2]
  have hv : n / 128 * 128 + n % 128 = n := by omega
  simp only [hv, Bool.false_eq_true, ↓reduceIte]
  have hl := (last_byte _ hmod).1
  split
  · rename_i hbad
    exfalso
    have : (UInt8.ofNat (n % 128)).toNat &&& encintBadLastByte = 0 := by
      have h2 : ((UInt8.ofNat (n % 128)) &&& 0x80).toNat = 0 := by rw [hl]; rfl
      simpa [encintBadLastByte, UInt8.toNat_and] using h2
    exact hbad.2 this
  · congr 2 <;> omega

-- non-vacuity: 300 = 0x82 0x2c
example : encodeEncint 1 300 = [0x82, 0x2c] := by decide
example : readEncint ([7] ++ encodeEncint 1 300 ++ [9]) 1 3 = .ok ⟨300, 3, false⟩ :=
  C03_encint_roundtrip [7] [9] 1 300 3 (by decide) (by decide) (by decide)

end MsPack.Chm
