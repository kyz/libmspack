import Proofs.Lemmas.CabSet
/-!
# C13, first clause — joining the parts of a cabinet set in any order gives the same lists

Model: `MsPack/Cab/Set.lean` (`Heap.merge` = `cabd_merge`; `append(cab, next)` = `merge cab next`,
`prepend(cab, prev)` = `merge prev cab`).  Specification side (`Proofs/Lemmas/CabSet.lean`):

* `SetPart`: one opened part (cabinet id, cabinet node, folders with contents);
* `expected fo parts : Grp`: the expected shared lists of a run of consecutive parts, computed by
  `joinGrp`: concatenation, and at a boundary where a folder is split the two halves fused
  (`Heap.fuseNode`: data parts appended, block counts added minus one, the left half keeps id and
  `mergePrev`) and the files of the right half dropped;
* `joinGrp_assoc` (associativity of joins on lists) and `expected_append`: `expected (g1 ++ g2)` is the join of
  `expected g1` and `expected g2`, whatever the bracketing;
* `WellFormedSet h0 parts`: see there.  Its `joinable` clause asks, for every two adjacent runs of
  parts, what `cabd_merge` tests at their boundary (no folder split there, or `canMergeFolders`
  accepts the halves); it is necessary, as each such pair of runs is joined in some order.
* `merge_step`: on a heap where two adjacent groups carry their expected lists, `merge` of the last
  part of the left group with the first part of the right group returns OK and leaves the combined
  group with its expected lists (in every member cabinet), everything else untouched.

A sequence of joins is a list of `(t, viaAppend)`: join groups number `t` and `t+1` of the current
grouping (initially every part on its own), by `append(last part of left, first part of right)` or by
the equivalent `prepend(first part of right, last part of left)`.  Every way of connecting all parts
by joins of adjacent groups is such a sequence (`ValidOps`).
-/
namespace MsPack.Cab

/-- `cabd_append(cab, nextcab)` -/
def Heap.append (h : Heap) (cab nextcab : Option CabId) : Err × Heap := h.merge cab nextcab
/-- `cabd_prepend(cab, prevcab)` -/
def Heap.prepend (h : Heap) (cab prevcab : Option CabId) : Err × Heap := h.merge prevcab cab

/-- one join: groups `t` and `t+1` of the grouping `gs` -/
def joinAt (h : Heap) (gs : List (List SetPart)) (t : Nat) (viaAppend : Bool) :
    Err × Heap × List (List SetPart) :=
  match gs.drop t with
  | g1 :: g2 :: post =>
    let a := g1.getLast?.map (·.cab)
    let b := g2.head?.map (·.cab)
    let r := if viaAppend then h.append a b else h.prepend b a
    (r.1, r.2, gs.take t ++ (g1 ++ g2) :: post)
  | _ => (.args, h, gs)

/-- a sequence of joins; returns the error codes, the final heap and the final grouping -/
def runJoins (h : Heap) (gs : List (List SetPart)) : List (Nat × Bool) → List Err × Heap × List (List SetPart)
  | [] => ([], h, gs)
  | (t, d) :: ops =>
    let r := joinAt h gs t d
    let r' := runJoins r.2.1 r.2.2 ops
    (r.1 :: r'.1, r'.2.1, r'.2.2)

/-- every operation joins two existing adjacent groups, and at the end one group is left -/
def ValidOps : Nat → List (Nat × Bool) → Prop
  | m, [] => m = 1
  | m, (t, _) :: ops => t + 2 ≤ m ∧ ValidOps (m - 1) ops

def ValidOps.dec : ∀ (m : Nat) (ops : List (Nat × Bool)), Decidable (ValidOps m ops)
  | m, [] => inferInstanceAs (Decidable (m = 1))
  | m, (t, _) :: ops =>
    have := ValidOps.dec (m - 1) ops
    inferInstanceAs (Decidable (t + 2 ≤ m ∧ ValidOps (m - 1) ops))

instance (m : Nat) (ops : List (Nat × Bool)) : Decidable (ValidOps m ops) := ValidOps.dec m ops

theorem joinAt_ok (h0 h : Heap) (parts : List SetPart) (gs : List (List SetPart)) (t : Nat) (d : Bool)
    (wf : WellFormedSet h0 parts) (hflat : gs.flatten = parts) (inv : SetInv h0 h gs) (ht : t + 2 ≤ gs.length) :
    (joinAt h gs t d).1 = .ok ∧ SetInv h0 (joinAt h gs t d).2.1 (joinAt h gs t d).2.2 ∧
    (joinAt h gs t d).2.2.flatten = parts ∧ (joinAt h gs t d).2.2.length + 1 = gs.length := by
  have hsplit := List.take_append_drop t gs
  have hlen : (gs.drop t).length = gs.length - t := List.length_drop
  have htk : (gs.take t).length = t := by rw [List.length_take]; omega
  cases hd : gs.drop t with
  | nil => rw [hd] at hlen; simp at hlen; omega
  | cons g1 rest =>
    cases rest with
    | nil => rw [hd] at hlen; simp at hlen; omega
    | cons g2 post =>
      rw [hd] at hsplit
      obtain ⟨h', hm, inv'⟩ := setInv_join h0 h parts (gs.take t) g1 g2 post wf (by rw [hsplit]; exact hflat)
        (by rw [hsplit]; exact inv)
      have e : joinAt h gs t d = (.ok, h', gs.take t ++ (g1 ++ g2) :: post) := by
        unfold joinAt
        rw [hd]
        cases d <;> simp [Heap.append, Heap.prepend, hm]
      rw [e]
      refine ⟨rfl, inv', ?_, ?_⟩
      · rw [← hflat]
        conv => rhs; rw [← hsplit]
        simp
      · conv => rhs; rw [← hsplit]
        simp only [List.length_append, List.length_cons]
        omega

theorem runJoins_ok (h0 : Heap) (parts : List SetPart) (wf : WellFormedSet h0 parts) :
    ∀ (ops : List (Nat × Bool)) (h : Heap) (gs : List (List SetPart)), gs.flatten = parts → SetInv h0 h gs →
      ValidOps gs.length ops →
      (∀ e ∈ (runJoins h gs ops).1, e = .ok) ∧ SetInv h0 (runJoins h gs ops).2.1 (runJoins h gs ops).2.2 ∧
      (runJoins h gs ops).2.2.flatten = parts ∧ (runJoins h gs ops).2.2.length = 1 := by
  intro ops
  induction ops with
  | nil =>
    intro h gs hflat inv hv
    exact ⟨fun e he => by simp [runJoins] at he, inv, hflat, hv⟩
  | cons op ops ih =>
    intro h gs hflat inv hv
    obtain ⟨t, d⟩ := op
    obtain ⟨ht, hv'⟩ := hv
    obtain ⟨h1, h2, h3, h4⟩ := joinAt_ok h0 h parts gs t d wf hflat inv ht
    have hl : (joinAt h gs t d).2.2.length = gs.length - 1 := by omega
    obtain ⟨i1, i2, i3, i4⟩ := ih (joinAt h gs t d).2.1 (joinAt h gs t d).2.2 h3 h2 (by rw [hl]; exact hv')
    refine ⟨?_, i2, i3, i4⟩
    intro e he
    simp only [runJoins, List.mem_cons] at he
    rcases he with he | he
    · rw [he]; exact h1
    · exact i1 e he

/-- **C13 (first clause).**  For a well-formed set of parts opened in the heap `h0`, every sequence of
    `append`/`prepend` calls that connects all parts by joining adjacent groups (in any order, in either
    direction): every call returns OK, and in the final heap every part's cabinet lists exactly the expected
    files and folders, and the folder table holds the expected (fused) folders. -/
theorem C13_join_order_independent (h0 : Heap) (parts : List SetPart) (wf : WellFormedSet h0 parts)
    (ops : List (Nat × Bool)) (hv : ValidOps parts.length ops) :
    (∀ e ∈ (runJoins h0 (parts.map ([·])) ops).1, e = .ok) ∧
    (∀ p ∈ parts, ∃ n, (runJoins h0 (parts.map ([·])) ops).2.1.cab? p.cab = some n ∧
        n.files = (expected h0.folderOf parts).files ∧
        n.folders = (expected h0.folderOf parts).nodes.map (·.1)) ∧
    (∀ x ∈ (expected h0.folderOf parts).nodes, (runJoins h0 (parts.map ([·])) ops).2.1.folder? x.1 = some x.2) := by
  have hflat : ∀ l : List SetPart, (l.map ([·])).flatten = l := by
    intro l
    induction l with
    | nil => rfl
    | cons p ps ih => simp [ih]
  have hflat := hflat parts
  obtain ⟨r1, r2, r3, r4⟩ := runJoins_ok h0 parts wf ops h0 (parts.map ([·])) hflat (setInv_init h0 parts wf)
    (by simpa using hv)
  generalize runJoins h0 (parts.map ([·])) ops = r at r1 r2 r3 r4
  obtain ⟨errs, hfin, gs⟩ := r
  dsimp only at r1 r2 r3 r4 ⊢
  have hgs : gs = [parts] := by
    cases gs with
    | nil => simp at r4
    | cons g rest =>
      cases rest with
      | nil => simp at r3; rw [r3]
      | cons _ _ => simp at r4
  subst hgs
  obtain ⟨_, hc, hf⟩ := r2.groups parts (by simp)
  refine ⟨r1, ?_, hf⟩
  intro p hp
  obtain ⟨i, hi, rfl⟩ := List.mem_iff_getElem.mp hp
  exact ⟨_, hc i parts[i] (by simp [hi]), rfl, rfl⟩

/-- two complete join sequences give every part the same lists -/
theorem C13_any_two_orders_agree (h0 : Heap) (parts : List SetPart) (wf : WellFormedSet h0 parts)
    (ops ops' : List (Nat × Bool)) (hv : ValidOps parts.length ops) (hv' : ValidOps parts.length ops') :
    ∀ p ∈ parts,
      ((runJoins h0 (parts.map ([·])) ops).2.1.cab? p.cab).map (fun n => (n.files, n.folders)) =
      ((runJoins h0 (parts.map ([·])) ops').2.1.cab? p.cab).map (fun n => (n.files, n.folders)) := by
  intro p hp
  obtain ⟨n, e, e1, e2⟩ := (C13_join_order_independent h0 parts wf ops hv).2.1 p hp
  obtain ⟨n', e', e1', e2'⟩ := (C13_join_order_independent h0 parts wf ops' hv').2.1 p hp
  rw [e, e']
  simp [e1, e2, e1', e2']


/-- the expected lists are what a left-to-right join computes (and, by `expected_append`, what any
    other bracketing computes) -/
theorem expected_left_to_right (h0 : Heap) (parts : List SetPart) (wf : WellFormedSet h0 parts) :
    ∀ (ps g pre post : List SetPart), g ≠ [] → parts = pre ++ (g ++ ps) ++ post →
      ps.foldl (fun G q => joinGrp h0.folderOf G q.grp) (expected h0.folderOf g) = expected h0.folderOf (g ++ ps) := by
  intro ps
  induction ps with
  | nil => intro g pre post _ _; simp
  | cons q qs ih =>
    intro g pre post hg e
    have e' : parts = pre ++ (g ++ [q]) ++ (qs ++ post) := by rw [e]; simp
    have hmem : ∀ p ∈ g ++ [q], p ∈ parts := fun p hp => by
      rw [e']; simp only [List.mem_append] at hp ⊢; exact .inl (.inr hp)
    have hfn : (fids (g ++ [q])).Nodup := by
      have := wf.folderNodup
      rw [e', fids_append, fids_append] at this
      exact nodup_mid_self this
    have hstep : joinGrp h0.folderOf (expected h0.folderOf g) q.grp = expected h0.folderOf (g ++ [q]) := by
      rw [expected_append h0.folderOf g [q] hg (by simp) (fun p hp => wf.partOK p (hmem p hp)) hfn
        (fun pre' x y post' ex hx hy =>
          (wf.joinable (pre ++ pre') x y (post' ++ (qs ++ post)) (by rw [e', ex]; simp) hx hy).splitOK),
        expected_single]
    rw [List.foldl_cons, hstep, ih (g ++ [q]) pre post (by simp) (by rw [e]; simp)]
    simp

theorem expected_eq_foldl (h0 : Heap) (p : SetPart) (ps : List SetPart) (wf : WellFormedSet h0 (p :: ps)) :
    expected h0.folderOf (p :: ps) = ps.foldl (fun G q => joinGrp h0.folderOf G q.grp) p.grp := by
  have := expected_left_to_right h0 (p :: ps) wf ps [p] [] [] (by simp) (by simp)
  rw [expected_single] at this
  exact this.symm

/-! ## non-vacuity: a concrete three-part set with one split folder

Part A ends with a folder continued in part B (A's last file is `CONTINUED_TO_NEXT`, B's first file the
matching `CONTINUED_FROM_PREV` entry); B has a second folder; nothing is split between B and C. -/
namespace C13Example
def fileA1 : CFile := { (default : CFile) with length := 10, offset := 0, folder := 0, fidx := 0 }
def fileA2 : CFile := { (default : CFile) with length := 20, offset := 50, folder := 0, fidx := cffileCONTINUED_TO_NEXT }
def fileB1 : CFile := { (default : CFile) with length := 20, offset := 50, folder := 0, fidx := cffileCONTINUED_FROM_PREV }
def fileB2 : CFile := { (default : CFile) with length := 7, offset := 0, folder := 1, fidx := 1 }
def fileC1 : CFile := { (default : CFile) with length := 9, offset := 0, folder := 0, fidx := 0 }
def cabA : Cabinet := { (default : Cabinet) with folders := [⟨1, 2, 100⟩], files := [fileA1, fileA2] }
def cabB : Cabinet := { (default : Cabinet) with folders := [⟨1, 3, 60⟩, ⟨0, 1, 200⟩], files := [fileB1, fileB2] }
def cabC : Cabinet := { (default : Cabinet) with folders := [⟨0, 4, 80⟩], files := [fileC1] }
def h0 : Heap := ((((({} : Heap).addCabinet "a.cab" cabA).1).addCabinet "b.cab" cabB).1.addCabinet "c.cab" cabC).1

def view (h : Heap) : List (Option (List FileId × List FolderId)) :=
  [0, 4, 9].map fun c => (h.cab? c).map fun n => (n.files, n.folders)


def parts : List SetPart := [0, 4, 9].filterMap (SetPart.ofHeap h0)

theorem wellFormed : WellFormedSet h0 parts := wellFormedb_sound (by decide)

/-- the expected lists: A's and B's halves fused into folder 1 (2 + 3 - 1 blocks, two data parts), B's copy
    of the continued file (7) dropped -/
example : (expected h0.folderOf parts).files = [2, 3, 8, 11] ∧
    (expected h0.folderOf parts).nodes.map (·.1) = [1, 6, 10] ∧
    ((expected h0.folderOf parts).nodes.head?.map fun x => (x.2.numBlocks, x.2.parts.length)) = some (4, 2) := by
  decide

/-- both join orders, evaluated: (A·B)·C by two `append`s, and A·(B·C) by a `prepend` and an `append` -/
example :
    (h0.append (some 0) (some 4)).1 = .ok ∧ ((h0.append (some 0) (some 4)).2.append (some 4) (some 9)).1 = .ok ∧
    (h0.prepend (some 9) (some 4)).1 = .ok ∧ ((h0.prepend (some 9) (some 4)).2.append (some 0) (some 4)).1 = .ok ∧
    view ((h0.append (some 0) (some 4)).2.append (some 4) (some 9)).2 =
      view ((h0.prepend (some 9) (some 4)).2.append (some 0) (some 4)).2 ∧
    view ((h0.append (some 0) (some 4)).2.append (some 4) (some 9)).2 =
      [some ([2, 3, 8, 11], [1, 6, 10]), some ([2, 3, 8, 11], [1, 6, 10]), some ([2, 3, 8, 11], [1, 6, 10])] := by
  decide

/-- the same two orders as instances of the theorem -/
example : ValidOps parts.length [(0, true), (0, true)] ∧ ValidOps parts.length [(1, false), (0, true)] := by
  decide

example := C13_any_two_orders_agree h0 parts wellFormed [(0, true), (0, true)] [(1, false), (0, true)]
  (by decide) (by decide)

end C13Example

/-! ## non-vacuity: one folder spanning three parts

A's only folder continues through B (one folder, its file entry `CONTINUED_PREV_AND_NEXT`) into C's first
folder; C has a second folder. -/
namespace C13Example3
def fileA1 : CFile := { (default : CFile) with length := 10, offset := 0, folder := 0, fidx := 0 }
def fileA2 : CFile := { (default : CFile) with length := 20, offset := 50, folder := 0, fidx := cffileCONTINUED_TO_NEXT }
def fileB1 : CFile := { (default : CFile) with length := 20, offset := 50, folder := 0, fidx := cffileCONTINUED_PREV_AND_NEXT }
def fileC1 : CFile := { (default : CFile) with length := 20, offset := 50, folder := 0, fidx := cffileCONTINUED_FROM_PREV }
def fileC2 : CFile := { (default : CFile) with length := 9, offset := 0, folder := 1, fidx := 1 }
def cabA : Cabinet := { (default : Cabinet) with folders := [⟨1, 2, 100⟩], files := [fileA1, fileA2] }
def cabB : Cabinet := { (default : Cabinet) with folders := [⟨1, 3, 60⟩], files := [fileB1] }
def cabC : Cabinet := { (default : Cabinet) with folders := [⟨1, 2, 70⟩, ⟨0, 1, 300⟩], files := [fileC1, fileC2] }
def h0 : Heap := ((((({} : Heap).addCabinet "a.cab" cabA).1).addCabinet "b.cab" cabB).1.addCabinet "c.cab" cabC).1
def parts : List SetPart := [0, 4, 7].filterMap (SetPart.ofHeap h0)

theorem wellFormed : WellFormedSet h0 parts := wellFormedb_sound (by decide)

def view (h : Heap) : List (Option (List FileId × List FolderId)) :=
  [0, 4, 7].map fun c => (h.cab? c).map fun n => (n.files, n.folders)

/-- expected: one folder of 2 + 3 - 1 + 2 - 1 blocks in three data parts, then C's second folder -/
example : (expected h0.folderOf parts).files = [2, 3, 11] ∧
    ((expected h0.folderOf parts).nodes.map fun x => (x.1, x.2.numBlocks, x.2.parts.length)) = [(1, 5, 3), (9, 1, 1)] := by
  decide

/-- (A·B)·C and A·(B·C), evaluated -/
example :
    (h0.append (some 0) (some 4)).1 = .ok ∧ ((h0.append (some 0) (some 4)).2.append (some 4) (some 7)).1 = .ok ∧
    (h0.prepend (some 7) (some 4)).1 = .ok ∧ ((h0.prepend (some 7) (some 4)).2.append (some 0) (some 4)).1 = .ok ∧
    view ((h0.append (some 0) (some 4)).2.append (some 4) (some 7)).2 =
      view ((h0.prepend (some 7) (some 4)).2.append (some 0) (some 4)).2 ∧
    view ((h0.append (some 0) (some 4)).2.append (some 4) (some 7)).2 =
      [some ([2, 3, 11], [1, 9]), some ([2, 3, 11], [1, 9]), some ([2, 3, 11], [1, 9])] := by
  decide

end C13Example3

end MsPack.Cab
