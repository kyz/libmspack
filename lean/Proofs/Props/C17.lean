import MsPack.Cabx.Modes
/-
C17 — "cabextract's modes agree with the archive and with each other": the mechanism.

The member loop of `process_cabinet` (model: MsPack/Cabx/Modes.lean) decides which members are
acted upon BEFORE it looks at the mode, and the filter sees the output name without the -d prefix.
Hence, for every fnmatch function: all four modes act on the same members in the same order
(`filter_same_members`), without -F every member is acted upon exactly once in cabinet order
(`list_each_once`), with -F the members acted upon are a sub-sequence of the cabinet's
(`selected_sublist`), the choice does not depend on -d (`selection_dir_independent`), and what
-p writes is the concatenation of the selected members' contents in order (`pipe_concat`).
What the theorems do not reach: that `cabd->extract` delivers `m.data` (C01/C07's subject), the
printf formats, MD5, mktime/chmod/utime and the exit status; those are checked on the real binary
by checks/c17.py against a specification computed from the plan.
-/
namespace MsPack.C17
open MsPack.Cabx

theorem selected_map_fst_filter (fnm : Bytes → Bytes → Bool) (a : Args) (isunix : Bool) (ms : List Member) :
    (ms.filterMap fun m => (selectName fnm a isunix m).map fun n => (m, n)).map (·.1)
      = ms.filter fun m => (selectName fnm a isunix m).isSome := by
  induction ms with
  | nil => rfl
  | cons m ms ih =>
    cases h : selectName fnm a isunix m with
    | none => simp [h, ih]
    | some n => simp [h, ih]

theorem processCabinet_members (fnm : Bytes → Bytes → Bool) (mode : Mode) (a : Args) (ms : List Member) :
    (processCabinet fnm mode a ms).map Event.member
      = ms.filter fun m => (selectName fnm a (unixPathSeparators (ms.map (·.name))) m).isSome := by
  have : (Event.member ∘ act mode) = (fun x : Member × Bytes => x.1) := by funext x; cases mode <;> rfl
  rw [processCabinet, List.map_map, this]
  exact selected_map_fst_filter fnm a _ ms

/-- all modes act on the same members, in the same order -/
theorem filter_same_members (fnm : Bytes → Bytes → Bool) (a : Args) (ms : List Member) (m1 m2 : Mode) :
    (processCabinet fnm m1 a ms).map Event.member = (processCabinet fnm m2 a ms).map Event.member := by
  rw [processCabinet_members, processCabinet_members]

example : (processCabinet globMatch .test { filters := [[0x2A, 0x2E, 0x63]] }
            [{ name := [0x61, 0x2E, 0x43], utf8 := false, data := [1] }, { name := [0x62], utf8 := false, data := [2] }]).map Event.member
        = [{ name := [0x61, 0x2E, 0x43], utf8 := false, data := [1] }] := by decide

/-- without -F every member is acted upon exactly once, in cabinet order (here for -l: one line
    per member; by `filter_same_members` the same holds for -t, -p and extraction) -/
theorem list_each_once (fnm : Bytes → Bytes → Bool) (a : Args) (hf : a.filters = []) (ms : List Member) :
    (processCabinet fnm .list a ms).map Event.member = ms := by
  rw [processCabinet_members]
  exact List.filter_eq_self.2 fun m _ => by simp [selectName, createOutputName, createOutputNameWith, hf]

example : (processCabinet globMatch .list {} [{ name := [0x61], utf8 := false, data := [1] }, { name := [0x61], utf8 := false, data := [] }]).length = 2 := by decide

/-- with -F the members acted upon are a sub-sequence of the cabinet's members: nobody twice, nobody invented, order kept -/
theorem selected_sublist (fnm : Bytes → Bytes → Bool) (mode : Mode) (a : Args) (ms : List Member) :
    List.Sublist ((processCabinet fnm mode a ms).map Event.member) ms := by
  rw [processCabinet_members]; exact List.filter_sublist

/-- -p: stdout is the concatenation of the selected members' contents, in order -/
theorem pipe_concat (fnm : Bytes → Bytes → Bool) (a : Args) (ms : List Member) :
    pipeStdout (processCabinet fnm .pipe a ms) = ((selected fnm a ms).map (·.1.data)).flatten := by
  unfold pipeStdout processCabinet
  rw [List.map_map]
  rfl

example : pipeStdout (processCabinet globMatch .pipe { filters := [[0x3F]] }
            [{ name := [0x61], utf8 := false, data := [1, 2] }, { name := [0x62, 0x62], utf8 := false, data := [9] },
             { name := [0x63], utf8 := false, data := [3] }]) = [1, 2, 3] := by decide

/-- the filter sees the name without the -d prefix, so -d does not change which members are selected -/
theorem selection_dir_independent (fnm : Bytes → Bytes → Bool) (a : Args) (d : Bytes) (ms : List Member) :
    (selected fnm { a with dir := some d } ms).map (·.1) = (selected fnm { a with dir := none } ms).map (·.1) := by
  unfold selected
  simp only []
  rw [selected_map_fst_filter, selected_map_fst_filter]
  apply List.filter_congr
  intro m _
  unfold selectName createOutputName createOutputNameWith fnameOffset dirPrefix
  simp only [List.append_assoc, List.nil_append, List.drop_zero]
  have : ∀ (x : Bytes), (cstr d ++ ([0x2F] ++ x)).drop ((cstr d).length + 1) = x := by
    intro x
    rw [← List.append_assoc]
    have : (cstr d ++ [0x2F]).length = (cstr d).length + 1 := by simp
    rw [← this, List.drop_left]
  rw [this]
  split <;> simp

example : (selected globMatch { dir := some [0x64, 0x2F, 0x65], filters := [[0x61, 0x2A]] } [{ name := [0x41, 0x31], utf8 := false, data := [] }]).map (·.2)
        = [[0x64, 0x2F, 0x65, 0x2F, 0x41, 0x31]] := by decide

end MsPack.C17
