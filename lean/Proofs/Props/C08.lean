import Proofs.Lemmas.Count
/-!
# C08 — extraction results do not depend on what was extracted before (CAB)

`extract files p d m` takes the instance's cached decoder `d`.  Proved here: whenever the cache
is not re-usable for the request — another folder, a position already past the member's offset
(backward seek), or a dead decoder — the call behaves exactly like the same call on a fresh
instance (`d = none`): same status, same bytes.  The remaining case (forward re-use of a live
decoder of the same folder) needs the chunking law of the stream decoders
(`decompress a; decompress b ≡ decompress (a+b)`): for stored folders see `C08Stored.lean`, for
MSZIP `C08Mszip.lean` and `C08MszipCab.lean`; for Quantum (`C08Qtm.lean`: one direction; the
converse is false, known finding D2) and LZX it is covered by the `cab.history` correspondence
and by the oracle (every call compared with a fresh instance).
-/
namespace MsPack.Cab

/-- what a caller observes of one `extract` call -/
def ExtractResult.observable : ExtractResult → Option (Err × Option Bytes)
  | .done e w _ => some (e, w)
  | .unsupported => none
  | .fault _ => none

theorem C08_not_reusable_is_fresh (files : Files) (p : Params) (ds : DState) (m : Member)
    (h : ∀ key, m.folderKey = some key → ¬ reusable ds m key) :
    (extract files p (some ds) m).observable = (extract files p none m).observable := by
  cases hc : memberCheck p m with
  | error e => rw [extract_refused hc, extract_refused hc]; rfl
  | ok v =>
    rw [extract_checked hc, extract_checked hc,
      obtainDState_fresh fun _ hd => by cases hd; exact h _ (memberCheck_ok hc).2.2.2.1]
    rfl

/-- in particular a backward seek never re-uses decoder state -/
theorem C08_backward_seek_is_fresh (files : Files) (p : Params) (ds : DState) (m : Member)
    (h : ds.offset > m.offset) :
    (extract files p (some ds) m).observable = (extract files p none m).observable :=
  C08_not_reusable_is_fresh files p ds m (fun _ _ hr => hr.2.1 h)

end MsPack.Cab
