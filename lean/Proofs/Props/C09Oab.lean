import Proofs.Lemmas.OabApiLedger
/-
C09 (everything acquired is released, on every path) and the handle half of C20 (callbacks only on
live handles, in the mode they were opened with; nothing freed or closed twice) for the OAB
decompressor, proved on the effect model `MsPack/Oab/Api.lean` (oabd.c + the allocation skeleton of
lzxd_init / lzxd_free + the read of lzxd_set_reference_data, over the instrumented system
`MsPack/Sys.lean`).

Quantifiers: every program a client can write against one decompressor (`Op` lists: `decompress`,
`decompress_incremental`, `set_param` in any order and number), every world — any file contents
(hence any header, any sequence of stored and LZX blocks, any junk, missing files, input = base =
output), any open handles and live blocks of the client's own, and *any fault plan* (any set of
failing alloc / open / read / write calls) — every fuel, and every LZX decoder body
(`lzxd_decompress` over `oabd_sys`) that satisfies the frame law `Lawful`: run with a live input
and a live output handle it leaves the ledger as it was, whatever it returns for its status, for
`in_ofh.available` and for `out_ofh.crc`.  `some ()` excludes only runs in which a loop ran out of
fuel, which is not a return of the C function (termination is C04's business).
-/
namespace MsPack.Oab
open MsPack.Sys MsPack.Oab.Api
open MsPack.Szdd.Api (Frame)

/-- create; any client program; destroy: the ledger is back where it started and no misuse of the
    interface was recorded on the way -/
theorem C09_oab_ledger_restored (body : Body) (hb : Lawful body) (fuel : Nat) (ops : List Op) (w : World)
    (hok : w.view.ok) (hret : (program body fuel ops w).1 = some ()) :
    (program body fuel ops w).2.liveAllocs = w.liveAllocs ∧
    (program body fuel ops w).2.liveHandles.map (fun h => (h.id, h.mode)) = w.liveHandles.map (fun h => (h.id, h.mode)) ∧
    (program body fuel ops w).2.misuse = w.misuse :=
  Ret.restored (program_spec body hb fuel ops) hok hret

/-- from an empty ledger (a fresh process): nothing is live afterwards, nothing was misused -/
theorem C09_oab_nothing_left (body : Body) (hb : Lawful body) (fuel : Nat) (ops : List Op)
    (files : List (String × Bytes)) (plan : List (Kind × Nat))
    (hret : (program body fuel ops { files := files, plan := plan }).1 = some ()) :
    (program body fuel ops { files := files, plan := plan }).2.liveAllocs = [] ∧
    (program body fuel ops { files := files, plan := plan }).2.liveHandles = [] ∧
    (program body fuel ops { files := files, plan := plan }).2.misuse = [] :=
  nothing_left (fun hok => C09_oab_ledger_restored body hb fuel ops _ hok hret) rfl rfl rfl

/-- a body that does nothing (consumes no input, produces no output, CRC 0) satisfies the frame law -/
def trivialBody : Body := fun a _ _ => pure ⟨.ok, a.available, 0⟩

theorem trivialBody_lawful : Lawful trivialBody := fun _ _ _ w _ _ _ => Frame.refl w

/-- so does a body that really uses its handles the way `oabd_sys_read` / `oabd_sys_write` do: one
    clamped read of the input, one write of what was read, CRC of the accepted bytes -/
def pumpBody : Body := fun a inFh outFh => do
  match ← read inFh (if a.inbufSize > a.available then a.available else a.inbufSize) with
  | none => return ⟨.read, a.available, 0xffffffff⟩
  | some bs =>
    match ← write outFh bs with
    | none => return ⟨.write, a.available - bs.length, 0xffffffff⟩
    | some _ => return ⟨.ok, a.available - bs.length, crc32 0xffffffff bs⟩

theorem pumpBody_lawful : Lawful pumpBody := by
  intro a inFh outFh w hok hin hout
  refine Plus.frame ((?_ : Pres (Plus w.view [] []) (pumpBody a inFh outFh)) w (.of_view_eq hok rfl))
  unfold pumpBody
  refine .bind (Plus.read _ hin) fun r => ?_
  cases r with
  | none => exact .pure fun _ p => p
  | some bs =>
    refine .bind (Plus.write _ hout) fun r2 => ?_
    cases r2 <;> exact .pure fun _ p => p

def w32 (n : Nat) : Bytes := [n % 256, n / 256 % 256, n / 65536 % 256, n / 16777216 % 256].map (·.toUInt8)

/-- a full-download OAB file (block_max 100, target size 7) with two stored blocks: 1 2 3 4 and 5 6 7 -/
def storedFile : Bytes :=
  w32 3 ++ w32 1 ++ w32 100 ++ w32 7 ++
  w32 0 ++ w32 4 ++ w32 4 ++ w32 0 ++ [1, 2, 3, 4] ++
  w32 0 ++ w32 3 ++ w32 3 ++ w32 0 ++ [5, 6, 7]

/-- a full-download OAB file with one LZX block (4 bytes compressed, 7 bytes target, CRC field 0) -/
def lzxFile : Bytes :=
  w32 3 ++ w32 1 ++ w32 100 ++ w32 7 ++
  w32 1 ++ w32 4 ++ w32 7 ++ w32 0 ++ [9, 9, 9, 9]

/-- a patch file (version 3.2, block_max 100, target size 7) with one block: 4 bytes of patch,
    7 bytes of target, 4 bytes of source, CRC field 0 -/
def patchFile : Bytes :=
  w32 3 ++ w32 2 ++ w32 100 ++ w32 4 ++ w32 7 ++ w32 0 ++ w32 0 ++
  w32 4 ++ w32 7 ++ w32 4 ++ w32 0 ++ [9, 9, 9, 9]

/-- non-vacuity: a program over both API functions that returns, on a world where faults are planned
    and fire: the 2nd write is the second stored block of the first step (MSPACK_ERR_WRITE with both
    handles and `buf` live), the 5th allocation is the LZX window of the third step (`lzxd_init`
    still asks for the input buffer, then frees what it got), the 10th read is the reference data of
    the patch block (`lzxd_set_reference_data` fails with the stream live: it is freed at `out:`),
    and the last step names a file that does not exist -/
example : (program trivialBody 100
            [.decompress "x" "o1", .setParam 0 16, .decompress "l" "o2", .decompressIncremental "p" "x" "o3",
             .decompress "x" "o4", .decompressIncremental "p" "x" "x", .decompress "missing" "o5"]
            { files := [("x", storedFile), ("l", lzxFile), ("p", patchFile)],
              plan := [(.write, 2), (.alloc, 5), (.read, 10)] }).1 = some () := by decide +kernel

/-- the three planned faults are met where the comment above says: the statuses of the single calls -/
example :
    (Api.decompress trivialBody ⟨0, 4096⟩ "x" "o" 100 { files := [("x", storedFile)], nextId := 1, plan := [(.write, 2)] }).1
      = some .write ∧
    (Api.decompress trivialBody ⟨0, 4096⟩ "l" "o" 100 { files := [("l", lzxFile)], nextId := 1, plan := [(.alloc, 3)] }).1
      = some .nomemory ∧
    (Api.decompressIncremental trivialBody ⟨0, 4096⟩ "p" "x" "o" 100
      { files := [("x", storedFile), ("p", patchFile)], nextId := 1, plan := [(.read, 3)] }).1 = some .read ∧
    (Api.decompress pumpBody ⟨0, 4096⟩ "l" "o" 100 { files := [("l", lzxFile)], nextId := 1 }).1 = some .checksum := by
  decide +kernel

/-- on the fault-free world the stored blocks really are copied; and `lzxd_init` puts the three blocks of the
    stream on top of what is live (here block 3) -/
example :
    (Api.decompress trivialBody ⟨0, 4096⟩ "x" "o" 100 { files := [("x", storedFile)], nextId := 1 }).1 = some .ok ∧
    (Api.decompress trivialBody ⟨0, 4096⟩ "x" "o" 100 { files := [("x", storedFile)], nextId := 1 }).2.files.lookup "o"
      = some [1, 2, 3, 4, 5, 6, 7] ∧
    (lzxdInit 17 4096 { nextId := 4, liveAllocs := [3] }).2.liveAllocs = [6, 5, 4, 3] := by
  decide +kernel

end MsPack.Oab
