import MsPack.Cab.Headers
import MsPack.Szdd.Decompress
import MsPack.Kwaj.Headers
import Proofs.Lemmas.RdFacts
/-!
# C10 (c) — a file at least as long as the format's header whose signature bytes are wrong is
refused with MSPACK_ERR_SIGNATURE

Proved on the header models of CAB, SZDD and KWAJ for every file content; CHM in `C10Chm.lean`
(`chm_signature_refused`, `chm_guid_refused`, `chm_open_signature_refused`, `chm_signature_only`); OAB has no
signature.  Clauses (a) `last_error` synchronisation and (b) single
host failures are fault enumeration on the implementation.
-/
namespace MsPack.C10

theorem readExact_some {file : Bytes} {off n : Nat} (h : off + n ≤ file.length) :
    (⟨file, off⟩ : Rd).readExact n = some ((file.drop off).take n, ⟨file, off + n⟩) :=
  Rd.readExact_eq_some_iff.2 ⟨by show n ≤ file.length - off; omega, rfl, rfl⟩

/-- CAB: 36 bytes are there and the first four are not "MSCF" ⇒ SIGNATURE, in either mode -/
theorem cab_signature_refused (file : Bytes) (off : Nat) (salvage : Bool)
    (hlen : off + 36 ≤ file.length)
    (hsig : u32At ((file.drop off).take 36) 0 ≠ 0x4643534D) :
    Cab.readHeaders file off salvage = .error .signature := by
  unfold Cab.readHeaders
  rw [readExact_some hlen]
  simp [hsig]

/-- SZDD: 8 bytes are there and they are neither signature ⇒ SIGNATURE -/
theorem szdd_signature_refused (file : Bytes) (hlen : 8 ≤ file.length)
    (h1 : Szdd.sigMatches (file.take 8) Generated.szddSignatureExpand = false)
    (h2 : Szdd.sigMatches (file.take 8) Generated.szddSignatureQbasic = false) :
    (Szdd.readHeaders ⟨file, 0⟩).1 = .error .signature ∧ (Szdd.open_ (some file)) = (none, .signature) := by
  have hr : (⟨file, 0⟩ : Rd).readExact 8 = some (file.take 8, ⟨file, 8⟩) := by
    have := readExact_some (file := file) (off := 0) (n := 8) (by omega)
    simpa using this
  constructor
  · unfold Szdd.readHeaders; rw [hr]; simp [h1, h2]
  · unfold Szdd.open_ Szdd.readHeaders; simp only; rw [hr]; simp [h1, h2]

/-- KWAJ: the 14 header bytes are there and the two signature words are wrong ⇒ SIGNATURE -/
theorem kwaj_signature_refused (fill : UInt8) (file : Bytes) (hlen : 14 ≤ file.length)
    (hsig : u32At (file.take 14) 0 ≠ 0x4A41574B ∨ u32At (file.take 14) 4 ≠ 0xD127F088) :
    Kwaj.readHeaders fill ⟨file, 0⟩ = .ok (.error .signature, ⟨file, 14⟩) := by
  have hr : (⟨file, 0⟩ : Rd).readExact 14 = some (file.take 14, ⟨file, 14⟩) := by
    have := readExact_some (file := file) (off := 0) (n := 14) (by omega)
    simpa using this
  unfold Kwaj.readHeaders
  have : Generated.kwajhSIZEOF = 14 := rfl
  rw [this, hr]
  simp [hsig]

end MsPack.C10
