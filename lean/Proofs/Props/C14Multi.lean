import Proofs.Lemmas.FindMulti
import Proofs.Props.C14
/-!
# C14 — search() finds EVERY embedded cabinet: several planted cabinets

A file of the shape `junk_0 ++ cab_1 ++ junk_1 ++ cab_2 ++ … ++ cab_k ++ junk_k` (`layout segs last`; `segs` lists
`(junk_{i-1}, cab_i, c_i)`, `last = junk_k`).  Premises, per planted cabinet (`SegOk`):
* the junk piece in front of it does not contain the four signature bytes "MSCF" (any proper prefix of it may stand
  directly in front of the cabinet) — needed per piece, because the scan restarts in state 0 behind each cabinet;
* the cabinet parses at its offset in the whole file, to `c_i`;
* its length field (header bytes 8..11) is the number of bytes it occupies, so that the restart `caboff + cablen`
  lands on the first byte of the next junk piece; and it is at least 20 bytes long, i.e. the two header fields the
  scanner reads (8..11, 16..19) are the cabinet's own bytes — without this the other premises can be met by a
  9-byte "cabinet" whose length field is completed by the following junk, and the scan then restarts elsewhere
  (see the example at the end);
* its two length fields pass the scanner's "likely cabinet" test.
`junk_k` contains no signature either.  Then, for every search-buffer size ≥ 1, strict or salvage, `search()`
reports exactly `[c_1, …, c_k]`: every planted cabinet, in file order, and nothing else.
-/
namespace MsPack.Cab

/-- **completeness for several cabinets**, premises in recursive form -/
theorem C14_finds_all_planted_rec (n : Nat) (hn : 1 ≤ n) (sv : Bool) (segs : List Planted) (last : Bytes)
    (hlast : ¬ sig <:+: last) (hp : PlantedAt sv (layout segs last) 0 segs) :
    find n sv (layout segs last) = (segs.map (·.parsed), .done) := by
  have h1 := findLoop_planted n hn sv (layout segs last) last hlast segs [] [] rfl hp
  have h2 := C14_never_hangs n hn sv (layout segs last)
  simp only [List.length_nil, List.reverse_nil, List.nil_append] at h1
  exact Prod.ext h1 h2

/-- **completeness for several cabinets**: in `junk_0 ++ cab_1 ++ junk_1 ++ … ++ cab_k ++ junk_k`, where no junk
    piece contains the signature and every `cab_i` parses at its offset `off_i` (`cabOffsets`, characterised by
    `cabOffsets_spec` / `layout_split`), occupies exactly `cablen` (≥ 20) bytes and passes the "likely cabinet" test,
    `search()` returns exactly the planted cabinets in order — for every buffer size, strict or salvage -/
theorem C14_finds_all_planted (n : Nat) (hn : 1 ≤ n) (sv : Bool) (segs : List Planted) (last : Bytes)
    (hlast : ¬ sig <:+: last)
    (hsegs : ∀ p ∈ segs.zip (cabOffsets 0 segs),
      ¬ sig <:+: p.1.junk ∧ 20 ≤ p.1.cab.length ∧ u32At p.1.cab 8 = p.1.cab.length ∧
      readHeaders (layout segs last) p.2 sv = .ok p.1.parsed ∧
      plausible (layout segs last).length sv ⟨p.2, u32At p.1.cab 8, u32At p.1.cab 16⟩ = true) :
    (find n sv (layout segs last)).1 = segs.map (·.parsed) := by
  rw [C14_finds_all_planted_rec n hn sv segs last hlast (plantedAt_of_forall sv _ segs 0 hsegs)]

/-- in particular every planted cabinet is found -/
theorem C14_finds_all_planted_mem (n : Nat) (hn : 1 ≤ n) (sv : Bool) (segs : List Planted) (last : Bytes)
    (hlast : ¬ sig <:+: last) (hp : PlantedAt sv (layout segs last) 0 segs) :
    ∀ s ∈ segs, s.parsed ∈ (find n sv (layout segs last)).1 := by
  intro s hs
  rw [C14_finds_all_planted_rec n hn sv segs last hlast hp]
  exact List.mem_map.mpr ⟨s, hs, rfl⟩

-- the file "MM" ++ exampleCab ++ "MSC" ++ exampleCab ++ "MS"

def exJunk0 : Bytes := [0x4D, 0x4D]
def exJunk1 : Bytes := [0x4D, 0x53, 0x43]
def exLast  : Bytes := [0x4D, 0x53]
def exFile2 : Bytes := exJunk0 ++ (exampleCab ++ (exJunk1 ++ (exampleCab ++ exLast)))

theorem no_sig_of_short (j : Bytes) (h : j.length < 4) : ¬ sig <:+: j := by
  rintro ⟨s, t, h'⟩
  have := congrArg List.length h'
  simp [sig] at this
  omega

-- the two copies parse at offsets 2 and 67 of the 131-byte file
set_option maxRecDepth 100000 in
example : exFile2.length = 131 ∧ (readHeaders exFile2 2 false).toOption.isSome = true ∧
    (readHeaders exFile2 67 false).toOption.isSome = true := by decide

-- the side premises of the two planted copies
theorem exJunk_ok : exJunk0.length < 4 ∧ exJunk1.length < 4 ∧ exLast.length < 4 := by decide
set_option maxRecDepth 100000 in
theorem exCab_ok : 20 ≤ exampleCab.length ∧ u32At exampleCab 8 = exampleCab.length ∧
    plausible exFile2.length false ⟨0 + exJunk0.length, u32At exampleCab 8, u32At exampleCab 16⟩ = true ∧
    plausible exFile2.length false
      ⟨0 + exJunk0.length + exampleCab.length + exJunk1.length, u32At exampleCab 8, u32At exampleCab 16⟩ = true := by
  decide

set_option maxRecDepth 100000 in
/-- the instantiated theorem: with any buffer size the search reports exactly the two planted copies, the ones that
    `readHeaders` yields at offsets 2 and 67 -/
theorem C14_two_planted (n : Nat) (hn : 1 ≤ n) :
    ∃ c1 c2, readHeaders exFile2 2 false = .ok c1 ∧ readHeaders exFile2 67 false = .ok c2 ∧
      c1.baseOffset = 2 ∧ c2.baseOffset = 67 ∧ find n false exFile2 = ([c1, c2], .done) := by
  have h1 : (readHeaders exFile2 2 false).toOption.isSome = true := by decide
  have h2 : (readHeaders exFile2 67 false).toOption.isSome = true := by decide
  cases hc1 : readHeaders exFile2 2 false with
  | error e => rw [hc1] at h1; cases h1
  | ok c1 =>
    cases hc2 : readHeaders exFile2 67 false with
    | error e => rw [hc2] at h2; cases h2
    | ok c2 =>
      refine ⟨c1, c2, rfl, rfl, (readHeaders_fields _ _ _ _ hc1).1, (readHeaders_fields _ _ _ _ hc2).1, ?_⟩
      have hfile : exFile2 = layout [⟨exJunk0, exampleCab, c1⟩, ⟨exJunk1, exampleCab, c2⟩] exLast := rfl
      rw [hfile]
      apply C14_finds_all_planted_rec n hn false _ exLast (no_sig_of_short _ exJunk_ok.2.2)
      rw [← hfile]
      exact ⟨⟨no_sig_of_short _ exJunk_ok.1, exCab_ok.1, exCab_ok.2.1, hc1, exCab_ok.2.2.1⟩,
        ⟨no_sig_of_short _ exJunk_ok.2.1, exCab_ok.1, exCab_ok.2.1, hc2, exCab_ok.2.2.2⟩, trivial⟩

/-! ## why `20 ≤ cab.length` is a premise

Without it the other premises can be met by a 9-byte "cabinet" whose length field (bytes 8..11) is completed by the
junk behind it: `u32At cab 8 = 9 = cab.length`, but the scanner reads 9 + 256 from the file and restarts there.
```
def cab1  : Bytes := [0x4D,0x53,0x43,0x46,0,0,0,0,9]
def junk1 : Bytes := [1] ++ exampleCab.drop 10                 -- no "MSCF"
def wfile : Bytes := cab1 ++ junk1 ++ exampleCab ++ List.replicate 120 0      -- 244 bytes
#eval (readHeaders wfile 0 false).toOption.map (fun c => (c.baseOffset, c.length))    -- some (0, 265)
#eval (readHeaders wfile 62 false).toOption.map (fun c => (c.baseOffset, c.length))   -- some (62, 62)
#eval plausible wfile.length false ⟨0, u32At cab1 8, u32At cab1 16⟩                   -- true
#eval plausible wfile.length false ⟨62, u32At exampleCab 8, u32At exampleCab 16⟩      -- true
#eval (find 4 false wfile).1.map (·.baseOffset)     -- [0]: the copy at 62 lies inside the 265 bytes that are skipped
```
(The C code does the same: it restarts at `caboff + cablen` with `cablen` as read from the file.)
-/

end MsPack.Cab
