import Proofs.Lemmas.CabApiLedger
/-
C09 (everything acquired is released, on every path) and, as far as the model's monitor records it,
the handle clauses of C20 (`read`, `write`, `seek`, `close` only on live handles, `read` / `write` in the
mode they were opened with; nothing freed or closed twice; `tell` is not monitored in this model) for
the CAB decompressor, proved on the effect model `MsPack/Cab/Api.lean` (cabd.c + the allocation skeletons of
noned / mszipd / qtmd / lzxd init and free, over the instrumented system `MsPack/Sys.lean`).

Quantifiers: every program a client can write against one decompressor (`Op` lists: `open`,
`search`, `close`, `extract`, `append` / `prepend` (`join`), `set_param`, in any order and number,
followed by the `close` of whatever the client still holds and `destroy`), every world — any file
contents, any open handles and live blocks of the client's own, and *any fault plan* (any set of
failing alloc / open / read / seek calls) — every value of the model's parameters (scanner
scripts, the Booleans of `extract`, merge kinds), and every decoder body that satisfies the switch
law `BodyLaw`: it leaves live blocks and the misuse record alone and, as far as handles go, may only
replace the cabinet handle it was given by a fresh one (`cabd_sys_read_block` moving on to the next
cabinet of a split folder) or lose it (that `open` failing).

The documented client discipline is built into the model, not assumed of the `Op` list: a group — the
result of `open`, or the whole `next` list `search` returned — is closed through its head (`close_`
ignores the position given for a member of a longer list); a set that is not part of a longer `next`
list may be closed through any member; `append` / `prepend` join sets of two *different* groups of
which at least one consists of a single set, and `runJoin` leaves the session unchanged for any other
join (cabd.c has no correct way to release the result of such a join).  So "every program" includes
such joins as steps that do nothing.
-/
namespace MsPack.Cab
open MsPack.Sys MsPack.Cab.Api
open MsPack.Szdd.Api (Frame)

/-- create; any client program; close of what is still held; destroy: the ledger is back where it
    started and no misuse of the interface was recorded on the way -/
theorem C09_cab_ledger_restored (body : Body) (hb : BodyLaw body) (ops : List Op) (w : World) (hok : w.view.ok) :
    (program body ops w).2.liveAllocs = w.liveAllocs ∧
    (program body ops w).2.liveHandles.map (fun h => (h.id, h.mode)) = w.liveHandles.map (fun h => (h.id, h.mode)) ∧
    (program body ops w).2.misuse = w.misuse := by
  have h : Frame w.view (program body ops w).2 :=
    (program_spec body hb ops w.view w (Own.of_view_eq hok rfl)).frame
  exact ⟨h.allocs, h.handles, h.misuse⟩

/-- from an empty ledger (a fresh process): nothing is live afterwards, nothing was misused -/
theorem C09_cab_nothing_left (body : Body) (hb : BodyLaw body) (ops : List Op)
    (files : List (String × Bytes)) (plan : List (Kind × Nat)) :
    (program body ops { files := files, plan := plan }).2.liveAllocs = [] ∧
    (program body ops { files := files, plan := plan }).2.liveHandles = [] ∧
    (program body ops { files := files, plan := plan }).2.misuse = [] :=
  nothing_left (fun hok => C09_cab_ledger_restored body hb ops _ hok) rfl rfl rfl

/-- the same for a session that is cut short anywhere: after any prefix of the client's steps the
    session owns exactly the decompressor, `self->d` and the groups it holds (so a client that stops
    there and closes / destroys leaves nothing) -/
theorem C09_cab_session_invariant (body : Body) (hb : BodyLaw body) (ops : List Op) (s : Sess) (v : View) (w : World)
    (h : SessInv v s w) : SessInv v (runOps body ops s w).1 (runOps body ops s w).2 :=
  runOps_spec hb ops s w h

def trivialBody : Body := fun _ inFh _ => pure ⟨.ok, inFh, none⟩

theorem trivialBody_lawful : BodyLaw trivialBody := fun _ _ _ _ _ _ _ =>
  ⟨rfl, rfl, Nat.le_refl _, Or.inl ⟨rfl, rfl⟩⟩

/-- a body that does what `cabd_sys_read_block` does at the end of a cabinet: close the current
    cabinet's handle, open the next cabinet (`name`), go on or give up -/
def switchBody (name : String) : Body := fun _ inFh _ =>
  match inFh with
  | none => pure ⟨.read, none, none⟩
  | some h => do
    close h
    let n ← Sys.open_ name .read
    pure ⟨if n.isSome then .ok else .open_, n, none⟩

theorem switchBody_lawful (name : String) : BodyLaw (switchBody name) := by
  intro a inFh outFh w hok hin _
  cases inFh with
  | none => exact ⟨rfl, rfl, Nat.le_refl _, Or.inl ⟨rfl, rfl⟩⟩
  | some h =>
    have hc := close_live_view w hok h .read (hin h rfl)
    unfold switchBody
    simp only [bind_apply, pure_apply]
    generalize close h w = q at hc
    obtain ⟨_, w1⟩ := q
    dsimp only at hc ⊢
    have hn1 : w1.nextId = w.nextId := by
      have : w1.view.nextId = w.view.nextId := by rw [hc]
      exact this
    rcases open_spec name .read w1 with ⟨o1, o2⟩ | ⟨o1, o2⟩
    · rw [o1]
      refine ⟨by rw [o2, hc], by rw [o2, hc], by rw [o2, hc]; exact Nat.le_refl _, Or.inr ⟨h, rfl, ?_, ?_⟩⟩
      · rw [o2, hc]; rfl
      · intro x hx; cases hx
    · rw [o1]
      refine ⟨by rw [o2, hc], by rw [o2, hc], ?_, Or.inr ⟨h, rfl, ?_, ?_⟩⟩
      · rw [o2, hc]; show w.nextId ≤ w1.nextId + 1; omega
      · rw [o2, hc]; rfl
      · intro x hx
        cases hx
        rw [o2]
        show w.nextId ≤ w1.nextId ∧ w1.nextId < w1.nextId + 1
        omega

def w16 (n : Nat) : Bytes := [n % 256, n / 256 % 256].map (·.toUInt8)
def w32 (n : Nat) : Bytes := [n % 256, n / 256 % 256, n / 65536 % 256, n / 16777216 % 256].map (·.toUInt8)

/-- a cabinet with one stored folder (one data block: 1 2 3) and one file "a" of 3 bytes -/
def tinyCab : Bytes :=
  [0x4D, 0x53, 0x43, 0x46] ++ w32 0 ++ w32 73 ++ w32 0 ++ w32 44 ++ w32 0 ++ [3, 1] ++ w16 1 ++ w16 1 ++ w16 0 ++
    w16 7 ++ w16 0 ++
  w32 62 ++ w16 1 ++ w16 0 ++
  w32 3 ++ w32 0 ++ w16 0 ++ w16 0 ++ w16 0 ++ w16 0x20 ++ [0x61, 0] ++
  w32 0 ++ w16 3 ++ w16 3 ++ [1, 2, 3]

/-- `open` really builds the cabinet: four blocks (cabinet, folder, file, name) -/
example :
    (open_ { self := 0 } "c" { files := [("c", tinyCab)], nextId := 1, liveAllocs := [0] }).2.liveAllocs = [5, 4, 3, 2, 0] := by
  decide +kernel

example :
    ((open_ { self := 0 } "c" { files := [("c", tinyCab)], nextId := 1, liveAllocs := [0] }).1.2.map
      (fun c => (c.folders.length, c.files.length))) = some (1, 1) := by decide +kernel

/-- a session with planned faults that fire -/
def demoWorld : World := { files := [("c", tinyCab), ("d", tinyCab)], plan := [(.alloc, 6), (.open_, 9)] }

/-- two cabinets opened (the second `open` fails first: in the `runOps` examples below the 6th allocation
    is the second cabinet's folder, so `cabd_close` has a half-built cabinet to free; in the `program`
    example, where `create` has taken one allocation, it is the cabinet block itself), a folder merge (new data part; the right folder and
    its file entry freed), an extract whose body moves on to the next cabinet file twice, a search
    that reads one candidate and then meets a short read, an extract that has to reset the folder and
    cannot reopen the cabinet (9th `open`), the close of the joined set (which also drops `self->d`),
    an `open` of a missing file -/
def demoOps : List Op :=
  [.open_ "c", .open_ "d", .open_ "d", .join 0 0 1 0 .folders, .extract 0 0 0 true false false true "o1",
   .search "c" [⟨73, some ⟨true, 0, 73, false, false⟩⟩, ⟨10, some ⟨true, 4, 73, true, true⟩⟩],
   .extract 0 0 0 true true false false "o2", .close 1 0, .open_ "missing"]

/-- before the final clean-up the session holds: the decompressor (0) and the cabinet `search` found -/
example :
    (runOps (switchBody "d") demoOps { inst := { self := 0 } } { demoWorld with nextId := 1, liveAllocs := [0] }).2.liveAllocs
      = [26, 25, 24, 23, 0] := by decide +kernel

/-- during it: after the first extract `self->d` (14), the two blocks of the stored decoder (17, 16)
    and the handle of the cabinet file the body switched to (20) are live -/
example :
    (runOps (switchBody "d") (demoOps.take 5) { inst := { self := 0 } } { demoWorld with nextId := 1, liveAllocs := [0] }).2.liveAllocs
      = [17, 16, 14, 13, 12, 11, 10, 9, 2, 0] := by decide +kernel

example :
    (runOps (switchBody "d") (demoOps.take 5) { inst := { self := 0 } } { demoWorld with nextId := 1, liveAllocs := [0] }).2.liveHandles.map
      (fun h => (h.id, h.mode)) = [(20, Mode.read)] := by decide +kernel

/-- and the whole program leaves nothing -/
example : (program (switchBody "d") demoOps demoWorld).2.liveAllocs = [] := by decide +kernel

end MsPack.Cab
