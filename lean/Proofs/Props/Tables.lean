import MsPack.Generated.Tables
import MsPack.Generated.Consts
import MsPack.Spec.Tables
/-!
# Obligations on the tables and constants the translator extracts from the source at every check

Each table theorem says: the table found in `/repo` equals the closed form the specifications use; the `*_dims`
theorems give the declared lengths of the LZX, Quantum and MSZIP tables.  All are closed by evaluation (`decide`,
`decide +kernel` for the long tables), so a changed entry, a shrunk array or a changed constant breaks a proof here
before any test input is needed.
-/
namespace MsPack.TableObligations
open MsPack.Generated MsPack.Spec

theorem lzx_extra_bits : lzxExtraBits = (List.range 36).map lzxExtra := by decide +kernel
theorem lzx_position_base : lzxPositionBase = (List.range 290).map lzxBase := by decide +kernel
/-- the slot count for window `2^(15+k)` is where `position_base` reaches the window size -/
theorem lzx_position_slots :
    lzxPositionSlots.length = 11 ∧
    ∀ k, k < 11 → lzxBase (lzxPositionSlots.getD k 0) = 2 ^ (15 + k) := by decide +kernel
theorem lzx_dims : lzxPositionSlotsDim = 11 ∧ lzxExtraBitsDim = 36 ∧ lzxPositionBaseDim = 290 := by decide

theorem qtm_extra_bits : qtmExtraBits = (List.range 42).map slotExtra := by decide +kernel
theorem qtm_position_base : qtmPositionBase = (List.range 42).map qtmBase := by decide +kernel
theorem qtm_length_extra : qtmLengthExtra = (List.range 27).map qtmLenExtra := by decide +kernel
theorem qtm_length_base : qtmLengthBase = (List.range 27).map qtmLenBase := by decide +kernel
theorem qtm_dims : qtmPositionBaseDim = 42 ∧ qtmExtraBitsDim = 42 ∧ qtmLengthBaseDim = 27 ∧
    qtmLengthExtraDim = 27 := by decide

theorem zip_lit_lengths : zipLitLengths = (List.range 29).map zipLenBase := by decide +kernel
theorem zip_lit_extrabits : zipLitExtrabits = (List.range 29).map zipLenExtra := by decide +kernel
theorem zip_dist_offsets : zipDistOffsets = (List.range 30).map zipDistBase := by decide +kernel
theorem zip_dist_extrabits : zipDistExtrabits = (List.range 30).map zipDistExtra := by decide +kernel
theorem zip_bitlen_order : MsPack.Generated.zipBitlenOrder = MsPack.Spec.zipBitlenOrder := by decide
theorem zip_dims : zipLitLengthsDim = 29 ∧ zipDistOffsetsDim = 30 ∧ zipLitExtrabitsDim = 29 ∧
    zipDistExtrabitsDim = 30 ∧ zipBitlenOrderDim = 19 := by decide

theorem lsb_bit_mask : lsbBitMask = (List.range 17).map (fun n => 2 ^ n - 1) := by decide +kernel

/-- `crc32_table` is the table of the reflected polynomial 0xEDB88320 -/
theorem crc32_table_is_crc32 : crc32Table = (List.range 256).map crcEntry := by decide +kernel

theorem szdd_signatures :
    szddSignatureExpand = [0x53, 0x5A, 0x44, 0x44, 0x88, 0xF0, 0x27, 0x33] ∧
    szddSignatureQbasic = [0x53, 0x5A, 0x20, 0x88, 0xF0, 0x27, 0x33, 0xD1] := by decide

/-- status codes and callback modes as documented in mspack.h -/
theorem api_constants :
    errOk = 0 ∧ errArgs = 1 ∧ errOpen = 2 ∧ errRead = 3 ∧ errWrite = 4 ∧ errSeek = 5 ∧
    errNomemory = 6 ∧ errSignature = 7 ∧ errDataformat = 8 ∧ errChecksum = 9 ∧ errCrunch = 10 ∧
    errDecrunch = 11 ∧ sysOpenRead = 0 ∧ sysOpenWrite = 1 ∧ sysSeekStart = 0 ∧ sysSeekCur = 1 ∧
    sysSeekEnd = 2 := by decide

/-- CAB record layout the header model hard-codes -/
theorem cab_layout :
    cfheadSignature = 0 ∧ cfheadCabinetSize = 8 ∧ cfheadNumFolders = 0x1A ∧ cfheadNumFiles = 0x1C ∧
    cfheadFlags = 0x1E ∧ cfheadSetID = 0x20 ∧ cfheadCabinetIndex = 0x22 ∧ cfheadSIZEOF = 36 ∧
    cfheadextHeaderReserved = 0 ∧ cfheadextFolderReserved = 2 ∧ cfheadextDataReserved = 3 ∧
    cfheadextSIZEOF = 4 ∧ cffoldDataOffset = 0 ∧ cffoldNumBlocks = 4 ∧ cffoldCompType = 6 ∧
    cffoldSIZEOF = 8 ∧ cffileUncompressedSize = 0 ∧ cffileFolderOffset = 4 ∧ cffileFolderIndex = 8 ∧
    cffileDate = 10 ∧ cffileTime = 12 ∧ cffileAttribs = 14 ∧ cffileSIZEOF = 16 ∧
    cfdataCheckSum = 0 ∧ cfdataCompressedSize = 4 ∧ cfdataUncompressedSize = 6 ∧ cfdataSIZEOF = 8 ∧
    cfheadPREV_CABINET = 1 ∧ cfheadNEXT_CABINET = 2 ∧ cfheadRESERVE_PRESENT = 4 ∧
    cffileCONTINUED_FROM_PREV_ = 0xFFFD ∧ cffileCONTINUED_TO_NEXT_ = 0xFFFE ∧
    cffileCONTINUED_PREV_AND_NEXT_ = 0xFFFF := by decide

/-- the block reader's buffer holds the largest block either mode lets through, plus Quantum's
    trailer byte (what `C02_block_fits_buffer` in `C02.lean` needs of the constants) -/
theorem cab_block_fits :
    cabINPUTMAX + 1 ≤ cabInputDim ∧ cabINPUTMAX_SALVAGE + 1 ≤ cabInputDim ∧
    cabINPUTBUF = cabInputDim ∧ cabINPUTMAX = 32768 + 6144 ∧ cabINPUTMAX_SALVAGE = 65535 ∧
    cabBLOCKMAX = 32768 := by decide

end MsPack.TableObligations
