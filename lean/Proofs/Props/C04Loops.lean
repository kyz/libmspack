import Proofs.Lemmas.LoopTerm
import Proofs.Lemmas.LoopTermSys
import Proofs.Lemmas.LoopTermOab
import Proofs.Lemmas.LoopTermOabSys
import Proofs.Lemmas.LoopTermChm
import Proofs.Lemmas.LoopTermLzh
import Proofs.Lemmas.LoopTermZip
import Proofs.Lemmas.LoopTermKwaj
import Proofs.Lemmas.LoopTermCab
import Proofs.Lemmas.LoopTermLzx
import MsPack.Driver.OabSys
import MsPack.Driver.Szdd
import MsPack.Driver.Kwaj
import MsPack.Driver.Oab
import MsPack.Driver.SzddSys
/-!
# C04 — every call terminates after bounded work: the fuel loops

Every model loop that is not structurally recursive runs on a `fuel` argument and reports
"out of fuel" as `Fault.hang` (pure models) or `none` (effect models over `Sys.M`).  Proved here:
with the fuel the entry points pass — a bound computed from the input size — that outcome is
unreachable, for every input.  The pattern is that of `Proofs/Props/C04.lean` (CAB feeder) and
`C14_never_hangs`: a measure every iteration decreases (input bytes left, 16-byte block headers
left, bytes still to copy) and induction on the fuel.

Sources: the decoders read from an abstract `Src σ`.  What is assumed of one is `Src.Finite S rem`
(`Proofs/Lemmas/Src.lean`): a bound `rem s` on the bytes still to come that every successful
`read` lowers by at least what it delivers, and `read` itself never reports `hang`.  The file-backed
source `Rd.src` is finite with `rem r = r.file.length - r.pos` (`Rd.src_finite`).
-/
namespace MsPack
open MsPack.Generated

/-- `lzss_decompress` over any finite source: more fuel than bytes left suffices — every round of
    the main loop consumes at least the control byte.  Measure: buffered bytes + `rem src`. -/
theorem C04_lzss_no_hang {σ : Type} (S : Src σ) (rem : σ → Nat) (hS : S.Finite rem) (fuel : Nat) (src : σ)
    (bufSize mode : Nat) (h : rem src + 1 ≤ fuel) : Lzss.decompress S fuel src bufSize mode ≠ .error .hang :=
  Lzss.decompress_no_hang S rem hS fuel src bufSize mode h

/-- non-vacuity: the file-backed source is finite; and `hang` is a real outcome of the model when the fuel is
    too small (one round of fuel, two rounds of input; a 16-byte ring is enough for eight literals) -/
example : Src.Finite Rd.src Rd.left := Rd.src_finite
example : (match Lzss.mainLoop Rd.src 0 1
      { src := ⟨[0xFF, 1, 2, 3, 4, 5, 6, 7, 8, 0xFF, 9], 0⟩, inbufSize := 16, window := Array.replicate 16 0, pos := 0 } with
    | .fault .hang => true | _ => false) = true := by decide

/-- `szddd_extract` with the fuel the driver passes (`16 × file length + 100000`) -/
theorem C04_szdd_extract_no_hang (h : Szdd.Handle) :
    Szdd.extract (Driver.Szdd.fuelFor h.rd.file.length) h ≠ .error .hang :=
  Szdd.extract_no_hang _ h (by unfold Driver.Szdd.fuelFor; omega)

/-- `szddd_decompress` with the fuel the driver passes -/
theorem C04_szdd_decompress_no_hang (file : Option Bytes) :
    Szdd.decompress (Driver.Szdd.fuelFor (file.getD []).length) file ≠ .error .hang :=
  Szdd.decompress_no_hang _ file (by unfold Driver.Szdd.fuelFor; omega)

/-- the KWAJ copy loop (methods NONE / XOR): every round moves at least one byte -/
theorem C04_kwaj_copy_no_hang (xor : Bool) (r : Rd) (w : Array UInt8) (fuel : Nat) (h : r.left + 1 ≤ fuel) :
    Kwaj.copyLoop xor fuel r w ≠ .error .hang :=
  Kwaj.copyLoop_no_hang xor fuel r w h

/-! ### the effect models (`Sys.M`): every world — any files, any fault plan -/

/-- `lzss_decompress` over the instrumented system: more fuel than the input handle has bytes left
    (`Sys.inLeft`) suffices, whatever the files, the handle table and the planned failures are -/
theorem C04_lzss_sys_no_hang (inFh outFh bufsize : Nat) (qb : Bool) (fuel : Nat) (w : Sys.World)
    (h : Sys.inLeft w inFh + 1 ≤ fuel) : (Szdd.Api.lzss inFh outFh bufsize qb fuel w).1 ≠ none :=
  Szdd.Api.lzss_no_hang inFh outFh bufsize qb fuel w h

/-- `szddd_decompress` (effect model) with the fuel `mspack-driver --sys` passes: file length + 16 -/
theorem C04_szdd_sys_decompress_no_hang (i : Szdd.Api.Inst) (input output : String) (w : Sys.World) :
    (Szdd.Api.decompress i input output (Driver.SzddSys.fuelFor w input) w).1 ≠ none :=
  Szdd.Api.decompress_no_hang i input output _ w (by unfold Driver.SzddSys.fuelFor; omega)

/-- the fuel the driver computes from the name of the file a live handle reads covers that file's length
    (a handle that is not live reads nothing) -/
theorem Sys.inSize_lt_fuelFor (w : Sys.World) (fh : Nat) :
    Sys.inSize w fh + 1 ≤ Driver.SzddSys.fuelFor w (((w.liveHandles.find? (·.id = fh)).map (·.name)).getD "") := by
  unfold Driver.SzddSys.fuelFor Sys.inSize Sys.findHandle
  cases w.liveHandles.find? (fun x => decide (x.id = fh)) with
  | none => simp
  | some hd =>
    simp only [Option.map_some, Option.getD_some, Sys.hSize]
    split <;> omega

/-- `szddd_extract` (effect model) with the driver's fuel: the length of the file the handle reads -/
theorem C04_szdd_sys_extract_no_hang (i : Szdd.Api.Inst) (h : Szdd.Api.Hdr) (out : String) (w : Sys.World) :
    (Szdd.Api.extract i h out
      (Driver.SzddSys.fuelFor w (((w.liveHandles.find? (·.id = h.fh)).map (·.name)).getD "")) w).1 ≠ none :=
  Szdd.Api.extract_no_hang i h out _ w (Sys.inSize_lt_fuelFor w h.fh)

/-- `kwajd_extract` (effect model: stored, XOR and SZDD methods run their loops; the LZH and MSZIP
    bodies are parameters that return) with the driver's fuel -/
theorem C04_kwaj_sys_extract_no_hang (d : Kwaj.Api.Decoders) (i : Kwaj.Api.Inst) (h : Kwaj.Api.Hdr) (out : String)
    (w : Sys.World) :
    (Kwaj.Api.extract d i h out
      (Driver.SzddSys.fuelFor w (((w.liveHandles.find? (·.id = h.fh)).map (·.name)).getD "")) w).1 ≠ none :=
  Kwaj.Api.extract_no_hang d i h out _ w (Sys.inSize_lt_fuelFor w h.fh)

/-- `kwajd_decompress` (effect model) with the driver's fuel -/
theorem C04_kwaj_sys_decompress_no_hang (d : Kwaj.Api.Decoders) (i : Kwaj.Api.Inst) (input output : String)
    (w : Sys.World) : (Kwaj.Api.decompress d i input output (Driver.SzddSys.fuelFor w input) w).1 ≠ none :=
  Kwaj.Api.decompress_no_hang d i input output _ w (by unfold Driver.SzddSys.fuelFor; omega)

/-- `copy_fh`: `bytes_to_copy` rounds suffice when the buffer has at least one byte (`oabd_param`
    refuses less than 16: `Oab.param_bufSize`).  Measure: bytes still to copy. -/
theorem C04_oab_copyFh_no_hang (toOut : Bool) (rd : Rd) (n bufSize : Nat) (hb : 1 ≤ bufSize) :
    Oab.copyFh toOut rd n bufSize ≠ .error .hang :=
  Oab.copyFh_no_hang toOut rd n bufSize hb

/-- with `buf_size = 0` the C's `copy_fh` spins for ever, and so does the model: the premise is needed -/
example : (match Oab.copyFh false ⟨[1, 2, 3], 0⟩ 2 0 with | .error .hang => true | _ => false) = true := by decide

/-- `oabd_decompress`, every input file: neither `copy_fh` nor the block loop (`file length / 16 + 1`
    rounds; measure: 16-byte headers that still fit into the rest of the file) runs out of fuel —
    for every LZX decoder fuel with which the decoder, started with empty buffers on the file the input
    handle reads (the input file, or nothing if the output has truncated it), does not hang itself and
    leaves the handle where it was or further on (`Oab.LzxTerm`) -/
theorem C04_oab_decompress_no_hang (fuel bufSize : Nat) (hb : 1 ≤ bufSize) (fill : UInt8)
    (input : Option Bytes) (outIsIn : Bool) (hL : Oab.LzxTerm fuel (if outIsIn then [] else input.getD [])) :
    Oab.decompress fuel bufSize fill input outIsIn ≠ .error .hang :=
  Oab.decompress_no_hang fuel bufSize hb fill input outIsIn hL

/-- `oabd_decompress_incremental`, every patch and base file -/
theorem C04_oab_decompressIncremental_no_hang (fuel bufSize : Nat) (hb : 1 ≤ bufSize)
    (fill : UInt8) (input base : Option Bytes) (outIsIn outIsBase : Bool)
    (hL : Oab.LzxTerm fuel (if outIsIn then [] else input.getD [])) :
    Oab.decompressIncremental fuel bufSize fill input base outIsIn outIsBase ≠ .error .hang :=
  Oab.decompressIncremental_no_hang fuel bufSize hb fill input base outIsIn outIsBase hL

/-- `oabd_decompress` with the fuel the driver passes, **unconditionally** (every input file, every buffer size
    ≥ 1): the hypothesis above is discharged by the LZX termination theorem `C04_lzx_oab_term` -/
theorem C04_oab_decompress_driver_no_hang (bufSize : Nat) (hb : 1 ≤ bufSize) (fill : UInt8) (input : Option Bytes)
    (outIsIn : Bool) :
    Oab.decompress (Driver.Oab.fuelFor (input.getD []).length) bufSize fill input outIsIn ≠ .error .hang :=
  Oab.decompress_driver_no_hang _ bufSize hb fill input outIsIn (by unfold Driver.Oab.fuelFor; omega)

theorem C04_oab_decompressIncremental_driver_no_hang (bufSize : Nat) (hb : 1 ≤ bufSize) (fill : UInt8)
    (input base : Option Bytes) (outIsIn outIsBase : Bool) :
    Oab.decompressIncremental (Driver.Oab.fuelFor (input.getD []).length) bufSize fill input base outIsIn outIsBase
      ≠ .error .hang :=
  Oab.decompressIncremental_driver_no_hang _ bufSize hb fill input base outIsIn outIsBase
    (by unfold Driver.Oab.fuelFor; omega)

/-- the two block loops with their `file length / 16 + 1` rounds, for any handle, given that the LZX decoder
    terminates (`hL`) -/
theorem C04_oab_fullLoop_no_hang (fuel bufSize : Nat) (hb : 1 ≤ bufSize) (fill : UInt8) (blockMax : Nat) (rd : Rd)
    (t : Nat) (w : Bytes) (hL : Oab.LzxTerm fuel rd.file) :
    Oab.fullLoop fuel bufSize fill blockMax (rd.file.length / 16 + 1) rd t w ≠ .error .hang :=
  Oab.fullLoop_no_hang fuel bufSize hb fill blockMax _ rd t w hL
    (by have : rd.left / 16 ≤ rd.file.length / 16 := Nat.div_le_div_right (by unfold Rd.left; omega); omega)

theorem C04_oab_patchLoop_no_hang (fuel bufSize lzxBuf : Nat) (hb : 1 ≤ bufSize) (fill : UInt8) (blockMax : Nat)
    (base : Bytes) (ob : Bool) (rd : Rd) (bp t : Nat) (w : Bytes) (hL : Oab.LzxTerm fuel rd.file) :
    Oab.patchLoop fuel bufSize lzxBuf fill blockMax base ob (rd.file.length / 16 + 1) rd bp t w ≠ .error .hang :=
  Oab.patchLoop_no_hang fuel bufSize lzxBuf hb fill blockMax base ob _ rd bp t w hL
    (by have : rd.left / 16 ≤ rd.file.length / 16 := Nat.div_le_div_right (by unfold Rd.left; omega); omega)

/-- the buffer-size premise holds for every decompressor a client can configure -/
example (p v : Int) : 16 ≤ (Oab.param {} p v).2.bufSize := Oab.param_bufSize {} p v (by decide)

/-! ### the effect model (`Sys.M`): the LZX block decoder is a parameter (`Body`) -/

/-- `oabd_decompress` (effect model) with the fuel `mspack-driver --sys` passes (file length + 16), for every
    world and every decoder body that does not give the input handle more to read (`BodyFwd`).  Measure:
    `Sys.inLeft w inFh`; `copy_fh` and the block loop both get `fuel` rounds. -/
theorem C04_oab_sys_decompress_no_hang (body : Oab.Api.Body) (hB : Oab.Api.BodyFwd body) (i : Oab.Api.Inst)
    (hb : 1 ≤ i.bufSize) (input output : String) (w : Sys.World) :
    (Oab.Api.decompress body i input output (Driver.SzddSys.fuelFor w input) w).1 ≠ none :=
  Oab.Api.decompress_no_hang body hB i input output _ hb w (by unfold Driver.SzddSys.fuelFor; omega)

/-- `oabd_decompress_incremental` (effect model) with the driver's fuel -/
theorem C04_oab_sys_decompressIncremental_no_hang (body : Oab.Api.Body) (hB : Oab.Api.BodyFwd body)
    (i : Oab.Api.Inst) (hb : 1 ≤ i.bufSize) (input base output : String) (w : Sys.World) :
    (Oab.Api.decompressIncremental body i input base output (Driver.SzddSys.fuelFor w input) w).1 ≠ none :=
  Oab.Api.decompressIncremental_no_hang body hB i input base output _ hb w (by unfold Driver.SzddSys.fuelFor; omega)

/-- non-vacuity: the driver's stand-in body, and a body that really reads its block from the input handle and
    writes to the output handle, satisfy `BodyFwd` -/
example : Oab.Api.BodyFwd Driver.OabSys.sentinelBody := fun _ _ _ => Sys.NonInc.pure _ _
example : Oab.Api.BodyFwd (fun a inFh outFh => do
    let got ← Sys.read inFh a.available
    let _ ← Sys.write outFh (got.getD [])
    pure ⟨.ok, 0, 0⟩) :=
  fun _ _ _ => Sys.NonInc.bind (Sys.NonInc.read _ _ _) fun _ => Sys.NonInc.bind (Sys.NonInc.write _ _ _) fun _ =>
    Sys.NonInc.pure _ _

/-! ## CHM

`Proofs/Lemmas/LoopTermChm.lean` (theorems `Chm.C04_chm_*`): `read_encint` (fuel 10, measure `9 - i`), the name
comparison (`l1 + 1`), the chunk search (`bsearch`: `R - L`; `skipEncint`: `e - p`), `descend` / `walk` (their
fuel-0 case is the C's `visits++ > num_chunks` exit with MSPACK_ERR_DATAFORMAT, so `hang` is unreachable for every
fuel), `chmd_fast_find`, `chmd_read_headers` / `readChunks`, the reset-table and span-info lookups, the section-0
copy loop (`file length / 512 + 2` rounds) and `chmd_extract` for section 0; for section 1 `hang` can only come out
of the LZX decoder call.  Restated here for the entry points. -/

theorem C04_chm_fast_find_no_hang (file : Option Bytes) (st : Chm.FF) (filename : Bytes) :
    Chm.fastFind file st filename ≠ .error .hang :=
  Chm.C04_chm_fast_find_no_hang file st filename

theorem C04_chm_descend_walk_no_hang (file fname : Bytes) (fuel n : Nat) (last : Chm.Search) (st : Chm.FF) :
    Chm.descend file fname fuel n st ≠ .error .hang ∧ Chm.walk file fname fuel n last st ≠ .error .hang :=
  Chm.C04_chm_descend_walk_no_hang file fname fuel n last st

theorem C04_chm_read_headers_no_hang (filename : String) (file : Bytes) (entire : Bool) :
    Chm.readHeaders filename file entire ≠ .error .hang ∧ Chm.realOpen filename file entire ≠ .error .hang :=
  Chm.C04_chm_read_headers_no_hang filename file entire

theorem C04_chm_init_decomp_no_hang (files : Chm.Files) (fill : UInt8) (x : Chm.X) (entry : Nat) (fileOffset : Int) :
    Chm.readResetTable files x entry ≠ .error .hang ∧ Chm.readSpaninfo files x ≠ .error .hang ∧
    Chm.initDecomp files fill x fileOffset ≠ .error .hang :=
  Chm.C04_chm_init_decomp_no_hang files fill x entry fileOffset

/-- the section-0 copy loop: its out-of-fuel result is not a separate value (`none` = "no error"), so the statement
    is that the `file length / 512 + 2` rounds `chmd_extract` passes are as good as any larger number … -/
theorem C04_chm_copy_no_hang (r : Rd) (length : Int) (acc : Bytes) (fuel : Nat) (h : r.file.length / 512 + 2 ≤ fuel) :
    Chm.copyLoop fuel r length acc = Chm.copyLoop (r.file.length / 512 + 2) r length acc :=
  Chm.C04_chm_copy_no_hang r length acc fuel h

/-- … and that a run which ends without an error has copied exactly the bytes asked for -/
theorem C04_chm_copy_complete (r : Rd) (length : Int) (acc : Bytes)
    (h : (Chm.copyLoop (r.file.length / 512 + 2) r length acc).1 = none) :
    (Chm.copyLoop (r.file.length / 512 + 2) r length acc).2.1 = acc ++ (r.file.drop r.pos).take length.toNat :=
  Chm.C04_chm_copy_complete r length acc h

theorem C04_chm_extract_sec0_no_hang (files : Chm.Files) (fill : UInt8) (inst : Chm.Inst) (key : Nat)
    (hdr : Chm.Header) (offset length : Int) : Chm.extract files fill inst key hdr 0 offset length ≠ .fault .hang :=
  Chm.C04_chm_extract_sec0_no_hang files fill inst key hdr offset length

/-- `chmd_extract` of a compressed member: `hang` can only come out of an `lzxd_decompress` call -/
theorem C04_chm_extract_no_hang (files : Chm.Files) (fill : UInt8) (inst : Chm.Inst) (key : Nat) (hdr : Chm.Header)
    (sec : Nat) (offset length : Int) (h : Chm.extract files fill inst key hdr sec offset length = .fault .hang) :
    sec ≠ 0 ∧ ∃ x bytes, Chm.lzxCall files x bytes = .error .hang :=
  Chm.C04_chm_extract_no_hang files fill inst key hdr sec offset length h

/-- `lzh_decompress` over any finite source: `8 × bytes left + 2` rounds suffice (every round of the main loop
    consumes at least one real input bit, or notes the end of input, after which the next round leaves) -/
theorem C04_lzh_no_hang {σ : Type} (S : Src σ) (rem : σ → Nat) (hS : S.Finite rem) (fuel : Nat) (st : Kwaj.Lzh.St σ)
    (hf : 8 * rem st.src + 2 ≤ fuel) : Kwaj.Lzh.decompress S fuel st ≠ .error .hang :=
  Kwaj.Lzh.C04_lzh_no_hang S hS.lzh fuel st hf

/-- … with the fuel the driver passes, on the handle `kwajd_extract` has positioned -/
theorem C04_lzh_driver_no_hang (rd : Rd) (off : Nat) (fill : UInt8) :
    Kwaj.Lzh.decompress Rd.src (Driver.Kwaj.fuelFor rd.file.length) (Kwaj.Lzh.init (rd.seekStart off) fill)
      ≠ .error .hang :=
  Kwaj.Lzh.C04_lzh_extract_fuel_no_hang rd off fill

/-! ## MSZIP inflate (`Proofs/Lemmas/LoopTermZip.lean`)

Measure `Zip.bitsLeft rem st` = bits still obtainable: buffered bits + 8 × (buffered bytes + bytes left in the source)
+ 16 for the two zero bytes `read_input` makes up at the first end of input.  Every `inflate` round consumes the
3 header bits, every `huffBlock` round a Huffman code of at least one bit, `readLensLoop` adds at least one length
per round (`total + 1` rounds), `copyStored` moves at least one byte per round (`length + 2` rounds; needs the
window position inside the frame, which the callers establish), every block-loop round at least 8 / 16 bits. -/

theorem C04_zip_inflate_no_hang {σ : Type} (S : Src σ) (rem : σ → Nat) (hS : S.Finite rem) (fuel : Nat) (st : Zip.St σ)
    (hw : st.windowPosn < zipFRAME_SIZE) (hf : Zip.bitsLeft rem st + 1 ≤ fuel) :
    Zip.runInflate S fuel st ≠ .error .hang :=
  Zip.C04_zip_inflate_no_hang hS.zip fuel st hw hf

/-- `mszipd_decompress` (CAB MSZIP), any `out_bytes`, either repair mode -/
theorem C04_zip_decompress_no_hang {σ : Type} (S : Src σ) (rem : σ → Nat) (hS : S.Finite rem) (fuel : Nat)
    (st : Zip.St σ) (outBytes : Nat) (hf : Zip.bitsLeft rem st + 1 ≤ fuel) :
    Zip.decompress S fuel st outBytes ≠ .error .hang :=
  Zip.C04_zip_decompress_no_hang hS.zip fuel st outBytes hf

/-- `mszipd_decompress_kwaj` -/
theorem C04_zip_decompressKwaj_no_hang {σ : Type} (S : Src σ) (rem : σ → Nat) (hS : S.Finite rem) (fuel : Nat)
    (st : Zip.St σ) (hf : Zip.bitsLeft rem st + 1 ≤ fuel) : Zip.decompressKwaj S fuel st ≠ .error .hang :=
  Zip.C04_zip_decompressKwaj_no_hang hS.zip fuel st hf

/-- … as `kwajd_extract` runs it, with the driver's fuel -/
theorem C04_zip_kwaj_driver_no_hang (r : Rd) (fill : UInt8) (z : Zip.St Rd)
    (h : Zip.init r kwajINPUT_SIZE false fill = some z) :
    Zip.decompressKwaj Rd.src (Driver.Kwaj.fuelFor r.file.length) z ≠ .error .hang :=
  Zip.C04_zip_decompressKwaj_driver_no_hang r fill z h

/-! ## LZX (`Proofs/Lemmas/LoopTermLzx.lean`)

Measure: bits the decoder can still consume = buffered bits + 8 × (buffered bytes + bytes left in the source) + 16
for the two bytes `read_input` makes up at the first end of input.  `readBits n` lowers it by `n`, a Huffman symbol
by at least 1, a raw byte by 8; every round of `readLensLoop`, `decodeRun`, `copyRaw`, `blockLoop` consumes input
(a zero-length block costs its header bits); `e8Loop` gets the frame size; `ensureBits` (fuel 3) is asked for at
most 17 bits. -/

/-- `lzxd_decompress` over any finite source, from any decoder state -/
theorem C04_lzx_no_hang {σ : Type} (S : Src σ) (rem : σ → Nat) (hS : S.Finite rem) (fuel : Nat) (st : Lzx.St σ) (n : Nat)
    (hf : st.bits.length + 8 * st.inbuf.length + 8 * rem st.src + 19 ≤ fuel) :
    Lzx.decompress S fuel st n ≠ .error .hang :=
  Lzx.C04_lzx_no_hang S rem hS fuel st n hf

/-- the LZX decoder as oabd.c runs it: `Oab.LzxTerm` holds for the driver's fuel -/
theorem C04_lzx_oab_term (fuel : Nat) (file : Bytes) (hf : 16 * file.length + 100000 ≤ fuel) : Oab.LzxTerm fuel file :=
  Oab.C04_lzx_oab_term fuel file hf

/-- one `lzxd_decompress` call of `chmd_extract` with its budget `lzxFuel file` (16 × file bytes + 100000): no `hang`
    when the cached decoder state holds no more buffered input than that budget leaves room for (a fresh state holds
    none; a used one at most its input buffer and a few dozen bits - that invariant of the cache is not proved here) -/
theorem C04_chm_lzx_call_no_hang (file : Bytes) (st : Lzx.St Rd) (pos n : Nat)
    (hbuf : st.bits.length + 8 * st.inbuf.length + 19 ≤ 8 * file.length + 100000) :
    Lzx.decompress Chm.rdSrc (Chm.lzxFuel file) { st with src := ⟨file, pos⟩ } n ≠ .error .hang := by
  apply Lzx.C04_lzx_no_hang Chm.rdSrc Rd.left Rd.src_finite
  simp only [Lzx.fuelBound, Rd.left, Chm.lzxFuel]
  omega

/-! ## KWAJ as a whole (pure model): all five methods, the driver's fuel, every file -/

theorem C04_kwaj_extract_no_hang (fill : UInt8) (h : Kwaj.Handle) :
    Kwaj.extract fill (Driver.Kwaj.fuelFor h.rd.file.length) h ≠ .error .hang :=
  Kwaj.extract_no_hang fill h

theorem C04_kwaj_decompress_no_hang (fill : UInt8) (err : Err) (file : Option Bytes) :
    Kwaj.decompress fill (Driver.Kwaj.fuelFor (file.getD []).length) err file ≠ .error .hang :=
  Kwaj.decompress_no_hang fill err file

/-! ## CAB stored folders (the one container loop of `cabd.c` next to the feeder) -/

/-- `noned_decompress` with the `bytes / bufsize + 2` rounds `decompress` passes, buffer size ≥ 1
    (`cabd_param` refuses DECOMPBUF < 4).  Measure: bytes still to copy. -/
theorem C04_cab_noned_no_hang (files : Cab.Files) (bs : Nat) (hb : 1 ≤ bs) (e : Err) (fd : Cab.Feeder) (bytes : Nat) :
    Cab.decompress files (.none bs e) fd bytes ≠ .error .hang :=
  Cab.decompress_none_no_hang files bs hb e fd bytes

/-- the CAB stream feeder (`cabd_sys_read` as a decoder source) is finite: `Cab.feederLeft` = buffered block bytes
    + the rest of the current cabinet file + the later cabinets of the set from their data offsets -/
theorem C04_cab_feeder_finite (files : Cab.Files) : (Cab.feederSrc files).Finite (Cab.feederLeft files) :=
  Cab.feeder_finite files

/-- CAB MSZIP with the fuel `decompress` passes (`chainFuel files fd` = 16 × (all file bytes + the bytes of the files the
    folder chain still names, once per part) + 100000): no `hang`
    whenever that is above the bits still obtainable.  The premise is needed: `feederLeft` counts a file once per
    part of the set that names it, `decFuel` once, and a set made by appending ~140 opens of the same 1 KB cabinet
    (split blocks make the reader re-enter the file) runs out of `decFuel` although the input is finite, which is why
    the bound counts every part.  This concerns the model's bound, not the C. -/
theorem C04_cab_mszip_no_hang (files : Cab.Files) (st : Zip.St Cab.Feeder) (fd : Cab.Feeder) (bytes : Nat)
    (hf : st.bits.length + 8 * st.inbuf.length + 8 * Cab.feederLeft files fd
            + (if st.inputEnd then 0 else 16) + 1 ≤ Cab.chainFuel files fd) :
    Cab.decompress files (.mszip st) fd bytes ≠ .error .hang :=
  Cab.C04_zip_cab_no_hang files st fd bytes hf

end MsPack
