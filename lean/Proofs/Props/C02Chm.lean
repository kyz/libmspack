import Proofs.Lemmas.ChmBounds
import Proofs.Props.C03Headers
import Proofs.Props.C15Find
/-!
# C02 — memory safety, CHM part (`chmd_read_headers`, `chmd_fast_find`, `chmd_extract`)

The CHM models render unchecked accesses as `Fault.oob` and unchecked pointers (`sec->content`, `sec->control`,
`sec->rtable`, `sec->spaninfo`, `d->infh`, the decoder's input) as `Fault.nullDeref` (see `Proofs/Lemmas/ChmBounds.lean`,
where the lemmas are).  The theorems say these outcomes are unreachable, for every file content:

* `readHeaders` (any bytes, either mode) returns no `Fault` at all, and the header it returns satisfies
  `HdrInv` (chunk size ≥ 22; every cached chunk is `chunk_size` bytes long);
* `fastFind` on a header satisfying `HdrInv` (any file bytes — also other ones than the header was read
  from —, any name, any `self->error`) returns no `Fault` at all (its loops' fuel suffices too), keeps
  `HdrInv` and changes nothing but the chunk cache (`SameDir`): the theorem composes over any sequence of calls;
* `extract` (any files, any instance/header satisfying the invariants, any member triple — listed in the
  directory or not —) has no fault outcome of its own: every `ExtractResult.fault f` it returns is a fault
  that `Lzx.decompress` itself returned, on a decoder state that came from `Lzx.init` through earlier
  `Lzx.decompress` calls.  The LZX decoder is outside this file's scope; its safety enters as the
  parameter `P` (`LzxInv P`: established by `init`, kept by `decompress`, insensitive to the input
  handle) and the hypothesis that under `P` the decoder does not return the fault in question.
  `search_chunk` of the model has no `shiftWidth` outcome (the exponent of `qr_density` is clamped at 16, as in the C)
  and no `divZero` one; the theorems for `readHeaders`/`fastFind` exclude every `Fault` anyway.
-/
namespace MsPack.Chm

theorem C02_readHeaders_no_fault (filename : String) (file : Bytes) (entire : Bool) (f : Fault) :
    readHeaders filename file entire ≠ .error f :=
  (readHeaders_spec filename file entire).1 f

theorem C02_readHeaders_no_oob (filename : String) (file : Bytes) (entire : Bool) (s : String) :
    readHeaders filename file entire ≠ .error (.oob s) :=
  C02_readHeaders_no_fault _ _ _ _

theorem C02_readHeaders_inv (filename : String) (file : Bytes) (entire : Bool) (p : Parsed)
    (h : readHeaders filename file entire = .ok (.ok p)) : HdrInv p.hdr :=
  ((readHeaders_spec filename file entire).2 p h).1

theorem C02_realOpen_no_fault (filename : String) (file : Bytes) (entire : Bool) (f : Fault) :
    realOpen filename file entire ≠ .error f := fun h =>
  C02_readHeaders_no_fault _ _ _ _ (realOpen_cases h)

theorem C02_realOpen_inv (filename : String) (file : Bytes) (entire : Bool) (e : Err) (hdr : Header)
    (h : realOpen filename file entire = .ok (e, some hdr)) : HdrInv hdr := by
  obtain ⟨_, p, hp, rfl⟩ := realOpen_cases h
  exact C02_readHeaders_inv _ _ _ _ hp

/-- non-vacuity: a two-chunk directory is read and listed -/
example : ∃ p, readHeaders "x.chm" (encodeChm exampleSpec) true = .ok (.ok p) ∧ p.err = .ok ∧
    p.hdr.files = [⟨[0x2F, 0x61, 0x2E, 0x68, 0x74, 0x6D], 1, 300, 70000⟩, ⟨[0x2F, 0x62], 0, 5, 1⟩] ∧
    HdrInv p.hdr :=
  ⟨_, C03_headers_roundtrip exampleSpec exampleSpec_wf "x.chm", rfl, by decide,
    C02_readHeaders_inv _ _ _ _ (C03_headers_roundtrip exampleSpec exampleSpec_wf "x.chm")⟩

/-- `chmd_fast_find` on a header satisfying the invariant never faults, whatever the file now contains -/
theorem C02_fastFind_no_fault (file : Option Bytes) (st : FF) (filename : Bytes) (hi : HdrInv st.hdr)
    (f : Fault) : fastFind file st filename ≠ .error f :=
  (fastFind_fault file st filename).1.no_fault hi f

theorem C02_fastFind_no_oob (file : Option Bytes) (st : FF) (filename : Bytes) (hi : HdrInv st.hdr)
    (s : String) : fastFind file st filename ≠ .error (.oob s) :=
  C02_fastFind_no_fault _ _ _ hi _

/-- … and it keeps the invariant, changing the chunk cache only: the theorem applies to the next call -/
theorem C02_fastFind_inv (file : Option Bytes) (st : FF) (filename : Bytes) (hi : HdrInv st.hdr)
    (o : FindOut) (h : fastFind file st filename = .ok o) : HdrInv o.st.hdr ∧ SameDir st.hdr o.st.hdr :=
  (fastFind_fault file st filename).2 hi o h

/-- the pieces used alone: `search_chunk` on any `chunk_size`-byte chunk, `read_encint` with `end` in the chunk -/
theorem C02_searchChunk_no_fault (h : Header) (chunk fname : Bytes) (hl : chunk.length = h.chunkSize)
    (f : Fault) : searchChunk h chunk fname ≠ .error f :=
  (searchChunk_fault h chunk fname).1.no_fault hl f

theorem C02_readEncint_no_fault (bs : Bytes) (p e : Nat) (he : e ≤ bs.length) (f : Fault) :
    readEncint bs p e ≠ .error f :=
  (readEncint_fault bs p e).no_fault he f

/-- non-vacuity: a lookup that reads a chunk, searches it and decodes the entry found -/
example : ∃ cc', CacheOk findSpec cc' ∧
    fastFind (some (encodeChm findSpec)) ⟨.ok, findSpec.listed "x.chm"⟩ [0x2F, 0x67, 0x61, 0x6D, 0x6D, 0x61] =
      .ok ⟨.ok, ⟨.ok, withCache findSpec "x.chm" cc'⟩, ⟨some 1, 70300, 9⟩⟩ :=
  C15_fastfind_anycase_ascii findSpec findSpec_wf findSpec_noQuickrefs findSpec_ascii findSpec_ascending "x.chm"
    ⟨[0x2F, 0x47, 0x61, 0x6D, 0x6D, 0x61], 1, 70300, 9⟩ (by rw [findSpec_entries]; simp) _ (by decide) (by decide)
    (by decide) .ok none (cacheOk_none _)

example : HdrInv (findSpec.listed "x.chm") := ⟨by decide, fun _ h => by cases h⟩

theorem C02_inst_init (P : Lzx.St Rd → Prop) : InstInv P {} := fun _ h => by cases h

theorem C02_close_inv (P : Lzx.St Rd → Prop) (inst : Inst) (key : Nat) (h : InstInv P inst) :
    InstInv P (close inst key) := by
  intro d hd
  unfold close at hd
  simp only at hd
  split at hd
  · split at hd
    · cases hd
    · rename_i d' hid _
      cases hd
      exact h _ hid
  · cases hd

/-- every fault `chmd_extract` reports is one `lzxd_decompress` reported (on a state satisfying `P`):
    the CHM layer's own checked accesses — reset table, `sec->…` pointers, `d->infh` — all succeed -/
theorem C02_extract_faults_from_lzx {P : Lzx.St Rd → Prop} (L : LzxInv P) (files : Files) (fill : UInt8)
    (inst : Inst) (key : Nat) (hdr : Header) (sec : Nat) (offset length : Int)
    (hi : HdrInv hdr) (hinst : InstInv P inst) (f : Fault)
    (h : extract files fill inst key hdr sec offset length = .fault f) : LzxFault P f := by
  have := extract_post L files fill inst key hdr sec offset length hi hinst
  rw [h] at this
  exact this.2

/-- `chmd_extract` keeps the invariants (header and instance), so the theorems apply to the next call -/
theorem C02_extract_inv {P : Lzx.St Rd → Prop} (L : LzxInv P) (files : Files) (fill : UInt8)
    (inst : Inst) (key : Nat) (hdr : Header) (sec : Nat) (offset length : Int)
    (hi : HdrInv hdr) (hinst : InstInv P inst) (ret : Err) (inst' : Inst) (hdr' : Header) (out : Option Bytes)
    (h : extract files fill inst key hdr sec offset length = .done ret inst' hdr' out) :
    HdrInv hdr' ∧ InstInv P inst' := by
  have := extract_post L files fill inst key hdr sec offset length hi hinst
  rw [h] at this
  obtain ⟨d, hd, h1, h2⟩ := this
  exact ⟨h1, fun d' hd' => by rw [hd] at hd'; cases hd'; exact h2⟩

/-- given that the LZX decoder under its invariant `P` never returns the faults `bad`, neither does `chmd_extract` -/
theorem C02_extract_safe {P : Lzx.St Rd → Prop} (L : LzxInv P) (bad : Fault → Prop)
    (hsafe : ∀ fuel st n f, P st → Lzx.decompress rdSrc fuel st n = .error f → ¬ bad f)
    (files : Files) (fill : UInt8) (inst : Inst) (key : Nat) (hdr : Header) (sec : Nat) (offset length : Int)
    (hi : HdrInv hdr) (hinst : InstInv P inst) (f : Fault) (hb : bad f) :
    extract files fill inst key hdr sec offset length ≠ .fault f := by
  intro h
  obtain ⟨fuel, st, n, hP, hd⟩ := C02_extract_faults_from_lzx L files fill inst key hdr sec offset length hi hinst f h
  exact hsafe fuel st n f hP hd hb

theorem C02_extract_no_oob {P : Lzx.St Rd → Prop} (L : LzxInv P)
    (hsafe : ∀ fuel st n s, P st → Lzx.decompress rdSrc fuel st n ≠ .error (.oob s))
    (files : Files) (fill : UInt8) (inst : Inst) (key : Nat) (hdr : Header) (sec : Nat) (offset length : Int)
    (hi : HdrInv hdr) (hinst : InstInv P inst) (s : String) :
    extract files fill inst key hdr sec offset length ≠ .fault (.oob s) :=
  C02_extract_safe L (fun f => ∃ s, f = .oob s)
    (fun fuel st n f hP hd ⟨s, hs⟩ => hsafe fuel st n s hP (hs ▸ hd))
    files fill inst key hdr sec offset length hi hinst _ ⟨s, rfl⟩

theorem C02_extract_no_nullDeref {P : Lzx.St Rd → Prop} (L : LzxInv P)
    (hsafe : ∀ fuel st n s, P st → Lzx.decompress rdSrc fuel st n ≠ .error (.nullDeref s))
    (files : Files) (fill : UInt8) (inst : Inst) (key : Nat) (hdr : Header) (sec : Nat) (offset length : Int)
    (hi : HdrInv hdr) (hinst : InstInv P inst) (s : String) :
    extract files fill inst key hdr sec offset length ≠ .fault (.nullDeref s) :=
  C02_extract_safe L (fun f => ∃ s, f = .nullDeref s)
    (fun fuel st n f hP hd ⟨s, hs⟩ => hsafe fuel st n s hP (hs ▸ hd))
    files fill inst key hdr sec offset length hi hinst _ ⟨s, rfl⟩

/-- the trivial LZX invariant: with it the theorem reads "`chmd_extract` faults only where some
    `lzxd_decompress` call does" -/
theorem lzxInv_true : LzxInv (fun _ => True) := ⟨fun _ _ _ _ _ _ _ _ _ => trivial, fun _ _ _ => trivial, fun _ _ _ _ _ _ => trivial⟩

theorem C02_extract_chm_layer_no_fault (files : Files) (fill : UInt8) (inst : Inst) (key : Nat) (hdr : Header)
    (sec : Nat) (offset length : Int) (hi : HdrInv hdr) (f : Fault)
    (h : extract files fill inst key hdr sec offset length = .fault f) :
    ∃ fuel st n, Lzx.decompress rdSrc fuel st n = .error f := by
  obtain ⟨fuel, st, n, _, hd⟩ := C02_extract_faults_from_lzx lzxInv_true files fill inst key hdr sec offset length hi
    (fun _ _ _ _ => trivial) f h
  exact ⟨fuel, st, n, hd⟩

/-- an uncompressed (section 0) member is extracted without the LZX decoder: no fault, unconditionally -/
theorem C02_extract_sec0_no_fault (files : Files) (fill : UInt8) (inst : Inst) (key : Nat) (hdr : Header)
    (offset length : Int) (hi : HdrInv hdr) (f : Fault) :
    extract files fill inst key hdr 0 offset length ≠ .fault f := by
  intro h
  have := extract_post lzxInv_true files fill inst key hdr 0 offset length hi (fun _ _ _ _ => trivial)
  rw [h] at this
  exact this.1 rfl


def extractOutcome : ExtractResult → Option (Err × Option Bytes)
  | .done ret _ _ out => some (ret, out)
  | _ => none

/-- non-vacuity: a section-0 member of the example file is copied out (seek + copy loop) -/
example : extractOutcome (extract [("x.chm", encodeChm exampleSpec)] 0 {} 7 (exampleSpec.listed "x.chm") 0 2 3)
    = some (.ok, some [3, 4, 5]) := by decide +kernel

/-- … and a section-1 member makes `chmd_init_decomp` look up the system files through `chmd_fast_find`
    (reading and searching both directory chunks); the example file has none, so the call ends with
    MSPACK_ERR_DATAFORMAT and an empty output file — normally, without a fault -/
example : extractOutcome (extract [("x.chm", encodeChm exampleSpec)] 0 {} 7 (exampleSpec.listed "x.chm") 1 300 70000)
    = some (.dataformat, some []) := by decide +kernel

example : HdrInv (exampleSpec.listed "x.chm") := ⟨by decide, fun _ h => by cases h⟩

end MsPack.Chm
