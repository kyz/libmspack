import MsPack.Chm.Encint
/-!
# C15 — fast_find agrees with the listing: the name comparison

`compare` (chmd.c) orders directory entries for the chunk search.  Proved: a name compares equal
to itself; on names of ASCII bytes (`towlower` is the C locale's) `compare` is the lexicographic comparison of the
case-folded bytes (`compare_ascii`: `lexCmp` of `foldKey`, with the order lemmas the ASCII statements of `C15Find.lean`
use), so ASCII letter case is ignored.  The chain walk and `search_chunk` on a writer's directory are in `C15Find.lean`
(`C15_fastfind_roundtrip`); no theorem covers the multi-group quick-reference binary search and the index descent.
-/
namespace MsPack.Chm

theorem compareGo_self : ∀ (fuel : Nat) (s : Bytes), compareGo fuel s s = none := by
  intro fuel
  induction fuel with
  | zero => intro s; rfl
  | succ fuel ih =>
    intro s
    unfold compareGo
    split
    · rfl
    · simp only [↓reduceIte]; exact ih _

theorem C15_compare_refl (s : Bytes) : compare s s = 0 := by
  unfold compare; rw [compareGo_self]; simp

def lowerByte (b : UInt8) : UInt8 := if 0x41 ≤ b.toNat ∧ b.toNat ≤ 0x5A then b + 0x20 else b

theorem lowerByte_spec (b : UInt8) (h : b.toNat < 0x80) :
    (lowerByte b).toNat < 0x80 ∧ toLower (lowerByte b).toNat = toLower b.toNat := by
  have key : ∀ n : Fin 128, (lowerByte (UInt8.ofNat n.val)).toNat < 0x80 ∧
      toLower (lowerByte (UInt8.ofNat n.val)).toNat = toLower (UInt8.ofNat n.val).toNat := by decide
  have hb : b = UInt8.ofNat b.toNat := by simp
  have := key ⟨b.toNat, h⟩
  rw [← hb] at this; exact this

def foldKey (a : Bytes) : List Nat := a.map (fun b => toLower b.toNat)

def lexGo : List Nat → List Nat → Option Int
  | x :: a, y :: b => if x ≠ y then some (Int.ofNat x - Int.ofNat y) else lexGo a b
  | _, _ => none

def lexCmp (a b : List Nat) : Int :=
  match lexGo a b with
  | some d => d
  | none => Int.ofNat a.length - Int.ofNat b.length

theorem compareGo_ascii : ∀ (a b : Bytes) (fuel : Nat), (∀ x ∈ a, x.toNat < 0x80) → (∀ x ∈ b, x.toNat < 0x80) →
    a.length < fuel → compareGo fuel a b = lexGo (foldKey a) (foldKey b)
  | [], b, fuel + 1, _, _, _ => by simp [compareGo, foldKey, lexGo]
  | x :: a, [], fuel + 1, _, _, _ => by simp [compareGo, foldKey, lexGo]
  | x :: a, y :: b, fuel + 1, ha, hb, hf => by
    have hx : x.toNat < 0x80 := ha x (by simp)
    have hy : y.toNat < 0x80 := hb y (by simp)
    have ih := compareGo_ascii a b fuel (fun z hz => ha z (by simp [hz])) (fun z hz => hb z (by simp [hz]))
      (by simpa using hf)
    unfold compareGo
    simp only [List.isEmpty_cons, Bool.false_eq_true, or_self, ↓reduceIte]
    simp only [getUtf8Char, hx, hy, ↓reduceIte, foldKey, List.map_cons, lexGo]
    by_cases h1 : x.toNat = y.toNat
    · simp only [h1, ↓reduceIte, ne_eq, not_true_eq_false]
      exact ih
    · rw [if_neg h1]
      by_cases h2 : toLower x.toNat = toLower y.toNat
      · simp only [h2, ne_eq, not_true_eq_false, ↓reduceIte]
        exact ih
      · simp only [ne_eq, h2, not_false_eq_true, ↓reduceIte]

theorem compare_ascii (a b : Bytes) (ha : ∀ x ∈ a, x.toNat < 0x80) (hb : ∀ x ∈ b, x.toNat < 0x80) :
    compare a b = lexCmp (foldKey a) (foldKey b) := by
  unfold compare lexCmp
  rw [compareGo_ascii a b _ ha hb (Nat.lt_succ_self _)]
  cases lexGo (foldKey a) (foldKey b) <;> simp [foldKey]

theorem lexCmp_nil_cons (y : Nat) (b : List Nat) : lexCmp [] (y :: b) < 0 := by
  simp only [lexCmp, lexGo, List.length_nil, List.length_cons, Int.ofNat_eq_natCast]; omega

theorem lexCmp_cons_nil (x : Nat) (a : List Nat) : lexCmp (x :: a) [] > 0 := by
  simp only [lexCmp, lexGo, List.length_nil, List.length_cons, Int.ofNat_eq_natCast]; omega

theorem lexCmp_cons (x y : Nat) (a b : List Nat) :
    lexCmp (x :: a) (y :: b) = if x ≠ y then Int.ofNat x - Int.ofNat y else lexCmp a b := by
  unfold lexCmp
  rw [lexGo]
  by_cases h : x = y
  · simp only [h, ne_eq, not_true_eq_false, ↓reduceIte, List.length_cons, Int.ofNat_eq_natCast]
    split <;> first | rfl | omega
  · simp only [ne_eq, h, not_false_eq_true, ↓reduceIte]

theorem lexCmp_antisymm : ∀ (a b : List Nat), lexCmp b a = - lexCmp a b
  | [], [] => by simp [lexCmp, lexGo]
  | [], y :: b => by simp only [lexCmp, lexGo, List.length_nil, List.length_cons, Int.ofNat_eq_natCast]; omega
  | x :: a, [] => by simp only [lexCmp, lexGo, List.length_nil, List.length_cons, Int.ofNat_eq_natCast]; omega
  | x :: a, y :: b => by
    rw [lexCmp_cons, lexCmp_cons, lexCmp_antisymm a b]
    by_cases h : x = y
    · simp [h]
    · have h' : ¬ y = x := fun e => h e.symm
      simp only [ne_eq, h, h', not_false_eq_true, ↓reduceIte, Int.ofNat_eq_natCast]; omega

theorem lexCmp_eq_zero : ∀ (a b : List Nat), lexCmp a b = 0 → a = b
  | [], [], _ => rfl
  | [], y :: b, h => by have := lexCmp_nil_cons y b; omega
  | x :: a, [], h => by have := lexCmp_cons_nil x a; omega
  | x :: a, y :: b, h => by
    rw [lexCmp_cons] at h
    by_cases hxy : x = y
    · simp only [hxy, ne_eq, not_true_eq_false, ↓reduceIte] at h
      rw [hxy, lexCmp_eq_zero a b h]
    · simp only [ne_eq, hxy, not_false_eq_true, ↓reduceIte, Int.ofNat_eq_natCast] at h; omega

theorem lexCmp_trans : ∀ (a b c : List Nat), lexCmp a b < 0 → lexCmp b c < 0 → lexCmp a c < 0
  | [], _, z :: c, _, _ => lexCmp_nil_cons z c
  | _, [], [], _, h2 => by simp [lexCmp, lexGo] at h2
  | _, y :: b, [], _, h2 => by have := lexCmp_cons_nil y b; omega
  | x :: a, [], _, h1, _ => by have := lexCmp_cons_nil x a; omega
  | x :: a, y :: b, z :: c, h1, h2 => by
    rw [lexCmp_cons] at h1 h2 ⊢
    by_cases hxy : x = y
    · subst hxy
      simp only [ne_eq, not_true_eq_false, ↓reduceIte] at h1
      by_cases hxz : x = z
      · subst hxz
        simp only [ne_eq, not_true_eq_false, ↓reduceIte] at h2 ⊢
        exact lexCmp_trans a b c h1 h2
      · simp only [ne_eq, hxz, not_false_eq_true, ↓reduceIte] at h2 ⊢
        exact h2
    · simp only [ne_eq, hxy, not_false_eq_true, ↓reduceIte, Int.ofNat_eq_natCast] at h1
      by_cases hyz : y = z
      · subst hyz
        simp only [ne_eq, hxy, not_false_eq_true, ↓reduceIte, Int.ofNat_eq_natCast]
        exact h1
      · simp only [ne_eq, hyz, not_false_eq_true, ↓reduceIte, Int.ofNat_eq_natCast] at h2
        have hxz : ¬ x = z := by omega
        simp only [ne_eq, hxz, not_false_eq_true, ↓reduceIte, Int.ofNat_eq_natCast]
        omega

/-- ASCII letter case is ignored: an ASCII name and the same name with its letters lower-cased compare equal -/
theorem C15_compare_ascii_case (s : Bytes) (h : ∀ b ∈ s, b.toNat < 0x80) :
    compare (s.map lowerByte) s = 0 := by
  have hl : ∀ x ∈ s.map lowerByte, x.toNat < 0x80 := fun x hx => by
    obtain ⟨b, hb, rfl⟩ := List.mem_map.mp hx
    exact (lowerByte_spec b (h b hb)).1
  have hk : foldKey (s.map lowerByte) = foldKey s := by
    unfold foldKey
    rw [List.map_map]
    exact List.map_congr_left fun b hb => (lowerByte_spec b (h b hb)).2
  have := lexCmp_antisymm (foldKey s) (foldKey s)
  rw [compare_ascii _ _ hl h, hk]
  omega

end MsPack.Chm
