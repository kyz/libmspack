import Proofs.Props.C08Chm
import Proofs.Lemmas.ChmBounds
/-!
# C08 for CHM, whole sessions — after ANY earlier `chmd_extract` calls a stored member extracts as on a fresh instance

`Proofs/Props/C08Chm.lean` shows that a section-0 extraction looks at one thing of the decompressor's cache — which
file the cached handle is on — and that **every** call keeps the session invariant `C08CacheG` (every cached handle is
on the file of the header it belongs to, and that file exists) — section 0 or 1, succeeding, failing, or ending where
the LZX model is switched off: `c08_extract_keeps`.  Hence

* `C08_chm_sec0_history_free_session` — for every instance reachable from a fresh one by any list of `extract` calls
  of any kind (`C08Reach`; the headers satisfy `hdr.filename = name key`, i.e. a header identity always comes with the
  file it was opened under), a section-0 member extracts with the status and bytes of a fresh decompressor;
* `C08_chm_any_order` — in any mixed list of calls, every section-0 call returns its fresh-instance result.

Nothing is assumed about the LZX decoder (no counting law, no invariant): only that its calls return.
-/
namespace MsPack.Chm

/-- the instance states a client can reach: a fresh decompressor, then any `extract` calls — any section, any
    member, any header (with the file name its identity stands for), whatever they return -/
inductive C08Reach (files : Files) (fill : UInt8) (name : Nat → String) : Inst → Prop
  | fresh (e : Err) : C08Reach files fill name ⟨e, none⟩
  | done {inst : Inst} (key : Nat) (hdr : Header) (sec : Nat) (offset length : Int) (e : Err) (inst' : Inst)
      (hdr' : Header) (out : Option Bytes) (h : C08Reach files fill name inst) (hn : hdr.filename = name key)
      (hx : extract files fill inst key hdr sec offset length = .done e inst' hdr' out) : C08Reach files fill name inst'
  | unsupported {inst : Inst} (key : Nat) (hdr : Header) (sec : Nat) (offset length : Int) (inst' : Inst)
      (hdr' : Header) (h : C08Reach files fill name inst) (hn : hdr.filename = name key)
      (hx : extract files fill inst key hdr sec offset length = .unsupported inst' hdr') : C08Reach files fill name inst'

theorem C08Reach.cacheG {files : Files} {fill : UInt8} {name : Nat → String} {inst : Inst}
    (h : C08Reach files fill name inst) : C08CacheG files name inst := by
  induction h with
  | fresh e => exact C08CacheG.fresh files name e
  | done key hdr sec offset length e inst' hdr' out _ hn hx ih =>
    have := c08_extract_keeps files fill name _ key hdr sec offset length ih hn
    rw [hx] at this; exact this
  | unsupported key hdr sec offset length inst' hdr' _ hn hx ih =>
    have := c08_extract_keeps files fill name _ key hdr sec offset length ih hn
    rw [hx] at this; exact this

/-- **C08 (CHM), sessions**: whatever was extracted before — stored and compressed members mixed, of any CHM files,
    failing calls included — a section-0 member extracts exactly as on a fresh decompressor -/
theorem C08_chm_sec0_history_free_session (files : Files) (fill : UInt8) (name : Nat → String) (inst : Inst)
    (hr : C08Reach files fill name inst) (key : Nat) (hdr : Header) (hn : hdr.filename = name key)
    (offset length : Int) :
    c08Obs (extract files fill inst key hdr 0 offset length) = c08Obs (extract files fill {} key hdr 0 offset length) :=
  C08_chm_sec0_history_free files fill inst key hdr offset length (hr.cacheG.local key _ hn)

/-- a client's sequence of calls `(key, hdr, section, offset, length)`, the decompressor threaded through; a fault ends it -/
def c08RunMixed (files : Files) (fill : UInt8) :
    List (Nat × Header × Nat × Int × Int) → Inst → List (Option (Err × Option Bytes))
  | [], _ => []
  | (key, hdr, sec, offset, length) :: rest, inst =>
    c08Obs (extract files fill inst key hdr sec offset length) ::
      match extract files fill inst key hdr sec offset length with
      | .done _ inst' _ _ => c08RunMixed files fill rest inst'
      | .unsupported inst' _ => c08RunMixed files fill rest inst'
      | .fault _ => []

/-- **C08 (CHM), any order, any mix**: in any list of `extract` calls every section-0 call — wherever it stands,
    whatever came before — returns the fresh-instance result -/
theorem C08_chm_any_order (files : Files) (fill : UInt8) (name : Nat → String)
    (calls : List (Nat × Header × Nat × Int × Int)) (hcalls : ∀ c ∈ calls, c.2.1.filename = name c.1)
    (inst : Inst) (hg : C08CacheG files name inst) (i : Nat) (c : Nat × Header × Nat × Int × Int)
    (r : Option (Err × Option Bytes)) (hc : calls[i]? = some c) (hsec : c.2.2.1 = 0)
    (hr : (c08RunMixed files fill calls inst)[i]? = some r) :
    r = c08Obs (extract files fill {} c.1 c.2.1 0 c.2.2.2.1 c.2.2.2.2) := by
  induction calls generalizing inst i with
  | nil => cases hc
  | cons c0 rest ih =>
    obtain ⟨key, hdr, sec, offset, length⟩ := c0
    have hn : hdr.filename = name key := hcalls _ (List.mem_cons_self ..)
    have hkeep := c08_extract_keeps files fill name inst key hdr sec offset length hg hn
    cases i with
    | zero =>
      simp only [List.getElem?_cons_zero, Option.some.injEq] at hc
      subst hc
      simp only at hsec
      subst hsec
      simp only [c08RunMixed, List.getElem?_cons_zero, Option.some.injEq] at hr
      rw [← hr]
      exact C08_chm_sec0_history_free files fill inst key hdr offset length (hg.local key _ hn)
    | succ j =>
      simp only [List.getElem?_cons_succ] at hc
      simp only [c08RunMixed, List.getElem?_cons_succ] at hr
      have hrest : ∀ c ∈ rest, c.2.1.filename = name c.1 := fun c hc => hcalls c (List.mem_cons_of_mem _ hc)
      cases hx : extract files fill inst key hdr sec offset length with
      | done e inst' hdr' out =>
        rw [hx] at hr hkeep
        exact ih hrest inst' hkeep j hc hr
      | unsupported inst' hdr' =>
        rw [hx] at hr hkeep
        exact ih hrest inst' hkeep j hc hr
      | fault f =>
        rw [hx] at hr
        simp at hr

/-! ## compressed members: a stale cache differs from a fresh one in two fields only

When the cache belongs to another header (or holds no handle) `chmd_extract` re-opens the file and starts from
`{ d with chm := key, offset := 0, state := none, infh := ⟨filename, 0⟩ }`: this differs from a fresh instance's state
only in the stale `length` / `inoffset`.  `find_sys_file` and `read_sys_file` commute with overwriting those two
fields (`c08LI_*`).  No theorem says the same of `read_reset_table`, `read_spaninfo` and `chmd_init_decomp`, so
"not re-usable ⇒ result of a fresh instance" is proved for section-0 members only. -/

def c08LI (l io : Int) (x : X) : X := { x with d := { x.d with length := l, inoffset := io } }

theorem c08LI_findSysFile (files : Files) (x : X) (slot : Slot) (l io : Int) :
    findSysFile files (c08LI l io x) slot = (findSysFile files x slot).map fun p => (p.1, c08LI l io p.2) := by
  unfold findSysFile
  show (match slot.get x.hdr with
    | some _ => _
    | none => match fastFind (files.lookup x.hdr.filename) x.ff slot.name with
      | .error f => _
      | .ok o => _) = _
  cases slot.get x.hdr with
  | some _ => rfl
  | none =>
    simp only
    cases fastFind (files.lookup x.hdr.filename) x.ff slot.name with
    | error f => rfl
    | ok o =>
      simp only
      cases o.res.sec with
      | none => rfl
      | some sec =>
        simp only
        by_cases hr : o.ret ≠ .ok
        · rw [if_pos hr, if_pos hr]; rfl
        · rw [if_neg hr, if_neg hr]; rfl

theorem c08LI_readSysFile (files : Files) (x : X) (f : CFile) (l io : Int) :
    readSysFile files (c08LI l io x) f = ((readSysFile files x f).1, c08LI l io (readSysFile files x f).2) := by
  obtain ⟨xe, xh, ⟨c, len, off, ino, st, infh⟩⟩ := x
  unfold readSysFile
  by_cases h1 : f.sec ≠ 0
  · rw [if_pos h1, if_pos h1]; rfl
  rw [if_neg h1, if_neg h1]
  simp only
  by_cases h2 : wrapI32 f.length < 0
  · rw [if_pos h2, if_pos h2]; rfl
  rw [if_neg h2, if_neg h2]
  cases infh with
  | none => rfl
  | some h =>
    simp only [infhBytes, c08LI]
    generalize seekAbs _ _ = sk
    cases sk with
    | none => rfl
    | some r =>
      simp only
      by_cases h3 : (r.read (wrapI32 f.length).toNat).1.length ≠ (wrapI32 f.length).toNat
      · simp only [if_pos h3]
      · simp only [if_neg h3]

/-- a session on the CHM file of `C03Headers.lean`: a compressed member first (`chmd_init_decomp` searches the
    directory for the system files, finds none: MSPACK_ERR_DATAFORMAT), then stored members, backwards -/
example : c08RunMixed [("x.chm", encodeChm exampleSpec)] 0
    [(7, exampleSpec.listed "x.chm", 1, 300, 70000), (7, exampleSpec.listed "x.chm", 0, 2, 3),
     (7, exampleSpec.listed "x.chm", 0, 0, 2)] {}
    = [some (.dataformat, some []), some (.ok, some [3, 4, 5]), some (.ok, some [1, 2])] := by decide +kernel

/-- … and the state after the compressed call is one of the reachable states of `C08Reach` -/
example (inst' : Inst) (hdr' : Header) (out : Option Bytes) (e : Err)
    (h : extract [("x.chm", encodeChm exampleSpec)] 0 {} 7 (exampleSpec.listed "x.chm") 1 300 70000 = .done e inst' hdr' out) :
    C08Reach [("x.chm", encodeChm exampleSpec)] 0 (fun _ => "x.chm") inst' :=
  .done 7 _ 1 300 70000 e inst' hdr' out (.fresh .ok) rfl h

end MsPack.Chm
