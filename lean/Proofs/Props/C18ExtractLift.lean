import Proofs.Props.C18Extract
import Proofs.Props.C07Decoders
import Proofs.Lemmas.ExtractSim
/-!
# C18 — `cabd_extract` under SALVAGE / FIXMSZIP, stored and MSZIP folders

`C18_cab_extract_relaxed_cached`: for strict parameters `p` and `p' = { p with salvage := s, fixMszip := f }`, a member
of a stored or MSZIP folder, and related decoder caches (none/none, or what earlier related calls left): if the strict
`extract` returns MSPACK_ERR_OK with bytes `w`, the relaxed one returns MSPACK_ERR_OK with the same `w`, and the
caches handed back are related again (`C18_cab_extract_relaxed`: with no cached decoder on either side).
`C18_cab_session_relaxed`: hence over any sequence of `extract` calls on such
folders, as long as the strict session's calls are OK.

A strict call that returns OK had a decoder whose own status was OK (the joint invariant `CabJAll`,
`C07_cab_read_means_feeder_failed`); with `decompress_rel` (`RelaxSimCab.lean`) that gives one phase, and `extract_sim`
(`ExtractSim.lean`) carries it through `cabd_extract`.
-/
namespace MsPack.Cab
open MsPack.CountLaws.Relax MsPack.CountLaws.CabJoint

def OptDecR : Option Dec → Option Dec → Prop
  | some a, some b => DecR a b
  | none, none => True
  | _, _ => False

structure DSR (a b : DState) : Prop where
  folder : b.folder = a.folder
  offset : b.offset = a.offset
  feeder : FR a.feeder b.feeder
  dec : OptDecR a.dec b.dec
  ok : StateOk CabJAll a

def CacheR : Option DState → Option DState → Prop
  | some a, some b => DSR a b
  | none, none => True
  | _, _ => False

theorem runPhase_rel (files : Files) (ds1 ds2 : DState) (dec1 dec2 : Dec) (n : Nat) (hf : FR ds1.feeder ds2.feeder)
    (ho : ds2.offset = ds1.offset) (hfo : ds2.folder = ds1.folder)
    (hd : DecR dec1 dec2) (hj : CabJAll dec1 ds1.feeder) (w : Bytes) (ds1' : DState)
    (h : runPhase files ds1 dec1 n = .ran .ok w ds1') :
    ∃ ds2', runPhase files ds2 dec2 n = .ran .ok w ds2' ∧ DSR ds1' ds2' := by
  have hok := (CountLaws.CabJoint.runPhase_ok files CabJAll (cabJAll_callOk files) ds1 dec1 n hj .ok w ds1' h).1
  obtain ⟨o1, ho1, he, rfl, rfl⟩ := runPhase_ran h
  have hnr : o1.err ≠ .read := fun hr => by
    rw [if_pos hr] at he
    exact C07_cab_read_means_feeder_failed files dec1 ds1.feeder n o1 hj ho1 hr he.symm
  rw [if_neg hnr] at he
  obtain ⟨o2, h2, e2, w2, d2, f2⟩ := decompress_rel files dec1 dec2 _ _ n o1 hd hf ho1 he.symm
  rw [runPhase_of_ok h2, e2, w2]
  exact ⟨_, rfl, hfo, by show ds2.offset + _ = ds1.offset + _; rw [ho], f2, d2, hok⟩

theorem cacheR_iff {a b : Option DState} : CacheR a b ↔ Option.Rel DSR a b := by
  cases a <;> cases b
  · exact ⟨fun _ => .none, fun _ => trivial⟩
  · exact ⟨False.elim, nofun⟩
  · exact ⟨False.elim, nofun⟩
  · exact ⟨fun h => .some h, fun | .some h => h⟩

/-- only an OK phase of the strict run is followed: after any other status `DSR` is lost -/
theorem relax_phaseWalk (files : Files) : PhaseWalk (· = .ok) False DSR files where
  ok := rfl
  offset := fun h => h.offset
  folder := fun h => h.folder
  dec := fun {a b} h => by
    have := h.dec
    cases ha : a.dec <;> cases hb : b.dec <;> rw [ha, hb] at this <;> first | rfl | exact this.elim
  phase := fun {a b} dec1 dec2 n h h1 h2 => by
    cases hp : runPhase files a dec1 n with
    | unsupported => exact False.elim
    | fault f => exact False.elim
    | ran e w d1 =>
      rintro rfl
      exact runPhase_rel files a b dec1 dec2 n h.feeder h.offset h.folder (by have := h.dec; rwa [h1, h2] at this)
        (h.ok dec1 h1) w d1 hp

def relaxed (p : Params) (s f : Bool) : Params := { p with salvage := s, fixMszip := f }

theorem initDec_rel (p : Params) (hf : p.fixMszip = false) (s f : Bool) (ct : Nat) (hct : compMask ct ≤ 1)
    (dec1 : Dec) (h : initDec p ct = some dec1) :
    ∃ dec2, initDec (relaxed p s f) ct = some dec2 ∧ DecR dec1 dec2 := by
  unfold initDec at h ⊢
  split at h
  · rename_i h0
    cases h
    exact ⟨_, rfl, rfl, rfl⟩
  · rename_i h1
    unfold Zip.init at h ⊢
    dsimp only [relaxed] at h ⊢
    split at h
    · cases h
    · rename_i hsz
      rw [if_neg hsz]
      simp only [Option.map_some, Option.some.injEq] at h ⊢
      subst h
      refine ⟨_, rfl, ?_⟩
      intro fd1 fd2 hfd
      exact ⟨hfd, rfl, rfl, rfl, rfl, rfl, rfl, rfl, rfl, rfl, rfl, rfl, hf⟩
  · rename_i h2; omega
  · rename_i h3; omega
  · rename_i h0 h1 _ _
    exfalso
    have : compMask ct = 0 ∨ compMask ct = 1 := by omega
    rcases this with h | h
    · exact h0 h
    · exact h1 h

theorem fresh_rel (files : Files) (p : Params) (hs : p.salvage = false) (hf : p.fixMszip = false) (s f : Bool)
    (m : Member) (hct : compMask m.compType ≤ 1) (key : Nat) (ds1 : DState)
    (h : freshDState files p m key = .ok ds1) :
    ∃ ds2, freshDState files (relaxed p s f) m key = .ok ds2 ∧ DSR ds1 ds2 := by
  have hok := freshAll_stateOk files p hs m key ds1 h
  obtain ⟨part, rest, bytes, dec1, hp, hl, hi, rfl⟩ := freshDState_ok h
  obtain ⟨dec2, h2, hdr⟩ := initDec_rel p hf s f m.compType hct dec1 hi
  exact ⟨_, freshDState_eq hp hl h2 key, rfl, rfl, ⟨rfl, rfl, rfl, rfl, rfl, rfl, rfl, rfl, hs, hf⟩, hdr, hok⟩

/-- **C18, `cabd_extract`, stored and MSZIP folders**: strict parameters `p`, relaxed `p' = relaxed p s f`,
    related caches: what the strict call extracts with MSPACK_ERR_OK the relaxed call extracts with MSPACK_ERR_OK,
    byte for byte, and the caches handed back are related again -/
theorem C18_cab_extract_relaxed_cached (files : Files) (p : Params) (hs : p.salvage = false) (hf : p.fixMszip = false)
    (s f : Bool) (d1 d2 : Option DState) (hc : CacheR d1 d2) (m : Member) (hct : compMask m.compType ≤ 1)
    (w : Bytes) (d1' : Option DState)
    (h : extract files p d1 m = .done .ok (some w) d1') :
    ∃ d2', extract files (relaxed p s f) d2 m = .done .ok (some w) d2' ∧ CacheR d1' d2' := by
  have := extract_sim (relax_phaseWalk files) (p1 := p) (p2 := relaxed p s f) (m := m)
    (fun r hm => memberCheck_rel p _ hs m r hm) False.elim
    (fun key a ha => fresh_rel files p hs hf s f m hct key a ha) False.elim (cacheR_iff.mp hc)
  rw [h] at this
  obtain ⟨d2, h2, hc⟩ := this rfl
  exact ⟨d2, h2, cacheR_iff.mpr hc⟩

/-- … with no cached decoder on either side -/
theorem C18_cab_extract_relaxed (files : Files) (p : Params) (hs : p.salvage = false) (hf : p.fixMszip = false)
    (s f : Bool) (m : Member) (hct : compMask m.compType ≤ 1) (w : Bytes) (d1' : Option DState)
    (h : extract files p none m = .done .ok (some w) d1') :
    ∃ d2', extract files (relaxed p s f) none m = .done .ok (some w) d2' ∧ CacheR d1' d2' :=
  C18_cab_extract_relaxed_cached files p hs hf s f none none trivial m hct w d1' h

/-- what a session whose calls all return MSPACK_ERR_OK looks like: member, OK, its bytes -/
def okSession (ms : List Member) (outs : List Bytes) : List (Member × Err × Option Bytes) :=
  (ms.zip outs).map fun x => (x.1, Err.ok, some x.2)

/-- **C18 over sessions, stored and MSZIP folders**: any sequence of `extract` calls (any members of such folders,
    any order, the decoder cache threaded through): if every call of the strict session returns MSPACK_ERR_OK, the
    session under SALVAGE and/or FIXMSZIP returns MSPACK_ERR_OK for every call with the same bytes -/
theorem C18_cab_session_relaxed_cached (files : Files) (p : Params) (hs : p.salvage = false) (hf : p.fixMszip = false)
    (s f : Bool) : ∀ (ms : List Member) (outs : List Bytes) (d1 d2 : Option DState), CacheR d1 d2 →
      (∀ m ∈ ms, compMask m.compType ≤ 1) → outs.length = ms.length →
      runMembers files p ms d1 = okSession ms outs →
      runMembers files (relaxed p s f) ms d2 = okSession ms outs := by
  intro ms
  induction ms with
  | nil => intro outs d1 d2 _ _ _ _; rfl
  | cons m rest ih =>
    intro outs d1 d2 hc hm hl h
    cases outs with
    | nil => simp at hl
    | cons w outs' =>
      unfold runMembers at h ⊢
      simp only [okSession, List.zip_cons_cons, List.map_cons] at h ⊢
      split at h
      · rename_i e w' d1' hx
        simp only [List.cons.injEq, Prod.mk.injEq, true_and] at h
        obtain ⟨⟨he, hw⟩, htail⟩ := h
        subst he hw
        obtain ⟨d2', h2, hc'⟩ := C18_cab_extract_relaxed_cached files p hs hf s f d1 d2 hc m
          (hm m (List.mem_cons_self ..)) w d1' hx
        rw [h2]
        simp only [List.cons.injEq, true_and]
        exact ih outs' d1' d2' hc' (fun x hx => hm x (List.mem_cons_of_mem _ hx))
          (by simpa using hl) htail
      · simp at h

theorem C18_cab_session_relaxed (files : Files) (p : Params) (hs : p.salvage = false) (hf : p.fixMszip = false)
    (s f : Bool) (ms : List Member) (outs : List Bytes) (hm : ∀ m ∈ ms, compMask m.compType ≤ 1)
    (hl : outs.length = ms.length) (h : runMembers files p ms none = okSession ms outs) :
    runMembers files (relaxed p s f) ms none = okSession ms outs :=
  C18_cab_session_relaxed_cached files p hs hf s f ms outs none none trivial hm hl h

/-- non-vacuity: the MSZIP member of `C07Decoders.lean`, twice: the strict session is an all-OK session (statuses
    and bytes compared; `Member` has no decidable equality), and so is the one with both flags set -/
example : (runMembers [("a.cab", MsPack.C07Decoders.cabFile)] {} [MsPack.C07Decoders.cabMember 3, MsPack.C07Decoders.cabMember 3] none).map
      (fun r => (r.2.1, r.2.2))
    = (okSession [MsPack.C07Decoders.cabMember 3, MsPack.C07Decoders.cabMember 3] [[0x78, 0x79, 0x7A], [0x78, 0x79, 0x7A]]).map
      (fun r => (r.2.1, r.2.2)) ∧
    (runMembers [("a.cab", MsPack.C07Decoders.cabFile)] (relaxed {} true true)
      [MsPack.C07Decoders.cabMember 3, MsPack.C07Decoders.cabMember 3] none).map (fun r => (r.2.1, r.2.2))
    = [(.ok, some [0x78, 0x79, 0x7A]), (.ok, some [0x78, 0x79, 0x7A])] := by
  decide +kernel

end MsPack.Cab
