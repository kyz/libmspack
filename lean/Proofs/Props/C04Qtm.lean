import Proofs.Lemmas.LoopTermQtm
import Proofs.Lemmas.QtmPieces
import Proofs.Lemmas.LoopTermZip
/-!
# C04 — the Quantum decoder cannot hang

`qtmd_decompress` (model `Qtm.decompress`) has six loops that can report `hang`; `Proofs/Lemmas/LoopTermQtm.lean` shows that none of
them runs out:

* the renormalisation loop of `GET_SYMBOL` (`renorm`, on the caller's `fuel`) makes at most 16 rounds whatever the
  input is (after 16 shifts `L = 0`, `H = 0xFFFF`): `17 ≤ fuel`;
* the frame-trailer scan (`trailerScan`, on `fuel`) eats 8 bits per round: `stAvail rem st < 8 * fuel`, where
  `stAvail` = buffered bits + 8 × (buffered bytes + bytes left in the source) + 16 for the two zero bytes
  `read_input` makes up once (the second end of input is MSPACK_ERR_READ);
* `ensureBits` / `readManyLoop` / the model loops have fixed bounds; the symbol loop advances `window_posn`;
* the block loop gets `2 * out_bytes + 4` rounds and every round but a first one at the window's end delivers a byte.

What the block loop needs of the state is **more than `StInv`** (`QtmBounds.lean`): `QtmTerm.Sync` — `o_ptr ≤ o_end`,
`o_end = window + window_posn`, `1 ≤ frame_todo ≤ QTM_FRAME_SIZE`.  `qtmd_init` establishes it (`C04_qtm_init_sync`)
and every call that returns keeps it unless it records an error, after which `decompress` returns at once
(`C04_qtm_sync_kept`), so it holds in every state a client can reach.  It is needed: see the `#guard_msgs` block at the
end (a `StInv` state with `o_ptr > o_end` does run out of the block loop's rounds).

And the request must satisfy `out_bytes + 2^21 < 2^32`.  This premise is about the C as much as about the model:
`frame_end` is an `unsigned int`, `frame_end = window_posn + (out_bytes - (o_end - o_ptr))` is truncated to 32 bits,
so for `out_bytes = 2^32` (a legal `off_t` on LP64) `frame_end = window_posn`, the symbol loop is not entered, nothing
changes and `while ((o_end - o_ptr) < out_bytes)` spins for ever (`C04_qtm_stuck_4G` below: the model returns `hang`
for every fuel).  cabd.c, the only caller, never asks for more than `CAB_LENGTHMAX` < 2^31 bytes.
-/
namespace MsPack

/-- **C04 (Quantum), no hang.**  Over any finite source, from any state in `StInv` and (unless a previous call failed)
    `Sync`, for every request below `2^32 - 2^21` bytes: `hang` is unreachable once `fuel ≥ 17` and `8 * fuel` exceeds
    the bits still obtainable. -/
theorem C04_qtm_no_hang {σ : Type} (S : Src σ) (rem : σ → Nat) (hS : S.Finite rem) (fuel : Nat) (st : Qtm.St σ) (n : Nat)
    (hI : Qtm.StInv st) (hs : st.error = .ok → QtmTerm.Sync st) (hn : n + 2097152 < 4294967296) (hf : 17 ≤ fuel)
    (ha : st.bitsLeft + 8 * st.inbuf.length + 8 * rem st.src + (if st.inputEnd then 0 else 16) < 8 * fuel) :
    Qtm.decompress S fuel st n ≠ .error .hang := by
  have h := QtmTerm.decompress_left hS fuel st n hI hs hn hf ha
  intro he
  rw [he] at h
  exact h rfl

/-- the same with one explicit bound: bytes left + buffered bytes + 23 -/
theorem C04_qtm_no_hang' {σ : Type} (S : Src σ) (rem : σ → Nat) (hS : S.Finite rem) (fuel : Nat) (st : Qtm.St σ) (n : Nat)
    (hI : Qtm.StInv st) (hs : st.error = .ok → QtmTerm.Sync st) (hn : n + 2097152 < 4294967296)
    (hf : rem st.src + st.inbuf.length + 23 ≤ fuel) : Qtm.decompress S fuel st n ≠ .error .hang := by
  apply C04_qtm_no_hang S rem hS fuel st n hI hs hn (by omega)
  have := hI.1.bl
  split <;> omega

/-- `qtmd_init` establishes `Sync` (and `StInv`: `Qtm.init_StInv`) -/
theorem C04_qtm_init_sync {σ : Type} (src : σ) (wb ibs : Nat) (fill : UInt8) (st : Qtm.St σ)
    (h : Qtm.init src wb ibs fill = some st) : QtmTerm.Sync st ∧ st.error = .ok := by
  obtain ⟨_, _, _, _, he, _, h1, h2, h3, h4⟩ := Qtm.init_fields h
  exact ⟨⟨h1 ▸ Nat.zero_le _, h2.trans h3.symm, h4 ▸ by decide, h4 ▸ by decide⟩, he⟩

/-- every call that returns leaves a state in `Sync`, unless it (or an earlier call) recorded an error — and then the
    next call returns that error at once.  With `Qtm.decompress_ok` (`StInv` is kept): the premises of
    `C04_qtm_no_hang` hold for every call of a session that starts with `qtmd_init`.  The premises on the source, the
    fuel and `n` are there only because `Sync` is a postcondition of the termination walk (`QtmTerm.decompress_left`);
    `ha` is `QtmTerm.stAvail rem st < 8 * fuel` written out. -/
theorem C04_qtm_sync_kept {σ : Type} (S : Src σ) (rem : σ → Nat) (hS : S.Finite rem) (fuel : Nat) (st : Qtm.St σ) (n : Nat)
    (hI : Qtm.StInv st) (hs : st.error = .ok → QtmTerm.Sync st) (hn : n + 2097152 < 4294967296) (hf : 17 ≤ fuel)
    (ha : st.bitsLeft + 8 * st.inbuf.length + 8 * rem st.src + (if st.inputEnd then 0 else 16) < 8 * fuel)
    (o : DecodeOut (Qtm.St σ)) (ho : Qtm.decompress S fuel st n = .ok o) :
    Qtm.StInv o.st ∧ (o.st.error = .ok → QtmTerm.Sync o.st) := by
  have h := QtmTerm.decompress_left hS fuel st n hI hs hn hf ha
  have h2 := Qtm.decompress_ok S fuel st n hI
  rw [ho] at h h2
  exact ⟨h2, fun he => (h he).1⟩

/-- **C04 (CAB Quantum), no hang**: a Quantum folder as `Cab.decompress` runs it — over the cabinet-set feeder, with
    the fuel `chainFuel files fd` — whenever `8 × chainFuel` is above the bits still obtainable (`feederLeft` counts a
    file once per part of the set that names it; cf. `C04_cab_mszip_no_hang`) -/
theorem C04_cab_qtm_no_hang (files : Cab.Files) (st : Qtm.St Cab.Feeder) (fd : Cab.Feeder) (bytes : Nat)
    (hI : Qtm.StInv st) (hs : st.error = .ok → QtmTerm.Sync st) (hn : bytes + 2097152 < 4294967296)
    (hf : st.bitsLeft + 8 * st.inbuf.length + 8 * Cab.feederLeft files fd + (if st.inputEnd then 0 else 16)
            < 8 * Cab.chainFuel files fd) :
    Cab.decompress files (.qtm st) fd bytes ≠ .error .hang := by
  have h17 : 17 ≤ Cab.chainFuel files fd := by unfold Cab.chainFuel Cab.decFuel; omega
  rw [Cab.decompress_qtm, Ne, Except.map_error_iff]
  exact C04_qtm_no_hang (Cab.feederSrc files) (Cab.feederLeft files) (Cab.feeder_finite files) (Cab.chainFuel files fd)
    { st with src := fd } bytes ⟨hI.1, hI.2⟩ (fun he => let s := hs he; ⟨s.1, s.2, s.3, s.4⟩) hn h17 hf

/-- a request of 2^32 bytes on a stream that stands inside a frame with nothing stored up never returns: the model
    reports `hang` for **every** fuel, and qtmd.c spins (`frame_end` truncated to `unsigned int`) -/
theorem C04_qtm_stuck_4G {σ : Type} (S : Src σ) (fuel : Nat) (st : Qtm.St σ) (he : st.error = .ok)
    (h1 : st.headerRead = true) (h2 : st.oPtr = st.windowPosn) (h3 : st.oEnd = st.windowPosn)
    (h5 : 1 ≤ st.frameTodo) (h6 : st.frameTodo ≤ 32768) (h7 : st.windowPosn < st.windowSize)
    (h8 : st.windowSize ≤ 2097152) : Qtm.decompress S fuel st 4294967296 = .error .hang :=
  Qtm.decompress_stuck S fuel st he h1 h2 h3 h5 h6 h7 h8

theorem C04_qtm_init_fields {σ : Type} (src : σ) (wb ibs : Nat) (fill : UInt8) (st : Qtm.St σ)
    (h : Qtm.init src wb ibs fill = some st) :
    st.src = src ∧ st.inbuf = [] ∧ st.bitsLeft = 0 ∧ st.inputEnd = false :=
  let ⟨h1, h2, h3, h4, _⟩ := Qtm.init_fields h; ⟨h1, h2, h3, h4⟩

/-- non-vacuity: a fresh decoder on any file meets every premise with `file length + 23` rounds of fuel -/
example (file : Bytes) (wb ibs : Nat) (fill : UInt8) (st : Qtm.St Rd) (h : Qtm.init ⟨file, 0⟩ wb ibs fill = some st)
    (n : Nat) (hn : n + 2097152 < 4294967296) : Qtm.decompress Rd.src (file.length + 23) st n ≠ .error .hang := by
  obtain ⟨e1, e2, _, _⟩ := C04_qtm_init_fields _ _ _ _ _ h
  apply C04_qtm_no_hang' Rd.src Rd.left Rd.src_finite _ st n (Qtm.init_StInv _ _ _ _ _ h)
    (fun _ => (C04_qtm_init_sync _ _ _ _ _ h).1) hn
  rw [e1, e2]
  simp [Rd.left]

/-- non-vacuity (CAB): a fresh decoder state on a feeder with nothing left meets the fuel hypothesis -/
example (files : Cab.Files) (wb ibs : Nat) (fill : UInt8) (st : Qtm.St Cab.Feeder)
    (h : Qtm.init Cab.nullFeeder wb ibs fill = some st) :
    st.bitsLeft + 8 * st.inbuf.length + 8 * Cab.feederLeft files Cab.nullFeeder + (if st.inputEnd then 0 else 16)
      < 8 * Cab.chainFuel files Cab.nullFeeder := by
  obtain ⟨_, e2, e3, e4⟩ := C04_qtm_init_fields _ _ _ _ _ h
  rw [e2, e3, e4]
  simp [Cab.feederLeft, Cab.chainLeft, Cab.rdLeft, Cab.restLeft, Cab.nullFeeder, Cab.decFuel, Cab.chainFuel]
  omega

/-- `StInv` alone is not enough: it says nothing about `o_ptr`, and a state with `o_ptr` beyond `o_end` (in C: a
    negative pointer difference; unreachable from `qtmd_init`) makes every round of the block loop decode a byte
    without ever satisfying `o_end - o_ptr ≥ out_bytes`: a request of 1 byte runs out of its 6 rounds -/
def C04_qtm_demo (oPtr : Nat) : String :=
  let file : Bytes := (List.range 600).map fun i => UInt8.ofNat ((i * 37 + 11) % 256)
  match Qtm.init (⟨file, 0⟩ : Rd) 10 4096 0 with
  | none => "init failed"
  | some st =>
    match Qtm.decompress Rd.src 1000000 { st with oPtr := oPtr } 1 with
    | .error .hang => "FAULT hang"
    | .error _ => "FAULT other"
    | .ok o => s!"status {o.err.code}, {o.written.length} byte(s)"

/-- info: "status 0, 1 byte(s)" -/
#guard_msgs in #eval C04_qtm_demo 0
/-- info: "FAULT hang" -/
#guard_msgs in #eval C04_qtm_demo 5000

example (st : Qtm.St Rd) (h : Qtm.StInv st) (p : Nat) : Qtm.StInv { st with oPtr := p } := ⟨h.1, h.2⟩

end MsPack
