import Proofs.Lemmas.LzxMildFaults
import Proofs.Lemmas.OabWalk
/-!
# C02 — OAB: `oabd_decompress` and `oabd_decompress_incremental` raise only the LZX model's own faults

The OAB container layer (`copy_fh`, the block headers, the two block loops) has no checked access
of its own besides the loop bounds (its paths: `Lemmas/OabWalk.lean`); its input source for the LZX decoder, `Oab.sysRead`
(`oabd_sys_read`: the plain file handle, clamped to the block's compressed size), never faults.
With `LzxMildFaults.lean` (the LZX model raises only `oob`, `uninit`, `hang`, from any state over a
fault-free source): for every input and base file, buffer size, fill byte and fuel, a fault of
`Oab.decompress` / `Oab.decompressIncremental` is `oob`, `uninit` or `hang` — never a null
dereference, a division by zero or an over-wide shift (`C02_oab_no_ub_but_oob`).

(That the entry points do real work on concrete files: the round-trip examples of `C06.lean`.)

Not excluded here: `oob` (needs the LZX invariant `LzxInv` through `lzxd_init` /
`lzxd_set_reference_data` per block and the bound `blk_dsize < 2^31`, which `block_max`/`target_size`
are 32-bit fields do not give by themselves) and `uninit` (C11).
-/
namespace MsPack.OabLift
open MsPack.Oab MsPack.CabLift.LzxMild

theorem sysRead_no_fault (x : InFile) (n : Nat) (f : Fault) : Oab.sysRead.read x n ≠ .error f := by
  intro h; simp [Oab.sysRead] at h

def RM {α : Type} : Except Fault α → Prop
  | .error f => Mild f
  | .ok _ => True

theorem copyFh_mild (toOut : Bool) (rd : Rd) (n bufSize : Nat) : RM (CopyOut.toBlock (copyFh toOut rd n bufSize)) := by
  have := copyFh_good toOut rd n bufSize
  generalize copyFh toOut rd n bufSize = res at this
  cases res with
  | error f => cases this.1; exact .hang
  | ok c => trivial

theorem lzxBlockTail_mild (fuel bufSize : Nat) (lzx : Lzx.St InFile) (d c : Nat) :
    RM (lzxBlockTail fuel bufSize lzx d c) :=
  lzxBlockTail_walk fuel bufSize lzx d c (fun f h => decompress_mild Oab.sysRead sysRead_no_fault fuel lzx d f h)
    (fun _ _ _ => trivial) fun o _ _ => by
      have hc := copyFh_mild false o.st.src.rd o.st.src.available bufSize
      generalize copyFh false o.st.src.rd o.st.src.available bufSize = x at hc
      cases x with
      | error f => exact hc
      | ok c => exact fun _ => trivial

theorem producers_mild (fuel bufSize : Nat) : Producers fuel bufSize fun _ _ x => RM x where
  copy := fun infh d => copyFh_mild true infh d bufSize
  tail := fun lzx d crc _ _ => lzxBlockTail_mild fuel bufSize lzx d crc

theorem _root_.MsPack.Oab.RoundOf.mild {rd : Rd} {t : Nat} {w : Bytes} {x : Except Fault Round}
    (h : RoundOf (fun _ _ x => RM x) rd t w x) : RM x := by
  cases h with
  | done e he => trivial
  | fin buf infh hre d bp hd x hx =>
    cases x with
    | error f => exact hx
    | ok b => exact iteInduction (motive := RM) (fun _ => trivial) fun _ => trivial

theorem _root_.MsPack.Oab.WhileTarget.mild {fuel bufSize L B} (hL : WhileTarget fuel bufSize L B) :
    ∀ (n : Nat) (rd : Rd) (bp t : Nat) (w : Bytes), RM (L n rd bp t w) := by
  intro n
  induction n with
  | zero =>
    intro rd bp t w
    rw [hL.zero]
    split
    · trivial
    · exact .hang
  | succ n ih =>
    intro rd bp t w
    rw [hL.succ]
    split
    · trivial
    · have hb := (hL.round (producers_mild fuel bufSize) rd bp t w).mild
      split
      · rename_i heq; rw [heq] at hb; exact hb
      · trivial
      · exact ih _ _ _ _

theorem wrapLoop_mild (r : Except Fault (Err × Bytes)) (h : RM r) : RM (wrapLoop r) := by
  cases r with
  | error f => exact h
  | ok v => trivial

theorem decompress_mild' (fuel bufSize : Nat) (fill : UInt8) (input : Option Bytes) (outIsIn : Bool) :
    RM (Oab.decompress fuel bufSize fill input outIsIn) :=
  decompress_walk fuel bufSize fill input outIsIn (fun _ => trivial)
    fun _ _ _ _ _ _ _ _ => wrapLoop_mild _ ((whileTarget_full fuel bufSize fill _).mild _ _ 0 _ _)

theorem decompressIncremental_mild (fuel bufSize : Nat) (fill : UInt8) (input base : Option Bytes)
    (outIsIn outIsBase : Bool) : RM (Oab.decompressIncremental fuel bufSize fill input base outIsIn outIsBase) :=
  decompressIncremental_walk fuel bufSize fill input base outIsIn outIsBase (fun _ => trivial)
    fun _ _ _ _ _ _ _ _ _ => wrapLoop_mild _ ((whileTarget_patch fuel bufSize 4096 fill _ _ _).mild _ _ _ _ _)

/-- **C02 for OAB (all kinds but `oob`)**: neither entry point ever yields a null dereference, a
    division by zero or an over-wide shift — any input, base, buffer size, fill byte, fuel -/
theorem C02_oab_no_ub_but_oob (fuel bufSize : Nat) (fill : UInt8) (input base : Option Bytes)
    (outIsIn outIsBase : Bool) :
    (∀ w, Oab.decompress fuel bufSize fill input outIsIn ≠ .error (.nullDeref w)) ∧
    Oab.decompress fuel bufSize fill input outIsIn ≠ .error .divZero ∧
    Oab.decompress fuel bufSize fill input outIsIn ≠ .error .shiftWidth ∧
    (∀ w, Oab.decompressIncremental fuel bufSize fill input base outIsIn outIsBase ≠ .error (.nullDeref w)) ∧
    Oab.decompressIncremental fuel bufSize fill input base outIsIn outIsBase ≠ .error .divZero ∧
    Oab.decompressIncremental fuel bufSize fill input base outIsIn outIsBase ≠ .error .shiftWidth := by
  have h1 := decompress_mild' fuel bufSize fill input outIsIn
  have h2 := decompressIncremental_mild fuel bufSize fill input base outIsIn outIsBase
  refine ⟨fun w h => ?_, fun h => ?_, fun h => ?_, fun w h => ?_, fun h => ?_, fun h => ?_⟩
  · rw [h] at h1; exact Mild.not_nullDeref h1 w rfl
  · rw [h] at h1; exact Mild.not_divZero h1 rfl
  · rw [h] at h1; exact Mild.not_shiftWidth h1 rfl
  · rw [h] at h2; exact Mild.not_nullDeref h2 w rfl
  · rw [h] at h2; exact Mild.not_divZero h2 rfl
  · rw [h] at h2; exact Mild.not_shiftWidth h2 rfl

/-- every fault of either entry point, stated positively -/
theorem C02_oab_faults_mild (fuel bufSize : Nat) (fill : UInt8) (input base : Option Bytes)
    (outIsIn outIsBase : Bool) (f : Fault) :
    (Oab.decompress fuel bufSize fill input outIsIn = .error f → Mild f) ∧
    (Oab.decompressIncremental fuel bufSize fill input base outIsIn outIsBase = .error f → Mild f) := by
  refine ⟨fun h => ?_, fun h => ?_⟩
  · have := decompress_mild' fuel bufSize fill input outIsIn; rw [h] at this; exact this
  · have := decompressIncremental_mild fuel bufSize fill input base outIsIn outIsBase; rw [h] at this; exact this

end MsPack.OabLift
