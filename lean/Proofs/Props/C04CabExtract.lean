import Proofs.Props.C02CabExtract
import Proofs.Props.C08MszipCab
import Proofs.Props.C04Loops
import Proofs.Props.C04Qtm
/-!
# C04 for `cabd_extract` — the fuel hypotheses of the CAB decoder theorems, carried as an invariant of the cache

`C04_cab_mszip_no_hang`, `C04_cab_qtm_no_hang` and the LZX theorem each assume "the bits still obtainable are below
`chainFuel files fd`" for the one call they are about.  Here that becomes an invariant of `self->d` (`FuelState` =
the C02 pair invariant `StateOk` + a fuel invariant `P` of the (decoder, feeder) pair), in the shape of
`C02CabExtract.lean`: if every `decompress` call from a pair in `P` neither hangs nor leaves `P` (`CallOk`) and the decoder
`cabd_extract` sets up for the member is in `P` (`FreshOk`), then `extract` never yields `.fault .hang` and hands back a
cache in `FuelState` again; hence any session.

`FuelPair`: stored — `1 ≤ bufsize`; MSZIP — `error = OK → bitsLeft + 1 ≤ decFuel files` (the *static* bound
`decFuel ≤ chainFuel fd` for every feeder, so a feeder that moves on to the next cabinet cannot break it); Quantum and
LZX — parameters `PQ`, `PL`.  `freshDState` establishes it under `1 ≤ p.bufSize` and the static condition `StaticFuel`
(8 × `feederLeft` of the fresh feeder + 19 ≤ `decFuel files`), which holds outright for every folder inside one cabinet
file (`staticFuel_single`).  For chains that name one file in many parts it can fail in the model (fuel artefact, see
`C04Loops.lean`).

The theorems named `…_partial` take as hypotheses `ZipSticky_partial` (a status other than OK leaves `zip->error` set,
after which every call returns at once) and the Quantum and LZX "a call keeps the invariant" statements (`hq`, `hl`);
`C04CabSession.lean` proves all three.
-/
namespace MsPack.CabFuel
open MsPack.Generated MsPack.Cab MsPack.CabLift

def CallOk (files : Files) (P : Dec → Feeder → Prop) (sel : Dec → Prop) : Prop :=
  ∀ dec fd off n, sel dec → AllPair files dec fd off → off + n ≤ cabLENGTHMAX → P dec fd →
    Cab.decompress files dec fd n ≠ .error .hang ∧
    ∀ o, Cab.decompress files dec fd n = .ok (some o) → P o.dec o.feeder

def FuelState (files : Files) (P : Dec → Feeder → Prop) (ds : DState) : Prop :=
  StateOk files ds ∧ ∀ dec, ds.dec = some dec → P dec ds.feeder

variable {files : Files} {P : Dec → Feeder → Prop}

theorem runPhase_nh (hc : CallOk files P fun _ => True) (ds : DState) (dec : Dec) (n : Nat)
    (hj : AllPair files dec ds.feeder ds.offset) (hP : P dec ds.feeder) (hn : ds.offset + n ≤ cabLENGTHMAX) :
    runPhase files ds dec n ≠ .fault .hang ∧
    (∀ e w ds', runPhase files ds dec n = .ran e w ds' → FuelState files P ds' ∧ ds'.offset ≤ ds.offset + n) := by
  have hs := runPhase_safe files ds dec n hj hn
  have hk := hc dec ds.feeder ds.offset n trivial hj hn hP
  refine ⟨fun h => hk.1 (runPhase_fault h), fun e w ds' hr => ?_⟩
  obtain ⟨h1, h2⟩ := hs.2 e w ds' hr
  obtain ⟨o, ho, _, _, rfl⟩ := runPhase_ran hr
  exact ⟨⟨h1, fun dec' hd => by cases hd; exact hk.2 o ho⟩, h2⟩

def ResNH (files : Files) (P : Dec → Feeder → Prop) : ExtractResult → Prop
  | .fault f => f ≠ .hang
  | .done _ _ d => ∀ ds, d = some ds → FuelState files P ds
  | .unsupported => True

theorem ResNH.of_inv {r : ExtractResult} (h : ResInv (fun _ => FuelState files P) (· ≠ .hang) r) : ResNH files P r := by
  cases r <;> exact h

theorem ResNH.out {r : ExtractResult} (h : ResNH files P r) :
    r ≠ .fault .hang ∧ ∀ e w d', r = .done e w d' → ∀ ds, d' = some ds → FuelState files P ds :=
  ⟨fun he => by rw [he] at h; exact h rfl, fun e w d' he => by rw [he] at h; exact h⟩

theorem phaseInv_nh (hc : CallOk files P fun _ => True) :
    PhaseInv files True (FuelState files P) (fun _ => FuelState files P) (· ≠ .hang) :=
  ⟨fun _ _ h => h, fun _ h => h, fun ds dec n hds hdec hn =>
    have h := runPhase_nh hc ds dec n (hds.1 _ hdec) (hds.2 _ hdec) (hn trivial)
    ⟨fun _ hf e => h.1 (e ▸ hf), fun e w ds' hr => ⟨(h.2 e w ds' hr).1, fun _ => (h.2 e w ds' hr).2⟩⟩⟩

def FreshOk (files : Files) (P : Dec → Feeder → Prop) (p : Params) (m : Member) : Prop :=
  ∀ key ds dec, freshDState files p m key = .ok ds → ds.dec = some dec → P dec ds.feeder

theorem extract_nh (hc : CallOk files P fun _ => True) (p : Params) (d : Option DState) (m : Member)
    (hd : ∀ ds, d = some ds → FuelState files P ds) (hfresh : FreshOk files P p m) :
    ResNH files P (extract files p d m) :=
  .of_inv <| extract_keeps (phaseInv_nh hc) p d m hd
    fun key ds hob => ⟨fresh_stateOk files p m key ds hob, fun dec hdec => hfresh key ds dec hob hdec⟩

theorem session_nh (hc : CallOk files P fun _ => True) (p : Params) (ms : List Member) (d : Option DState)
    (hd : ∀ ds, d = some ds → FuelState files P ds) (hm : ∀ m ∈ ms, FreshOk files P p m) :
    extractSeq files p d ms ≠ some .hang :=
  fun h => extractSeq_keeps (phaseInv_nh hc) p ms d .hang hd
    (fun m hmem key ds hob => ⟨fresh_stateOk files p m key ds hob, fun dec hdec => hm m hmem key ds dec hob hdec⟩) h rfl

/-- (MSZIP; a hypothesis in this file, `zipSticky` in `C04CabSession.lean` proves it) a call that returns a status other than OK leaves the sticky error set
    (`return zip->error = …` at every error exit of mszipd.c); the decoder then returns at once on every later call -/
def ZipSticky_partial (files : Files) : Prop :=
  ∀ (fuel : Nat) (st : Zip.St Feeder) (n : Nat) (o : Zip.Out Feeder),
    Zip.decompress (feederSrc files) fuel st n = .ok o → o.err ≠ .ok → o.st.error ≠ .ok

/-- `PQ`, `PL`: the Quantum / LZX parts (parameters; `C04CabSession` instantiates them) -/
def FuelPair (files : Files) (PQ : Qtm.St Feeder → Feeder → Prop) (PL : Lzx.St Feeder → Feeder → Prop) :
    Dec → Feeder → Prop
  | .none bs _, _ => 1 ≤ bs
  | .mszip st, fd => st.error = .ok → Zip.bitsLeft (feederLeft files) { st with src := fd } + 1 ≤ decFuel files
  | .qtm st, fd => PQ st fd
  | .lzx st, fd => PL st fd
  | .unsupported _, _ => True

variable {PQ : Qtm.St Feeder → Feeder → Prop} {PL : Lzx.St Feeder → Feeder → Prop}

theorem callOk_none : CallOk files (FuelPair files PQ PL) fun d => ∃ bs e, d = .none bs e := by
  rintro dec fd off n ⟨bs, e, rfl⟩ _ _ hP
  refine ⟨decompress_none_no_hang files bs hP e fd n, fun o ho => ?_⟩
  obtain ⟨_, rfl⟩ | ⟨_, hd⟩ := decompress_ok_iff.1 ho
  · exact hP
  · rw [(noned_count files bs _ _ _ _ _ hd).1]; exact hP

theorem callOk_of {P : Dec → Feeder → Prop} {r : Except Fault (Option DecOut)}
    (h : Call (· ≠ .hang) (fun o => P o.dec o.feeder) r) :
    r ≠ .error .hang ∧ ∀ o, r = .ok (some o) → P o.dec o.feeder := ⟨fun e => h.1 _ e rfl, h.2.1⟩

theorem callOk_mszip (hst : ZipSticky_partial files) :
    CallOk files (FuelPair files PQ PL) fun d => ∃ st, d = .mszip st := by
  rintro dec fd off n ⟨st, rfl⟩ _ _ hP
  have hS := feederSrc_ok files
  rw [Cab.decompress_mszip]
  apply callOk_of
  by_cases he : st.error = .ok
  · have hb := hP he
    have hf : Zip.bitsLeft (feederLeft files) ({ st with src := fd } : Zip.St Feeder) + 1 ≤ chainFuel files fd :=
      Nat.le_trans hb (zcc_decFuel_le_chainFuel files fd)
    refine Call.map (fun f hz e => Zip.C04_zip_decompress_no_hang hS _ _ n hf (e ▸ hz)) fun ⟨e, w, Z⟩ hz heZ => ?_
    by_cases hok : e = .ok
    · subst hok
      exact Nat.le_trans (Nat.add_le_add_right (Zip.decompress_ok_bits hS _ _ n w Z hf hz) 1) hb
    · exact absurd heZ (hst _ _ _ _ hz hok)
  · rw [Zip.decompress_dead _ _ { st with src := fd } n he]
    exact Call.map nofun fun o ho => by cases ho; exact fun h => absurd h he

theorem callOk_all (hst : ZipSticky_partial files)
    (hq : CallOk files (FuelPair files PQ PL) fun d => ∃ st, d = .qtm st)
    (hl : CallOk files (FuelPair files PQ PL) fun d => ∃ st, d = .lzx st) :
    CallOk files (FuelPair files PQ PL) fun _ => True := by
  intro dec fd off n _ hj hn hP
  cases dec with
  | none bs e => exact callOk_none _ fd off n ⟨bs, e, rfl⟩ hj hn hP
  | mszip st => exact callOk_mszip hst _ fd off n ⟨st, rfl⟩ hj hn hP
  | qtm st => exact hq _ fd off n ⟨st, rfl⟩ hj hn hP
  | lzx st => exact hl _ fd off n ⟨st, rfl⟩ hj hn hP
  | unsupported k => rw [decompress_unsupported]; exact ⟨fun h => (nomatch h), fun _ h => (nomatch h)⟩

/-- the static condition on a member's folder: the bytes its parts can still deliver from their data offsets (rest of
    the first cabinet + the later cabinets), times 8, plus 19, stay below `decFuel files` = 16 × (all file bytes) + 100000 -/
def StaticFuel (files : Files) (p : Params) (m : Member) : Prop :=
  ∀ key ds, freshDState files p m key = .ok ds → 8 * feederLeft files ds.feeder + 19 ≤ decFuel files

theorem staticFuel_single (files : Files) (p : Params) (m : Member) (part : Part) (hp : m.parts = [part]) :
    StaticFuel files p m := by
  intro key ds h
  obtain ⟨part', rest, b, dec, hp', hl, _, rfl⟩ := freshDState_ok h
  rw [hp] at hp' ⊢
  cases hp'
  have hle := zcc_lookup_le part.fname b files 0 hl
  simp only [feederLeft, chainLeft, rdLeft, restLeft, List.tail_cons, List.length_nil, decFuel]
  omega

theorem freshOk_pair (p : Params) (m : Member) (hbs : 1 ≤ p.bufSize) (hsf : StaticFuel files p m)
    (hfq : ∀ key ds st, freshDState files p m key = .ok ds → ds.dec = some (.qtm st) → PQ st ds.feeder)
    (hfl : ∀ key ds st, freshDState files p m key = .ok ds → ds.dec = some (.lzx st) → PL st ds.feeder) :
    FreshOk files (FuelPair files PQ PL) p m := by
  intro key ds dec h hd
  have hi := initDec_some (fresh_initDec p m key ds dec h hd)
  have hs := hsf key ds h
  cases dec with
  | none bs e => exact hi.2.1 ▸ hbs
  | mszip st =>
    obtain ⟨h1, h2, _, h4, _⟩ := Zip.init_fields hi.2
    exact fun _ => fresh_bits (L := feederLeft files ds.feeder) (congrArg List.length h1) h2 h4 (by omega)
  | qtm st => exact hfq key ds st h hd
  | lzx st => exact hfl key ds st h hd
  | unsupported k => trivial

theorem initDec_mask (p : Params) (ct : Nat) (dec : Dec) (h : initDec p ct = some dec) :
    (∀ st, dec = .qtm st → compMask ct = 2) ∧ (∀ st, dec = .lzx st → compMask ct = 3) := by
  have := initDec_some h
  exact ⟨fun st hd => by subst hd; exact this.1, fun st hd => by subst hd; exact this.1⟩

/-- **C04 for `cabd_extract`** over the fuel invariant `FuelPair` — with the Quantum and LZX parts `PQ`, `PL` and their
    "a call keeps it" statements as hypotheses, and `ZipSticky_partial` for MSZIP: the call does not run out of fuel and
    the cache it hands back satisfies the invariant again -/
theorem C04_cab_extract_no_hang_partial (hst : ZipSticky_partial files)
    (hq : CallOk files (FuelPair files PQ PL) fun d => ∃ st, d = .qtm st)
    (hl : CallOk files (FuelPair files PQ PL) fun d => ∃ st, d = .lzx st)
    (p : Params) (d : Option DState) (m : Member)
    (hd : ∀ ds, d = some ds → FuelState files (FuelPair files PQ PL) ds) (hbs : 1 ≤ p.bufSize)
    (hsf : StaticFuel files p m)
    (hfq : ∀ key ds st, freshDState files p m key = .ok ds → ds.dec = some (.qtm st) → PQ st ds.feeder)
    (hfl : ∀ key ds st, freshDState files p m key = .ok ds → ds.dec = some (.lzx st) → PL st ds.feeder) :
    extract files p d m ≠ .fault .hang ∧
    ∀ e w d', extract files p d m = .done e w d' → ∀ ds, d' = some ds → FuelState files (FuelPair files PQ PL) ds :=
  (extract_nh (callOk_all hst hq hl) p d m hd (freshOk_pair p m hbs hsf hfq hfl)).out

/-- **stored and MSZIP folders, any session** from a fresh decompressor: members of stored / MSZIP folders that meet the
    static fuel condition, in any order — no call runs out of fuel (given `ZipSticky_partial`) -/
theorem C04_cab_session_stored_mszip (hst : ZipSticky_partial files) (p : Params) (hbs : 1 ≤ p.bufSize)
    (ms : List Member) (hm : ∀ m ∈ ms, compMask m.compType ≤ 1 ∧ StaticFuel files p m) :
    extractSeq files p none ms ≠ some .hang := by
  have hq : CallOk files (FuelPair files (fun _ _ => False) (fun _ _ => False)) fun d => ∃ st, d = .qtm st := by
    rintro dec fd off n ⟨st, rfl⟩ _ _ hP; exact hP.elim
  have hl : CallOk files (FuelPair files (fun _ _ => False) (fun _ _ => False)) fun d => ∃ st, d = .lzx st := by
    rintro dec fd off n ⟨st, rfl⟩ _ _ hP; exact hP.elim
  refine session_nh (callOk_all hst hq hl) p ms none (fun _ h => by cases h) fun m hmem => ?_
  obtain ⟨hmask, hsf⟩ := hm m hmem
  refine freshOk_pair p m hbs hsf (fun key ds st h hd => ?_) (fun key ds st h hd => ?_)
  · have := (initDec_mask p m.compType _ (fresh_initDec p m key ds _ h hd)).1 st rfl
    omega
  · have := (initDec_mask p m.compType _ (fresh_initDec p m key ds _ h hd)).2 st rfl
    omega

/-- … in particular for folders that lie inside one cabinet file: no side condition on the files at all -/
theorem C04_cab_session_stored_mszip_single (hst : ZipSticky_partial files) (p : Params) (hbs : 1 ≤ p.bufSize)
    (ms : List Member) (hm : ∀ m ∈ ms, compMask m.compType ≤ 1 ∧ ∃ part, m.parts = [part]) :
    extractSeq files p none ms ≠ some .hang :=
  C04_cab_session_stored_mszip hst p hbs ms fun m hmem =>
    ⟨(hm m hmem).1, let ⟨part, hp⟩ := (hm m hmem).2; staticFuel_single files p m part hp⟩

/-- **any session, all four methods**, with `hq`, `hl` and `ZipSticky_partial` as hypotheses (`C04CabSession.lean` states
    it without them) -/
theorem C04_cab_session_no_hang_partial (hst : ZipSticky_partial files)
    (hq : CallOk files (FuelPair files PQ PL) fun d => ∃ st, d = .qtm st)
    (hl : CallOk files (FuelPair files PQ PL) fun d => ∃ st, d = .lzx st)
    (p : Params) (hbs : 1 ≤ p.bufSize) (ms : List Member)
    (hm : ∀ m ∈ ms, StaticFuel files p m ∧
      (∀ key ds st, freshDState files p m key = .ok ds → ds.dec = some (.qtm st) → PQ st ds.feeder) ∧
      (∀ key ds st, freshDState files p m key = .ok ds → ds.dec = some (.lzx st) → PL st ds.feeder)) :
    extractSeq files p none ms ≠ some .hang :=
  session_nh (callOk_all hst hq hl) p ms none (fun _ h => by cases h) fun m hmem =>
    freshOk_pair p m hbs (hm m hmem).1 (hm m hmem).2.1 (hm m hmem).2.2

example : StaticFuel zipFiles {} zipMember := staticFuel_single _ _ _ _ rfl

/-- a fresh session over the MSZIP demo member, twice: the theorem applies (given the sticky-status hypothesis) -/
example (hst : ZipSticky_partial zipFiles) : extractSeq zipFiles {} none [zipMember, zipMember] ≠ some .hang :=
  C04_cab_session_stored_mszip_single hst {} (by decide) _ (by
    intro m hm
    simp only [List.mem_cons, List.not_mem_nil, or_false, or_self] at hm
    subst hm
    exact ⟨by decide, _, rfl⟩)

end MsPack.CabFuel
