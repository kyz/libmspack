import Proofs.Props.C07Chm
import Proofs.Lemmas.ChmBounds
/-!
# C08 for CHM — what `chmd_extract` returns for a stored member does not depend on what was extracted before

`chmd_extract` keeps one `mschmd_decompress_state` (`Inst.d`) between calls: the header it belongs to (`d->chm`), the
open input handle, and for the compressed section the LZX decoder with its position.  For a member of section 0 the
call looks at exactly one thing of that cache: *which file* the cached handle is on, if the cache belongs to the same
header (the seek is absolute, the decoder is not touched).  So:

* `C08_chm_sec0_history_free` — for **every** instance state `inst` whose cached handle, if it belongs to the header of
  the call, is on that header's file and the file exists (`C08CacheOK`; nothing is assumed about handles of other
  headers, positions, the LZX decoder, `inst.error`): status and bytes are those of a fresh decompressor.
* `C08CacheG` is the session form of that premise (`name key` = the file name header `key` was opened under); a fresh
  instance has it (`C08CacheG.fresh`), it implies `C08CacheOK` for every call (`C08CacheG.local`), and every call, of
  either section, keeps it (`c08_extract_keeps`; `c08_sec0_keeps`: a section-0 call also hands back the header unchanged).
* `C08_chm_any_order_sec0` — any list of section-0 extractions, members of several CHM files mixed, any order,
  failing calls included, cache threaded: each call returns its fresh-instance result.
* The premise is needed (last example): the model passes header identity and header separately, and an instance whose
  cache claims `key` but holds a handle on another file reads that other file.  In C the identity *is* the header
  pointer, and `d->infh` was opened under `chm->filename`.
-/
namespace MsPack.Chm

/-- what the caller sees of one `chmd_extract` call: the status and the bytes in the output file -/
def c08Obs : ExtractResult → Option (Err × Option Bytes)
  | .done ret _ _ out => some (ret, out)
  | _ => none

/-- the section-0 tail only looks at the *name* of the cached input handle (the seek is absolute) -/
theorem c08_sec0Tail_obs (files : Files) (hdr : Header) (d d' : DState) (h h' : InFh) (hd : d.infh = some h)
    (hd' : d'.infh = some h') (hn : h'.name = h.name) (offset length : Int) :
    c08Obs (sec0Tail files hdr d' offset length) = c08Obs (sec0Tail files hdr d offset length) := by
  unfold sec0Tail
  by_cases hl : length = 0
  · rw [if_pos hl, if_pos hl]; rfl
  · rw [if_neg hl, if_neg hl]
    simp only [hd, hd', infhBytes, hn]
    generalize (files.lookup h.name).getD [] = file
    generalize wrapI64 (hdr.sec0Offset + offset) = pos
    unfold seekAbs
    simp only [Rd.seekStart]
    by_cases hp : pos < 0
    · rw [if_pos hp]; rfl
    · rw [if_neg hp]
      simp only
      generalize copyLoop (file.length / 512 + 2) ⟨file, pos.toNat⟩ length [] = res
      obtain ⟨err, out, r'⟩ := res
      cases err <;> rfl

def C08CacheOK (files : Files) (fname : String) (key : Nat) (inst : Inst) : Prop :=
  ∀ d h, inst.d = some d → d.infh = some h → d.chm = key → h.name = fname ∧ (files.lookup fname).isSome

/-- **C08 (CHM, section 0), one call**: whatever the decompressor has cached — another header's handle, this
    header's handle at any position, an LZX decoder in any state, an error code — extracting a stored member returns the
    status and the bytes a fresh decompressor returns -/
theorem C08_chm_sec0_history_free (files : Files) (fill : UInt8) (inst : Inst) (key : Nat) (hdr : Header)
    (offset length : Int) (hc : C08CacheOK files hdr.filename key inst) :
    c08Obs (extract files fill inst key hdr 0 offset length) = c08Obs (extract files fill {} key hdr 0 offset length) := by
  rcases c08_extract_sec0_cases files fill {} key hdr offset length with ⟨d, h, hd, _⟩ | ⟨_, hfresh⟩
  · cases hd
  rcases c08_extract_sec0_cases files fill inst key hdr offset length with ⟨d, h, hd, hh, hk, e⟩ | ⟨_, hinst⟩
  · obtain ⟨hn, hl⟩ := hc d h hd hh hk
    rcases hfresh with ⟨_, hnone, _⟩ | ⟨b, d2, _, hd2, _, e2⟩
    · rw [hnone] at hl; cases hl
    · rw [e, e2]
      exact c08_sec0Tail_obs files hdr d2 d ⟨hdr.filename, 0⟩ h hd2 hh hn offset length
  · rcases hfresh with ⟨_, hnone, e2, _⟩ | ⟨b, d2, hsome, hd2, _, e2⟩
    · rcases hinst with ⟨_, _, e1, _⟩ | ⟨b, _, hsome, _⟩
      · rw [e1, e2]; rfl
      · rw [hnone] at hsome; cases hsome
    · rcases hinst with ⟨_, hnone, _⟩ | ⟨_, d1, _, hd1, _, e1⟩
      · rw [hnone] at hsome; cases hsome
      · rw [e1, e2]
        exact c08_sec0Tail_obs files hdr d2 d1 _ _ hd2 hd1 rfl offset length

def C08CacheG (files : Files) (name : Nat → String) (inst : Inst) : Prop :=
  ∀ d h, inst.d = some d → d.infh = some h → h.name = name d.chm ∧ (files.lookup h.name).isSome

theorem C08CacheG.fresh (files : Files) (name : Nat → String) (e : Err) : C08CacheG files name ⟨e, none⟩ :=
  fun _ _ h => by cases h

theorem C08CacheG.local {files : Files} {name : Nat → String} {inst : Inst} (hg : C08CacheG files name inst)
    (key : Nat) (fname : String) (hn : fname = name key) : C08CacheOK files fname key inst := by
  intro d h hd hh hk
  obtain ⟨a, b⟩ := hg d h hd hh
  rw [hk, ← hn] at a
  rw [a] at b
  exact ⟨a, b⟩

/-! ## every helper of the section-1 path keeps `d->chm` and the handle's file

`chmd_init_decomp` (with `find_sys_file`, `read_sys_file`, `read_reset_table`, `read_spaninfo`: `initDecomp_spec`) and the
`lzxd_decompress` call only ever move the *position* of the cached input handle (`C08DN`); with them `c08_extract_keeps`
(an instance of `extract_inv`) shows that every call, of either section, keeps `C08CacheG`. -/

def C08DN (d d' : DState) : Prop := d'.chm = d.chm ∧ d'.infh.map (·.name) = d.infh.map (·.name)
theorem C08DN.refl (d : DState) : C08DN d d := ⟨rfl, rfl⟩
theorem C08DN.trans {a b c : DState} (h1 : C08DN a b) (h2 : C08DN b c) : C08DN a c :=
  ⟨h2.1.trans h1.1, h2.2.trans h1.2⟩
theorem C08DN.of_eq {a b : DState} (h : b = a) : C08DN a b := h ▸ C08DN.refl _

def C08Keep {α : Type} (x : X) (res : Except Fault (α × X)) : Prop := ∀ a x', res = .ok (a, x') → C08DN x.d x'.d

theorem c08_initDecomp (files : Files) (fill : UInt8) (x : X) (off : Int) : C08Keep x (initDecomp files fill x off) :=
  fun _ _ hr => have h := (initDecomp_spec files fill x off).2 _ _ hr; ⟨h.chm, h.name⟩

theorem c08_lzxCall (files : Files) (x : X) (b : Int) :
    ∀ e w x', lzxCall files x b = .ok (some (e, w, x')) → C08DN x.d x'.d := by
  intro e w x' h
  rcases lzxCall_some _ _ _ _ _ _ h with ⟨_, _, rfl⟩ | ⟨_, _, _, _, hin, _, _, _, rfl⟩
  · exact C08DN.refl _
  · exact ⟨rfl, by rw [hin]; rfl⟩

def C08GD (files : Files) (name : Nat → String) (d : DState) : Prop :=
  ∀ h, d.infh = some h → h.name = name d.chm ∧ (files.lookup h.name).isSome

theorem C08GD.keep {files : Files} {name : Nat → String} {d d' : DState} (hg : C08GD files name d)
    (k : C08DN d d') : C08GD files name d' := by
  intro h' hh'
  obtain ⟨kc, kn⟩ := k
  rw [hh'] at kn
  cases hd : d.infh with
  | none => rw [hd] at kn; cases kn
  | some h =>
    rw [hd] at kn
    simp only [Option.map_some, Option.some.injEq] at kn
    have := hg h hd
    rw [kn, kc]
    exact this

def C08ResG (files : Files) (name : Nat → String) : ExtractResult → Prop
  | .done _ inst' _ _ => C08CacheG files name inst'
  | .unsupported inst' _ => C08CacheG files name inst'
  | .fault _ => True

theorem c08_extract_keeps (files : Files) (fill : UInt8) (name : Nat → String) (inst : Inst) (key : Nat)
    (hdr : Header) (sec : Nat) (offset length : Int) (hinst : C08CacheG files name inst)
    (hn : hdr.filename = name key) : C08ResG files name (extract files fill inst key hdr sec offset length) := by
  have := extract_inv (fun _ d => C08GD files name d) (fun x => C08GD files name x.d) (fun _ => True)
    files fill inst key hdr sec offset length (fun d hd h hh => hinst d h hd hh)
    (fun d _ hk hf h hh => by
      rcases hf with hf | ⟨hf, hl⟩ <;> rw [hf] at hh <;> cases hh
      rw [hk]; exact ⟨hn, hl⟩)
    (fun d h p hd hh => hd.keep ⟨rfl, by rw [hh]; rfl⟩)
    (fun d hd _ => ⟨fun _ _ => trivial, fun _ _ hr =>
      hd.keep (C08DN.trans ⟨rfl, rfl⟩ (c08_initDecomp files fill _ offset _ _ hr))⟩)
    (fun x h hx hh h' hh' => by cases hh'; exact hx h hh)
    (fun x b hx _ => ⟨fun _ _ => trivial, fun e w x' hr => hx.keep (c08_lzxCall files x b e w x' hr)⟩)
    (fun x hx => by
      obtain ⟨_, he, _⟩ := sec1End_eq x
      rw [he]; exact hx)
  generalize extract files fill inst key hdr sec offset length = r at this ⊢
  cases r with
  | done _ inst' _ _ =>
    obtain ⟨d, hd, h⟩ := this
    exact fun d' h' hd' hh' => by rw [hd] at hd'; cases hd'; exact h h' hh'
  | unsupported _ _ => exact this.elim
  | fault _ => trivial

theorem c08_sec0_keeps (files : Files) (fill : UInt8) (name : Nat → String) (inst : Inst) (key : Nat) (hdr : Header)
    (offset length : Int) (hg : C08CacheG files name inst) (hn : hdr.filename = name key) :
    ∃ e inst' out, extract files fill inst key hdr 0 offset length = .done e inst' hdr out ∧
      C08CacheG files name inst' := by
  have hk := c08_extract_keeps files fill name inst key hdr 0 offset length hg hn
  have h := extract_step files fill inst key hdr 0 offset length
  generalize extract files fill inst key hdr 0 offset length = r at h hk
  cases h with
  | openFail | empty | stored => exact ⟨_, _, _, rfl, hk⟩
  | initFault _ _ _ _ hs | refused _ _ _ _ _ hs | callFault _ _ _ _ _ _ hs | decoded _ _ _ _ _ _ hs =>
    exact absurd rfl hs

/-- a client's sequence of `chmd_extract` calls on stored members — of any headers, in any order — with the
    decompressor (and its cache) threaded through -/
def c08RunSeq (files : Files) (fill : UInt8) : List (Nat × Header × Int × Int) → Inst → List (Err × Option Bytes)
  | [], _ => []
  | (key, hdr, offset, length) :: rest, inst =>
    match extract files fill inst key hdr 0 offset length with
    | .done e inst' _ out => (e, out) :: c08RunSeq files fill rest inst'
    | _ => []

/-- **C08 (CHM, section 0), any sequence**: every call of any list of section-0 extractions — members of several
    CHM files mixed, repeated, in any order, failing ones (short file, unopenable file) included — returns exactly what
    a fresh decompressor returns for that member.  `name` = the file name each header identity was opened under. -/
theorem C08_chm_any_order_sec0 (files : Files) (fill : UInt8) (name : Nat → String)
    (calls : List (Nat × Header × Int × Int)) (hcalls : ∀ c ∈ calls, c.2.1.filename = name c.1)
    (inst : Inst) (hg : C08CacheG files name inst) :
    (c08RunSeq files fill calls inst).map some =
      calls.map fun c => c08Obs (extract files fill {} c.1 c.2.1 0 c.2.2.1 c.2.2.2) := by
  induction calls generalizing inst with
  | nil => rfl
  | cons c rest ih =>
    obtain ⟨key, hdr, offset, length⟩ := c
    have hn : hdr.filename = name key := hcalls _ (List.mem_cons_self ..)
    obtain ⟨e, inst', out, eq, hg'⟩ := c08_sec0_keeps files fill name inst key hdr offset length hg hn
    have hfree := C08_chm_sec0_history_free files fill inst key hdr offset length (hg.local key _ hn)
    rw [eq] at hfree
    simp only [c08RunSeq, eq, List.map_cons]
    rw [ih (fun c hc => hcalls c (List.mem_cons_of_mem _ hc)) inst' hg', ← hfree]
    rfl

/-- five calls, four on one file (backwards, beyond the end) and one on a file that does not exist: each returns what a
    fresh decompressor returns -/
example : c08RunSeq [("x.chm", [9, 9, 1, 2, 3, 4, 5])] 0
    [(0, { filename := "x.chm", sec0Offset := 2 }, 1, 3), (0, { filename := "x.chm", sec0Offset := 2 }, 0, 2),
     (0, { filename := "x.chm", sec0Offset := 2 }, 1, 10), (1, { filename := "nope.chm" }, 0, 1),
     (0, { filename := "x.chm", sec0Offset := 2 }, 4, 1)] {}
    = [(.ok, some [2, 3, 4]), (.ok, some [1, 2]), (.read, some []), (.open_, none), (.ok, some [5])] := by decide

/-- the premise cannot be dropped: a cache that claims header 0 but holds a handle on another file -/
example : c08Obs (extract [("x.chm", [1, 2, 3]), ("y.chm", [7, 8, 9])] 0
      ⟨.ok, some { chm := 0, length := 0, offset := 0, inoffset := 0, state := none, infh := some ⟨"y.chm", 0⟩ }⟩
      0 { filename := "x.chm" } 0 0 2) = some (.ok, some [7, 8]) ∧
    c08Obs (extract [("x.chm", [1, 2, 3]), ("y.chm", [7, 8, 9])] 0 {} 0 { filename := "x.chm" } 0 0 2)
      = some (.ok, some [1, 2]) := by decide

end MsPack.Chm
