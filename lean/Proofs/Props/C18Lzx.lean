import Proofs.Props.C18ExtractLift
/-!
# C18 — the LZX decoder under relaxed feeder flags

`Lzx.C18_lzx_decompress_relaxed`: an `lzxd_decompress` call that returns MSPACK_ERR_OK over a strict-mode CAB feeder
returns MSPACK_ERR_OK with the same bytes over a feeder that differs only in the SALVAGE / FIXMSZIP flags (and the
`read_error` bookkeeping); the decoder states stay related (`LR`: equal up to the feeder inside), so this holds along
any sequence of OK calls.  This is `LzxSim.decompress_sim` (`CountLaws.lean`) for `lzx_readInput_rel` (`RelaxSimLzx.lean`).

`C18_cab_extract_relaxed` / `C18_cab_session_relaxed` (`C18ExtractLift.lean`) do not cover LZX folders: `DecR`
(`RelaxSimCab.lean`) has no `.lzx` case (their `compMask m.compType ≤ 1` enters only through `initDec_rel` and `DecR`).
-/
namespace MsPack.CountLaws.Relax
open MsPack.Cab MsPack.CabLift.LzxSim
variable (files : Files)

def LSame (o1 : DecodeOut (Lzx.St Feeder)) (r : Except Fault (DecodeOut (Lzx.St Feeder))) : Prop :=
  ∃ o2, r = .ok o2 ∧ o2.err = .ok ∧ o2.written = o1.written ∧ LR o1.st o2.st

theorem lzx_relax (fuel : Nat) (s1 s2 : Lzx.St Feeder) (n : Nat) (o1 : DecodeOut (Lzx.St Feeder)) (hr : LR s1 s2)
    (h : Lzx.decompress (feederSrc files) fuel s1 n = .ok o1) (he : o1.err = .ok) : LSame o1 (Lzx.decompress (feederSrc files) fuel s2 n) := by
  have h1 : s1.error = .ok := by
    refine Decidable.byContradiction fun hne => ?_
    rw [Lzx.decompress_dead _ fuel s1 n hne] at h
    cases h
    exact hne he
  have := decompress_sim (walk_HE (fun h => h.elim) (lzx_readInput_rel files)) fuel n (s1 := s1) ⟨trivial, hr⟩ h1
  rw [h] at this
  obtain ⟨o2, h2, e2, w2, _, hr2⟩ := this.1 he
  exact ⟨o2, h2, e2, w2, hr2⟩

end MsPack.CountLaws.Relax

namespace MsPack.Lzx
open MsPack.Cab MsPack.CountLaws.Relax

/-- **C18, LZX**: an OK `lzxd_decompress` call over a strict feeder is repeated verbatim over a relaxed one -/
theorem C18_lzx_decompress_relaxed (files : Files) (fuel : Nat) (s1 s2 : St Feeder) (n : Nat)
    (o1 : DecodeOut (St Feeder)) (hr : LR s1 s2) (h : decompress (feederSrc files) fuel s1 n = .ok o1)
    (he : o1.err = .ok) :
    ∃ o2, decompress (feederSrc files) fuel s2 n = .ok o2 ∧ o2.err = .ok ∧ o2.written = o1.written ∧ LR o1.st o2.st :=
  lzx_relax files fuel s1 s2 n o1 hr h he

end MsPack.Lzx
