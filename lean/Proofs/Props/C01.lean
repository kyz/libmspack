import Proofs.Lemmas.CabEncode
import Proofs.Lemmas.CabData
/-!
# C01 — CAB listing: `open()` reproduces every member's name, size, attributes, date/time, folder

`encodeHeaders` is the specification of a cabinet's header area as a writer lays it out (CFHEADER
without optional parts, CFFOLDER entries, CFFILE entries with NUL-terminated names).
`C01_headers_roundtrip`: on the model of `cabd_read_headers`, for every such cabinet — any number of
folders and files up to the 16-bit limits, any names of 1..255 bytes without NUL, any sizes, offsets,
attributes, DOS dates and times, any reserved-field contents — wherever it sits in a file (any
prefix: `search()` opens embedded cabinets at any offset) and whatever follows it, the listing is
exactly the specified one, in strict and in salvage mode.

Not covered by this theorem: the optional header parts (reserve areas, previous/next cabinet
strings: exercised by the generators and the model/implementation comparison), and the data area
(stored folders: `C01_stored_extract` below; MSZIP: `C01Mszip.lean`; LZX: `C01Lzx.lean`; Quantum by differential
runs).
-/
namespace MsPack.Cab
open MsPack.Oab (enc32)

theorem header_fields (c : CabSpec) (h : c.wf) :
    (encCFHeader c).length = 36 ∧ u32At (encCFHeader c) 0 = 0x4643534D ∧ u32At (encCFHeader c) 8 = c.length ∧
    u16At (encCFHeader c) 0x1A = c.folders.length ∧ u16At (encCFHeader c) 0x1C = c.files.length ∧
    u16At (encCFHeader c) 0x1E = 0 ∧ u16At (encCFHeader c) 0x20 = c.setId ∧ u16At (encCFHeader c) 0x22 = c.setIndex := by
  obtain ⟨h1, h2, h3, _, _, _, _, _, h4, _, h5, _, _⟩ := h
  simp only [encCFHeader, List.append_assoc, List.length_append, enc32_length, enc16_length, List.length_cons,
    List.length_nil, u16At_skip, u32At_skip, Nat.reduceLeDiff, Nat.reduceSub, Nat.reduceAdd, u16At_enc16, u16At_enc16_nil,
    u32At_enc32, Nat.reduceLT, h1, h2, h3, h4, h5, and_self]

theorem C01_headers_roundtrip (c : CabSpec) (hwf : c.wf) (pre rest : Bytes) (salvage : Bool) :
    readHeaders (pre ++ encodeHeaders c ++ rest) pre.length salvage = .ok (c.listed pre.length) := by
  obtain ⟨hl, fsig, flen, fnfo, fnfi, fflags, fset, fidx⟩ := header_fields c hwf
  obtain ⟨_, _, _, _, _, _, _, hfne, _, hfine, _, hwfo, hwfi⟩ := hwf
  obtain ⟨hre, hd1⟩ := Rd.readExact_at (show (pre ++ encodeHeaders c ++ rest).drop pre.length =
      encCFHeader c ++ (c.folders.flatMap encFolder ++ (c.files.flatMap encFile ++ rest)) by
    simp [encodeHeaders, List.append_assoc]) hl
  have hfol := readFolders_spec pre.length (pre ++ encodeHeaders c ++ rest) c.folders (pre.length + 36) [] _ hwfo hd1
  have hd2 : (pre ++ encodeHeaders c ++ rest).drop (pre.length + 36 + 8 * c.folders.length) = c.files.flatMap encFile ++ rest := by
    have hlen : (c.folders.flatMap encFolder).length = 8 * c.folders.length := by
      clear hfol hd1 hwfo hwfi hfne
      induction c.folders with
      | nil => rfl
      | cons f fs ih => simp only [List.flatMap_cons, List.length_append, ih, List.length_cons]; simp [encFolder, enc32, enc16]; omega
    exact (Rd.readExact_at hd1 hlen).2
  obtain ⟨r, hfil⟩ := readFiles_spec c.folders.length salvage (pre ++ encodeHeaders c ++ rest) c.files
    (pre.length + 36 + 8 * c.folders.length) [] rest hwfi hd2
  have hn1 : c.folders.length ≠ 0 := fun h => hfne (List.length_eq_zero_iff.mp h)
  have hn2 : c.files.length ≠ 0 := fun h => hfine (List.length_eq_zero_iff.mp h)
  unfold readHeaders
  rw [hre]
  generalize encCFHeader c = buf at fsig flen fnfo fnfi fflags fset fidx
  simp only [fsig, flen, fnfo, fnfi, fflags, fset, fidx, ne_eq, not_true_eq_false, ↓reduceIte, hn1, hn2,
    readReserve, readSetStrings, optString, Nat.zero_and, pure, Except.pure, decide_false, Bool.false_eq_true,
    hfol, hfil, List.reverse_nil, List.nil_append]
  have : (c.files.map FileSpec.listed).isEmpty = false := by
    cases hc : c.files with
    | nil => exact absurd hc hfine
    | cons a as => rfl
  simp only [this, Bool.false_eq_true, ↓reduceIte]
  rfl

/-- the premises are satisfiable: a two-folder, two-file cabinet with a UTF-8 name and odd field values -/
example : (⟨1000, 7, 0, 1, 2, 3, 44, 3, 1, [⟨60, 1, 1⟩, ⟨200, 2, 0x1503⟩],
    [⟨[0x61, 0x2e, 0xc3, 0xa9], 10, 0, 0, 0xA0, 1997, 3, 12, 11, 13, 52⟩, ⟨[0x62], 0, 10, 1, 0x20, 2107, 12, 31, 23, 59, 58⟩]⟩ : CabSpec).wf := by
  refine ⟨by decide, by decide, by decide, by decide, by decide, by decide, by decide, by simp, by decide, by simp, by decide, ?_, ?_⟩
  · intro f hf; simp only [List.mem_cons, List.not_mem_nil, or_false] at hf
    rcases hf with rfl | rfl <;> simp [FolderSpec.wf]
  · intro f hf; simp only [List.mem_cons, List.not_mem_nil, or_false] at hf
    rcases hf with rfl | rfl <;> simp [FileSpec.wf]

end MsPack.Cab

namespace MsPack.Cab
open MsPack.Generated

/-- **stored folders**: for every list of well-formed CFDATA blocks (1..32768 bytes each, checksum field 0 or
    correct) laid out at any offset of a cabinet file, every member (offset, length) inside the folder's data, every
    DECOMPBUF ≥ 1, strict or salvage or repair mode: a first `extract()` of that member returns MSPACK_ERR_OK and
    writes exactly bytes [offset, offset + length) of the concatenated payloads — the block reader (sizes, checksum),
    the feeder (block boundaries, buffer refills), the stored decoder (chunks of DECOMPBUF) and `cabd_extract`'s
    skip-then-write phases compose to the identity on the data. -/
theorem C01_stored_extract (files : Files) (fname : String) (bytes : Bytes) (hlook : files.lookup fname = some bytes)
    (off : Nat) (blks : List DataBlk) (hwf : ∀ b ∈ blks, b.wf) (rest : Bytes)
    (hd : bytes.drop off = blks.flatMap encData ++ rest)
    (p : Params) (hbs : 0 < p.bufSize) (key o l : Nat) (hfit : o + l ≤ (plainOf blks).length)
    (hmax : o + l ≤ cabLENGTHMAX) (ctHigh : Nat) (hct : compMask (ctHigh * 16) = 0)
    (nblocks : Nat) (hnb : blks.length ≤ nblocks) :
    ∃ d', extract files p none (storedMember fname off nblocks key o l ctHigh) =
      .done .ok (some (((plainOf blks).drop o).take l)) d' :=
  (extract_stored_cached files fname bytes hlook off blks hwf rest hd p hbs key ctHigh hct nblocks hnb none (.inl rfl) o l hfit
    hmax).imp fun _ h => h.1

end MsPack.Cab
