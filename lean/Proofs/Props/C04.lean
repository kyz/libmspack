import Proofs.Lemmas.FeederTerm
import Proofs.Props.C14
/-!
# C04 — every call terminates after bounded work (CAB container part)

Every model function is total: structural recursion, or well-founded recursion whose decrease Lean
checks (`scanChunks`, `findLoop`), or recursion on a `fuel` argument with an explicit `hang`
outcome when the fuel runs out.  Proved here: for the stream feeder (`cabd_sys_read`) the fuel the
callers pass (`feederFuel`, linear in the number of blocks left) always suffices, so `hang` is
unreachable there, whatever the cabinet contains; and (in `Proofs/Props/C14`) the restart loop of
`cabd_find` always advances.  The loops of the other formats are in `C04Loops.lean`, the bit-level decoders'
fuel in `Lemmas/LoopTermZip.lean`, `C04Qtm.lean`, `Lemmas/LoopTermLzx*.lean`, and `cabd_extract` as a whole in
`C04CabExtract.lean` / `C04CabSession.lean`.
-/
namespace MsPack.Cab

/-- `cabd_sys_read` needs at most two loop iterations per remaining block, plus one -/
theorem C04_feeder_fuel_suffices (files : Files) (fd : Feeder) (todo : Nat) :
    feederRead files (feederFuel fd) fd todo [] ≠ .error .hang :=
  (feeder_finite files).no_hang fd todo

end MsPack.Cab
