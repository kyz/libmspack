import Proofs.Lemmas.ZipBounds
import Proofs.Lemmas.FeederFaults
import MsPack.Lzss.Decoder
/-!
# C02 — memory safety, MSZIP (`mszipd.c`: `inflate`, `mszipd_decompress`, `mszipd_decompress_kwaj`)

The model renders the accesses the C makes into `zip->window` and `zip->inbuf` as checked
accesses with the explicit outcomes

* `Fault.oob "window"` — a literal or match byte stored at `window[window_posn]` with
  `window_posn` outside the 32 KiB frame (`putByte`),
* `Fault.oob "inbuf"` — `*i_ptr++` with nothing in the buffer after `read_input` returned
  (`nextByte`),
* `Fault.oob "zip->window[0..bytes_output)"` — the KWAJ writer handing out more than the window
  (`kwajLoop`).

The table lookups: the Huffman decode of the model works on the canonical code (no table index
to get wrong); the one table site it keeps is `Fault.uninit "bl_table entry"` — `bl_table[PEEK_BITS(7)]`
hitting an entry `make_decode_table` did not write — excluded here too, because a 7-bit table
accepted for 3-bit lengths is complete (`Huff.build7_complete`).  The model has no `nullDeref` /
`shiftWidth` / `divZero` site.

Proved here for every source, every input, every fuel, every parameter and every state reachable
from `init` by any sequence of `decompress` calls: these outcomes are never taken.  The only
`Fault`s a run can end with are `hang` (the fuel bound) and faults *returned by the source's own `read`*, which the decoder passes through unchanged
(`FaultOK`).  So with a source that never reports an out-of-bounds access — the CAB feeder
(`C02_feeder_no_oob`) and the plain file handle `Rd.src` are such sources — no run ends in one.

Invariants (`Proofs/Lemmas/ZipBounds.lean`):
* between calls (`ZipInv` = `WinOk`): `window.size = 32768`;
* inside `inflate` and at its normal return (`Inv`): additionally `windowPosn < 32768` and
  `bytesOutput ≤ 32768`.  `FLUSH_IF_NEEDED` after every stored byte/run is what re-establishes
  `windowPosn < 32768`; `flush_window`'s `bytes_output > 32768` check is what bounds the KWAJ write.
-/
namespace MsPack.Zip

variable {σ : Type} (S : Src σ)

abbrev ZipInv (st : St σ) : Prop := WinOk st

theorem C02_zip_init_inv (src : σ) (inputBufferSize : Nat) (repair : Bool) (fill : UInt8) (st : St σ)
    (h : init src inputBufferSize repair fill = some st) : ZipInv st :=
  init_winOk src inputBufferSize repair fill st h

theorem C02_zip_decompress_inv (fuel : Nat) (st : St σ) (outBytes : Nat) (hst : ZipInv st) (o : Out σ)
    (h : decompress S fuel st outBytes = .ok o) : ZipInv o.st := by
  have := decompress_ok S fuel st outBytes hst
  rw [h] at this; exact this

theorem C02_zip_decompressKwaj_inv (fuel : Nat) (st : St σ) (hst : ZipInv st) (o : Out σ)
    (h : decompressKwaj S fuel st = .ok o) : ZipInv o.st := by
  have := decompressKwaj_ok S fuel st hst
  rw [h] at this; exact this

/-- `mszipd_decompress`: a fault is the fuel bound or came from the source -/
theorem C02_zip_decompress_faults (fuel : Nat) (st : St σ) (outBytes : Nat) (hst : ZipInv st) (f : Fault)
    (h : decompress S fuel st outBytes = .error f) : FaultOK S f := by
  have := decompress_ok S fuel st outBytes hst
  rw [h] at this; exact this

/-- `mszipd_decompress_kwaj`: the same -/
theorem C02_zip_decompressKwaj_faults (fuel : Nat) (st : St σ) (hst : ZipInv st) (f : Fault)
    (h : decompressKwaj S fuel st = .error f) : FaultOK S f := by
  have := decompressKwaj_ok S fuel st hst
  rw [h] at this; exact this

theorem FaultOK.of_src {f : Fault} (h : FaultOK S f) (hf : f ≠ .hang) : ∃ s n, S.read s n = .error f := by
  cases h with
  | hang => exact absurd rfl hf
  | src s n _ hr => exact ⟨s, n, hr⟩

/-- **C02, MSZIP**: no input makes `mszipd_decompress` store outside the window or read an empty
    input buffer, provided the source's `read` does not itself report an out-of-bounds access -/
theorem C02_zip_decompress_no_oob (hS : ∀ s n t, S.read s n ≠ .error (.oob t))
    (fuel : Nat) (st : St σ) (outBytes : Nat) (hst : ZipInv st) (t : String) :
    decompress S fuel st outBytes ≠ .error (.oob t) := fun h =>
  let ⟨s, n, hr⟩ := (C02_zip_decompress_faults S fuel st outBytes hst _ h).of_src S Fault.noConfusion
  hS s n t hr

theorem C02_zip_decompress_no_nullDeref (hS : ∀ s n t, S.read s n ≠ .error (.nullDeref t))
    (fuel : Nat) (st : St σ) (outBytes : Nat) (hst : ZipInv st) (t : String) :
    decompress S fuel st outBytes ≠ .error (.nullDeref t) := fun h =>
  let ⟨s, n, hr⟩ := (C02_zip_decompress_faults S fuel st outBytes hst _ h).of_src S Fault.noConfusion
  hS s n t hr

theorem C02_zip_decompress_no_shiftWidth (hS : ∀ s n, S.read s n ≠ .error .shiftWidth)
    (fuel : Nat) (st : St σ) (outBytes : Nat) (hst : ZipInv st) :
    decompress S fuel st outBytes ≠ .error .shiftWidth := fun h =>
  let ⟨s, n, hr⟩ := (C02_zip_decompress_faults S fuel st outBytes hst _ h).of_src S Fault.noConfusion
  hS s n hr

theorem C02_zip_decompress_no_divZero (hS : ∀ s n, S.read s n ≠ .error .divZero)
    (fuel : Nat) (st : St σ) (outBytes : Nat) (hst : ZipInv st) :
    decompress S fuel st outBytes ≠ .error .divZero := fun h =>
  let ⟨s, n, hr⟩ := (C02_zip_decompress_faults S fuel st outBytes hst _ h).of_src S Fault.noConfusion
  hS s n hr

/-- the `bl_table` lookup of `zip_read_lens` never meets an entry `make_decode_table` left unset -/
theorem C02_zip_decompress_no_uninit (hS : ∀ s n t, S.read s n ≠ .error (.uninit t))
    (fuel : Nat) (st : St σ) (outBytes : Nat) (hst : ZipInv st) (t : String) :
    decompress S fuel st outBytes ≠ .error (.uninit t) := fun h =>
  let ⟨s, n, hr⟩ := (C02_zip_decompress_faults S fuel st outBytes hst _ h).of_src S Fault.noConfusion
  hS s n t hr

def decompressCalls (fuel : Nat) : List Nat → St σ → Except Fault (St σ)
  | [], st => .ok st
  | n :: rest, st =>
    match decompress S fuel st n with
    | .error f => .error f
    | .ok o => decompressCalls fuel rest o.st

/-- … and so for a whole session: from `init`, through any sequence of calls -/
theorem C02_zip_session_no_oob (hS : ∀ s n t, S.read s n ≠ .error (.oob t))
    (src : σ) (inputBufferSize : Nat) (repair : Bool) (fill : UInt8) (st : St σ)
    (hinit : init src inputBufferSize repair fill = some st)
    (fuel : Nat) (calls : List Nat) (t : String) :
    decompressCalls S fuel calls st ≠ .error (.oob t) := by
  have hst := C02_zip_init_inv src inputBufferSize repair fill st hinit
  clear hinit
  induction calls generalizing st with
  | nil => intro h; cases h
  | cons n rest ih =>
    unfold decompressCalls
    cases hd : decompress S fuel st n with
    | error f =>
      intro h
      simp only [Except.error.injEq] at h
      exact C02_zip_decompress_no_oob S hS fuel st n hst t (h ▸ hd)
    | ok o => exact ih o.st (C02_zip_decompress_inv S fuel st n hst o hd)

/-- **C02, MSZIP in KWAJ**: `mszipd_decompress_kwaj` neither stores outside the window, nor reads
    an empty buffer, nor writes out more than the window holds -/
theorem C02_zip_decompressKwaj_no_oob (hS : ∀ s n t, S.read s n ≠ .error (.oob t))
    (fuel : Nat) (st : St σ) (hst : ZipInv st) (t : String) :
    decompressKwaj S fuel st ≠ .error (.oob t) := fun h =>
  let ⟨s, n, hr⟩ := (C02_zip_decompressKwaj_faults S fuel st hst _ h).of_src S Fault.noConfusion
  hS s n t hr

theorem C02_zip_decompressKwaj_no_nullDeref (hS : ∀ s n t, S.read s n ≠ .error (.nullDeref t))
    (fuel : Nat) (st : St σ) (hst : ZipInv st) (t : String) :
    decompressKwaj S fuel st ≠ .error (.nullDeref t) := fun h =>
  let ⟨s, n, hr⟩ := (C02_zip_decompressKwaj_faults S fuel st hst _ h).of_src S Fault.noConfusion
  hS s n t hr

theorem C02_zip_decompressKwaj_no_shiftWidth (hS : ∀ s n, S.read s n ≠ .error .shiftWidth)
    (fuel : Nat) (st : St σ) (hst : ZipInv st) :
    decompressKwaj S fuel st ≠ .error .shiftWidth := fun h =>
  let ⟨s, n, hr⟩ := (C02_zip_decompressKwaj_faults S fuel st hst _ h).of_src S Fault.noConfusion
  hS s n hr

theorem C02_zip_decompressKwaj_no_divZero (hS : ∀ s n, S.read s n ≠ .error .divZero)
    (fuel : Nat) (st : St σ) (hst : ZipInv st) :
    decompressKwaj S fuel st ≠ .error .divZero := fun h =>
  let ⟨s, n, hr⟩ := (C02_zip_decompressKwaj_faults S fuel st hst _ h).of_src S Fault.noConfusion
  hS s n hr

theorem C02_zip_decompressKwaj_no_uninit (hS : ∀ s n t, S.read s n ≠ .error (.uninit t))
    (fuel : Nat) (st : St σ) (hst : ZipInv st) (t : String) :
    decompressKwaj S fuel st ≠ .error (.uninit t) := fun h =>
  let ⟨s, n, hr⟩ := (C02_zip_decompressKwaj_faults S fuel st hst _ h).of_src S Fault.noConfusion
  hS s n t hr

/-- MSZIP folders of a cabinet: the source is the CAB feeder, which never reports an
    out-of-bounds access (`feederRead_no_oob`), so no hypothesis on the source is left -/
theorem C02_cab_mszip_no_oob (files : Cab.Files) (fuel : Nat) (st : St Cab.Feeder) (outBytes : Nat)
    (hst : ZipInv st) (t : String) :
    decompress (Cab.feederSrc files) fuel st outBytes ≠ .error (.oob t) :=
  C02_zip_decompress_no_oob (Cab.feederSrc files)
    (fun s n t => Cab.feederRead_no_oob files _ s n [] t) fuel st outBytes hst t

/-- KWAJ method 4: the source is the plain file handle, which never faults; from `mszipd_init`
    the only fault left is the fuel bound -/
theorem C02_kwaj_mszip_faults (r : Rd) (inputBufferSize : Nat) (repair : Bool) (fill : UInt8) (z : St Rd)
    (hinit : init r inputBufferSize repair fill = some z) (fuel : Nat) (f : Fault)
    (h : decompressKwaj Rd.src fuel z = .error f) : f = .hang := by
  have := C02_zip_decompressKwaj_faults Rd.src fuel z (C02_zip_init_inv r inputBufferSize repair fill z hinit) f h
  cases this with
  | hang => rfl
  | src s n _ hr => cases hr

/-- … in particular none of the four outcomes C02 is about, with no hypothesis left -/
theorem C02_kwaj_mszip_no_oob (r : Rd) (inputBufferSize : Nat) (repair : Bool) (fill : UInt8) (z : St Rd)
    (hinit : init r inputBufferSize repair fill = some z) (fuel : Nat) (t : String) :
    decompressKwaj Rd.src fuel z ≠ .error (.oob t) ∧ decompressKwaj Rd.src fuel z ≠ .error (.nullDeref t) ∧
    decompressKwaj Rd.src fuel z ≠ .error .shiftWidth ∧ decompressKwaj Rd.src fuel z ≠ .error .divZero := by
  refine ⟨?_, ?_, ?_, ?_⟩ <;> intro h <;>
    cases C02_kwaj_mszip_faults r inputBufferSize repair fill z hinit fuel _ h

/-- the hypothesis on the source cannot be dropped: the decoder passes a fault of the source's
    `read` through unchanged, so a source that reports `oob` makes the run end with it -/
example : (init (σ := Unit) () 4096 false 0).map (fun st =>
    decompress { read := fun _ _ => .error (.oob "the source's own") } 10 st 1 matches .error (.oob _))
    = some true := by decide +kernel

/-- `CK`, one fixed-Huffman block: literals `a b c`, a match (length 3, distance 3), end of block -/
def sampleHuff : Bytes := [0x43, 0x4B, 0x4b, 0x4c, 0x4a, 0x06, 0x22, 0x00]
/-- `CK`, one stored block `x y z` -/
def sampleStored : Bytes := [0x43, 0x4B, 0x01, 0x03, 0x00, 0xFC, 0xFF, 0x78, 0x79, 0x7A]

/-- The kernel builds the 32 KiB window once per declaration, so the three sample runs below are evaluated together. -/
theorem sampleRuns :
    ((init (σ := Rd) ⟨sampleHuff, 0⟩ 4096 false 0).map fun st =>
      match decompress Rd.src 1000 st 6 with
      | .ok o => some (o.err, o.written)
      | .error _ => none) = some (some (.ok, [0x61, 0x62, 0x63, 0x61, 0x62, 0x63])) ∧
    ((init (σ := Rd) ⟨sampleHuff, 0⟩ 4096 false 0).map fun st =>
      match decompress Rd.src 1000 st 2 with
      | .ok o =>
        (match decompress Rd.src 1000 o.st 4 with
         | .ok o2 => some (o.written, o2.err, o2.written)
         | .error _ => none)
      | .error _ => none) = some (some ([0x61, 0x62], .ok, [0x63, 0x61, 0x62, 0x63])) ∧
    ((init (σ := Rd) ⟨[8, 0] ++ sampleHuff ++ [10, 0] ++ sampleStored ++ [0, 0], 0⟩ 4096 false 0).map fun st =>
      match decompressKwaj Rd.src 1000 st with
      | .ok o => some (o.err, o.written)
      | .error _ => none)
      = some (some (.ok, [0x61, 0x62, 0x63, 0x61, 0x62, 0x63, 0x78, 0x79, 0x7A])) := by decide +kernel

/-- CAB entry point: literals and a match copy go through the window and come out -/
example : ((init (σ := Rd) ⟨sampleHuff, 0⟩ 4096 false 0).map fun st =>
    match decompress Rd.src 1000 st 6 with
    | .ok o => some (o.err, o.written)
    | .error _ => none) = some (some (.ok, [0x61, 0x62, 0x63, 0x61, 0x62, 0x63])) := sampleRuns.1

/-- two calls on one stream: the second is served from the bytes the first left pending -/
example : ((init (σ := Rd) ⟨sampleHuff, 0⟩ 4096 false 0).map fun st =>
    match decompress Rd.src 1000 st 2 with
    | .ok o =>
      (match decompress Rd.src 1000 o.st 4 with
       | .ok o2 => some (o.written, o2.err, o2.written)
       | .error _ => none)
    | .error _ => none) = some (some ([0x61, 0x62], .ok, [0x63, 0x61, 0x62, 0x63])) := sampleRuns.2.1

/-- KWAJ entry point: a Huffman block and a stored block, then the `block_len = 0` terminator -/
example : ((init (σ := Rd) ⟨[8, 0] ++ sampleHuff ++ [10, 0] ++ sampleStored ++ [0, 0], 0⟩ 4096 false 0).map fun st =>
    match decompressKwaj Rd.src 1000 st with
    | .ok o => some (o.err, o.written)
    | .error _ => none)
    = some (some (.ok, [0x61, 0x62, 0x63, 0x61, 0x62, 0x63, 0x78, 0x79, 0x7A])) := sampleRuns.2.2

end MsPack.Zip
