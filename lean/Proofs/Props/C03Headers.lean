import Proofs.Lemmas.ChmEncode
/-!
# C03 — CHM listing: `open()` reproduces the directory a writer laid out

`encodeChm` (`MsPack/Spec/ChmEncode.lean`) is the specification of a CHM file as a writer lays it out: ITSF
header, header section table (version 2 or 3), header section 0 (file length), header section 1 = ITSP header
followed by PMGL chunks (no index chunks: index root -1, depth 1) whose entries are ENCINT-coded, and content
section 0.

`C03_headers_roundtrip`: on the model of `chmd_read_headers` in the `entire = true` mode `open()` uses, for every
well-formed specification — version 2 or 3, any timestamp / language / density, any chunk size up to 8192 that
holds the entries, 1..100000 chunks, any number of entries per chunk, any names, sections 0/1, any offsets and
lengths below 2^63 (1..9-byte ENCINTs), any section-0 content — the result is `MSPACK_ERR_OK` and the header
returned is exactly `s.listed`: every header field is the specified one, and the file list is the specification's
entries in order, minus exactly those the C skips (names shorter than two bytes or with a NUL among the first two,
and directory entries: offset 0, length 0, trailing '/').

Not covered: system files (names starting with "::", which go to `sysfiles` and the four `sec1` pointers — `wf`
excludes them), PMGI index chunks, non-minimal ENCINT codings in entries (`C03_encint_roundtrip` covers those for a
single number), chunks with a quick-reference area larger than the entry count.
-/
namespace MsPack.Chm
open MsPack.Generated

theorem C03_headers_roundtrip (s : ChmSpec) (hwf : s.wf) (filename : String) :
    readHeaders filename (encodeChm s) true = .ok (.ok ⟨.ok, s.listed filename⟩) := by
  obtain ⟨⟨r1, d1⟩, ⟨r2, d2⟩, ⟨r3, d3⟩, ⟨r4, d4⟩, d5⟩ := chm_layout s
  obtain ⟨a_len, a_sig, a_ver, a_ts, a_lang, a_guid⟩ := itsf_fields s hwf
  obtain ⟨b_len, b_hs0, b_hs1, b_cs0⟩ := hst_fields s hwf
  obtain ⟨c_len, c_flen⟩ := hs0_fields s hwf
  obtain ⟨d_len, d_cs, d_den, d_depth, d_root, d_first, d_last, d_num⟩ := itsp_fields s hwf
  have hre1 := (Rd.readExact_at d1 a_len).1
  have hre2 := (Rd.readExact_at d2 b_len).1
  have hre3 := (Rd.readExact_at d3 c_len).1
  have hre4 := (Rd.readExact_at d4 d_len).1
  have hchunks := readChunks_spec s.chunkSize s.numChunks hwf.2.2.2.2.1 (encodeChm s) s.chunks 0 s.dirOffset {} s.content
    hwf.2.2.2.2.2.2.2.2 rfl d5
  generalize encodeChm s = file at *
  generalize encItsf s = b1 at *
  generalize hstBuf s = b2 at *
  generalize encHs0 s = b3 at *
  generalize encItsp s = b4 at *
  unfold readHeaders
  have hre1' : Rd.readExact ⟨file, 0⟩ chmheadSIZEOF = some (b1, ⟨file, 56⟩) := hre1
  rw [matchRead_some _ _ _ hre1']
  have a_sig' : u32At b1 chmhead_Signature = 1179866185 := a_sig
  have a_guid' : List.map UInt8.toNat (List.take 32 (List.drop chmhead_GUID1 b1)) = chmGuids := a_guid
  rw [a_sig', a_guid', if_neg (by decide : ¬ (1179866185 ≠ 1179866185)), if_neg (fun h => h rfl : ¬ (chmGuids ≠ chmGuids))]
  zeta_arg
  have hre2' : Rd.readExact ⟨file, 56⟩ chmhst3SIZEOF = some (b2, ⟨file, 96⟩) := hre2
  rw [matchRead_some _ _ _ hre2']
  zeta_arg
  have b_hs0' : i64At b2 chmhst_OffsetHS0 = Int.ofNat s.hs0Offset := b_hs0
  have b_hs1' : i64At b2 chmhst_OffsetHS1 = Int.ofNat s.hs1Offset := b_hs1
  rw [b_hs0', b_hs1', matchSeek_some _ _ (seekAbs_nat _ _ _)]
  have hre3' : Rd.readExact ⟨file, s.hs0Offset⟩ chmhs0SIZEOF = some (b3, ⟨file, s.hs1Offset⟩) := hre3
  rw [matchRead_some _ _ _ hre3']
  zeta_arg
  rw [matchSeek_some _ _ (seekAbs_nat _ _ _)]
  have hre4' : Rd.readExact ⟨file, s.hs1Offset⟩ chmhs1SIZEOF = some (b4, ⟨file, s.dirOffset⟩) := hre4
  rw [matchRead_some _ _ _ hre4']
  zeta_arg
  have a_ver' : u32At b1 chmhead_Version = s.version := a_ver
  have a_ts' : u32BEAt b1 chmhead_Timestamp = s.timestamp := a_ts
  have a_lang' : u32At b1 chmhead_LanguageID = s.language := a_lang
  have c_flen' : i64At b3 chmhs0_FileLen = Int.ofNat s.fileLength := c_flen
  have d_cs' : u32At b4 chmhs1_ChunkSize = s.chunkSize := d_cs
  have d_den' : u32At b4 chmhs1_Density = s.density := d_den
  have d_depth' : u32At b4 chmhs1_Depth = 1 := d_depth
  have d_root' : u32At b4 chmhs1_IndexRoot = 4294967295 := d_root
  have d_first' : u32At b4 chmhs1_FirstPMGL = 0 := d_first
  have d_last' : u32At b4 chmhs1_LastPMGL = s.numChunks - 1 := d_last
  have d_num' : u32At b4 chmhs1_NumChunks = s.numChunks := d_num
  have hpos : Rd.pos ⟨file, s.dirOffset⟩ = s.dirOffset := rfl
  rw [a_ver', a_ts', a_lang', c_flen', d_cs', d_den', d_depth', d_root', d_first', d_last', d_num', hpos]
  have b_cs0' : s.version = 3 → i64At b2 chmhst3_OffsetCS0 = Int.ofNat s.sec0Offset := b_cs0
  rw [sec0_value s hwf _ b_cs0']
  obtain ⟨hn1, hn2⟩ := wf_numChunks s hwf
  obtain ⟨hc1, hc2⟩ := wf_chunkSize s hwf
  obtain ⟨hm, hs0, hfl⟩ := wf_sizes s hwf
  have k1 : ¬ (Int.ofNat s.sec0Offset > Int.ofNat s.fileLength) := by
    unfold ChmSpec.fileLength; simp only [Int.ofNat_eq_natCast]; omega
  have k2 : ¬ (s.chunkSize < pmgl_Entries + 2) := by unfold pmgl_Entries; omega
  have k3 : ¬ (s.numChunks = 0) := by omega
  have k4 : ¬ (s.numChunks > 100000) := by omega
  have k5 : ¬ (s.chunkSize > 8192) := by omega
  have k6 : ¬ (Int.ofNat (s.chunkSize * s.numChunks) > Int.ofNat s.fileLength) := by
    unfold ChmSpec.fileLength ChmSpec.sec0Offset; simp only [Int.ofNat_eq_natCast]; omega
  have k7 : ¬ (0 > s.numChunks - 1) := by omega
  have k8 : ¬ (4294967295 ≠ 4294967295 ∧ 4294967295 ≥ s.numChunks) := fun h => h.1 rfl
  rw [if_neg k1, if_neg k2, if_neg k3, if_neg k4, if_neg k5, if_neg k6, if_neg k7, if_neg k8]
  zeta_arg
  rw [if_neg (by decide : ¬ ((!true) = true))]
  zeta_arg
  have hcount : (s.numChunks - 1 - 0 + 1) % 4294967296 = s.chunks.length := by
    unfold ChmSpec.numChunks at hn1 hn2 ⊢; omega
  rw [if_neg (by decide : ¬ ((0 : Nat) ≠ 0)), hcount, matchChunks_ok _ _ hchunks]
  zeta_arg
  simp [Walk.add, ChmSpec.listed, ChmSpec.entries]

/-- `chmd_real_open` (what `open()` returns): no error, and the header above -/
theorem C03_open_roundtrip (s : ChmSpec) (hwf : s.wf) (filename : String) :
    realOpen filename (encodeChm s) true = .ok (.ok, some (s.listed filename)) := by
  unfold realOpen
  rw [C03_headers_roundtrip s hwf filename]
  rfl

theorem C03_header_fields (s : ChmSpec) (hwf : s.wf) (filename : String) :
    ∃ p, readHeaders filename (encodeChm s) true = .ok (.ok p) ∧ p.err = .ok ∧
      p.hdr.version = s.version ∧ p.hdr.timestamp = s.timestamp ∧ p.hdr.language = s.language ∧
      p.hdr.chunkSize = s.chunkSize ∧ p.hdr.density = s.density ∧ p.hdr.numChunks = s.chunks.length ∧
      p.hdr.firstPmgl = 0 ∧ p.hdr.lastPmgl = s.chunks.length - 1 ∧ p.hdr.depth = 1 ∧ p.hdr.indexRoot = 0xFFFFFFFF ∧
      p.hdr.length = Int.ofNat (encodeChm s).length ∧
      p.hdr.dirOffset = Int.ofNat ((if s.version = 3 then 96 else 88) + 24 + 84) ∧
      p.hdr.sec0Offset = Int.ofNat ((if s.version = 3 then 96 else 88) + 24 + 84 + s.chunkSize * s.chunks.length) ∧
      p.hdr.sysfiles = [] ∧
      p.hdr.files = (s.chunks.flatten.filter EntrySpec.isFile).map EntrySpec.listed :=
  ⟨_, C03_headers_roundtrip s hwf filename, rfl, rfl, rfl, rfl, rfl, rfl, rfl, rfl, rfl, rfl, rfl,
    by rw [encodeChm_length s hwf]; rfl, rfl, rfl, rfl, rfl⟩

/-- when every entry is an ordinary file the listing is the list of entries itself -/
theorem C03_headers_roundtrip_files (s : ChmSpec) (hwf : s.wf) (hfiles : ∀ c ∈ s.chunks, ∀ en ∈ c, en.isFile = true)
    (filename : String) :
    ∃ p, readHeaders filename (encodeChm s) true = .ok (.ok p) ∧ p.err = .ok ∧
      p.hdr.files = s.chunks.flatten.map EntrySpec.listed := by
  refine ⟨_, C03_headers_roundtrip s hwf filename, rfl, ?_⟩
  have : s.entries.filter EntrySpec.isFile = s.entries := by
    apply List.filter_eq_self.mpr
    intro en hen
    obtain ⟨c, hc, hec⟩ := List.mem_flatten.mp hen
    exact hfiles c hc en hec
  simp only [ChmSpec.listed, this]
  rfl

/-- two chunks, three entries: a directory entry (skipped by the listing), a file in the compressed section with a
    2-byte ENCINT offset (300) and a 3-byte ENCINT length (70000), and a file in section 0 -/
def exampleSpec : ChmSpec :=
  { version := 3, timestamp := 0x12345678, language := 0x409, chunkSize := 64, density := 2,
    chunks := [[⟨[0x2F], 0, 0, 0⟩, ⟨[0x2F, 0x61, 0x2E, 0x68, 0x74, 0x6D], 1, 300, 70000⟩], [⟨[0x2F, 0x62], 0, 5, 1⟩]],
    content := [1, 2, 3, 4, 5, 6] }

theorem exampleSpec_wf : exampleSpec.wf := by
  refine ⟨by decide, by decide, by decide, by decide, by decide, by simp [exampleSpec], by decide, by decide, ?_⟩
  intro c hc
  simp only [exampleSpec, List.mem_cons, List.not_mem_nil, or_false] at hc
  rcases hc with rfl | rfl
  · refine ⟨⟨by decide, by decide⟩, ?_⟩
    intro en hen
    simp only [List.mem_cons, List.not_mem_nil, or_false] at hen
    rcases hen with rfl | rfl <;> exact ⟨by decide, by decide, by decide, by decide⟩
  · refine ⟨⟨by decide, by decide⟩, ?_⟩
    intro en hen
    simp only [List.mem_cons, List.not_mem_nil, or_false] at hen
    rcases hen with rfl
    exact ⟨by decide, by decide, by decide, by decide⟩

example : exampleSpec.wf := exampleSpec_wf

example : putEncint 300 = [0x82, 0x2C] := by decide

/-- what the theorem says for it: the directory entry is dropped, the two files are listed in order -/
example : ∃ p, readHeaders "x.chm" (encodeChm exampleSpec) true = .ok (.ok p) ∧ p.err = .ok ∧
    p.hdr.files = [⟨[0x2F, 0x61, 0x2E, 0x68, 0x74, 0x6D], 1, 300, 70000⟩, ⟨[0x2F, 0x62], 0, 5, 1⟩] :=
  ⟨_, C03_headers_roundtrip exampleSpec exampleSpec_wf "x.chm", rfl, by decide⟩

end MsPack.Chm
