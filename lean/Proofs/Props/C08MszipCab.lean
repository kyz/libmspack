import Proofs.Lemmas.ZipChunkCab
/-!
# C08 for MSZIP folders at `Cab.extract`: any sequence of extractions gives every member its slice

`cabd_extract` keeps the folder's decoder (`self->d`) between calls and re-uses it when the next member starts at or
after the offset it has reached; otherwise it rebuilds decoder and feeder.  For an MSZIP folder whose *fresh* decoder
over the folder's *fresh* feeder delivers `[0, N)` in one `decompress` call with OK and data `D`
(`hfresh`), the cached state after any successful call is again "what the fresh pair becomes by one OK call for
`offset` bytes" (`Tracks … .ok` of `ZipChunkCab.lean`; `Run.advance`, the chunking law split twice, moves it forward
and gives the bytes: `tracks_slices`, which makes these pairs an instance of the forward rule `Slices` of `Count.lean`),
so by induction over the call list every `extract()` on a member inside `[0, N)` — forward
through the cache, backward through a rebuilt decoder, the same member twice, in any order — returns OK with exactly
`D[offset, offset + length)`.

The decoder calls `cabd_extract` makes run with the fuel `chainFuel files fd` of the feeder *at that moment*, which
shrinks as the feeder moves through the cabinets of a set, while the hypothesis speaks about the fresh feeder's fuel.
Results do not depend on the fuel as long as it does not run out (`Zip.Run`, `Run.at_fuel`), so what is needed is that
the calls from the states reached do not end in `hang`:

* `C08_mszip_any_order_partial` carries exactly that as the hypothesis `MszipNoHang` ("from a decoder/feeder pair
  that the fresh pair reaches by one OK call for `off` bytes, a call for `k ≤ N - off` bytes is not `hang`");
  `C08_mszip_any_order_fuel_partial` has the fuel inequality of `C04_cab_mszip_no_hang` for those pairs instead.
* `C08_mszip_any_order` discharges it from a *static* condition on the fresh feeder:
  `8 * feederLeft files fd0 + 17 ≤ decFuel files` (`MszipNoHang.of_fresh`, from `nohang_of_run`: an OK call does not
  increase the bits still obtainable — `Run.bits` — and `decFuel files ≤ chainFuel files fd` for every feeder).
  `feederLeft` of the fresh feeder = rest of the first cabinet + the later cabinets from their data offsets, `decFuel`
  = 16 × all file bytes + 100000, so the condition holds whenever no cabinet file is named by more than two of
  the folder's parts.
* `C08_mszip_any_order_single`: a folder inside one cabinet file — no fuel condition.

Without such a condition the statement is not to be expected of the *model*: in a set that re-enters one file very
often a large DECOMPBUF lets the decoder buffer more input than `chainFuel` of the then-current feeder covers, and
a later call can end in the model's `hang` although the fresh instance (larger `chainFuel`) does not; no concrete
set showing this has been evaluated.
-/
namespace MsPack.Cab
open MsPack.Generated

/-- a member of an MSZIP (or any) folder given by its data parts: only offset and length differ between members -/
def mszipMember (parts : List Part) (nblocks key ct o l : Nat) : Member :=
  { length := l, offset := o, folderKey := some key, mergePrev := false, numBlocks := nblocks, compType := ct,
    parts := parts }

/-- the feeder `cabd_extract` sets up at the start of the folder -/
def mszipFreshFeeder (p : Params) (bytes : Bytes) (part : Part) (more : List Part) (nblocks ct : Nat) : Feeder :=
  { rd := some ⟨bytes, part.offset⟩, parts := part :: more, block := 0, numBlocks := nblocks, outlen := 0, buf := [],
    compType := ct, readError := .ok, lzxLen := none, salvage := p.salvage, fixMszip := p.fixMszip }

theorem freshDState_mszip (files : Files) (p : Params) (part : Part) (more : List Part) (bytes : Bytes)
    (nblocks key ct : Nat) (st0 : Zip.St Feeder)
    (hlook : files.lookup part.fname = some bytes) (hct : compMask ct = 1)
    (hinit : Zip.init nullFeeder p.bufSize p.fixMszip p.fill = some st0) (o l : Nat) :
    freshDState files p (mszipMember (part :: more) nblocks key ct o l) key =
      .ok ⟨key, 0, mszipFreshFeeder p bytes part more nblocks ct, some (.mszip st0)⟩ :=
  freshDState_eq (part := part) rfl hlook (by simp only [initDec, mszipMember, hct, hinit]; rfl) key

theorem extract_mszip_phases (files : Files) (p : Params) (part : Part) (more : List Part) (bytes : Bytes)
    (nblocks key ct : Nat) (st0 : Zip.St Feeder)
    (hlook : files.lookup part.fname = some bytes) (hct : compMask ct = 1)
    (hinit : Zip.init nullFeeder p.bufSize p.fixMszip p.fill = some st0) (o l : Nat) :
    (∃ e, memberCheck p (mszipMember (part :: more) nblocks key ct o l) = .error e ∧
      ∀ d, extract files p d (mszipMember (part :: more) nblocks key ct o l) = .done e none d) ∨
    ∃ filelen, memberCheck p (mszipMember (part :: more) nblocks key ct o l) = .ok (filelen, key) ∧ ∀ d, ∃ ds,
      extract files p d (mszipMember (part :: more) nblocks key ct o l) =
        runPhases files ds (mszipMember (part :: more) nblocks key ct o l) filelen ∧
      ((d = some ds ∧ reusable ds (mszipMember (part :: more) nblocks key ct o l) key) ∨
        ds = ⟨key, 0, mszipFreshFeeder p bytes part more nblocks ct, some (.mszip st0)⟩) := by
  cases hc : memberCheck p (mszipMember (part :: more) nblocks key ct o l) with
  | error e => exact .inl ⟨e, rfl, fun d => extract_refused hc⟩
  | ok v =>
    obtain ⟨filelen, key'⟩ := v
    cases Option.some.inj (memberCheck_ok hc).2.2.2.1
    refine .inr ⟨filelen, rfl, fun d => ?_⟩
    obtain ⟨ds, ho, h⟩ := obtainDState_total (d := d)
      (freshDState_mszip files p part more bytes nblocks key ct st0 hlook hct hinit o l)
    exact ⟨ds, extract_run hc ho, h⟩

theorem mszip_fresh_fuel {files : Files} {fd : Feeder} {st0 : Zip.St Feeder} {n : Nat} {rep : Bool} {fill : UInt8}
    (hinit : Zip.init nullFeeder n rep fill = some st0) (h : 8 * feederLeft files fd + 17 ≤ decFuel files) :
    st0.bits.length + 8 * st0.inbuf.length + 8 * feederLeft files fd + (if st0.inputEnd then 0 else 16) + 1
      ≤ decFuel files := by
  obtain ⟨h1, h2, _, h4, _⟩ := Zip.init_fields hinit
  exact CabFuel.fresh_bits (congrArg List.length h1) h2 h4 h

section
variable (files : Files) (fd0 : Feeder) (st0 : Zip.St Feeder) (N : Nat) (D : Bytes)

def MszipReach (off : Nat) (Z : Zip.St Feeder) : Prop :=
  Zip.decompress (feederSrc files) (chainFuel files fd0) { st0 with src := fd0 } off = .ok ⟨.ok, D.take off, Z⟩

/-- the cached `self->d` between calls: nothing, or this folder's decoder/feeder pair as reached from the fresh pair
    by one OK call for `offset` bytes -/
def MszipCache (key : Nat) (d : Option DState) : Prop :=
  d = none ∨ ∃ ds st, d = some ds ∧ ds.folder = key ∧ ds.dec = some (.mszip st) ∧ ds.offset ≤ N ∧
    MszipReach files fd0 st0 D ds.offset { st with src := ds.feeder }

/-- **the side condition**: from a decoder/feeder pair that the fresh pair reaches by one OK call for `off` bytes, a
    call for `k` more bytes inside `[0, N)` does not run out of fuel -/
def MszipNoHang : Prop :=
  ∀ (off k : Nat) (w : Bytes) (st : Zip.St Feeder) (fd : Feeder), off + k ≤ N →
    decompress files (.mszip st0) fd0 off = .ok (some ⟨.ok, w, .mszip st, fd⟩) →
    decompress files (.mszip st) fd k ≠ .error .hang

/-- the fuel inequality of `C04_cab_mszip_no_hang` for the pairs reached -/
def MszipFuelOk : Prop :=
  ∀ (off : Nat) (w : Bytes) (st : Zip.St Feeder) (fd : Feeder), off ≤ N →
    decompress files (.mszip st0) fd0 off = .ok (some ⟨.ok, w, .mszip st, fd⟩) →
    st.bits.length + 8 * st.inbuf.length + 8 * feederLeft files fd + (if st.inputEnd then 0 else 16) + 1
      ≤ chainFuel files fd

theorem MszipFuelOk.noHang (h : MszipFuelOk files fd0 st0 N) : MszipNoHang files fd0 st0 N :=
  fun off k w st fd hk hr => C04_zip_cab_no_hang files st fd k (h off w st fd (by omega) hr)

variable {files fd0 st0 N D}

/-- the condition speaks of the calls `Cab.decompress` makes; the fresh pair's own call for `k ≤ N` bytes is a call
    after its (empty) call for 0 bytes, hence has fuel enough too -/
theorem MszipNoHang.fresh (hnh : MszipNoHang files fd0 st0 N) (he : st0.error = .ok) (k : Nat) (hk : k ≤ N) :
    Zip.decompress (feederSrc files) (chainFuel files fd0) { st0 with src := fd0 } k ≠ .error .hang := by
  have h0 := ZipChunkCab.decompress_mszip_ok files st0 fd0 0 _ (Zip.ZipChunk.decompress_zero _ _ _ he)
  have h1 := mt ZipChunkCab.decompress_mszip_hang.2 (hnh 0 k _ _ _ (by omega) h0)
  exact h1

theorem MszipNoHang.of_run (hnh : MszipNoHang files fd0 st0 N) (off k : Nat) (hk : off + k ≤ N) {w : Bytes}
    {Z : Zip.St Feeder} (hr : Zip.Run (feederSrc files) { st0 with src := fd0 } off ⟨.ok, w, Z⟩) :
    Zip.decompress (feederSrc files) (chainFuel files Z.src) Z k ≠ .error .hang := by
  have h := ZipChunkCab.decompress_mszip_ok files st0 fd0 off _ (hr.at_fuel _ (hnh.fresh hr.err_ok off (by omega)))
  exact mt ZipChunkCab.decompress_mszip_hang.2 (hnh off k _ Z Z.src hk h)

theorem MszipNoHang.zip (hnh : MszipNoHang files fd0 st0 N) (off k : Nat) (hk : off + k ≤ N) (Z : Zip.St Feeder)
    (hr : MszipReach files fd0 st0 D off Z) :
    Zip.decompress (feederSrc files) (chainFuel files Z.src) Z k ≠ .error .hang :=
  hnh.of_run off k hk ⟨_, hr⟩

variable {key : Nat}

/-- the MSZIP pairs reached by an OK call hand out slices of `D`: the call that reached the pair and the next one are
    one call of the fresh pair (`Run.advance`) -/
theorem tracks_slices (hst : Zip.ZipInv st0) {ZN : Zip.St Feeder}
    (hfresh : Zip.Run (feederSrc files) { st0 with src := fd0 } N ⟨.ok, D, ZN⟩) (hnh : MszipNoHang files fd0 st0 N) :
    Slices files (Tracks files fd0 st0 key · .ok) N D where
  dec := fun ht => let ⟨st, h⟩ := ht.dec; ⟨_, h⟩
  phase := fun {ds dec} k ht hdec hk => by
    obtain ⟨st', R, w0, rfl, hdec', hcall, hlen, _⟩ := ht
    cases hdec.symm.trans hdec'
    cases (hcall.length hst).symm.trans hlen
    obtain ⟨Z1, a1, a2⟩ := hfresh.advance hst hk hcall
    have hlen1 : ((D.drop ds.offset).take k).length = k := a1.length (hcall.inv hst)
    refine ⟨_, runPhase_of_run a1 (hnh.of_run ds.offset k hk hcall),
      ⟨Z1, ds.offset + k, _, rfl, rfl, a2, ?_, .inl rfl⟩, ?_⟩
    · rw [a2.length hst, hlen1]
    · rw [hlen1]

theorem MszipCache.tracks (hst : Zip.ZipInv st0) {d : Option DState} (h : MszipCache files fd0 st0 N D key d)
    (ds : DState) (hd : d = some ds) : Tracks files fd0 st0 key ds .ok := by
  rcases h with rfl | ⟨ds', st, rfl, h1, h2, _, h4⟩
  · cases hd
  · cases hd
    exact ⟨st, _, _, h1, h2, ⟨_, h4⟩, Zip.Run.length ⟨_, h4⟩ hst, .inl rfl⟩

/-- back to the fuel of the fresh feeder and the bytes of `D`: the call that reached the pair is the first part of
    the call for `[0, N)` (`Run.split`, `Run.det`) -/
theorem MszipCache.of_tracks (hst : Zip.ZipInv st0) {ZN : Zip.St Feeder}
    (hfresh : Zip.Run (feederSrc files) { st0 with src := fd0 } N ⟨.ok, D, ZN⟩) (hnh : MszipNoHang files fd0 st0 N)
    {d : Option DState} (h : ∀ ds, d = some ds → Tracks files fd0 st0 key ds .ok ∧ ds.offset ≤ N) :
    MszipCache files fd0 st0 N D key d := by
  cases d with
  | none => exact .inl rfl
  | some ds =>
    obtain ⟨⟨st, R, w, hfol, hdec, hcall, hlen, _⟩, hle⟩ := h ds rfl
    cases (hcall.length hst).symm.trans hlen
    rw [show N = ds.offset + (N - ds.offset) by omega] at hfresh
    obtain ⟨Z', j1, _⟩ := hfresh.split hst
    cases j1.det hcall
    exact .inr ⟨ds, st, rfl, hfol, hdec, hle, j1.at_fuel _ (hnh.fresh hcall.err_ok _ hle)⟩

end

section
variable (files : Files) (p : Params) (part : Part) (more : List Part) (bytes : Bytes) (nblocks key ct : Nat)
  (st0 : Zip.St Feeder) (N : Nat) (D : Bytes)

theorem extract_mszip_tracked (hlook : files.lookup part.fname = some bytes) (hct : compMask ct = 1)
    (hinit : Zip.init nullFeeder p.bufSize p.fixMszip p.fill = some st0)
    (hmax : N ≤ cabLENGTHMAX) (hblk : N ≤ nblocks * cabBLOCKMAX)
    (ZN : Zip.St Feeder)
    (hfresh : Zip.Run (feederSrc files) { st0 with src := mszipFreshFeeder p bytes part more nblocks ct } N ⟨.ok, D, ZN⟩)
    (hnh : MszipNoHang files (mszipFreshFeeder p bytes part more nblocks ct) st0 N)
    (d : Option DState)
    (hcache : ∀ ds, d = some ds → Tracks files (mszipFreshFeeder p bytes part more nblocks ct) st0 key ds .ok)
    (o l : Nat) (hfit : o + l ≤ N) :
    ∃ d', extract files p d (mszipMember (part :: more) nblocks key ct o l) =
        .done .ok (some ((D.drop o).take l)) d' ∧
      ∀ ds, d' = some ds →
        Tracks files (mszipFreshFeeder p bytes part more nblocks ct) st0 key ds .ok ∧ ds.offset ≤ N :=
  extract_slices (tracks_slices (Zip.C02_zip_init_inv _ _ _ _ st0 hinit) hfresh hnh)
    (memberCheck_pass p rfl rfl (Nat.le_trans hfit hmax) (Nat.le_trans hfit hblk))
    (freshDState_mszip files p part more bytes nblocks key ct st0 hlook hct hinit o l)
    (Tracks.fresh (st0 := st0) hfresh.err_ok key) hcache hfit

theorem extract_mszip_cached (hlook : files.lookup part.fname = some bytes) (hct : compMask ct = 1)
    (hinit : Zip.init nullFeeder p.bufSize p.fixMszip p.fill = some st0)
    (hmax : N ≤ cabLENGTHMAX) (hblk : N ≤ nblocks * cabBLOCKMAX)
    (ZN : Zip.St Feeder)
    (hfresh : MszipReach files (mszipFreshFeeder p bytes part more nblocks ct) st0 D N ZN) (hD : D.length = N)
    (hnh : MszipNoHang files (mszipFreshFeeder p bytes part more nblocks ct) st0 N)
    (d : Option DState) (hcache : MszipCache files (mszipFreshFeeder p bytes part more nblocks ct) st0 N D key d)
    (o l : Nat) (hfit : o + l ≤ N) :
    ∃ d', extract files p d (mszipMember (part :: more) nblocks key ct o l) =
        .done .ok (some ((D.drop o).take l)) d' ∧
      MszipCache files (mszipFreshFeeder p bytes part more nblocks ct) st0 N D key d' := by
  have hst : Zip.ZipInv st0 := Zip.C02_zip_init_inv _ _ _ _ st0 hinit
  have hf : Zip.Run (feederSrc files) { st0 with src := mszipFreshFeeder p bytes part more nblocks ct } N
      ⟨.ok, D, ZN⟩ := by
    have := hfresh
    unfold MszipReach at this
    rw [List.take_of_length_le (Nat.le_of_eq hD)] at this
    exact ⟨_, this⟩
  obtain ⟨d', e, hc'⟩ := extract_mszip_tracked files p part more bytes nblocks key ct st0 N D hlook hct hinit hmax hblk
    ZN hf hnh d (hcache.tracks hst) o l hfit
  exact ⟨d', e, .of_tracks hst hf hnh hc'⟩

/-- a client's sequence of `extract()` calls on members of one folder, the cache threaded through -/
def mszipRunSeq (parts : List Part) : List (Nat × Nat) → Option DState → List (Err × Option Bytes)
  | [], _ => []
  | (o, l) :: rest, d =>
    match extract files p d (mszipMember parts nblocks key ct o l) with
    | .done e w d' => (e, w) :: mszipRunSeq parts rest d'
    | _ => []

end

/-- the cache after a list of `extract()` calls (a faulting call leaves it as it was) -/
def mszipCacheAfter (files : Files) (p : Params) (nblocks key ct : Nat) (parts : List Part) :
    List (Nat × Nat) → Option DState → Option DState
  | [], d => d
  | (o, l) :: rest, d =>
    match extract files p d (mszipMember parts nblocks key ct o l) with
    | .done _ _ d' => mszipCacheAfter files p nblocks key ct parts rest d'
    | _ => d

theorem mszip_seq_cached (files : Files) (p : Params) (part : Part) (more : List Part) (bytes : Bytes)
    (nblocks key ct : Nat) (st0 : Zip.St Feeder)
    (hlook : files.lookup part.fname = some bytes) (hct : compMask ct = 1)
    (hinit : Zip.init nullFeeder p.bufSize p.fixMszip p.fill = some st0)
    (N : Nat) (hmax : N ≤ cabLENGTHMAX) (hblk : N ≤ nblocks * cabBLOCKMAX) (D : Bytes) (ZN : Zip.St Feeder)
    (hfresh : Zip.Run (feederSrc files) { st0 with src := mszipFreshFeeder p bytes part more nblocks ct } N ⟨.ok, D, ZN⟩)
    (hnh : MszipNoHang files (mszipFreshFeeder p bytes part more nblocks ct) st0 N) :
    ∀ (ms : List (Nat × Nat)) (d : Option DState),
      (∀ ds, d = some ds → Tracks files (mszipFreshFeeder p bytes part more nblocks ct) st0 key ds .ok) →
      (∀ m ∈ ms, m.1 + m.2 ≤ N) →
      mszipRunSeq files p nblocks key ct (part :: more) ms d =
        ms.map (fun m => (.ok, some ((D.drop m.1).take m.2))) ∧
      ∀ ds, mszipCacheAfter files p nblocks key ct (part :: more) ms d = some ds →
        Tracks files (mszipFreshFeeder p bytes part more nblocks ct) st0 key ds .ok := by
  intro ms
  induction ms with
  | nil => intro d hc _; exact ⟨rfl, hc⟩
  | cons m ms ih =>
    intro d hc hm
    obtain ⟨o, l⟩ := m
    obtain ⟨d', e, hc'⟩ := extract_mszip_tracked files p part more bytes nblocks key ct st0 N D hlook hct hinit hmax hblk
      ZN hfresh hnh d hc o l (hm (o, l) (List.mem_cons_self ..))
    obtain ⟨i1, i2⟩ := ih d' (fun ds h => (hc' ds h).1) (fun x hx => hm x (List.mem_cons_of_mem _ hx))
    simp only [mszipRunSeq, mszipCacheAfter, e, List.map_cons]
    exact ⟨by rw [i1], i2⟩

/-- **history independence, MSZIP folders** (partial: with the side condition `MszipNoHang`).  Folder data parts
    `part :: more` (the first one in file `part.fname`), any compression type word with method MSZIP, any parameters;
    the fresh decoder (`Zip.init`) over the folder's fresh feeder delivers `N` bytes in one `decompress` call with OK
    and data `D`.  Then whatever members inside `[0, N)` are extracted, in whatever order (forward through the cached
    decoder, backward through a rebuilt one, the same member twice), every `extract()` returns OK and writes exactly
    `D[offset, offset + length)` — what a fresh instance writes. -/
theorem C08_mszip_any_order_partial (files : Files) (p : Params) (part : Part) (more : List Part) (bytes : Bytes)
    (nblocks key ct : Nat) (st0 : Zip.St Feeder)
    (hlook : files.lookup part.fname = some bytes) (hct : compMask ct = 1)
    (hinit : Zip.init nullFeeder p.bufSize p.fixMszip p.fill = some st0)
    (N : Nat) (hmax : N ≤ cabLENGTHMAX) (hblk : N ≤ nblocks * cabBLOCKMAX)
    (D : Bytes) (decN : Dec) (fdN : Feeder)
    (hfresh : decompress files (.mszip st0) (mszipFreshFeeder p bytes part more nblocks ct) N =
      .ok (some ⟨.ok, D, decN, fdN⟩))
    (hnh : MszipNoHang files (mszipFreshFeeder p bytes part more nblocks ct) st0 N)
    (ms : List (Nat × Nat)) (hms : ∀ m ∈ ms, m.1 + m.2 ≤ N) :
    mszipRunSeq files p nblocks key ct (part :: more) ms none =
      ms.map fun m => (.ok, some ((D.drop m.1).take m.2)) := by
  obtain ⟨ZN, hz, _, _⟩ := ZipChunkCab.decompress_mszip_inv files st0 _ N _ hfresh
  exact (mszip_seq_cached files p part more bytes nblocks key ct st0 hlook hct hinit N hmax hblk D ZN ⟨_, hz⟩ hnh ms none
    (fun _ h => nomatch h) hms).1

/-- the same with the fuel inequality of `C04_cab_mszip_no_hang` for the decoder/feeder pairs reached, instead of
    "no call hangs" -/
theorem C08_mszip_any_order_fuel_partial (files : Files) (p : Params) (part : Part) (more : List Part) (bytes : Bytes)
    (nblocks key ct : Nat) (st0 : Zip.St Feeder)
    (hlook : files.lookup part.fname = some bytes) (hct : compMask ct = 1)
    (hinit : Zip.init nullFeeder p.bufSize p.fixMszip p.fill = some st0)
    (N : Nat) (hmax : N ≤ cabLENGTHMAX) (hblk : N ≤ nblocks * cabBLOCKMAX)
    (D : Bytes) (decN : Dec) (fdN : Feeder)
    (hfresh : decompress files (.mszip st0) (mszipFreshFeeder p bytes part more nblocks ct) N =
      .ok (some ⟨.ok, D, decN, fdN⟩))
    (hfuel : MszipFuelOk files (mszipFreshFeeder p bytes part more nblocks ct) st0 N)
    (ms : List (Nat × Nat)) (hms : ∀ m ∈ ms, m.1 + m.2 ≤ N) :
    mszipRunSeq files p nblocks key ct (part :: more) ms none =
      ms.map fun m => (.ok, some ((D.drop m.1).take m.2)) :=
  C08_mszip_any_order_partial files p part more bytes nblocks key ct st0 hlook hct hinit N hmax hblk D decN fdN hfresh
    hfuel.noHang ms hms

theorem zcc_foldl_ge (files : Files) : ∀ acc : Nat, acc ≤ files.foldl (fun a f => a + f.2.length) acc := by
  induction files with
  | nil => intro acc; exact Nat.le_refl _
  | cons f fs ih => intro acc; rw [List.foldl_cons]; exact Nat.le_trans (Nat.le_add_right _ _) (ih _)

theorem zcc_lookup_le (name : String) (bytes : Bytes) : ∀ (files : Files) (acc : Nat), files.lookup name = some bytes →
    acc + bytes.length ≤ files.foldl (fun a f => a + f.2.length) acc := by
  intro files
  induction files with
  | nil => intro acc h; cases h
  | cons f fs ih =>
    intro acc h
    obtain ⟨k, v⟩ := f
    rw [List.lookup_cons] at h
    rw [List.foldl_cons]
    split at h
    · simp only [Option.some.injEq] at h
      subst h
      exact zcc_foldl_ge fs _
    · have := ih (acc + v.length) h
      dsimp only at this ⊢
      omega

theorem mszip_single_fuel {files : Files} {part : Part} {bytes : Bytes} (p : Params) (nblocks ct : Nat)
    (hlook : files.lookup part.fname = some bytes) :
    8 * feederLeft files (mszipFreshFeeder p bytes part [] nblocks ct) + 17 ≤ decFuel files := by
  have hle := zcc_lookup_le part.fname bytes files 0 hlook
  simp only [feederLeft, mszipFreshFeeder, chainLeft, rdLeft, restLeft, List.tail_cons, List.length_nil, decFuel]
  omega

/-- the side condition from a *static* bound on the fresh feeder: the bytes the folder's parts can still deliver,
    times 8, plus the two faked bytes, stay below `decFuel files` (true whenever no cabinet file is named by more
    than two of the folder's parts, in particular for every single-cabinet folder) -/
theorem MszipNoHang.of_fresh (files : Files) (fd0 : Feeder) (st0 : Zip.St Feeder) (N : Nat) (hst : Zip.ZipInv st0)
    (hf0 : st0.bits.length + 8 * st0.inbuf.length + 8 * feederLeft files fd0
      + (if st0.inputEnd then 0 else 16) + 1 ≤ decFuel files) :
    MszipNoHang files fd0 st0 N := by
  intro off k w st fd _ hr
  obtain ⟨Z, hz, hdec, hfd⟩ := ZipChunkCab.decompress_mszip_inv files st0 fd0 off _ hr
  cases hdec
  cases hfd
  exact mt ZipChunkCab.decompress_mszip_hang.1 (nohang_of_run hf0 ⟨_, hz⟩ k)

/-- **history independence, MSZIP folders.**  Folder data parts `part :: more` (the first one in file `part.fname`),
    any compression type word with method MSZIP, any parameters (DECOMPBUF, strict/salvage, fix-MSZIP, fill byte);
    `hfuel0`: the bytes the folder's parts can still deliver from their data offsets (`feederLeft` of the fresh
    feeder: rest of the first cabinet + the later cabinets) times 8, plus 17, are below `decFuel files`
    = 16 × (all file bytes) + 100000 — so whenever no cabinet file is named by more than two of the folder's parts.
    If the fresh decoder over the folder's fresh feeder delivers `N` bytes in one `decompress` call with OK and data
    `D`, then whatever members inside `[0, N)` are extracted, in whatever order (forward through the cached decoder,
    backward through a rebuilt one, the same member twice), every `extract()` returns OK and writes exactly
    `D[offset, offset + length)` — what a fresh instance writes. -/
theorem C08_mszip_any_order (files : Files) (p : Params) (part : Part) (more : List Part) (bytes : Bytes)
    (nblocks key ct : Nat) (st0 : Zip.St Feeder)
    (hlook : files.lookup part.fname = some bytes) (hct : compMask ct = 1)
    (hinit : Zip.init nullFeeder p.bufSize p.fixMszip p.fill = some st0)
    (hfuel0 : 8 * feederLeft files (mszipFreshFeeder p bytes part more nblocks ct) + 17 ≤ decFuel files)
    (N : Nat) (hmax : N ≤ cabLENGTHMAX) (hblk : N ≤ nblocks * cabBLOCKMAX)
    (D : Bytes) (decN : Dec) (fdN : Feeder)
    (hfresh : decompress files (.mszip st0) (mszipFreshFeeder p bytes part more nblocks ct) N =
      .ok (some ⟨.ok, D, decN, fdN⟩))
    (ms : List (Nat × Nat)) (hms : ∀ m ∈ ms, m.1 + m.2 ≤ N) :
    mszipRunSeq files p nblocks key ct (part :: more) ms none =
      ms.map fun m => (.ok, some ((D.drop m.1).take m.2)) :=
  C08_mszip_any_order_partial files p part more bytes nblocks key ct st0 hlook hct hinit N hmax hblk D decN fdN
    hfresh (MszipNoHang.of_fresh files _ st0 N (Zip.C02_zip_init_inv _ _ _ _ st0 hinit) (mszip_fresh_fuel hinit hfuel0))
    ms hms

/-- **… for a folder that lies in one cabinet file**: no condition on the fuel at all -/
theorem C08_mszip_any_order_single (files : Files) (p : Params) (part : Part) (bytes : Bytes)
    (nblocks key ct : Nat) (st0 : Zip.St Feeder)
    (hlook : files.lookup part.fname = some bytes) (hct : compMask ct = 1)
    (hinit : Zip.init nullFeeder p.bufSize p.fixMszip p.fill = some st0)
    (N : Nat) (hmax : N ≤ cabLENGTHMAX) (hblk : N ≤ nblocks * cabBLOCKMAX)
    (D : Bytes) (decN : Dec) (fdN : Feeder)
    (hfresh : decompress files (.mszip st0) (mszipFreshFeeder p bytes part [] nblocks ct) N =
      .ok (some ⟨.ok, D, decN, fdN⟩))
    (ms : List (Nat × Nat)) (hms : ∀ m ∈ ms, m.1 + m.2 ≤ N) :
    mszipRunSeq files p nblocks key ct [part] ms none =
      ms.map fun m => (.ok, some ((D.drop m.1).take m.2)) :=
  C08_mszip_any_order files p part [] bytes nblocks key ct st0 hlook hct hinit (mszip_single_fuel p nblocks ct hlook)
    N hmax hblk D decN fdN hfresh ms hms

/-- a CFDATA block with checksum field 0 (not checked) -/
def zccBlock (payload : Bytes) (out : Nat) : Bytes :=
  [0, 0, 0, 0, UInt8.ofNat (payload.length % 256), UInt8.ofNat (payload.length / 256),
   UInt8.ofNat (out % 256), UInt8.ofNat (out / 256)] ++ payload

/-- one cabinet file, the folder's data at offset 3: two blocks, one `CK` frame each (3 and 2 bytes) -/
def zccFile : Bytes :=
  [9, 9, 9] ++ zccBlock (Deflate.encFrame [.stored [1, 2, 3]]) 3 ++ zccBlock (Deflate.encFrame [.stored [4, 5]]) 2

def zccFiles : Files := [("a.cab", zccFile)]
def zccPart : Part := ⟨"a.cab", 0, 3⟩

def zccView : Except Fault (Option DecOut) → Option (Err × Bytes)
  | .ok (some o) => some (o.err, o.written)
  | _ => none

theorem zccView_ok (r : Except Fault (Option DecOut)) (D : Bytes) (h : zccView r = some (.ok, D)) :
    ∃ decN fdN, r = .ok (some ⟨.ok, D, decN, fdN⟩) := by
  cases r with
  | error f => cases h
  | ok o =>
    cases o with
    | none => cases h
    | some o =>
      obtain ⟨e, w, dec, fd⟩ := o
      simp only [zccView, Option.some.injEq, Prod.mk.injEq] at h
      obtain ⟨rfl, rfl⟩ := h
      exact ⟨dec, fd, rfl⟩

/-- The kernel builds the 32 KiB window once per declaration, so the run of `zcc_fresh` and the direct evaluation
    of the request list (the last example) are evaluated together. -/
theorem zccRuns :
    ((Zip.init nullFeeder 4096 false 0xa5).map fun st0 =>
      zccView (decompress zccFiles (.mszip st0) (mszipFreshFeeder {} zccFile zccPart [] 2 1) 5)) =
      some (some (.ok, [1, 2, 3, 4, 5])) ∧
    mszipRunSeq zccFiles {} 2 7 1 [zccPart] [(3, 2), (0, 2), (1, 3), (1, 3), (4, 0), (2, 3)] none =
      [(.ok, some [4, 5]), (.ok, some [1, 2]), (.ok, some [2, 3, 4]), (.ok, some [2, 3, 4]), (.ok, some []),
       (.ok, some [3, 4, 5])] := by decide +kernel

/-- the fresh decoder over the fresh feeder delivers the 5 bytes (evaluation of the model) -/
theorem zcc_fresh : ((Zip.init nullFeeder 4096 false 0xa5).map fun st0 =>
    zccView (decompress zccFiles (.mszip st0) (mszipFreshFeeder {} zccFile zccPart [] 2 1) 5)) =
    some (some (.ok, [1, 2, 3, 4, 5])) := zccRuns.1

/-- members requested backward, forward, overlapping, twice, empty: each gets its slice (by the theorem) -/
example (st0 : Zip.St Feeder) (hinit : Zip.init nullFeeder 4096 false 0xa5 = some st0) :
    mszipRunSeq zccFiles {} 2 7 1 [zccPart] [(3, 2), (0, 2), (1, 3), (1, 3), (4, 0), (2, 3)] none =
      [(.ok, some [4, 5]), (.ok, some [1, 2]), (.ok, some [2, 3, 4]), (.ok, some [2, 3, 4]), (.ok, some []),
       (.ok, some [3, 4, 5])] := by
  have hv := zcc_fresh
  rw [hinit] at hv
  simp only [Option.map_some, Option.some.injEq] at hv
  obtain ⟨decN, fdN, h⟩ := zccView_ok _ _ hv
  rw [C08_mszip_any_order_single zccFiles {} zccPart zccFile 2 7 1 st0 rfl rfl hinit 5 (by decide) (by decide)
    [1, 2, 3, 4, 5] decN fdN h _ (by decide)]
  rfl

/-- the same list evaluated directly (no theorem involved) -/
example : mszipRunSeq zccFiles {} 2 7 1 [zccPart] [(3, 2), (0, 2), (1, 3), (1, 3), (4, 0), (2, 3)] none =
      [(.ok, some [4, 5]), (.ok, some [1, 2]), (.ok, some [2, 3, 4]), (.ok, some [2, 3, 4]), (.ok, some []),
       (.ok, some [3, 4, 5])] := zccRuns.2

end MsPack.Cab
