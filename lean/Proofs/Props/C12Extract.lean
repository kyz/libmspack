import Proofs.Props.C12
import Proofs.Props.C01
/-!
# C12 at the level of `extract()`, stored folders

A stored folder whose first blocks are intact and whose next block fails the block reader's test (in particular:
a checksummed block with one byte of its payload, of its uncompressed-size field or of its stored checksum
altered, `C12_payload_altered` / `C12_sizes_altered` / `C12_stored_altered`).  In strict mode `extract()` of any
member either lies wholly in the intact blocks and yields exactly its original bytes, or reports an error: the
refusal of the block reader travels through the feeder, the stored decoder and both phases of `cabd_extract`
to the caller.  It never returns MSPACK_ERR_OK with other content.
-/
namespace MsPack.Cab
open MsPack.Generated
open MsPack.Oab (enc32)

/-- the block reader on a block that fails `blockCheck` (or whose uncompressed-size field is out of range): refused
    with some error, before anything else is looked at (the witness in the proof: DATAFORMAT if the size field is out
    of range, else CHECKSUM) -/
theorem badTail_of_refused (files : Files) (L : Lay) (ck : Nat) (us payload rest : Bytes)
    (hck : ck < 4294967296) (hus : us.length = 2) (hpl : payload.length ≤ 32768)
    (htail : L.tail = enc32 ck ++ (enc16 payload.length ++ us) ++ payload ++ rest)
    (href : blockCheck ck (enc16 payload.length ++ us) payload = false) :
    ∃ e, e ≠ .ok ∧ BadTail files L e := by
  have hdrf : (enc32 ck ++ (enc16 payload.length ++ us)).length = 8 := by simp [enc32, enc16, hus]
  have f0 : u32At (enc32 ck ++ (enc16 payload.length ++ us)) 0 = ck := u32At_enc32 hck _
  have f4 : u16At (enc32 ck ++ (enc16 payload.length ++ us)) 4 = payload.length := by
    rw [u16At_skip _ (enc32_length ck) (Nat.le_refl 4)]; exact u16At_enc16 (by omega) us
  have fdrop : (enc32 ck ++ (enc16 payload.length ++ us)).drop 4 = enc16 payload.length ++ us := rfl
  simp only [blockCheck, Bool.or_eq_false_iff, beq_eq_false_iff_ne] at href
  refine ⟨if u16At (enc32 ck ++ (enc16 payload.length ++ us)) 6 > cabBLOCKMAX then .dataformat else .checksum,
    by split <;> decide, fun pos fuel part more hres hd => ?_⟩
  obtain ⟨h8, hd2⟩ := Rd.readExact_at
    (show L.file.drop pos = (enc32 ck ++ (enc16 payload.length ++ us)) ++ (payload ++ rest) by
      rw [hd, htail]; simp [List.append_assoc]) hdrf
  have hp := (Rd.readExact_at hd2 rfl).1
  generalize enc32 ck ++ (enc16 payload.length ++ us) = hdr at f0 f4 fdrop h8
  rw [readBlock_hdr h8, f4, if_neg (by simp only [cabINPUTMAX, List.length_nil]; omega)]
  by_cases hbig : u16At hdr 6 > cabBLOCKMAX
  · rw [if_pos ⟨hbig, rfl⟩, if_pos hbig]; exact ⟨_, _, rfl⟩
  · rw [if_neg (fun h => hbig h.1), if_neg hbig, Part.skip_of_zero hres, hp]
    exact ⟨_, _, if_pos ⟨f0 ▸ href.1, rfl, by rw [f0, fdrop]; exact href.2⟩⟩

/-- **strict mode, stored folder, a refused block after `pre` intact ones**: a member that needs bytes beyond the
    intact blocks is answered with an error -/
theorem C12_stored_extract_beyond (files : Files) (fname : String) (bytes : Bytes) (hlook : files.lookup fname = some bytes)
    (off : Nat) (pre : List DataBlk) (hwf : ∀ b ∈ pre, b.wf) (tail : Bytes)
    (hd : bytes.drop off = pre.flatMap encData ++ tail)
    (e : Err) (he : e ≠ .ok) (hbad : BadTail files ⟨bytes, tail, pre.length⟩ e)
    (p : Params) (hbs : 0 < p.bufSize) (hstrict : p.salvage = false) (key o l : Nat) (nblocks : Nat) (hnb : pre.length < nblocks)
    (hmax : o + l ≤ cabLENGTHMAX) (hdecl : o + l ≤ nblocks * cabBLOCKMAX) (hl : 0 < l)
    (hbeyond : (plainOf pre).length < o + l)
    (ctHigh : Nat) (hct : compMask (ctHigh * 16) = 0) :
    ∃ w d', extract files p none (storedMember fname off nblocks key o l ctHigh) = .done e w d' := by
  have inv0 := feedInv_stored p fname bytes off nblocks key ctHigh hct pre hwf tail hd (Nat.le_of_lt hnb)
  rw [extract_run (d := none) (memberCheck_stored p fname off nblocks key o l ctHigh hmax hdecl)
    (freshDState_stored files fname bytes hlook p off nblocks key o l ctHigh hct)]
  have hl0 : l ≠ 0 := by omega
  by_cases ho : o = 0
  · subst ho
    obtain ⟨w, ds', h⟩ := runPhase_bad files _ e hbad (storedFresh p fname bytes off nblocks key ctHigh)
      p.bufSize hbs pre (plainOf pre) inv0 hstrict hnb l (by omega)
    exact ⟨_, _, runPhases_out rfl hl0 rfl h⟩
  · by_cases hskip : o ≤ (plainOf pre).length
    · obtain ⟨ds1, blks1, e1, inv1, hdec1, _, hn1, hs1, _⟩ := runPhase_stored files _ (storedFresh p fname bytes off nblocks key ctHigh)
        p.bufSize hbs pre (plainOf pre) inv0 o hskip
      obtain ⟨w, ds2, h⟩ := runPhase_bad files _ e hbad ds1 p.bufSize hbs blks1 ((plainOf pre).drop o) inv1 (hs1.trans hstrict)
        (by rw [hn1]; exact hnb) l (by rw [List.length_drop]; omega)
      exact ⟨_, _, runPhases_skipped rfl hl0 ho e1 hdec1 h⟩
    · obtain ⟨w, ds1, h⟩ := runPhase_bad files _ e hbad (storedFresh p fname bytes off nblocks key ctHigh)
        p.bufSize hbs pre (plainOf pre) inv0 hstrict hnb o (by omega)
      exact ⟨_, _, runPhases_skip_failed rfl hl0 ho h he⟩

theorem slice_of_prefix (A B : Bytes) (o l : Nat) (h : o + l ≤ A.length) : ((A ++ B).drop o).take l = (A.drop o).take l := by
  rw [List.drop_append_of_le_length (by omega), List.take_append_of_le_length (by rw [List.length_drop]; omega)]

/-- **C12 for stored folders, at the API**: `pre` intact blocks, then a block that fails the block reader's test,
    then anything.  Strict mode, any DECOMPBUF ≥ 1, any member whose declared extent the folder's block count admits:
    `extract()` answers OK with exactly the member's original bytes (it lies in the intact blocks) or answers with
    an error.  `more` is arbitrary: it stands for what the folder held after the intact payloads before the damage. -/
theorem C12_stored_extract_refused (files : Files) (fname : String) (bytes : Bytes) (hlook : files.lookup fname = some bytes)
    (off : Nat) (pre : List DataBlk) (hwf : ∀ b ∈ pre, b.wf) (ck : Nat) (us payload rest more : Bytes)
    (hck : ck < 4294967296) (hus : us.length = 2) (hpl : payload.length ≤ 32768)
    (hd : bytes.drop off = pre.flatMap encData ++ (enc32 ck ++ (enc16 payload.length ++ us) ++ payload ++ rest))
    (href : blockCheck ck (enc16 payload.length ++ us) payload = false)
    (p : Params) (hbs : 0 < p.bufSize) (hstrict : p.salvage = false) (key o l : Nat) (nblocks : Nat) (hnb : pre.length < nblocks)
    (hmax : o + l ≤ cabLENGTHMAX) (hdecl : o + l ≤ nblocks * cabBLOCKMAX)
    (ctHigh : Nat) (hct : compMask (ctHigh * 16) = 0) :
    (∃ d', extract files p none (storedMember fname off nblocks key o l ctHigh) =
        .done .ok (some (((plainOf pre ++ more).drop o).take l)) d') ∨
    (∃ e w d', e ≠ .ok ∧ extract files p none (storedMember fname off nblocks key o l ctHigh) = .done e w d') := by
  by_cases hin : o + l ≤ (plainOf pre).length
  · left
    obtain ⟨d', h⟩ := C01_stored_extract files fname bytes hlook off pre hwf _ hd p hbs key o l hin hmax ctHigh hct nblocks (Nat.le_of_lt hnb)
    exact ⟨d', by rw [h, slice_of_prefix _ _ _ _ hin]⟩
  · by_cases hl : l = 0
    · -- nothing to extract: OK with no bytes, which is the member
      subst hl; left
      rw [extract_run (d := none) (memberCheck_stored p fname off nblocks key o 0 ctHigh hmax hdecl)
        (freshDState_stored files fname bytes hlook p off nblocks key o 0 ctHigh hct)]
      exact ⟨_, runPhases_zero (dec := .none p.bufSize .ok) rfl⟩
    · right
      obtain ⟨e, he, hbad⟩ := badTail_of_refused files ⟨bytes, _, pre.length⟩ ck us payload rest hck hus hpl rfl href
      obtain ⟨w, d', h⟩ := C12_stored_extract_beyond files fname bytes hlook off pre hwf _ hd e he hbad p hbs hstrict key o l nblocks hnb
        hmax hdecl (by omega) (by omega) ctHigh hct
      exact ⟨e, w, d', he, h⟩

theorem blockCheck_of_wf (b : DataBlk) (hb : b.wf) (hck : b.ck ≠ 0) :
    blockCheck b.ck (enc16 b.payload.length ++ enc16 b.payload.length) b.payload = true := by
  rcases hb.2.2.2 with h | h
  · exact absurd h hck
  · simp only [blockCheck, Bool.or_eq_true, beq_iff_eq]; right; exact h.symm

/-- one altered payload byte of a checksummed block of a stored folder: every `extract()` in strict mode yields the
    member's original bytes or an error -/
theorem C12_extract_payload_byte (files : Files) (fname : String) (bytes : Bytes) (hlook : files.lookup fname = some bytes)
    (off : Nat) (pre : List DataBlk) (hwf : ∀ b ∈ pre, b.wf) (b : DataBlk) (hb : b.wf) (hbck : b.ck ≠ 0)
    (i : Nat) (v : UInt8) (hi : i < b.payload.length) (hv : v ≠ b.payload[i]) (rest more : Bytes)
    (hd : bytes.drop off = pre.flatMap encData ++ (encData ⟨b.payload.set i v, b.ck⟩ ++ rest))
    (p : Params) (hbs : 0 < p.bufSize) (hstrict : p.salvage = false) (key o l : Nat) (nblocks : Nat) (hnb : pre.length < nblocks)
    (hmax : o + l ≤ cabLENGTHMAX) (hdecl : o + l ≤ nblocks * cabBLOCKMAX)
    (ctHigh : Nat) (hct : compMask (ctHigh * 16) = 0) :
    (∃ d', extract files p none (storedMember fname off nblocks key o l ctHigh) =
        .done .ok (some (((plainOf pre ++ (b.payload ++ more)).drop o).take l)) d') ∨
    (∃ e w d', e ≠ .ok ∧ extract files p none (storedMember fname off nblocks key o l ctHigh) = .done e w d') := by
  have hlen : (b.payload.set i v).length = b.payload.length := List.length_set ..
  have href := C12_payload_altered b.ck (enc16 b.payload.length ++ enc16 b.payload.length) b.payload i v hbck
    (blockCheck_of_wf b hb hbck) hi hv
  refine C12_stored_extract_refused files fname bytes hlook off pre hwf b.ck (enc16 b.payload.length) (b.payload.set i v) rest _
    hb.2.2.1 (by simp [enc16]) (by rw [hlen]; exact hb.2.1) ?_ (by rw [hlen]; exact href) p hbs hstrict key o l nblocks hnb hmax hdecl ctHigh hct
  rw [hd]; simp only [encData, hlen, List.append_assoc]

/-- one altered byte of the uncompressed-size field -/
theorem C12_extract_usize_byte (files : Files) (fname : String) (bytes : Bytes) (hlook : files.lookup fname = some bytes)
    (off : Nat) (pre : List DataBlk) (hwf : ∀ b ∈ pre, b.wf) (b : DataBlk) (hb : b.wf) (hbck : b.ck ≠ 0)
    (j : Nat) (v : UInt8) (hj : j < 2) (hv : v ≠ (enc16 b.payload.length)[j]'(by simpa [enc16] using hj)) (rest more : Bytes)
    (hd : bytes.drop off = pre.flatMap encData ++
      (enc32 b.ck ++ (enc16 b.payload.length ++ (enc16 b.payload.length).set j v) ++ b.payload ++ rest))
    (p : Params) (hbs : 0 < p.bufSize) (hstrict : p.salvage = false) (key o l : Nat) (nblocks : Nat) (hnb : pre.length < nblocks)
    (hmax : o + l ≤ cabLENGTHMAX) (hdecl : o + l ≤ nblocks * cabBLOCKMAX)
    (ctHigh : Nat) (hct : compMask (ctHigh * 16) = 0) :
    (∃ d', extract files p none (storedMember fname off nblocks key o l ctHigh) =
        .done .ok (some (((plainOf pre ++ (b.payload ++ more)).drop o).take l)) d') ∨
    (∃ e w d', e ≠ .ok ∧ extract files p none (storedMember fname off nblocks key o l ctHigh) = .done e w d') := by
  have h2 : (enc16 b.payload.length).length = 2 := by simp [enc16]
  have href := C12_sizes_altered b.ck (enc16 b.payload.length ++ enc16 b.payload.length) b.payload (2 + j) v hbck
    (blockCheck_of_wf b hb hbck) (by simp [enc16]; omega)
    (by rw [List.getElem_append_right (by omega)]; simpa [h2] using hv)
  have hset : (enc16 b.payload.length ++ enc16 b.payload.length).set (2 + j) v =
      enc16 b.payload.length ++ (enc16 b.payload.length).set j v := by
    rw [List.set_append_right _ _ (by omega)]; simp [h2]
  rw [hset] at href
  exact C12_stored_extract_refused files fname bytes hlook off pre hwf b.ck ((enc16 b.payload.length).set j v) b.payload rest _
    hb.2.2.1 (by simp [enc16]) hb.2.1 hd href p hbs hstrict key o l nblocks hnb hmax hdecl ctHigh hct

/-- the premises are satisfiable: one intact block, then a checksummed block with its third payload byte altered -/
example : (⟨[1, 2, 3, 4, 5], cksum (enc16 5 ++ enc16 5) (cksum [1, 2, 3, 4, 5] 0)⟩ : DataBlk).wf ∧
    cksum (enc16 5 ++ enc16 5) (cksum [1, 2, 3, 4, 5] 0) ≠ 0 ∧ (9 : UInt8) ≠ ([1, 2, 3, 4, 5] : Bytes)[2] := by
  refine ⟨⟨by decide, by decide, by decide, Or.inr rfl⟩, by decide, by decide⟩

end MsPack.Cab
