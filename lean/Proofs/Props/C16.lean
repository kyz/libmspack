import Proofs.Lemmas.OutName
/-
C16 — "cabextract never writes outside the destination directory": the name-level part.

The theorems are about the model of `create_output_name` (MsPack/Cabx/OutName.lean), which the
`prim.outname` family of checks/c16.py compares with the real function byte for byte.  What the
file system then does with the name (`can_write`, `ensure_filepath`, `fopen`, symlinks) is not a
Lean matter; checks/c16.py observes it on the real binary (family `fs`).

What the code guarantees about the archive-controlled part `body` of the output name
(`out = dir ++ "/" ++ body`, or `out = body` without -d):
  * it does not start with '/' or '\';
  * it contains no "../" and no "..\" anywhere (not only at component boundaries), hence no
    component other than the LAST one is "..";
  * it contains no NUL byte (with the C locale's `tolower`: `name_sanitised`; the other two for any `tolower`:
    `name_sanitised_any_locale`).
What it does NOT guarantee (proved below on concrete inputs): the last component may be ".."
(`final_dotdot_survives`), and the whole body may be ".." (`lone_dotdot_survives`).  Such a name
can only be opened as a directory, so `fopen(name, "wb")` fails; it is not a way out of the
destination, but it is not excluded at the name level either.
-/
namespace MsPack.C16
open MsPack.Cabx

/-- For every lower-casing function (any locale), every name, flag combination and directory:
    the output is the directory prefix followed by a body that has no leading slash of either
    kind, no `..` + slash anywhere, and no `..` component except possibly the last. -/
theorem name_sanitised_any_locale (tolow : Nat → Nat) (fname : Bytes) (dir : Option Bytes)
    (lower isunix utf8 : Bool) (out : Bytes)
    (h : createOutputNameWith tolow fname dir lower isunix utf8 = some out) :
    ∃ body, out = dirPrefix dir ++ body ∧
      (∀ c t, body = c :: t → c ≠ 0x2F ∧ c ≠ 0x5C) ∧
      (∀ pre post c, (c = 0x2F ∨ c = 0x5C) → body ≠ pre ++ 0x2E :: 0x2E :: c :: post) ∧
      (∀ comp ∈ (splitSlash body).dropLast, comp ≠ [0x2E, 0x2E]) := by
  unfold createOutputNameWith at h
  injection h with h
  refine ⟨sanitize (convName tolow fname lower isunix utf8), h.symm, ?_, ?_, ?_⟩
  · intro c t e
    have := sanitize_noLead _ c t e
    simp only [isSlash, Bool.or_eq_false_iff, beq_eq_false_iff_ne] at this
    exact this
  · intro pre post c hc
    apply no_dotdot_slash_of_hasDDS (sanitize_noDDS _)
    rcases hc with hc | hc <;> subst hc <;> decide
  · exact dotdot_not_component (sanitize_noDDS _)

-- a "locale" whose lower-casing maps a to b
example : createOutputNameWith (fun x => if x = 0x61 then 0x62 else x) [0x5C, 0x2E, 0x2E, 0x5C, 0x61] (some [0x64]) true false false
    = some [0x64, 0x2F, 0x78, 0x78, 0x2F, 0x62] := by decide

/-- The C-locale function (`prim outname`): as above, and the output contains no NUL byte. -/
theorem name_sanitised (fname : Bytes) (dir : Option Bytes) (lower isunix utf8 : Bool) (out : Bytes)
    (h : createOutputName fname dir lower isunix utf8 = some out) :
    ∃ body, out = dirPrefix dir ++ body ∧
      (∀ c t, body = c :: t → c ≠ 0x2F ∧ c ≠ 0x5C) ∧
      (∀ b ∈ out, b ≠ 0) ∧
      (∀ pre post c, (c = 0x2F ∨ c = 0x5C) → body ≠ pre ++ 0x2E :: 0x2E :: c :: post) ∧
      (∀ comp ∈ (splitSlash body).dropLast, comp ≠ [0x2E, 0x2E]) := by
  obtain ⟨body, hb, h1, h2, h3⟩ := name_sanitised_any_locale lowerC fname dir lower isunix utf8 out h
  refine ⟨body, hb, h1, ?_, h2, h3⟩
  unfold createOutputName createOutputNameWith at h
  injection h with h
  intro b hb'
  rw [← h, List.mem_append] at hb'
  rcases hb' with hb' | hb'
  · cases dir with
    | none => simp [dirPrefix] at hb'
    | some d =>
      simp only [dirPrefix, List.mem_append, List.mem_singleton] at hb'
      rcases hb' with hb' | hb'
      · exact cstr_no_nul d b hb'
      · rw [hb']; decide
  · rcases sanitize_mem hb' with hm | hm
    · exact convName_no_nul _ _ _ _ b hm
    · rw [hm]; decide

-- "..\..\etc\passwd" with -d d  ->  "d/xx/xx/etc/passwd"
example : createOutputName [0x2E,0x2E,0x5C,0x2E,0x2E,0x5C,0x65,0x74,0x63,0x5C,0x70,0x61,0x73,0x73,0x77,0x64]
    (some [0x64]) false false false
    = some [0x64,0x2F,0x78,0x78,0x2F,0x78,0x78,0x2F,0x65,0x74,0x63,0x2F,0x70,0x61,0x73,0x73,0x77,0x64] := by decide
-- "/tmp/x" in a cabinet with UNIX separators, no -d  ->  "tmp/x"
example : createOutputName [0x2F,0x74,0x6D,0x70,0x2F,0x78] none false true false
    = some [0x74,0x6D,0x70,0x2F,0x78] := by decide
-- UTF-8 flag, overlong ". . \" (C0 AE is rejected byte-wise, E0 80 AE and F0 80 80 AE decode to '.'):
-- E0 80 AE  F0 80 80 AE  5C  41   with -L  ->  "xx/a"
example : createOutputName [0xE0,0x80,0xAE,0xF0,0x80,0x80,0xAE,0x5C,0x41] none true false true
    = some [0x78,0x78,0x2F,0x61] := by decide
-- a name of slashes only  ->  "x"
example : createOutputName [0x5C,0x2F,0x5C] (some []) false false false = some [0x2F,0x78] := by decide

/-- NOT guaranteed: the last component can be "..".  `a\..` with -d d gives `d/a/..`. -/
theorem final_dotdot_survives :
    createOutputName [0x61, 0x5C, 0x2E, 0x2E] (some [0x64]) false false false
      = some [0x64, 0x2F, 0x61, 0x2F, 0x2E, 0x2E] := by decide

/-- NOT guaranteed: the whole archive-controlled part can be "..". -/
theorem lone_dotdot_survives :
    createOutputName [0x2E, 0x2E] none false false false = some [0x2E, 0x2E] := by decide

/-- The allocation `malloc(dirlen + 4*filelen + 2)` is large enough, for every locale: neither the
    conversion loop (`dirlen + |converted name| + 1` bytes incl. the NUL) nor the final string
    (`|out| + 1`) nor the `strcpy(o, "x")` (`dirlen + 2`) exceeds it. -/
theorem createOutputName_fits (tolow : Nat → Nat) (fname : Bytes) (dir : Option Bytes)
    (lower isunix utf8 : Bool) (out : Bytes)
    (h : createOutputNameWith tolow fname dir lower isunix utf8 = some out) :
    let dirlen := (dirPrefix dir).length
    let alloc := dirlen + 4 * (cstr fname).length + 2
    dirlen + (convName tolow fname lower isunix utf8).length + 1 ≤ alloc ∧
    out.length + 1 ≤ alloc ∧ dirlen + 2 ≤ alloc := by
  unfold createOutputNameWith at h
  injection h with h
  have h1 := convName_length tolow fname lower isunix utf8
  have h2 := sanitize_length (convName tolow fname lower isunix utf8)
  simp only [← h, List.length_append]
  omega

-- the bound is nearly met: a 1-byte name that becomes U+FFFD (3 bytes)
example : (createOutputName [0xFF] none false false true).map List.length = some 3 := by decide

end MsPack.C16
