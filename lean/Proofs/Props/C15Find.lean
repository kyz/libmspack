import Proofs.Lemmas.ChmFind
import Proofs.Props.C03Headers
/-!
# C15 — `fast_find()` agrees with the listing on the directories a writer lays out

Property C15: "fast_find() returns, for each name that open() lists, the same section, offset and length, and
reports 'not found' for every name that differs from all directory entries by more than letter case".

Setting: `encodeChm s` (`MsPack/Spec/ChmEncode.lean`) is a CHM file with PMGL chunks only (index root -1), so the
model of `chmd_fast_find` (`MsPack/Chm/Find.lean`) takes the chain-walk branch: chunks 0, 1, … through
`read_chunk` (with its cache) and `search_chunk`, until one of them reports the name.

Theorems
* `searchChunk_linear` (`Proofs/Lemmas/ChmFind.lean`): on a writer's chunk `search_chunk` is the linear scan with
  early exit (`scanFrom`), whether it goes through the degenerate one-group binary search or skips it.
* `C15_fastfind_found` / `C15_fastfind_found_gen`: every directory entry (listed file or not) is found under its name,
  with its section, offset, length; MSPACK_ERR_OK is returned and stored.  Names are arbitrary bytes without NUL.
* `C15_fastfind_notfound`: a name whose C string `compare` distinguishes from every entry is not found
  (MSPACK_ERR_OK, section NULL, offset 0, length 0).  Needs no order at all.
  Both are stated for any value of `self->error` before the call and any *consistent* chunk cache (`CacheOk`), and
  return a consistent cache: they apply to every call of any sequence of `fast_find` calls on the header.
* `C15_fastfind_roundtrip`: the two halves for the header `open()` returns (`realOpen … true`,
  `C03_open_roundtrip`), quantified over `hdr.files`.
* `C15_fastfind_roundtrip_ascii`, `C15_fastfind_anycase_ascii`: for ASCII names (1..0x7F) the order premise is
  "each entry compares below its successor" (`compare` is proved to be case-insensitive lexicographic byte order
  there: `compare_ascii`, antisymmetric and transitive), "differs by more than letter case" is `map lowerByte ≠`, and
  any spelling that differs in letter case only is found too.

Premises beyond `ChmSpec.wf`
* `sorted`: strictly increasing under the model's `compare` across all chunks, stated pairwise as
  `compare later earlier > 0` — the form the scan uses; no property of `compare` on non-ASCII bytes is needed.
* `noQuickrefs`: the writer's quick-reference area is the entry count alone.  `search_chunk` computes
  `qr_entries = ⌈n / qr_density⌉` groups and, when the free space has room for that many 16-bit slots, reads the
  offsets of groups 1.. out of what is zero padding here, lands on the first entry again and then scans only the
  remainder count: entries behind the first are missed (with density 0, three entries and a 64-byte chunk,
  "/b" and "/c" are listed by `open()` but not found).  The premise asks that each chunk has a single group
  (`n ≤ 1 + 2^min(density,16)`) or too little free space for the slots (the C then ignores the area).  It is a
  property of the *writer* (`encodeChm` emits no offsets), not a defect of the C.
* no empty chunk (not-found half only): `search_chunk` refuses a chunk with `num_entries == 0`, and if that is the
  last chunk visited `fast_find` returns MSPACK_ERR_DATAFORMAT.
* names without NUL byte (found half): `fast_find` takes a C string.

Not covered: PMGI index chunks (`descend`), real quick-reference offsets with more than one group, system-file
names (excluded by `wf`), names that are not ASCII in the adjacent-order formulation.
-/
namespace MsPack.Chm

/-- the order the format requires of a directory, stated with the model's `compare`: every entry sorts strictly
    after every entry written before it — within a chunk and across chunks -/
def ChmSpec.sorted (s : ChmSpec) : Prop :=
  s.entries.Pairwise (fun a b => compare b.name a.name > 0)

/-- every chunk's quick-reference area is complete although the writer stores no offsets in it (`noQuickref`) -/
def ChmSpec.noQuickrefs (s : ChmSpec) : Prop :=
  ∀ c ∈ s.chunks, noQuickref s.chunkSize s.density c

theorem cString_of_nonzero : ∀ (b : Bytes), (∀ x ∈ b, x ≠ 0) → cString b = b
  | [], _ => rfl
  | x :: b, h => by
    have hx := h x (List.mem_cons_self ..)
    have ih := cString_of_nonzero b (fun y hy => h y (List.mem_cons_of_mem _ hy))
    unfold cString at ih ⊢
    rw [List.takeWhile_cons]
    simp only [ne_eq, hx, not_false_eq_true, decide_true, ↓reduceIte, ih]

theorem fastFind_walk (s : ChmSpec) (hwf : s.wf) (filename : String) (err : Err) (cc : Option (List (Nat × Bytes)))
    (name : Bytes) :
    fastFind (some (encodeChm s)) ⟨err, withCache s filename cc⟩ name =
      walk (encodeChm s) (cString name) (s.numChunks + 1) 0 .bad ⟨err, withCache s filename cc⟩ := by
  have := (wf_numChunks s hwf).2
  unfold fastFind
  have h1 : (withCache s filename cc).indexRoot = 0xFFFFFFFF := rfl
  have h2 : (withCache s filename cc).numChunks = s.numChunks := rfl
  simp only [h1, h2]
  rw [if_neg (by omega)]
  rfl

theorem getD_mem (s : ChmSpec) (j : Nat) (hj : j < s.numChunks) : s.chunks.getD j [] ∈ s.chunks := by
  have hj' : j < s.chunks.length := hj
  have : s.chunks.getD j [] = s.chunks[j] := by simp [List.getD_eq_getElem?_getD, hj']
  rw [this]; exact List.getElem_mem hj'

theorem searchChunk_chunkOf (s : ChmSpec) (hwf : s.wf) (hqr : s.noQuickrefs) (filename : String) (fname : Bytes)
    (j : Nat) (hj : j < s.numChunks) (cc : Option (List (Nat × Bytes))) :
    searchChunk (withCache s filename cc) (chunkOf s j) fname =
      .ok (if s.chunks.getD j [] = [] then .bad
           else toSearch (20 + (encEntries (s.chunks.getD j [])).length) (scanFrom fname 20 (s.chunks.getD j []))) := by
  obtain ⟨hc1, hc2⟩ := wf_chunkSize s hwf
  by_cases hne : s.chunks.getD j [] = []
  · rw [if_pos hne]
    unfold chunkOf
    rw [hne]
    exact searchChunk_empty (withCache s filename cc) s.numChunks j fname hc1
  · rw [if_neg hne]
    exact searchChunk_linear (withCache s filename cc) s.numChunks j _ fname (chunkOf_fits s hwf j) hc2
      (wf_numChunks s hwf).2 hj hne (hqr _ (getD_mem s j hj))

/-- found, general form: a name whose C string `compare`s equal to the entry `en` and above everything `en` sorts
    above is found, with `en`'s section, offset and length -/
theorem C15_fastfind_found_gen (s : ChmSpec) (hwf : s.wf) (hsorted : s.sorted) (hqr : s.noQuickrefs) (filename : String)
    (en : EntrySpec) (hen : en ∈ s.entries) (name : Bytes) (heq : compare (cString name) en.name = 0)
    (hgt : ∀ x ∈ s.entries, compare en.name x.name > 0 → compare (cString name) x.name > 0)
    (err : Err) (cc : Option (List (Nat × Bytes))) (hok : CacheOk s cc) :
    ∃ cc', CacheOk s cc' ∧
      fastFind (some (encodeChm s)) ⟨err, withCache s filename cc⟩ name =
        .ok ⟨.ok, ⟨.ok, withCache s filename cc'⟩, ⟨some en.sec, Int.ofNat en.offset, Int.ofNat en.length⟩⟩ := by
  obtain ⟨c, hc, hec⟩ := List.mem_flatten.mp hen
  obtain ⟨A, B, hAB⟩ := List.append_of_mem hc
  obtain ⟨pre, post, hpp⟩ := List.append_of_mem hec
  have hk : A.length < s.numChunks := by unfold ChmSpec.numChunks; rw [hAB]; simp
  have hgetk : s.chunks.getD A.length [] = c := by rw [hAB]; simp [List.getD_eq_getElem?_getD]
  have hgetj : ∀ j, j < A.length → s.chunks.getD j [] ∈ A := by
    intro j hj
    rw [hAB]
    have : (A ++ c :: B).getD j [] = A[j] := by simp [List.getD_eq_getElem?_getD, List.getElem?_append_left hj, hj]
    rw [this]; exact List.getElem_mem hj
  have hent : s.entries = A.flatten ++ (pre ++ en :: (post ++ B.flatten)) := by
    unfold ChmSpec.entries; rw [hAB, hpp]; simp
  unfold ChmSpec.sorted at hsorted
  rw [hent, List.pairwise_append] at hsorted
  obtain ⟨_, hs2, hs3⟩ := hsorted
  rw [List.pairwise_append] at hs2
  have hbeforeA : ∀ x ∈ A.flatten, compare (cString name) x.name > 0 := fun x hx =>
    hgt x (by rw [hent]; simp [hx]) (hs3 x hx en (by simp))
  have hbeforeP : ∀ x ∈ pre, compare (cString name) x.name > 0 := fun x hx =>
    hgt x (by rw [hent]; simp [hx]) (hs2.2.2 x hx en (by simp))
  have hcfit := chunkOf_fits s hwf A.length
  rw [hgetk] at hcfit
  have hcne : c ≠ [] := by rw [hpp]; simp
  have hscan := scanFrom_found (cString name) en post heq pre 20 hbeforeP
  rw [← hpp] at hscan
  have hfound : ∀ cc, searchChunk (withCache s filename cc) (chunkOf s A.length) (cString name) =
      .ok (.found (20 + (encEntries pre).length + (putEncint en.name.length).length + en.name.length)
        (20 + (encEntries c).length)) := by
    intro cc
    rw [searchChunk_chunkOf s hwf hqr filename _ A.length hk cc, hgetk, if_neg hcne, hscan]
    rfl
  have hbefore : ∀ j, j < A.length → ∃ r, (r = Search.notFound ∨ r = Search.bad) ∧
      ∀ cc, searchChunk (withCache s filename cc) (chunkOf s j) (cString name) = .ok r := by
    intro j hj
    by_cases hne : s.chunks.getD j [] = []
    · exact ⟨.bad, Or.inr rfl, fun cc => by
        rw [searchChunk_chunkOf s hwf hqr filename _ j (by omega) cc, if_pos hne]⟩
    · refine ⟨.notFound, Or.inl rfl, fun cc => ?_⟩
      rw [searchChunk_chunkOf s hwf hqr filename _ j (by omega) cc, if_neg hne,
        scanFrom_none _ _ 20 (fun x hx => by
          have := hbeforeA x (List.mem_flatten.mpr ⟨_, hgetj j hj, hx⟩)
          omega)]
      rfl
  obtain ⟨cc', hok', hw⟩ := walk_found s hwf filename (cString name) A.length hk _ _ hfound hbefore A.length 0
    (s.numChunks + 1) (by omega) (by omega) .bad err cc hok
  refine ⟨cc', hok', ?_⟩
  rw [fastFind_walk s hwf, hw]
  obtain ⟨_, _, tail, hbody⟩ := encChunk_fields s.chunkSize s.numChunks A.length c hcfit
  have hwfen : en.wf := (hwf.2.2.2.2.2.2.2.2 c hc).2 en hec
  have hencc : encEntries c = encEntries pre ++ (encEntry en ++ encEntries post) := by
    rw [hpp, encEntries_append, encEntries_cons]
  have hd1 : (chunkOf s A.length).drop 20 = encEntries pre ++ (encEntry en ++ (encEntries post ++ tail)) := by
    unfold chunkOf; rw [hgetk, hbody, hencc]; simp [List.append_assoc]
  have hd2 := (Rd.readExact_at hd1 rfl).2
  have hlenc : (encEntries c).length = (encEntries pre).length + ((encEntry en).length + (encEntries post).length) := by
    rw [hencc]; simp
  have hcs := (wf_chunkSize s hwf).2
  have hf1 := hcfit.1
  rw [readFound_tail (EntryAt.enc (e := 20 + (encEntries c).length) (by omega) hd2 (by omega)).1.tail hwfen]

/-- **found half**: every directory entry is found under its own name, with its section, offset and length; the
    call returns MSPACK_ERR_OK, sets `self->error` to it and leaves a consistent chunk cache (so any number of
    calls may follow one another) -/
theorem C15_fastfind_found (s : ChmSpec) (hwf : s.wf) (hsorted : s.sorted) (hqr : s.noQuickrefs) (filename : String)
    (en : EntrySpec) (hen : en ∈ s.entries) (hnul : ∀ b ∈ en.name, b ≠ 0)
    (err : Err) (cc : Option (List (Nat × Bytes))) (hok : CacheOk s cc) :
    ∃ cc', CacheOk s cc' ∧
      fastFind (some (encodeChm s)) ⟨err, withCache s filename cc⟩ en.name =
        .ok ⟨.ok, ⟨.ok, withCache s filename cc'⟩, ⟨some en.sec, Int.ofNat en.offset, Int.ofNat en.length⟩⟩ := by
  have hcs := cString_of_nonzero en.name hnul
  exact C15_fastfind_found_gen s hwf hsorted hqr filename en hen en.name (by rw [hcs]; exact C15_compare_refl _)
    (fun x _ h => by rw [hcs]; exact h) err cc hok

/-- **not-found half**: a name that `compare` distinguishes from every directory entry is reported as not found:
    MSPACK_ERR_OK, no section, offset and length 0 -/
theorem C15_fastfind_notfound (s : ChmSpec) (hwf : s.wf) (hqr : s.noQuickrefs) (hne : ∀ c ∈ s.chunks, c ≠ [])
    (filename : String) (name : Bytes) (hno : ∀ en ∈ s.entries, compare (cString name) en.name ≠ 0)
    (err : Err) (cc : Option (List (Nat × Bytes))) (hok : CacheOk s cc) :
    ∃ cc', CacheOk s cc' ∧
      fastFind (some (encodeChm s)) ⟨err, withCache s filename cc⟩ name =
        .ok ⟨.ok, ⟨.ok, withCache s filename cc'⟩, ⟨none, 0, 0⟩⟩ := by
  obtain ⟨hn1, hn2⟩ := wf_numChunks s hwf
  have hall : ∀ j, j < s.numChunks → ∀ cc, searchChunk (withCache s filename cc) (chunkOf s j) (cString name) =
      .ok .notFound := by
    intro j hj cc
    have hmem := getD_mem s j hj
    rw [searchChunk_chunkOf s hwf hqr filename _ j hj cc, if_neg (hne _ hmem),
      scanFrom_none _ _ 20 (fun x hx => hno x (List.mem_flatten.mpr ⟨_, hmem, hx⟩))]
    rfl
  obtain ⟨cc', hok', hw⟩ := walk_notFound s hwf filename (cString name) hall (s.numChunks - 1) 0 (s.numChunks + 1)
    (by omega) (by omega) .bad err cc hok
  exact ⟨cc', hok', by rw [fastFind_walk s hwf, hw]⟩

/-- **C15**: for every well-formed specification whose directory is sorted (`sorted`: strictly increasing under the
    model's `compare`, across all chunks), whose chunks are not empty and need no quick-reference offsets
    (`noQuickrefs`) and whose names contain no NUL byte (they are handed to `fast_find` as C strings), `open()` on
    the written file succeeds, and with the header it returns and whatever `self->error` held

    * `fast_find` finds every name `open()` lists, with the same section, offset and length, returning and
      storing MSPACK_ERR_OK;
    * `fast_find` reports every name that `compare` distinguishes from all directory entries as not found:
      MSPACK_ERR_OK, no section, offset 0, length 0.

    Names are arbitrary bytes (UTF-8 or not); `C15_fastfind_roundtrip_ascii` restates both premises for ASCII. -/
theorem C15_fastfind_roundtrip (s : ChmSpec) (hwf : s.wf) (hsorted : s.sorted) (hqr : s.noQuickrefs)
    (hne : ∀ c ∈ s.chunks, c ≠ []) (hnul : ∀ en ∈ s.entries, ∀ b ∈ en.name, b ≠ 0) (filename : String) :
    ∃ hdr, realOpen filename (encodeChm s) true = .ok (.ok, some hdr) ∧
      hdr.files = (s.entries.filter EntrySpec.isFile).map EntrySpec.listed ∧
      ∀ err : Err,
        (∀ f ∈ hdr.files, ∃ st', st'.error = .ok ∧
          fastFind (some (encodeChm s)) ⟨err, hdr⟩ f.name = .ok ⟨.ok, st', ⟨some f.sec, f.offset, f.length⟩⟩) ∧
        (∀ name, (∀ en ∈ s.entries, compare (cString name) en.name ≠ 0) → ∃ st', st'.error = .ok ∧
          fastFind (some (encodeChm s)) ⟨err, hdr⟩ name = .ok ⟨.ok, st', ⟨none, 0, 0⟩⟩) := by
  refine ⟨s.listed filename, C03_open_roundtrip s hwf filename, rfl, fun err => ⟨?_, ?_⟩⟩
  · intro f hf
    have hf' : f ∈ (s.entries.filter EntrySpec.isFile).map EntrySpec.listed := hf
    obtain ⟨en, hen, rfl⟩ := List.mem_map.mp hf'
    have hen' := (List.mem_filter.mp hen).1
    obtain ⟨cc', _, h⟩ := C15_fastfind_found s hwf hsorted hqr filename en hen' (hnul en hen') err none (cacheOk_none s)
    exact ⟨_, rfl, h⟩
  · intro name hno
    obtain ⟨cc', _, h⟩ := C15_fastfind_notfound s hwf hqr hne filename name hno err none (cacheOk_none s)
    exact ⟨_, rfl, h⟩

def ascending : List EntrySpec → Prop
  | a :: b :: rest => compare a.name b.name < 0 ∧ ascending (b :: rest)
  | _ => True

def asciiName (n : Bytes) : Prop := ∀ x ∈ n, x.toNat < 0x80

instance (n : Bytes) : Decidable (asciiName n) := by unfold asciiName; exact inferInstance

/-- for ASCII names `compare` is a strict order, so increasing neighbours make the whole directory sorted -/
theorem pairwise_of_ascending : ∀ (l : List EntrySpec), (∀ en ∈ l, asciiName en.name) → ascending l →
    l.Pairwise (fun a b => compare a.name b.name < 0)
  | [], _, _ => List.Pairwise.nil
  | [a], _, _ => by simp
  | a :: b :: rest, hascii, hasc => by
    have ih := pairwise_of_ascending (b :: rest) (fun en hen => hascii en (List.mem_cons_of_mem _ hen)) hasc.2
    refine List.pairwise_cons.mpr ⟨?_, ih⟩
    intro x hx
    rcases List.mem_cons.mp hx with rfl | hx
    · exact hasc.1
    · have hbx := (List.pairwise_cons.mp ih).1 x hx
      have ha := hascii a (by simp)
      have hb := hascii b (by simp)
      have hxa := hascii x (by simp [hx])
      rw [compare_ascii _ _ ha hxa]
      rw [compare_ascii _ _ hb hxa] at hbx
      have hab := hasc.1
      rw [compare_ascii _ _ ha hb] at hab
      exact lexCmp_trans _ _ _ hab hbx

theorem sorted_of_ascending (s : ChmSpec) (hascii : ∀ en ∈ s.entries, asciiName en.name) (hasc : ascending s.entries) :
    s.sorted := by
  unfold ChmSpec.sorted
  refine List.Pairwise.imp_of_mem ?_ (pairwise_of_ascending s.entries hascii hasc)
  intro a b ha hb hab
  rw [compare_ascii _ _ (hascii a ha) (hascii b hb)] at hab
  rw [compare_ascii _ _ (hascii b hb) (hascii a ha), lexCmp_antisymm]
  omega

theorem toLower_lowerByte (x : UInt8) (h : x.toNat < 0x80) : toLower x.toNat = (lowerByte x).toNat := by
  have key : ∀ n : Fin 128, toLower (UInt8.ofNat n.val).toNat = (lowerByte (UInt8.ofNat n.val)).toNat := by decide
  have hx : x = UInt8.ofNat x.toNat := by simp
  have := key ⟨x.toNat, h⟩
  rw [← hx] at this; exact this

theorem foldKey_lower (a : Bytes) (ha : asciiName a) : foldKey a = (a.map lowerByte).map UInt8.toNat := by
  unfold foldKey
  rw [List.map_map]
  exact List.map_inj_left.mpr (fun x hx => toLower_lowerByte x (ha x hx))

theorem compare_ascii_eq_zero (a b : Bytes) (ha : asciiName a) (hb : asciiName b) (h : compare a b = 0) :
    a.map lowerByte = b.map lowerByte := by
  rw [compare_ascii a b ha hb] at h
  have hk := lexCmp_eq_zero _ _ h
  rw [foldKey_lower a ha, foldKey_lower b hb] at hk
  exact (List.map_inj_right (fun x y hxy => UInt8.toNat_inj.mp hxy)).mp hk

theorem compare_ascii_congr (a b x : Bytes) (ha : asciiName a) (hb : asciiName b) (hx : asciiName x)
    (h : a.map lowerByte = b.map lowerByte) : compare a x = compare b x := by
  rw [compare_ascii a x ha hx, compare_ascii b x hb hx, foldKey_lower a ha, foldKey_lower b hb, h]

/-- letter case does not matter to `fast_find` (ASCII): any spelling of an entry's name that differs from it in
    letter case only is found, with that entry's section, offset and length -/
theorem C15_fastfind_anycase_ascii (s : ChmSpec) (hwf : s.wf) (hqr : s.noQuickrefs)
    (hascii : ∀ en ∈ s.entries, asciiName en.name) (hasc : ascending s.entries) (filename : String)
    (en : EntrySpec) (hen : en ∈ s.entries) (name : Bytes) (hna : asciiName name) (hnn : ∀ b ∈ name, b ≠ 0)
    (hcase : name.map lowerByte = en.name.map lowerByte)
    (err : Err) (cc : Option (List (Nat × Bytes))) (hok : CacheOk s cc) :
    ∃ cc', CacheOk s cc' ∧
      fastFind (some (encodeChm s)) ⟨err, withCache s filename cc⟩ name =
        .ok ⟨.ok, ⟨.ok, withCache s filename cc'⟩, ⟨some en.sec, Int.ofNat en.offset, Int.ofNat en.length⟩⟩ := by
  have hcs := cString_of_nonzero name hnn
  have hea := hascii en hen
  refine C15_fastfind_found_gen s hwf (sorted_of_ascending s hascii hasc) hqr filename en hen name ?_ ?_ err cc hok
  · rw [hcs, compare_ascii_congr name en.name en.name hna hea hea hcase]; exact C15_compare_refl _
  · intro x hx h
    rw [hcs, compare_ascii_congr name en.name x.name hna hea (hascii x hx) hcase]; exact h

/-- **C15 for ASCII names** (bytes 1..0x7F): the directory is sorted when each entry compares below its successor
    (`compare` is then case-insensitive lexicographic byte order, a strict order), and a name "differs by more
    than letter case" from an entry when their lower-cased bytes differ -/
theorem C15_fastfind_roundtrip_ascii (s : ChmSpec) (hwf : s.wf) (hqr : s.noQuickrefs) (hne : ∀ c ∈ s.chunks, c ≠ [])
    (hascii : ∀ en ∈ s.entries, asciiName en.name) (hnul : ∀ en ∈ s.entries, ∀ b ∈ en.name, b ≠ 0)
    (hasc : ascending s.entries) (filename : String) :
    ∃ hdr, realOpen filename (encodeChm s) true = .ok (.ok, some hdr) ∧
      hdr.files = (s.entries.filter EntrySpec.isFile).map EntrySpec.listed ∧
      ∀ err : Err,
        (∀ f ∈ hdr.files, ∃ st', st'.error = .ok ∧
          fastFind (some (encodeChm s)) ⟨err, hdr⟩ f.name = .ok ⟨.ok, st', ⟨some f.sec, f.offset, f.length⟩⟩) ∧
        (∀ name, asciiName name → (∀ b ∈ name, b ≠ 0) →
          (∀ en ∈ s.entries, name.map lowerByte ≠ en.name.map lowerByte) → ∃ st', st'.error = .ok ∧
          fastFind (some (encodeChm s)) ⟨err, hdr⟩ name = .ok ⟨.ok, st', ⟨none, 0, 0⟩⟩) := by
  obtain ⟨hdr, h1, h2, h3⟩ := C15_fastfind_roundtrip s hwf (sorted_of_ascending s hascii hasc) hqr hne hnul filename
  refine ⟨hdr, h1, h2, fun err => ⟨(h3 err).1, fun name hna hnn hdiff => (h3 err).2 name ?_⟩⟩
  intro en hen h0
  rw [cString_of_nonzero name hnn] at h0
  exact hdiff en hen (compare_ascii_eq_zero name en.name hna (hascii en hen) h0)

/-- two chunks, four entries with mixed letter case: "/" (a directory entry, not listed by `open()`),
    "/Alpha.htm" | "/beta", "/Gamma"; density 2, i.e. up to 5 entries per quick-reference group -/
def findSpec : ChmSpec :=
  { version := 3, timestamp := 0x12345678, language := 0x409, chunkSize := 64, density := 2,
    chunks := [[⟨[0x2F], 0, 0, 0⟩, ⟨[0x2F, 0x41, 0x6C, 0x70, 0x68, 0x61, 0x2E, 0x68, 0x74, 0x6D], 1, 300, 70000⟩],
               [⟨[0x2F, 0x62, 0x65, 0x74, 0x61], 0, 5, 1⟩, ⟨[0x2F, 0x47, 0x61, 0x6D, 0x6D, 0x61], 1, 70300, 9⟩]],
    content := [1, 2, 3, 4, 5, 6] }

theorem findSpec_wf : findSpec.wf := by
  refine ⟨by decide, by decide, by decide, by decide, by decide, by simp [findSpec], by decide, by decide, ?_⟩
  intro c hc
  simp only [findSpec, List.mem_cons, List.not_mem_nil, or_false] at hc
  rcases hc with rfl | rfl
  · refine ⟨⟨by decide, by decide⟩, ?_⟩
    intro en hen
    simp only [List.mem_cons, List.not_mem_nil, or_false] at hen
    rcases hen with rfl | rfl <;> exact ⟨by decide, by decide, by decide, by decide⟩
  · refine ⟨⟨by decide, by decide⟩, ?_⟩
    intro en hen
    simp only [List.mem_cons, List.not_mem_nil, or_false] at hen
    rcases hen with rfl | rfl <;> exact ⟨by decide, by decide, by decide, by decide⟩

theorem findSpec_entries : findSpec.entries =
    [⟨[0x2F], 0, 0, 0⟩, ⟨[0x2F, 0x41, 0x6C, 0x70, 0x68, 0x61, 0x2E, 0x68, 0x74, 0x6D], 1, 300, 70000⟩,
     ⟨[0x2F, 0x62, 0x65, 0x74, 0x61], 0, 5, 1⟩, ⟨[0x2F, 0x47, 0x61, 0x6D, 0x6D, 0x61], 1, 70300, 9⟩] := rfl

theorem findSpec_noQuickrefs : findSpec.noQuickrefs := by
  intro c hc
  simp only [findSpec, List.mem_cons, List.not_mem_nil, or_false] at hc
  rcases hc with rfl | rfl <;> exact Or.inl (by decide)

theorem findSpec_nonempty : ∀ c ∈ findSpec.chunks, c ≠ [] := by
  intro c hc
  simp only [findSpec, List.mem_cons, List.not_mem_nil, or_false] at hc
  rcases hc with rfl | rfl <;> simp

theorem findSpec_ascii : ∀ en ∈ findSpec.entries, asciiName en.name := by
  intro en hen
  rw [findSpec_entries] at hen
  simp only [List.mem_cons, List.not_mem_nil, or_false] at hen
  rcases hen with rfl | rfl | rfl | rfl <;> (intro x hx; simp only [List.mem_cons, List.not_mem_nil, or_false] at hx) <;>
    (rcases hx with rfl | rfl | rfl | rfl | rfl | rfl | rfl | rfl | rfl | rfl) <;> decide

theorem findSpec_nonul : ∀ en ∈ findSpec.entries, ∀ b ∈ en.name, b ≠ 0 := by
  intro en hen b hb h0
  have := findSpec_ascii en hen
  rw [findSpec_entries] at hen
  simp only [List.mem_cons, List.not_mem_nil, or_false] at hen
  subst h0
  rcases hen with rfl | rfl | rfl | rfl <;> simp at hb

theorem findSpec_ascending : ascending findSpec.entries := by
  rw [findSpec_entries]
  exact ⟨by decide, by decide, by decide, trivial⟩

/-- all premises of `C15_fastfind_roundtrip_ascii` hold for it -/
example : ∃ hdr, realOpen "x.chm" (encodeChm findSpec) true = .ok (.ok, some hdr) ∧
      hdr.files = (findSpec.entries.filter EntrySpec.isFile).map EntrySpec.listed ∧
      ∀ err : Err,
        (∀ f ∈ hdr.files, ∃ st', st'.error = .ok ∧
          fastFind (some (encodeChm findSpec)) ⟨err, hdr⟩ f.name = .ok ⟨.ok, st', ⟨some f.sec, f.offset, f.length⟩⟩) ∧
        (∀ name, asciiName name → (∀ b ∈ name, b ≠ 0) →
          (∀ en ∈ findSpec.entries, name.map lowerByte ≠ en.name.map lowerByte) → ∃ st', st'.error = .ok ∧
          fastFind (some (encodeChm findSpec)) ⟨err, hdr⟩ name = .ok ⟨.ok, st', ⟨none, 0, 0⟩⟩) :=
  C15_fastfind_roundtrip_ascii findSpec findSpec_wf findSpec_noQuickrefs findSpec_nonempty findSpec_ascii findSpec_nonul
    findSpec_ascending "x.chm"

/-- what it says for "/Gamma", the second entry of the second chunk, looked up as "/gamma" … -/
example : ∃ cc', CacheOk findSpec cc' ∧
    fastFind (some (encodeChm findSpec)) ⟨.ok, findSpec.listed "x.chm"⟩ [0x2F, 0x67, 0x61, 0x6D, 0x6D, 0x61] =
      .ok ⟨.ok, ⟨.ok, withCache findSpec "x.chm" cc'⟩, ⟨some 1, 70300, 9⟩⟩ :=
  C15_fastfind_anycase_ascii findSpec findSpec_wf findSpec_noQuickrefs findSpec_ascii findSpec_ascending "x.chm"
    ⟨[0x2F, 0x47, 0x61, 0x6D, 0x6D, 0x61], 1, 70300, 9⟩ (by rw [findSpec_entries]; simp) _ (by decide) (by decide)
    (by decide) .ok none (cacheOk_none _)

/-- … and for "/alpha", which no entry matches -/
example : ∃ cc', CacheOk findSpec cc' ∧
    fastFind (some (encodeChm findSpec)) ⟨.ok, findSpec.listed "x.chm"⟩ [0x2F, 0x61, 0x6C, 0x70, 0x68, 0x61] =
      .ok ⟨.ok, ⟨.ok, withCache findSpec "x.chm" cc'⟩, ⟨none, 0, 0⟩⟩ :=
  C15_fastfind_notfound findSpec findSpec_wf findSpec_noQuickrefs findSpec_nonempty "x.chm" _
    (by rw [findSpec_entries]; decide) .ok none (cacheOk_none _)

end MsPack.Chm
