import Proofs.Lemmas.RelaxSimCab
import Proofs.Lemmas.RelaxSimLzx
import Proofs.Props.C18Decoders
/-!
# C18 — towards `cabd_extract`: one decoder call, and the parameter checks

Lemmas: `Proofs/Lemmas/RelaxSimCab.lean`.

* `C18_cab_decompress_relaxed`: one `self->d->decompress(state, n)` call of `cabd_extract` on a **stored or MSZIP**
  folder that returns MSPACK_ERR_OK in strict mode returns MSPACK_ERR_OK with the same bytes when the feeder has
  SALVAGE and/or FIXMSZIP set and the MSZIP state has `repair_mode` set; decoder states (`DecR`) and feeders (`FR`)
  stay related, so this composes along the skip phase, the output phase and from call to call.
* `C18_cab_memberCheck_relaxed`: the parameter checks at the top of `cabd_extract` — whatever strict mode lets
  through, every mode lets through with the same length and folder.

The assembly in `extract` (`freshDState`, `runPhase`, `runPhases`) is `C18ExtractLift.lean`; the LZX decoder under
relaxed feeder flags is `C18Lzx.lean` (`DecR` has no `.lzx` case, so the `extract`-level theorems cover stored and
MSZIP folders only); there is no such statement for Quantum.
-/
namespace MsPack.Cab
open MsPack.CountLaws.Relax

/-- **C18, one decoder call inside `cabd_extract`, stored and MSZIP folders** -/
theorem C18_cab_decompress_relaxed (files : Files) (dec1 dec2 : Dec) (fd1 fd2 : Feeder) (n : Nat) (o1 : DecOut)
    (hd : DecR dec1 dec2) (hf : FR fd1 fd2) (h : decompress files dec1 fd1 n = .ok (some o1)) (he : o1.err = .ok) :
    ∃ o2, decompress files dec2 fd2 n = .ok (some o2) ∧ o2.err = .ok ∧ o2.written = o1.written ∧
      DecR o1.dec o2.dec ∧ FR o1.feeder o2.feeder :=
  decompress_rel files dec1 dec2 fd1 fd2 n o1 hd hf h he

/-- the stored-data decoder alone -/
theorem C18_stored_decompress_relaxed (files : Files) (bs fuel : Nat) (fd1 fd2 : Feeder) (bytes : Nat) (w : Bytes)
    (o1 : DecOut) (hf : FR fd1 fd2) (h : nonedDecompress files bs fuel fd1 bytes w = .ok o1) (he : o1.err = .ok) :
    ∃ o2, nonedDecompress files bs fuel fd2 bytes w = .ok o2 ∧ o2.err = .ok ∧ o2.written = o1.written ∧
      o2.dec = o1.dec ∧ FR o1.feeder o2.feeder := by
  obtain ⟨o2, h1, h2, h3, h4, h5, _⟩ := noned_rel files bs fuel fd1 fd2 bytes w o1 hf h he
  exact ⟨o2, h1, h2, h3, h4, h5⟩

/-- the parameter checks: strict OK ⇒ the same answer under any parameters -/
theorem C18_cab_memberCheck_relaxed (p p' : Params) (hs : p.salvage = false) (m : Member) (r : Nat × Nat)
    (h : memberCheck p m = .ok r) : memberCheck p' m = .ok r :=
  memberCheck_rel p p' hs m r h

end MsPack.Cab
