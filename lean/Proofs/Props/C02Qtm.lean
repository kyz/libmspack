import Proofs.Lemmas.LoopTermQtm
import Proofs.Lemmas.FeederFaults
import MsPack.Lzss.Decoder
/-!
# C02 — memory safety of the Quantum decompressor (`qtmd_decompress`)

The model (`MsPack/Qtm/Decoder.lean`) renders every access the C makes to the window, to the input
buffer, to the `mNsym[]` arrays of the nine adaptive models and to the four constant tables as a
checked access (`Fault.oob …`), every shift whose count could leave 0..31 as `Fault.shiftWidth`, and
the two divisions of `GET_SYMBOL` as `Fault.divZero`.  The theorems below say that none of these
outcomes can be taken by `Qtm.decompress`, for **every** input source, iteration bound, byte count and
every decoder state that satisfies the invariant `StInv` — which `Qtm.init` establishes
(`C02_qtm_init`) and every call, successful or not, preserves (`C02_qtm_preserved`), so the
statement composes over any sequence of calls (`C02_qtm_session`).

The only faults `Qtm.decompress` can end with are the iteration bound (`Fault.hang`) and a fault
that the *source's own* `read` returned (`C02_qtm_fault_origin`); for the CAB feeder — whose `read`
is proved free of `oob` in `C02.lean` — and for a plain file handle the statements are unconditional.

Invariant (`StInv`, `Proofs/Lemmas/QtmBounds.lean`): `window.size = window_size`,
`1024 ≤ window_size ≤ 2^21`, `o_end ≤ window_size`, `window_posn ≤ window_size`, `bits_left ≤ 32`,
`bit_buffer < 2^32`, and for each model (`Model.Ok`, `Proofs/Lemmas/QtmModelBounds.lean`)
`1 ≤ entries ≤ 64`, `entries < syms.size`, symbols of slots `0..entries-1` below the dimension of the
table they index (42 for models 4, 5, 6; 27 for model 6len), `cumfreq` strictly decreasing on
`0..entries`, `cumfreq[entries] = 0`, `cumfreq[0] ≤ 3800`.
-/
namespace MsPack.Qtm

variable {σ : Type} (S : Src σ)

/-- `qtmd_init` establishes the invariant (for every window size it accepts, every input buffer
    size and every fill pattern of the fresh allocation) -/
theorem C02_qtm_init (src : σ) (windowBits inputBufferSize : Nat) (fill : UInt8) (st : St σ)
    (h : init src windowBits inputBufferSize fill = some st) : StInv st :=
  init_StInv src windowBits inputBufferSize fill st h

/-- the invariant does not mention the input handle (the CAB layer swaps it before each call) -/
theorem StInv_src {τ : Type} (st : St σ) (src : τ) (h : StInv st) :
    StInv ({ st with src := src } : St τ) := h

/-- every call that returns (with whatever status code) leaves a state satisfying the invariant -/
theorem C02_qtm_preserved (fuel : Nat) (st : St σ) (outBytes : Nat) (h : StInv st)
    (o : DecodeOut (St σ)) (ho : decompress S fuel st outBytes = .ok o) : StInv o.st := by
  have := decompress_ok S fuel st outBytes h
  rw [ho] at this
  exact this

/-- the only faults a call can end with: the iteration bound, or a fault the source's `read`
    returned itself -/
theorem C02_qtm_fault_origin (fuel : Nat) (st : St σ) (outBytes : Nat) (h : StInv st) (f : Fault)
    (hf : decompress S fuel st outBytes = .error f) :
    f = .hang ∨ ∃ s n, S.read s n = .error f := by
  have := decompress_ok S fuel st outBytes h
  rw [hf] at this
  exact this

/-- a fault other than the iteration bound that the source never returns is not returned by a call -/
theorem C02_qtm_no_fault (f : Fault) (hf : f ≠ .hang) (hS : ∀ s n, S.read s n ≠ .error f) (fuel : Nat)
    (st : St σ) (outBytes : Nat) (h : StInv st) : decompress S fuel st outBytes ≠ .error f := fun hd =>
  (C02_qtm_fault_origin S fuel st outBytes h f hd).elim hf fun ⟨s, n, hr⟩ => hS s n hr

/-- no access outside the window, the input buffer, the model arrays or the constant tables -/
theorem C02_qtm_no_oob (hS : ∀ s n w, S.read s n ≠ .error (.oob w)) (fuel : Nat) (st : St σ)
    (outBytes : Nat) (h : StInv st) (w : String) :
    decompress S fuel st outBytes ≠ .error (.oob w) :=
  C02_qtm_no_fault S _ Fault.noConfusion (fun s n => hS s n w) fuel st outBytes h

/-- no shift by a count outside 0..31 (`INJECT_BITS`, `PEEK_BITS`, `REMOVE_BITS`) -/
theorem C02_qtm_no_shiftWidth (hS : ∀ s n, S.read s n ≠ .error .shiftWidth) (fuel : Nat) (st : St σ)
    (outBytes : Nat) (h : StInv st) : decompress S fuel st outBytes ≠ .error .shiftWidth :=
  C02_qtm_no_fault S _ Fault.noConfusion hS fuel st outBytes h

/-- no division by zero in `GET_SYMBOL` (`range`, `syms[0].cumfreq`) -/
theorem C02_qtm_no_divZero (hS : ∀ s n, S.read s n ≠ .error .divZero) (fuel : Nat) (st : St σ)
    (outBytes : Nat) (h : StInv st) : decompress S fuel st outBytes ≠ .error .divZero :=
  C02_qtm_no_fault S _ Fault.noConfusion hS fuel st outBytes h

/-- the model has no null-pointer outcome of its own; none can appear -/
theorem C02_qtm_no_nullDeref (hS : ∀ s n w, S.read s n ≠ .error (.nullDeref w)) (fuel : Nat)
    (st : St σ) (outBytes : Nat) (h : StInv st) (w : String) :
    decompress S fuel st outBytes ≠ .error (.nullDeref w) :=
  C02_qtm_no_fault S _ Fault.noConfusion (fun s n => hS s n w) fuel st outBytes h

/-- … nor a read of uninitialised memory -/
theorem C02_qtm_no_uninit (hS : ∀ s n w, S.read s n ≠ .error (.uninit w)) (fuel : Nat)
    (st : St σ) (outBytes : Nat) (h : StInv st) (w : String) :
    decompress S fuel st outBytes ≠ .error (.uninit w) :=
  C02_qtm_no_fault S _ Fault.noConfusion (fun s n => hS s n w) fuel st outBytes h

/-- `decompress` called once per element of `ns`, each call on the state the previous one left
    (whatever status it returned); the states after each call, or the first fault -/
def session (fuel : Nat) : St σ → List Nat → Except Fault (List (DecodeOut (St σ)))
  | _, [] => .ok []
  | st, n :: ns =>
    match decompress S fuel st n with
    | .error f => .error f
    | .ok o =>
      match session fuel o.st ns with
      | .error f => .error f
      | .ok os => .ok (o :: os)

theorem C02_qtm_session (fuel : Nat) (st : St σ) (ns : List Nat) (h : StInv st) (f : Fault)
    (hf : session S fuel st ns = .error f) : f = .hang ∨ ∃ s n, S.read s n = .error f := by
  induction ns generalizing st with
  | nil => simp [session] at hf
  | cons n ns ih =>
    simp only [session] at hf
    split at hf
    · rename_i f' hd
      cases hf
      exact C02_qtm_fault_origin S fuel st n h _ hd
    · rename_i o hd
      split at hf
      · rename_i f' hs
        cases hf
        exact ih o.st (C02_qtm_preserved S fuel st n h o hd) hs
      · cases hf

/-- from `qtmd_init` on, no sequence of calls reaches an out-of-bounds access -/
theorem C02_qtm_session_no_oob (hS : ∀ s n w, S.read s n ≠ .error (.oob w)) (src : σ)
    (windowBits inputBufferSize : Nat) (fill : UInt8) (st : St σ)
    (hi : init src windowBits inputBufferSize fill = some st) (fuel : Nat) (ns : List Nat) (w : String) :
    session S fuel st ns ≠ .error (.oob w) := fun hf =>
  (C02_qtm_session S fuel st ns (C02_qtm_init src _ _ fill st hi) _ hf).elim Fault.noConfusion
    fun ⟨s, n, hr⟩ => hS s n w hr

/-- Quantum on a plain file handle: the only fault a call can end with is the iteration bound -/
theorem C02_qtm_file_no_ub (fuel : Nat) (st : St Rd) (outBytes : Nat) (h : StInv st) (f : Fault)
    (hf : decompress Rd.src fuel st outBytes = .error f) : f = .hang := by
  rcases C02_qtm_fault_origin Rd.src fuel st outBytes h _ hf with hh | ⟨s, n, hr⟩
  · exact hh
  · exact absurd hr (Rd.src_faultFree s n f)

/-- Quantum inside a cabinet (input = the CAB block feeder of `C02.lean`): no out-of-bounds access,
    neither in the decoder nor in the feeder underneath it -/
theorem C02_qtm_cab_no_oob (files : Cab.Files) (fuel : Nat) (st : St Cab.Feeder) (outBytes : Nat)
    (h : StInv st) (w : String) :
    decompress (Cab.feederSrc files) fuel st outBytes ≠ .error (.oob w) :=
  C02_qtm_no_oob (Cab.feederSrc files)
    (fun s n w => Cab.feederRead_no_oob files _ s n [] w) fuel st outBytes h w

/-- 24 bytes of (arbitrary) Quantum input on a fresh 1 KiB-window decoder -/
def exampleInput : Bytes :=
  [0xe3, 0x5a, 0x91, 0x7e, 0xa8, 0xd4, 0x6b, 0xf1, 0x8e, 0xa7, 0x39, 0x85, 0xcc, 0x52, 0x1d, 0xe6,
   0x73, 0x9a, 0x04, 0xbf, 0x61, 0x2c, 0xd8, 0x47]

/-- `init` succeeds, and one call for 24 bytes decodes literals and matches and returns `OK` -/
example :
    (match init (⟨exampleInput, 0⟩ : Rd) 10 16 0xAA with
     | none => false
     | some st =>
       match decompress Rd.src 200 st 24 with
       | .ok o => o.err == .ok &&
           o.written == [50, 15, 13, 22, 0, 0, 0, 15, 13, 15, 7, 62, 7, 62, 7, 44, 58, 3, 52, 3, 52, 3, 56, 61]
       | .error _ => false) = true := by decide +kernel

/-- a session of three calls (10 + 7 + 7 bytes) delivers the same 24 bytes, every call returns `OK` -/
example :
    (match init (⟨exampleInput, 0⟩ : Rd) 10 16 0xAA with
     | none => false
     | some st =>
       match session Rd.src 200 st [10, 7, 7] with
       | .ok os => os.all (fun o => o.err == .ok) &&
           (os.map (·.written)).flatten ==
             [50, 15, 13, 22, 0, 0, 0, 15, 13, 15, 7, 62, 7, 62, 7, 44, 58, 3, 52, 3, 52, 3, 56, 61]
       | .error _ => false) = true := by decide +kernel

end MsPack.Qtm
