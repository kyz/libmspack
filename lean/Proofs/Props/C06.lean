import Proofs.Lemmas.OabBlocks
/-!
# C06 — OAB files decompress to the exact target

`encFull` is the specification of a full OAB file: the 16-byte header, then per block a 16-byte
block header and the payload.  `C06_full_roundtrip`: on the model of `oabd_decompress`, every such
file whose blocks are well formed decompresses to the concatenation of the blocks' data with
status OK — for any number of blocks, any block sizes, any mix of stored and LZX blocks, any
`block_max` ≥ the largest block, any DECOMPBUF ≥ 1, any trailing bytes after the last block.

Stored blocks are proved outright (incl. `copy_fh`'s chunking for every buffer size).  For an LZX
block the statement takes the block's *decoder law* as a hypothesis (`LzxLaw`): "the LZX DELTA
decoder, started on this payload with the window size oabd.c derives, delivers the block's data,
leaves the input at the end of the payload, and the CRC matches".  That law is what an LZX
encoder's correctness proof would supply; here it is validated by differential runs against
lzxd.c on generated streams (checks/c06.py), not proved.  For files of stored blocks only the
hypothesis is vacuous and the theorem is unconditional (`C06_stored_roundtrip`).

`C06_patch_roundtrip` is the same for `oabd_decompress_incremental`: `encPatch` is the specification of a
patch file, every block is an LZX DELTA block and enters through its decoder law `PatchLaw`.

`C06_window_bits`: the window size oabd.c derives is the smallest 2^17..2^25 that holds the size
it was derived from (or 2^25 if none does).
-/
namespace MsPack.Oab

/-- the loop stops at the first `wb` with `size ≤ 2 ^ wb`, or at 25; every `wb` it has passed was too small -/
theorem windowBitsLoop_spec (size : Nat) : ∀ k wb, wb + k = 25 → (17 < wb → 2 ^ (wb - 1) < size) →
    wb ≤ windowBitsLoop k wb size ∧ windowBitsLoop k wb size ≤ 25 ∧
    (size ≤ 2 ^ windowBitsLoop k wb size ∨ windowBitsLoop k wb size = 25) ∧
    (17 < windowBitsLoop k wb size → 2 ^ (windowBitsLoop k wb size - 1) < size) := by
  intro k
  induction k with
  | zero => intro wb hk hp; exact ⟨Nat.le_refl _, Nat.le_of_eq hk, .inr hk, hp⟩
  | succ k ih =>
    intro wb hk hp
    rw [windowBitsLoop]
    split
    · rename_i h
      obtain ⟨h1, h2⟩ := ih (wb + 1) (by omega) fun _ => h.2
      exact ⟨by omega, h2⟩
    · rename_i h
      have hs : size ≤ 2 ^ wb := Nat.le_of_not_lt fun h' => h ⟨by omega, h'⟩
      exact ⟨Nat.le_refl _, by omega, .inl hs, hp⟩

theorem C06_window_bits (size : Nat) :
    17 ≤ windowBits size ∧ windowBits size ≤ 25 ∧
    (size ≤ 2 ^ windowBits size ∨ windowBits size = 25) ∧
    (17 < windowBits size → 2 ^ (windowBits size - 1) < size) :=
  windowBitsLoop_spec size 8 17 rfl (fun h => absurd h (Nat.lt_irrefl _))

/-- **C06, full files** (LZX blocks under their decoder law): `oabd_decompress` of a well-formed
    full file returns OK and the output file is exactly the blocks' data in order — for every block
    list, `block_max`, DECOMPBUF ≥ 1, fill byte, decoder fuel, and whatever follows the last block -/
theorem C06_full_roundtrip (fuel bufSize : Nat) (hb : 0 < bufSize) (fill : UInt8) (blockMax : Nat)
    (hbm : blockMax < 4294967296) (bs : List Blk) (trailing : Bytes)
    (htot : total bs < 4294967296)
    (hwf : ∀ b ∈ bs, b.wf fuel bufSize fill blockMax) :
    (decompress fuel bufSize fill (some (encFull blockMax bs ++ trailing))) =
      .ok ⟨.ok, some (plain bs)⟩ := by
  obtain ⟨hdr, hre, hd2, f0, f1, f2, f3⟩ := readExact_hdr16 (file := encFull blockMax bs ++ trailing) (pos := 0)
    (rest := bs.flatMap encBlk ++ trailing) (show 3 < 4294967296 by omega) (show 1 < 4294967296 by omega) hbm htot
    (by simp [encFull, List.append_assoc])
  have hn : bs.length ≤ (encFull blockMax bs ++ trailing).length / 16 + 1 := by
    have := flatMap_encBlk_length bs
    have h2 : (encFull blockMax bs ++ trailing).length = 16 + (bs.flatMap encBlk).length + trailing.length := by
      simp [encFull, enc32]; omega
    rw [h2]; omega
  have hloop := fullLoop_spec fuel bufSize hb fill blockMax hbm _ bs _ (0 + 16) trailing [] hd2 hn hwf
  exact decompress_of_header fuel bufSize fill _ hdr blockMax (total bs) (.ok, [] ++ plain bs) hre f0 f1 f2 f3 hloop

/-- a file of stored blocks only: unconditional -/
theorem C06_stored_roundtrip (fuel bufSize : Nat) (hb : 0 < bufSize) (fill : UInt8) (blockMax : Nat)
    (hbm : blockMax < 4294967296) (datas : List Bytes) (crcs : Nat → Nat) (trailing : Bytes)
    (hfit : ∀ d ∈ datas, d.length ≤ blockMax) (htot : (datas.map List.length).sum < 4294967296)
    (hcrc : ∀ i, crcs i < 4294967296) :
    let bs := datas.zipIdx.map fun (d, i) => (⟨false, d, d, crcs i⟩ : Blk)
    decompress fuel bufSize fill (some (encFull blockMax bs ++ trailing)) = .ok ⟨.ok, some datas.flatten⟩ := by
  intro bs
  have hpl : plain bs = datas.flatten := by
    simp only [bs, plain, List.flatMap_map]
    have : ∀ (l : List Bytes) (k : Nat), (l.zipIdx k).flatMap (fun x => x.1) = l.flatten := by
      intro l; induction l with
      | nil => intro k; rfl
      | cons a l ih => intro k; simp [List.zipIdx_cons, ih]
    exact this datas 0
  have htl : total bs = (datas.map List.length).sum := by
    simp only [bs, total, List.map_map]
    have : ∀ (l : List Bytes) (k : Nat), ((l.zipIdx k).map ((fun b : Blk => b.data.length) ∘ fun x => (⟨false, x.1, x.1, crcs x.2⟩ : Blk))).sum = (l.map List.length).sum := by
      intro l; induction l with
      | nil => intro k; rfl
      | cons a l ih => intro k; simp [List.zipIdx_cons, ih]
    exact this datas 0
  rw [← hpl]
  apply C06_full_roundtrip fuel bufSize hb fill blockMax hbm bs trailing (by rw [htl]; exact htot)
  intro b hbmem
  simp only [bs, List.mem_map] at hbmem
  obtain ⟨⟨d, i⟩, hmem, rfl⟩ := hbmem
  have hd : d ∈ datas := (List.mem_zipIdx hmem).2.2 ▸ List.getElem_mem _
  have := hfit d hd
  exact ⟨this, by simp only; omega, hcrc i, by simp⟩

/-- non-vacuity / sanity: a concrete two-block stored file, odd buffer size, wrong CRC fields, junk after -/
example : decompress 0 17 0xa5 (some (encFull 40 [⟨false, [1,2,3], [1,2,3], 0xDEADBEEF⟩, ⟨false, [], [], 0⟩, ⟨false, [9], [9], 7⟩] ++ [0xff, 0xee]))
    = .ok ⟨.ok, some [1,2,3,9]⟩ :=
  C06_stored_roundtrip 0 17 (by decide) 0xa5 40 (by decide) [[1,2,3], [], [9]] (fun i => if i = 0 then 0xDEADBEEF else if i = 1 then 0 else 7)
    [0xff, 0xee] (by decide) (by decide) (by intro i; split <;> (try split) <;> omega)

/-- **C06, patches** (under the blocks' decoder law): `oabd_decompress_incremental` of a well-formed
    patch applied to a base file that starts with the blocks' reference data returns OK and writes
    exactly the target; the header's SourceSize / SourceCRC / TargetCRC fields are arbitrary (the
    code never reads them), as is anything after the last block or after the used part of the base -/
theorem C06_patch_roundtrip (fuel bufSize : Nat) (fill : UInt8) (blockMax sourceSize sourceCrc targetCrc : Nat)
    (hbm : blockMax < 4294967296) (bs : List PBlk) (trailing baseTrailing : Bytes)
    (htot : ptotal bs < 4294967296)
    (hwf : ∀ b ∈ bs, b.wf fuel bufSize fill (if blockMax < 16 then 16 else blockMax)) :
    decompressIncremental fuel bufSize fill (some (encPatch blockMax sourceSize sourceCrc targetCrc bs ++ trailing))
        (some (pbase bs ++ baseTrailing)) = .ok ⟨.ok, some (pplain bs)⟩ := by
  obtain ⟨hlen, f0, f1, f2, f4⟩ := patch_hdr_fields 3 2 blockMax sourceSize (ptotal bs) sourceCrc targetCrc (by omega) (by omega) hbm htot
  obtain ⟨hre, hd2⟩ := Rd.readExact_at (show (encPatch blockMax sourceSize sourceCrc targetCrc bs ++ trailing).drop 0 =
      _ ++ (bs.flatMap encPBlk ++ trailing) by simp [encPatch, List.append_assoc]) hlen
  have hbm' : (if blockMax < 16 then 16 else blockMax) < 4294967296 := by split <;> omega
  have hn : bs.length ≤ (encPatch blockMax sourceSize sourceCrc targetCrc bs ++ trailing).length / 16 + 1 := by
    have := flatMap_encPBlk_length bs
    have h2 : (encPatch blockMax sourceSize sourceCrc targetCrc bs ++ trailing).length = 28 + (bs.flatMap encPBlk).length + trailing.length := by
      simp [encPatch, enc32]; omega
    rw [h2]; omega
  have hloop := patchLoop_spec fuel bufSize fill _ hbm' _ _ bs _ (0 + 28) 0 trailing baseTrailing [] hd2 rfl hn hwf
  exact decompressIncremental_of_header fuel bufSize fill _ _ _ blockMax (ptotal bs) (.ok, [] ++ pplain bs) hre f0 f1 f2 f4 hloop

end MsPack.Oab
