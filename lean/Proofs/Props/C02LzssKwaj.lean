import Proofs.Lemmas.LzhRound
import Proofs.Lemmas.LzssKwajBounds
/-!
# C02 — memory safety: LZSS (lzssd.c), the KWAJ header reader and the KWAJ LZH decoder (kwajd.c)

The models render every array access of the C as a checked access with an explicit
`Fault.oob "<what>"` outcome (`window[pos]`, `window[mpos]`; `*fn++`, `fn--`, `*fn = 0` and the
unterminated-name over-read on the 13-byte file name buffer; `inbuf`, `lens[i]`, `window[…]` in
LZH).  The theorems say those outcomes are never taken, for every input, every buffer size / mode /
fill byte and every fuel.  None of the three models contains a `nullDeref`, `shiftWidth`, `divZero`
or `uninit` site of its own, so the general statements below exclude those as well: the only faults
that can come out of a decoder are `Fault.hang` (the model's fuel ran out) and faults the *source*
(`Src.read`, a parameter of the decoders) returns itself.

Hypotheses on the source, where the source is a parameter:
* `hS` — the source does not itself raise the fault in question (a decoder passes a fault of its
  `read` on unchanged, so this cannot be dropped; every source the models use raises none);
* `Src.Bounded` (LZH only) — `read(buf, n)` delivers at most `n` bytes.  Without it the site
  `"lzh->inbuf (read)"` *is* reachable on the model (witness at the end of this file): it is the
  model's rendering of a host `read` that overruns the buffer it was given.
For the file source `Rd.src` both hold and the statements are unconditional (`…_file_…`).
-/
namespace MsPack

/-- the four undefined-behaviour outcomes C02 is about (plus `uninit`): everything but `hang` -/
def Fault.isUB : Fault → Bool
  | .hang => false
  | _ => true

theorem FaultOK.not_ub {σ : Type} {S : Src σ} {f : Fault} (h : FaultOK S f)
    (hS : ∀ s n, S.read s n ≠ .error f) (hf : f.isUB = true) : False := by
  rcases h with rfl | ⟨s, n, h⟩
  · simp [Fault.isUB] at hf
  · exact hS s n h

end MsPack

namespace MsPack.Lzss

variable {σ : Type} (S : Src σ)

/-- every fault `lzss_decompress` can end in is the model's fuel running out or a fault the source's
    `read` raised — for every source, input buffer size, mode and fuel -/
theorem C02_lzss_only_source_faults (fuel : Nat) (src : σ) (inputBufferSize mode : Nat) (f : Fault)
    (h : decompress S fuel src inputBufferSize mode = .error f) :
    f = .hang ∨ ∃ s n, S.read s n = .error f :=
  decompress_fault S fuel src inputBufferSize mode f h

/-- `window[pos]`, `window[mpos]` are never outside the ring -/
theorem C02_lzss_no_oob (hS : ∀ s n w, S.read s n ≠ .error (.oob w))
    (fuel : Nat) (src : σ) (inputBufferSize mode : Nat) (w : String) :
    decompress S fuel src inputBufferSize mode ≠ .error (.oob w) :=
  fun h => (decompress_fault S fuel src inputBufferSize mode _ h).not_ub (fun s n => hS s n w) rfl

theorem C02_lzss_no_nullDeref (hS : ∀ s n w, S.read s n ≠ .error (.nullDeref w))
    (fuel : Nat) (src : σ) (inputBufferSize mode : Nat) (w : String) :
    decompress S fuel src inputBufferSize mode ≠ .error (.nullDeref w) :=
  fun h => (decompress_fault S fuel src inputBufferSize mode _ h).not_ub (fun s n => hS s n w) rfl

theorem C02_lzss_no_shiftWidth (hS : ∀ s n, S.read s n ≠ .error .shiftWidth)
    (fuel : Nat) (src : σ) (inputBufferSize mode : Nat) :
    decompress S fuel src inputBufferSize mode ≠ .error .shiftWidth :=
  fun h => (decompress_fault S fuel src inputBufferSize mode _ h).not_ub hS rfl

theorem C02_lzss_no_divZero (hS : ∀ s n, S.read s n ≠ .error .divZero)
    (fuel : Nat) (src : σ) (inputBufferSize mode : Nat) :
    decompress S fuel src inputBufferSize mode ≠ .error .divZero :=
  fun h => (decompress_fault S fuel src inputBufferSize mode _ h).not_ub hS rfl

/-- on a file (the source SZDD and KWAJ use) no undefined-behaviour outcome at all: unconditional -/
theorem C02_lzss_file_no_ub (fuel : Nat) (r : Rd) (inputBufferSize mode : Nat) (f : Fault)
    (h : decompress Rd.src fuel r inputBufferSize mode = .error f) : f = .hang :=
  (decompress_fault Rd.src fuel r inputBufferSize mode f h).of_faultFree Rd.src_faultFree

theorem C02_lzss_file_no_oob (fuel : Nat) (r : Rd) (inputBufferSize mode : Nat) (w : String) :
    decompress Rd.src fuel r inputBufferSize mode ≠ .error (.oob w) :=
  fun h => nomatch C02_lzss_file_no_ub fuel r inputBufferSize mode _ h

/-- non-vacuity: three literals, a match reaching back into the pre-filled ring, four literals —
    with a 4-byte input buffer, so refills fall inside tokens; returns `MSPACK_ERR_OK` at EOF -/
example : (match decompress Rd.src 100 (⟨[0xF7, 65, 66, 67, 0xEE, 0xF0, 68, 69, 70, 71], 0⟩ : Rd) 4 0 with
           | .ok o => (o.err, o.written)
           | .error _ => (.args, [])) = (.ok, [65, 66, 67, 32, 32, 65, 68, 69, 70, 71]) := by
  decide +kernel

end MsPack.Lzss

namespace MsPack.Kwaj

/-- `kwajd_read_headers` takes no fault outcome at all, for every file, position and allocator fill
    byte: the name (≤ 9 bytes read, ≥ 1 copied), the dot, the extension (≤ 4) and the terminator
    stay inside the 13-byte buffer, `fn--` never steps below its start, and the C string read off
    it afterwards ends inside it -/
theorem C02_kwaj_readHeaders_no_fault (fill : UInt8) (r : Rd) (f : Fault) :
    readHeaders fill r ≠ .error f :=
  readHeaders_no_fault fill r f

theorem C02_kwaj_readHeaders_no_oob (fill : UInt8) (r : Rd) (w : String) :
    readHeaders fill r ≠ .error (.oob w) :=
  readHeaders_no_fault fill r _

theorem C02_kwaj_open_no_fault (fill : UInt8) (err : Err) (file : Option Bytes) (f : Fault) :
    open_ fill err file ≠ .error f :=
  open_no_fault fill err file f

/-- non-vacuity: a header with both name parts ("abc", "txt"), buffer pre-filled with 0xAA -/
example : (match readHeaders 0xAA ⟨[0x4B, 0x57, 0x41, 0x4A, 0x88, 0xF0, 0x27, 0xD1, 0, 0, 30, 0, 0x18, 0,
                                     0x61, 0x62, 0x63, 0, 0x74, 0x78, 0x74, 0], 0⟩ with
           | .ok (.ok h, r) => (h.filename, r.pos)
           | _ => (none, 0)) = (some [0x61, 0x62, 0x63, 0x2E, 0x74, 0x78, 0x74], 22) := by
  decide +kernel

/-- non-vacuity: the longest names the format allows (8 + 3) fill the buffer to its last byte -/
example : (match readHeaders 0xAA ⟨[0x4B, 0x57, 0x41, 0x4A, 0x88, 0xF0, 0x27, 0xD1, 0, 0, 30, 0, 0x18, 0,
                                     1, 2, 3, 4, 5, 6, 7, 8, 0, 9, 10, 11, 0], 0⟩ with
           | .ok (.ok h, r) => (h.filename, r.pos)
           | _ => (none, 0)) = (some [1, 2, 3, 4, 5, 6, 7, 8, 0x2E, 9, 10, 11], 27) := by
  decide +kernel

end MsPack.Kwaj

namespace MsPack.Kwaj.Lzh
open MsPack.Generated

variable {σ : Type} (S : Src σ)

/-- `lzh_init` establishes the invariant (array sizes as declared in `struct kwajd_stream`,
    `pos` inside the ring, `i_end` inside `inbuf`) -/
theorem C02_lzh_init_inv (src : σ) (fill : UInt8) : Inv (init src fill) := init_inv src fill

/-- `lzh_decompress` preserves it, whatever it returns -/
theorem C02_lzh_preserves_inv (hB : S.Bounded) (fuel : Nat) (st : St σ) (h : Inv st) (o : Out σ)
    (he : decompress S fuel st = .ok o) : Inv o.st :=
  decompress_inv hB fuel st h o he

/-- from a state with the invariant, every fault is the fuel or the source's -/
theorem C02_lzh_only_source_faults (hB : S.Bounded) (fuel : Nat) (st : St σ) (h : Inv st) (f : Fault)
    (he : decompress S fuel st = .error f) : f = .hang ∨ ∃ s n, S.read s n = .error f :=
  decompress_fault hB fuel st h f he

/-- `inbuf`, `lens[i]`, `window[pos]`, `window[(pos+4096-offset)&4095]` are never out of bounds -/
theorem C02_lzh_no_oob (hB : S.Bounded) (hS : ∀ s n w, S.read s n ≠ .error (.oob w))
    (fuel : Nat) (st : St σ) (h : Inv st) (w : String) :
    decompress S fuel st ≠ .error (.oob w) :=
  fun he => (decompress_fault hB fuel st h _ he).not_ub (fun s n => hS s n w) rfl

theorem C02_lzh_no_nullDeref (hB : S.Bounded) (hS : ∀ s n w, S.read s n ≠ .error (.nullDeref w))
    (fuel : Nat) (st : St σ) (h : Inv st) (w : String) :
    decompress S fuel st ≠ .error (.nullDeref w) :=
  fun he => (decompress_fault hB fuel st h _ he).not_ub (fun s n => hS s n w) rfl

theorem C02_lzh_no_shiftWidth (hB : S.Bounded) (hS : ∀ s n, S.read s n ≠ .error .shiftWidth)
    (fuel : Nat) (st : St σ) (h : Inv st) : decompress S fuel st ≠ .error .shiftWidth :=
  fun he => (decompress_fault hB fuel st h _ he).not_ub hS rfl

theorem C02_lzh_no_divZero (hB : S.Bounded) (hS : ∀ s n, S.read s n ≠ .error .divZero)
    (fuel : Nat) (st : St σ) (h : Inv st) : decompress S fuel st ≠ .error .divZero :=
  fun he => (decompress_fault hB fuel st h _ he).not_ub hS rfl

/-- the entry point as KWAJ extraction uses it: fresh state, any source position, any fill byte -/
theorem C02_lzh_from_init_no_oob (hB : S.Bounded) (hS : ∀ s n w, S.read s n ≠ .error (.oob w))
    (fuel : Nat) (src : σ) (fill : UInt8) (w : String) :
    decompress S fuel (init src fill) ≠ .error (.oob w) :=
  C02_lzh_no_oob S hB hS fuel _ (init_inv src fill) w

/-- on a file: no undefined-behaviour outcome at all, unconditionally -/
theorem C02_lzh_file_no_ub (fuel : Nat) (r : Rd) (fill : UInt8) (f : Fault)
    (he : decompress Rd.src fuel (init r fill) = .error f) : f = .hang :=
  (decompress_fault Rd.src_bounded fuel _ (init_inv r fill) f he).of_faultFree Rd.src_faultFree

theorem C02_lzh_file_no_oob (fuel : Nat) (r : Rd) (fill : UInt8) (w : String) :
    decompress Rd.src fuel (init r fill) ≠ .error (.oob w) :=
  fun he => nomatch C02_lzh_file_no_ub fuel r fill _ he

/-- any number of successive `lzh_decompress` calls on one stream, each continuing from the state
    the previous one left (fuels given per call) -/
def calls : List Nat → St σ → Except Fault (St σ)
  | [], st => .ok st
  | fuel :: rest, st =>
    match decompress S fuel st with
    | .error f => .error f
    | .ok o => calls rest o.st

theorem C02_lzh_calls_only_source_faults (hB : S.Bounded) : ∀ (fuels : List Nat) (st : St σ), Inv st →
    ∀ f, calls S fuels st = .error f → f = .hang ∨ ∃ s n, S.read s n = .error f
  | [], st, _, f, he => by simp [calls] at he
  | fuel :: rest, st, h, f, he => by
    rw [calls] at he
    split at he
    · rename_i f' heq
      simp only [Except.error.injEq] at he
      subst he
      exact decompress_fault hB fuel st h _ heq
    · rename_i o heq
      exact C02_lzh_calls_only_source_faults hB rest o.st (decompress_inv hB fuel st h o heq) f he

theorem C02_lzh_calls_no_oob (hB : S.Bounded) (hS : ∀ s n w, S.read s n ≠ .error (.oob w))
    (fuels : List Nat) (src : σ) (fill : UInt8) (w : String) :
    calls S fuels (init src fill) ≠ .error (.oob w) :=
  fun he => FaultOK.not_ub (C02_lzh_calls_only_source_faults S hB fuels _ (init_inv src fill) _ he)
    (fun s n => hS s n w) rfl

/-- non-vacuity: five type-0 (fixed length) tables, a run of three literals "ABC", a match of
    length 3 at offset 3, then end of input: writes "ABCABC" and returns `MSPACK_ERR_OK` -/
example : (match decompress Rd.src 100 (init ⟨[0, 0, 0, 0x01, 0x20, 0xa1, 0x21, 0x88, 0x01, 0x80], 0⟩ 0) with
           | .ok o => (o.err, o.written, o.st.pos)
           | .error _ => (.args, [], 0)) = (.ok, [65, 66, 67, 65, 66, 67], 6) := by
  have hfile : [0, 0, 0, 0x01, 0x20, 0xa1, 0x21, 0x88, 0x01, 0x80] = LzhEnc.encodeLzh [.lits [65, 66, 67], .mat 3 3] := by
    decide +kernel
  generalize ([0, 0, 0, 0x01, 0x20, 0xa1, 0x21, 0x88, 0x01, 0x80] : Bytes) = file at hfile ⊢
  obtain ⟨st', hd, hr⟩ := decompress_of_runs 100 _
    (fun s => ring s = LzhEnc.expand [.lits [65, 66, 67], .mat 3 3] ⟨Array.replicate 4096 0x20, 0, #[]⟩)
    (decompressBody_spec [.lits [65, 66, 67], .mat 3 3] (by decide) 100 (by decide) (init ⟨file, 0⟩ 0)
      (by simp [init, kwajINPUT_SIZE]) (init_sizes _ _) hfile)
  have : (st'.out.toList, st'.pos) = ([65, 66, 67, 65, 66, 67], 6) := by
    rw [show st'.out = _ from congrArg Lzss.Ring.out hr, show st'.pos = _ from congrArg Lzss.Ring.pos hr]
    decide +kernel
  rw [hd]
  simp only [Prod.mk.injEq] at this
  simp only [this]

/-! ### the reachable site: a `read` that overruns its buffer

`Src.Bounded` cannot be dropped: a source whose `read` hands back more than the `n` bytes it was
asked for drives `lzh_read_input` into the model's `"lzh->inbuf (read)"` outcome (in the C, the host
has then written past `inbuf[KWAJ_INPUT_SIZE]` itself). -/

/-- a `read` that delivers 2049 bytes whatever size it was asked for -/
def overrunSrc : Src Unit where
  read _ _ := .ok (some (List.replicate 2049 0), ())

example : (match decompress overrunSrc 100 (init () 0) with
           | .error (.oob w) => w
           | _ => "") = "lzh->inbuf (read)" := by
  decide +kernel

end MsPack.Kwaj.Lzh
