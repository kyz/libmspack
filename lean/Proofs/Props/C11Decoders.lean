import Proofs.Lemmas.FillSimLzh
import Proofs.Lemmas.FillSimLzx
import Proofs.Lemmas.FillSimQtm
/-!
# C11 on the decoder models: no result depends on what fresh memory contained

The models take the allocator's fill byte as a parameter of `init`, exactly where the C leaves
memory uninitialised.  Proved here, for every input source, every fuel and any two fill bytes: the
observable results (status and bytes handed to `write`, or the fault) of the decoder calls are the
same.  The proofs are two-run simulations (`Proofs/Lemmas/FillSim*.lean`): a relation between the
two states that lets the never-read cells differ is preserved by every helper of the model, and
related states give equal results.

* KWAJ LZH: `inbuf` (read only below `i_end`) and the ring (set by `lzh_decompress` before use).
* LZX: the 64 spare entries of the main/length length arrays, the pretree and aligned length arrays
  (written before each use), `block_length` (read only when `block_type == 3`, i.e. after a header
  has set it), `LENGTH_empty` (read only in verbatim/aligned blocks, whose header sets it), `e8_buf`
  (read only below what the E8 pass has just copied in).
* Quantum: `H`, `L`, `C` (set by the frame header before the first symbol) and the model-array
  cells above `entries`.
-/
namespace MsPack.C11

/-- KWAJ LZH (`lzh_init` + `lzh_decompress`) -/
theorem C11_lzh_fill_independent {σ : Type} (S : Src σ) (fuel : Nat) (src : σ) (f1 f2 : UInt8) :
    Kwaj.Lzh.observe (Kwaj.Lzh.decompress S fuel (Kwaj.Lzh.init src f1)) =
    Kwaj.Lzh.observe (Kwaj.Lzh.decompress S fuel (Kwaj.Lzh.init src f2)) :=
  Kwaj.Lzh.decompress_sim0 S fuel (Kwaj.Lzh.init_sim0 src f1 f2)

/-- LZX / LZX DELTA: `lzxd_init` succeeds or fails regardless of the fill byte, and any sequence of
    `lzxd_decompress`, `lzxd_set_output_length` and `lzxd_set_reference_data` calls on the fresh
    stream gives the same statuses and the same bytes -/
theorem C11_lzx_fill_independent {σ : Type} (S : Src σ) (fuel : Nat) (src : σ)
    (windowBits resetInterval inputBufferSize outputLength : Nat) (isDelta : Bool) (f1 f2 : UInt8)
    (calls : List Lzx.Fill.Call) :
    (Lzx.init src windowBits resetInterval inputBufferSize outputLength isDelta f1).map
        (fun st => Lzx.Fill.trace S fuel st calls) =
    (Lzx.init src windowBits resetInterval inputBufferSize outputLength isDelta f2).map
        (fun st => Lzx.Fill.trace S fuel st calls) :=
  Lzx.Fill.lzx_fill_independent S fuel src windowBits resetInterval inputBufferSize outputLength isDelta f1 f2 calls

/-- Quantum: `qtmd_init` succeeds or fails regardless of the fill byte, and any sequence of
    `qtmd_decompress` calls on the fresh stream gives the same statuses and the same bytes -/
theorem C11_qtm_fill_independent {σ : Type} (S : Src σ) (fuel : Nat) (src : σ)
    (windowBits inputBufferSize : Nat) (f1 f2 : UInt8) (calls : List Nat) :
    (Qtm.init src windowBits inputBufferSize f1).map (fun st => Qtm.trace S fuel st calls) =
    (Qtm.init src windowBits inputBufferSize f2).map (fun st => Qtm.trace S fuel st calls) :=
  Qtm.C11_qtm_fill_independent S fuel src windowBits inputBufferSize f1 f2 calls

/-! ## non-vacuity: the initial states do differ with the fill byte -/

example : (Kwaj.Lzh.init () 0).inbuf ≠ (Kwaj.Lzh.init () 1).inbuf := by
  intro h
  have := congrArg (fun a => a[0]?) h
  simp [Kwaj.Lzh.init, MsPack.Generated.kwajINPUT_SIZE] at this

example : (Lzx.init () 15 0 2 0 false 0).map (·.blockLength) ≠ (Lzx.init () 15 0 2 0 false 1).map (·.blockLength) := by
  decide

example : (Lzx.init () 15 0 2 0 false 0).map (·.lengthEmpty) ≠ (Lzx.init () 15 0 2 0 false 1).map (·.lengthEmpty) := by
  decide

example : (Qtm.init () 10 2 0).map (·.H) ≠ (Qtm.init () 10 2 1).map (·.H) := by decide

/-- and `init` does succeed for these parameters, so the theorems are not about `none = none` -/
example : ((Lzx.init () 15 0 2 0 false 0).map fun _ => ()) = some () := by decide
example : ((Qtm.init () 10 2 0).map fun _ => ()) = some () := by decide

end MsPack.C11

#print axioms MsPack.C11.C11_lzh_fill_independent
#print axioms MsPack.C11.C11_lzx_fill_independent
#print axioms MsPack.C11.C11_qtm_fill_independent
