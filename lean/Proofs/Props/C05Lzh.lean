import Proofs.Lemmas.LzhRound
import Proofs.Lemmas.LzhRound3
import Proofs.Props.C05Kwaj
/-!
# C05 — KWAJ method 3 (LZH): the payload is expanded exactly (round trip against a specification writer)

`MsPack/Spec/LzhEncode.lean` is the specification of the LZH stream `lzh_decompress` (kwajd.c) decodes:
tokens are literal runs of 1..32 bytes and copies of 3..17 bytes from 0..4095 bytes back in a
4096-byte ring of spaces (write position 0); `expand` is the reference semantics; `encodeLzh` is a
writer that announces the flat encoding (type 0) for all five code-length tables, codes every symbol
with its fixed-width canonical code, and fills the last byte with zero bits.

* `C05_lzh_flat_roundtrip`: on the model of `lzh_decompress`, for **every** list of well-formed
  tokens (any order: with flat tables a literal run may also follow a short literal run), any fill
  byte of the allocator, wherever the coded stream sits in a file: the decoder returns OK and has
  written exactly `expand toks`.  Input arrives through `lzh_read_input`'s 2048-byte buffer, so
  tokens straddle refills; the end of the stream is the model's/C's: the made-up zero bytes after the
  end of the file, a `_SAFE` return or the `while (!input_end)` test.
* `C05_kwaj_lzh_roundtrip`: a KWAJ file of method 3 (any combination of the optional header parts
  without name fields) around such a stream: `open` reports the header, `extract`/`decompress` write
  exactly the expansion.

Padding rule chosen for the writer: the bit stream is filled up to a whole byte with zero bits (at
most 7).  Every token takes at least 16 bits in the flat coding, so (a) the padding never decodes to
a complete token — the decoder leaves through a `_SAFE` return inside it, or through the loop test —
and (b) `input_end` can only become non-zero while the last token is being read, so no token is
skipped by the `while (!lzh->input_end)` test.

* `C05_lzh_type3_flatlens_roundtrip_partial`: the same with all five tables sent as type 3 (one 4-bit
  length per symbol, `encodeLzhWith flatLens`): `lzh_read_lens` case 3 and the `STORE_BITS` /
  `RESTORE_BITS` hand-over of `BUILD_TREE` while bits are being read.  The table lemmas
  (`buildTree_type3`, Proofs/Lemmas/LzhRound3.lean) hold for any accepted vector of lengths below 16.

Not covered: type 3 with code lengths of the stream's own, types 1 and 2.  The decoder's half of the former is
`Huff.decode_canon` (Proofs/Lemmas/HuffCanon.lean: in the table built from any accepted lengths the `l` bits of
`firstCode (l - 1) + k` read back as the `k`-th symbol of length `l`); not there are the writer's half (`canonCode lens sym`
is that word, `k` the rank of `sym` among the symbols of its length) and a token loop lemma (`mainLoop_at`) for code
words other than the flat ones.  With short codes the unconditional statement is false (`short_codes_lose_tokens`): the
loop test drops every token that starts after the first made-up byte was fetched, i.e. up to 15 bits'
worth of tokens at the end of the stream.  A general statement needs "the last token takes at least
16 bits" (or real padding of that size that does not itself decode to a token).
-/
namespace MsPack.Kwaj.Lzh
open MsPack.Generated MsPack.LzhEnc

theorem roundtrip_of_body (toks : List Tok) (fuel : Nat) (st : St Rd)
    (hb : Runs (decompressBody Rd.src fuel) st (fun _ s => ring s = expand toks ⟨Array.replicate 4096 0x20, 0, #[]⟩)
      (fun e s => e = .ok ∧ ring s = expand toks ⟨Array.replicate 4096 0x20, 0, #[]⟩)) :
    ∃ st', decompress Rd.src fuel st = .ok ⟨.ok, (expand toks initRing).out.toList, st'⟩ := by
  obtain ⟨st', hd, hr⟩ := decompress_of_runs fuel _ _ hb
  refine ⟨st', ?_⟩
  rw [hd]
  have : st'.out = (expand toks initRing).out := congrArg Lzss.Ring.out hr
  rw [this]

theorem C05_lzh_flat_roundtrip (toks : List Tok) (hwf : ∀ t ∈ toks, t.wf) (file : Bytes) (pos : Nat) (fill : UInt8)
    (fuel : Nat) (hfuel : toks.length + 1 ≤ fuel) (hfile : file.drop pos = encodeLzh toks) :
    ∃ st', decompress Rd.src fuel (init (⟨file, pos⟩ : Rd) fill) =
      .ok ⟨.ok, (expand toks initRing).out.toList, st'⟩ :=
  roundtrip_of_body toks fuel _ (decompressBody_spec toks hwf fuel hfuel (init (⟨file, pos⟩ : Rd) fill)
    (by simp [init, kwajINPUT_SIZE]) (init_sizes _ _) hfile)

/-- **LZH round trip, table encoding 3, partial**: the same token streams with the five tables sent
    explicitly as 4-bit lengths (`lzh_read_lens` case 3 for all five; the lengths sent are the flat
    ones, so the code words are the fixed-width ones).  "Partial": type 3 with lengths of the stream's
    own is not covered, and does not hold without a condition on the end of the stream — see
    `short_codes_lose_tokens` below. -/
theorem C05_lzh_type3_flatlens_roundtrip_partial (toks : List Tok) (hwf : ∀ t ∈ toks, t.wf) (file : Bytes) (pos : Nat)
    (fill : UInt8) (fuel : Nat) (hfuel : toks.length + 1 ≤ fuel) (hfile : file.drop pos = encodeLzhWith flatLens toks) :
    ∃ st', decompress Rd.src fuel (init (⟨file, pos⟩ : Rd) fill) =
      .ok ⟨.ok, (expand toks initRing).out.toList, st'⟩ :=
  roundtrip_of_body toks fuel _ (decompressBody_type3_flat toks hwf fuel hfuel (init (⟨file, pos⟩ : Rd) fill)
    (by simp [init, kwajINPUT_SIZE]) (init_sizes _ _) hfile)

/-- `emitByte` leaves `input_end` alone (all `At` says of `input_end` is what it implies for the real stream) -/
theorem emitByte_inputEnd {B : Nat} (b : UInt8) {st : St Rd} {bs : List Bool} {r : Lzss.Ring} {L : LensOf} (h : At st bs r L B) :
    Runs (emitByte b : LM Rd Unit) st (fun _ s => s.inputEnd = st.inputEnd) (fun _ _ => False) := by
  have hlt : st.pos < st.window.size := by
    show (ring st).pos < (ring st).window.size
    rw [h.ring, h.ok.1]; exact h.ok.2
  unfold emitByte
  apply Runs.get_bind
  rw [dif_pos hlt]
  exact Runs.set rfl

/-- three 1-bit code words for "literal run", "of one byte", `sym`, then fewer than 16 more bits: the loop
    writes `sym` and leaves through its `input_end` test, whatever the bits that follow -/
theorem mainLoop_first_token_only (tr : Trees) (sym : Nat)
    (hm : ∀ t, Huff.decode tr.matchlen1 (false :: t) = some (0, 1))
    (hl : ∀ t, Huff.decode tr.litlen (false :: t) = some (0, 1))
    (hc : ∀ t, Huff.decode tr.literal (false :: t) = some (sym, 1))
    (fuel : Nat) {s : St Rd} {r : Lzss.Ring} {L : LensOf} (n : Nat) (hn : n < 12)
    (h : At s (List.replicate (n + 4) false) r L 4) :
    Runs (mainLoop Rd.src tr (fuel + 2) false) s (fun _ s' => ring s' = r.emit (UInt8.ofNat sym)) (fun _ _ => False) := by
  have h0 : s.inputEnd = 0 := h.noEnd (by rw [List.length_replicate]; omega)
  have hv0 : At s ([false] ++ ([false] ++ ([false] ++ List.replicate (n + 1) false))) r L := h.mono (by decide)
  rw [mainLoop_succ]
  apply Runs.get_bind
  rw [if_neg (fun h => h h0), if_neg (by decide)]
  refine Runs.bind (readSym_at tr.matchlen1 _ 0 hv0 (by decide) hm) ?_
  intro v s1 ⟨hv, h1⟩
  subst hv
  unfold afterLen
  rw [if_neg (by decide)]
  refine Runs.bind (readSym_at tr.litlen _ 0 h1 (by decide) hl) ?_
  intro v s2 ⟨hv, h2⟩
  subst hv
  refine Runs.bind (Q := fun _ s' => ring s' = r.emit (UInt8.ofNat sym) ∧ s'.inputEnd ≠ 0) ?_ ?_
  · rw [literalRun]
    refine Runs.bind ((readSym_at tr.literal _ sym h2 (by decide) hc).and
      (readSymSafe_end tr.literal h2 (by simp only [List.length_append, List.length_replicate, List.length_singleton]; omega)))
      ?_ (fun _ _ h => h.1)
    intro v s3 ⟨⟨hv, h3⟩, he3⟩
    subst hv
    refine Runs.bind ((emitByte_at _ h3).and (emitByte_inputEnd _ h3)) ?_ (fun _ _ h => h.1)
    intro _ s4 ⟨h4, hi4⟩
    rw [literalRun]
    exact Runs.pure ⟨h4.ring, by rw [hi4]; exact he3⟩
  · intro _ s4 ⟨hr4, he4⟩
    rw [mainLoop_succ]
    apply Runs.get_bind
    rw [if_pos he4]
    exact Runs.pure hr4

/-- complete prefix codes with 1-bit code words: MATCHLEN symbols 0 (literal run) and 1, LITLEN symbols 0
    (run of one) and 1, OFFSET symbols 0 and 1, LITERAL 'A' and 'B' -/
def shortLens : Lens :=
  ⟨[1, 1] ++ List.replicate 14 0, [1, 1] ++ List.replicate 14 0, [1, 1] ++ List.replicate 30 0,
   [1, 1] ++ List.replicate 62 0, List.replicate 65 0 ++ [1, 1] ++ List.replicate 189 0⟩

/-- **why the general type 3 statement is not a theorem.**  Two one-byte literal runs "A", "A" (3 bits
    each) coded with `shortLens`: the model of `lzh_decompress` returns OK having written one byte.
    While the first token is read `ENSURE_BITS(16)` runs past the end of the file, `lzh_read_input`
    sets `input_end`, and `while (!lzh->input_end)` then leaves the loop although the second token's
    bits are real and still in the bit buffer.  Up to 15 bits' worth of tokens are lost this way;
    the flat coding is immune because its tokens take at least 16 bits. -/
theorem short_codes_lose_tokens :
    (match decompress Rd.src 50 (init (⟨encodeLzhWith shortLens [.lits [65], .lits [65]], 0⟩ : Rd) 0) with
      | .ok o => (o.err, o.written)
      | .error _ => (Err.args, [])) = (.ok, [65]) ∧
    (expand [.lits [65], .lits [65]] initRing).out.toList = [65, 65] := by
  refine ⟨?_, by decide +kernel⟩
  generalize hfile : encodeLzhWith shortLens [.lits [65], .lits [65]] = file
  have tab : ∀ (t : Tbl) (lens : List Nat), (Huff.build kwajTABLEBITS lens).isSome = true → lens.length = t.syms →
      (∀ v ∈ lens, v < 16) → ∃ c, TableOf t lens c ∧
        ∀ sym, (Huff.symsOfLen lens 1).toList.head? = some sym → ∀ b, Huff.decode c (false :: b) = some (sym, 1) := by
    intro t lens h hl h16
    obtain ⟨c, hc⟩ := Option.isSome_iff_exists.mp h
    exact ⟨c, ⟨hl, h16, hc⟩, decode_zero_bit _ (by decide) lens c hc⟩
  obtain ⟨m1, t1, d1⟩ := tab .MATCHLEN1 shortLens.matchlen1 (by decide +kernel) (by decide +kernel) (by decide +kernel)
  obtain ⟨m2, t2, _⟩ := tab .MATCHLEN2 shortLens.matchlen2 (by decide +kernel) (by decide +kernel) (by decide +kernel)
  obtain ⟨ll, t3, d3⟩ := tab .LITLEN shortLens.litlen (by decide +kernel) (by decide +kernel) (by decide +kernel)
  obtain ⟨off, t4, _⟩ := tab .OFFSET shortLens.offset (by decide +kernel) (by decide +kernel) (by decide +kernel)
  obtain ⟨li, t5, d5⟩ := tab .LITERAL shortLens.literal (by decide +kernel) (by decide +kernel) (by decide +kernel)
  have hb := decompressBody_type3 (Nat.le_refl 4) shortLens ⟨m1, m2, ll, off, li⟩ t1 t2 t3 t4 t5 [.lits [65], .lits [65]] 50
    (init (⟨file, 0⟩ : Rd) 0) (by simp [init, kwajINPUT_SIZE]) (init_sizes _ _) hfile.symm
    (Q := fun _ s => ring s = (⟨Array.replicate 4096 0x20, 0, #[]⟩ : Lzss.Ring).emit 65)
    (R := fun e s => e = .ok ∧ ring s = (⟨Array.replicate 4096 0x20, 0, #[]⟩ : Lzss.Ring).emit 65) (by
      intro s L' pad hpad h
      have hbits : toksBitsWith shortLens false [.lits [65], .lits [65]] = List.replicate 6 false := by decide
      rw [hbits, List.replicate_append_replicate, show 6 + pad = pad + 2 + 4 by omega] at h
      exact (mainLoop_first_token_only ⟨m1, m2, ll, off, li⟩ 65 (d1 0 (by decide +kernel)) (d3 0 (by decide +kernel))
        (d5 65 (by decide +kernel)) 48 (pad + 2) (by omega) h).mono (fun _ _ h => h) (fun _ _ h => h.elim))
  obtain ⟨st', hd, hr⟩ := decompress_of_runs 50 _ _ hb
  rw [hd]
  have : st'.out = #[65] := congrArg Lzss.Ring.out hr
  simp only [this]

end MsPack.Kwaj.Lzh

namespace MsPack.Kwaj
open MsPack.LzhEnc

/-- **KWAJ, method 3 (LZH)**: the header values are reported exactly and `decompress` writes exactly the
    expansion of the tokens -/
theorem C05_kwaj_lzh_roundtrip (fill : UInt8) (err : Err) (k : KwajSpec) (hwf : k.wf) (toks : List Tok)
    (htoks : ∀ t ∈ toks, t.wf) (fuel : Nat) (hfuel : toks.length + 1 ≤ fuel) :
    open_ fill err (some (encodeKwajLzh k toks)) =
      .ok (some ⟨listedWith 3 k, ⟨encodeKwajLzh k toks, k.dataOffset⟩⟩, .ok) ∧
    (∃ h', extract fill fuel ⟨listedWith 3 k, ⟨encodeKwajLzh k toks, k.dataOffset⟩⟩ =
      .ok ⟨.ok, (expand toks initRing).out.toList, h'⟩) ∧
    decompress fill fuel err (some (encodeKwajLzh k toks)) = .ok ⟨.ok, some (expand toks initRing).out.toList⟩ := by
  have hopen : open_ fill err (some (encodeKwajLzh k toks)) =
      .ok (some ⟨listedWith 3 k, ⟨encodeKwajLzh k toks, k.dataOffset⟩⟩, .ok) := by
    simp only [open_, encodeKwajLzh, readHeaders_with fill 3 (by decide) k hwf]
  obtain ⟨st', hdec⟩ := Lzh.C05_lzh_flat_roundtrip toks htoks (encodeKwajLzh k toks) k.dataOffset fill fuel hfuel
    (drop_dataOffset 3 k (encodeLzh toks))
  have hex : extract fill fuel ⟨listedWith 3 k, ⟨encodeKwajLzh k toks, k.dataOffset⟩⟩ =
      .ok ⟨.ok, (expand toks initRing).out.toList, ⟨listedWith 3 k, st'.src⟩⟩ := by
    simp only [extract, listedWith, compNONE, compXOR, compSZDD, compLZH, Rd.seekStart]
    simp [hdec]
  refine ⟨hopen, ⟨_, hex⟩, ?_⟩
  unfold decompress
  rw [hopen]
  simp only [hex]

end MsPack.Kwaj

open MsPack MsPack.LzhEnc in
/-- the premises are satisfiable by non-trivial streams: a short run followed by a match (the format's
    alternation), a full 32-byte run followed by another run, an overlapping match reaching into the
    initial spaces, offset 0 (the byte 4096 back), the extreme lengths and offsets -/
example : ∀ t ∈ [Tok.lits [65, 66, 67], .mat 5 3, .lits (List.replicate 32 7), .lits [1], .mat 17 0, .mat 3 4095, .mat 4 1],
    Tok.wf t := by decide

open MsPack MsPack.LzhEnc in
example : Alternates false [Tok.lits [65, 66, 67], .mat 5 3, .lits (List.replicate 32 7), .lits [1], .mat 17 0] := by
  simp [Alternates]

def MsPack.LzhEnc.demoToks : List MsPack.LzhEnc.Tok := [.lits [65, 66, 67], .mat 5 3, .mat 17 0]

open MsPack MsPack.LzhEnc MsPack.Kwaj in
/-- the theorem instantiated: a concrete stream behind a foreign byte, decoded by the model -/
example : ∃ st', Lzh.decompress Rd.src 8 (Lzh.init (⟨[0xEE] ++ encodeLzh demoToks, 1⟩ : Rd) 0xAA) =
    .ok ⟨.ok, (expand demoToks initRing).out.toList, st'⟩ :=
  Lzh.C05_lzh_flat_roundtrip demoToks (by decide) ([0xEE] ++ encodeLzh demoToks) 1 0xAA 8 (by decide) (by rfl)

open MsPack MsPack.LzhEnc in
/-- … and what it expands to -/
example : (expand [Tok.lits [65, 66, 67], .mat 5 3, .mat 3 4095] initRing).out.toList =
    [65, 66, 67, 65, 66, 67, 65, 66, 32, 32, 32] := by decide +kernel

open MsPack MsPack.Kwaj in
example : KwajSpec.wf ⟨false, some 11, none, some [1, 2, 3], some [104, 105], []⟩ := by
  simp [KwajSpec.wf, KwajSpec.dataOffset, optLength, optUnk1, optUnk2, optExtra, MsPack.Oab.enc32, MsPack.Cab.enc16]
