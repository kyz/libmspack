import Proofs.Props.C04CabExtract
import Proofs.Lemmas.ZipSticky
import Proofs.Lemmas.LoopTermLzx2
/-!
# C04 for `cabd_extract`, all four methods, whole sessions; the only premise is the static fuel condition

The three named hypotheses of the theorems of `C04CabExtract.lean` hold:

* `ZipSticky_partial`: `Zip.ZipSticky.decompress_sticky` (`Proofs/Lemmas/ZipSticky.lean`; every source, strict and repair
  mode: a status other than OK leaves `zip->error` set);
* Quantum (`callOk_qtm`): `QtmTerm.decompress_left` (`LoopTermQtm.lean`): a call that leaves the decoder alive keeps `Sync`
  and does not raise `stAvail`; a dead decoder returns at once;
* LZX (`callOk_lzx`): `Lzx.Term2.decompress_ok_M` (`LoopTermLzx2.lean`): an OK call does not raise `M`; a status other than
  OK is sticky (`C02_cab_lzx_status_sticky`).

Result: `C04_cab_extract_no_hang`, `C04_cab_session_no_hang` (any members, any methods, any order, from a fresh
decompressor; premises `1 ≤ p.bufSize` — `cabd_param` refuses less than 4 — and `StaticFuel` for each member), and
`C04_cab_session_no_hang_single` (every folder inside one cabinet file: no condition on the files at all).
-/
namespace MsPack.CabFuel
open MsPack.Cab MsPack.CabLift

variable {files : Files}

theorem zipSticky (files : Files) : ZipSticky_partial files :=
  fun fuel st n o h he => Zip.ZipSticky.decompress_sticky (feederSrc files) fuel st n o h he

def PQ (files : Files) (st : Qtm.St Feeder) (fd : Feeder) : Prop :=
  st.error = .ok → QtmTerm.Sync st ∧
    QtmTerm.stAvail (feederLeft files) ({ st with src := fd } : Qtm.St Feeder) < 8 * decFuel files

def PL (files : Files) (st : Lzx.St Feeder) (fd : Feeder) : Prop :=
  st.error = .ok → Lzx.M (feederLeft files) ({ st with src := fd } : Lzx.St Feeder) + 3 ≤ decFuel files

theorem decFuel_ge (files : Files) : 100000 ≤ decFuel files := by unfold decFuel; omega

theorem callOk_qtm : CallOk files (FuelPair files (PQ files) (PL files)) fun d => ∃ st, d = .qtm st := by
  rintro dec fd off n ⟨st, rfl⟩ hj hn hP
  have hcap := lengthMax_lt
  have hle := zcc_decFuel_le_chainFuel files fd
  have hge := decFuel_ge files
  rw [Cab.decompress_qtm]
  apply callOk_of
  by_cases he : st.error = .ok
  · obtain ⟨hsy, hav⟩ := hP he
    have ht := QtmTerm.decompress_left (feeder_finite files) (chainFuel files fd) { st with src := fd } n ⟨hj.1.1, hj.1.2⟩
      (fun _ => ⟨hsy.1, hsy.2, hsy.3, hsy.4⟩) (by omega) (by omega) (by omega)
    refine Call.map (fun f hf => ?_) (fun o ho heo => ?_)
    · rw [hf] at ht; exact fun e => ht (e ▸ rfl)
    · rw [ho] at ht
      obtain ⟨h1, h2⟩ := ht heo
      exact ⟨h1, Nat.lt_of_le_of_lt h2 hav⟩
  · rw [Qtm.decompress_dead _ _ { st with src := fd } n he]
    exact Call.map nofun fun o ho => by cases ho; exact fun h' => absurd h' he

theorem callOk_lzx : CallOk files (FuelPair files (PQ files) (PL files)) fun d => ∃ st, d = .lzx st := by
  rintro dec fd off n ⟨st, rfl⟩ hj hn hP
  obtain ⟨L, hinv, hl⟩ := hj
  have hle := zcc_decFuel_le_chainFuel files fd
  rw [Cab.decompress_lzx]
  apply callOk_of
  by_cases he : st.error = .ok
  · have hm := hP he
    have hlive : LzxLive files L ({ st with src := fd } : Lzx.St Feeder) :=
      ⟨LzxInv_src fd hinv, fun _ => (hl he).1⟩
    refine Call.map (fun f hf e => ?_) (fun o ho heo => ?_)
    · exact Lzx.Term2.no_hang_M (feederSrc files) (feederLeft files) (feeder_finite files) (chainFuel files fd)
        { st with src := fd } n (by omega) (e ▸ hf)
    · have hs := C02_cab_lzx_status_sticky files L _ _ n hlive o ho heo
      have := Lzx.Term2.decompress_ok_M (feederSrc files) (feederLeft files) (feeder_finite files) (chainFuel files fd)
        { st with src := fd } n (by omega) o ho hs
      show Lzx.M (feederLeft files) o.st + 3 ≤ decFuel files
      omega
  · rw [Lzx.decompress_dead _ _ { st with src := fd } n he]
    exact Call.map nofun fun o ho => by cases ho; exact fun h' => absurd h' he

theorem callOk_full : CallOk files (FuelPair files (PQ files) (PL files)) fun _ => True :=
  callOk_all (zipSticky files) callOk_qtm callOk_lzx

theorem lzx_init_fields {σ : Type} (src : σ) (wb ri ibs ol : Nat) (dl : Bool) (fill : UInt8) (st : Lzx.St σ)
    (h : Lzx.init src wb ri ibs ol dl fill = some st) :
    st.bits = [] ∧ st.inbuf = [] ∧ st.inputEnd = false ∧ st.error = .ok :=
  let ⟨_, h1, h2, h3, h4, _⟩ := Lzx.init_fields h; ⟨h1, h2, h3, h4⟩

theorem freshOk_full (p : Params) (m : Member) (hbs : 1 ≤ p.bufSize) (hsf : StaticFuel files p m) :
    FreshOk files (FuelPair files (PQ files) (PL files)) p m := by
  refine freshOk_pair p m hbs hsf (fun key ds st h hd => ?_) (fun key ds st h hd => ?_)
  · have hq := (initDec_some (fresh_initDec p m key ds _ h hd)).2
    have hs := hsf key ds h
    obtain ⟨_, e2, e3, e4⟩ := C04_qtm_init_fields _ _ _ _ _ hq
    have := fresh_bits (L := feederLeft files ds.feeder) (k := 1) e3 e2 e4 (Nat.le_trans (by omega) hs)
    exact fun _ => ⟨(C04_qtm_init_sync _ _ _ _ _ hq).1, Nat.lt_of_lt_of_le this (Nat.le_mul_of_pos_left _ (by decide))⟩
  · have hq := (initDec_some (fresh_initDec p m key ds _ h hd)).2
    have hs := hsf key ds h
    obtain ⟨e1, e2, e3, _⟩ := lzx_init_fields _ _ _ _ _ _ _ _ hq
    exact fun _ => fresh_bits (L := feederLeft files ds.feeder) (congrArg List.length e1) e2 e3 (by omega)

abbrev CacheOk (files : Files) (d : Option DState) : Prop :=
  ∀ ds, d = some ds → FuelState files (FuelPair files (PQ files) (PL files)) ds

/-- **C04 for `cabd_extract`**, any method: from no cache or a cache in the invariant, the call never runs out of fuel,
    and the cache it hands back is in the invariant again -/
theorem C04_cab_extract_no_hang (files : Files) (p : Params) (hbs : 1 ≤ p.bufSize) (d : Option DState) (m : Member)
    (hd : CacheOk files d) (hsf : StaticFuel files p m) :
    extract files p d m ≠ .fault .hang ∧ ∀ e w d', extract files p d m = .done e w d' → CacheOk files d' :=
  (extract_nh callOk_full p d m hd (freshOk_full p m hbs hsf)).out

/-- **C04, whole sessions**: any list of `extract` calls — stored, MSZIP, Quantum and LZX folders mixed, any order,
    failing calls included — from a fresh decompressor: no call runs out of fuel -/
theorem C04_cab_session_no_hang (files : Files) (p : Params) (hbs : 1 ≤ p.bufSize) (ms : List Member)
    (hm : ∀ m ∈ ms, StaticFuel files p m) : extractSeq files p none ms ≠ some .hang :=
  session_nh callOk_full p ms none (fun _ h => by cases h) fun m hmem => freshOk_full p m hbs (hm m hmem)

/-- … for folders that lie inside one cabinet file: no condition on the files -/
theorem C04_cab_session_no_hang_single (files : Files) (p : Params) (hbs : 1 ≤ p.bufSize) (ms : List Member)
    (hm : ∀ m ∈ ms, ∃ part, m.parts = [part]) : extractSeq files p none ms ≠ some .hang :=
  C04_cab_session_no_hang files p hbs ms fun m hmem =>
    let ⟨part, hp⟩ := hm m hmem; staticFuel_single files p m part hp

/-- the MSZIP, Quantum and LZX demo members of `C02CabLift*.lean`, one session: the theorem applies outright -/
example : extractSeq (zipFiles ++ qtmFiles ++ lzxFiles) {} none [zipMember, qtmMember, lzxMember, zipMember] ≠ some .hang :=
  C04_cab_session_no_hang_single _ {} (by decide) _ (by
    intro m hm
    simp only [List.mem_cons, List.not_mem_nil, or_false] at hm
    rcases hm with rfl | rfl | rfl | rfl <;> exact ⟨_, rfl⟩)

end MsPack.CabFuel
