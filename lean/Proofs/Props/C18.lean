import Proofs.Lemmas.BlockBounds
import Proofs.Lemmas.Headers
/-!
# C18 — salvage and repair modes only relax: valid data is never changed

Proved on the CAB model, for every file content:
* `C18_open_monotone`: whatever `cabd_read_headers` accepts in strict mode it accepts, with the
  identical listing, in salvage mode (every use of the flag sits in a branch that strict mode
  answers with an error);
* `C18_block_monotone`: a data block the strict block reader delivers is delivered identically
  (payload, uncompressed size, reader position, remaining cabinets) under any combination of
  "ignore checksum" (SALVAGE, or FIXMSZIP on an MSZIP folder) and "ignore block size" (SALVAGE).
The lift through the stream feeder and the MSZIP decoder (its repair code runs only after an inflate
error) is in `C18Decoders.lean`, through `extract` and whole sessions of stored and MSZIP folders in
`C18ExtractLift.lean` (and `C18Stored.lean`); the LZX decoder call is in `C18Lzx.lean`.  `extract` on
Quantum and LZX folders is covered by the correspondence and the parameter-combination oracle of the check.
-/
namespace MsPack.Cab

theorem C18_open_monotone (file : Bytes) (off : Nat) (c : Cabinet)
    (h : readHeaders file off false = .ok c) : readHeaders file off true = .ok c :=
  readHeaders_salvage_mono file off c h

theorem C18_block_monotone (files : Files) (ignoreCksum ignoreBlocksize : Bool) (fuel : Nat)
    (rd : Option Rd) (parts : List Part) (acc p : Bytes) (out : Nat) (rd' : Option Rd)
    (parts' : List Part)
    (h : readBlock files false false fuel rd parts acc = .ok p out rd' parts') :
    readBlock files ignoreCksum ignoreBlocksize fuel rd parts acc = .ok p out rd' parts' :=
  readBlock_relax_mono files ignoreCksum ignoreBlocksize fuel rd parts acc p out rd' parts' h

-- a checksummed 5-byte stored block is delivered by the strict reader
def exampleBlock : Bytes :=
  MsPack.putLE32 (cksum [5, 0, 5, 0] (cksum [1, 2, 3, 4, 5] 0)) ++ [5, 0, 5, 0, 1, 2, 3, 4, 5]

def deliveredPayload : BlockResult → Option (Bytes × Nat)
  | .ok p out _ _ => some (p, out)
  | _ => none

example : deliveredPayload (readBlock [("a", exampleBlock)] false false 2 (some ⟨exampleBlock, 0⟩) [⟨"a", 0, 0⟩] [])
    = some ([1, 2, 3, 4, 5], 5) := by decide

end MsPack.Cab
