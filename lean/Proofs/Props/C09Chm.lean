import Proofs.Lemmas.ChmApiLedger
import MsPack.Spec.ChmEncode
/-
C09 (everything acquired is released, on every path) and the handle half of C20 (callbacks only on
live handles, in the mode they were opened with; nothing freed or closed twice) for the CHM
decompressor, proved on the effect model `MsPack/Chm/Api.lean` (chmd.c + `mspack_sys_filelen` + the
allocation skeleton of lzxd_init / lzxd_free, over the instrumented system `MsPack/Sys.lean`).

Quantifiers: every program a client can write against one decompressor (`Op` lists: `open`,
`fast_open`, `close`, `extract`, `fast_find` in any order and number, on any of the headers it holds,
with any `struct mschmd_file` contents — section 0 or 1, any offset and length, so both list entries
and `fast_find` results are covered — after which it closes the headers it still holds and destroys
the decompressor), every world — any file contents, any open handles and live blocks of the client's
own, and *any fault plan* (any set of failing alloc / open / read / write / seek calls) — every
value of the parsing parameter `Parse` (how many directory entries a chunk yields and of which kind,
what `search_chunk` answers, what ControlData / ResetTable / SpanInfo say), and every LZX decoder
(`lzxd_decompress` over `self->d->sys`, with any private state carried from one `extract` to the
next) that satisfies the frame law `Lawful`.

There is no "if it returns" premise: every loop of the model is bounded by a quantity the C bounds it
with too (`num_chunks` of the header, `visits`, the entry list, `file->length`), so `program` is total.
-/
namespace MsPack.Chm
open MsPack.Sys MsPack.Chm.Api
open MsPack.Szdd.Api (Frame)

/-- create; any client program; close what is still held; destroy: the ledger is back where it
    started and no misuse of the interface was recorded on the way -/
theorem C09_chm_ledger_restored {σ : Type} (D : Decoder σ) (hD : Lawful D) (P : Parse) (ops : List Op) (w : World)
    (hok : w.view.ok) :
    (program D P ops w).2.liveAllocs = w.liveAllocs ∧
    (program D P ops w).2.liveHandles.map (fun h => (h.id, h.mode)) = w.liveHandles.map (fun h => (h.id, h.mode)) ∧
    (program D P ops w).2.misuse = w.misuse := by
  have p := program_spec (v := w.view) D hD P ops w (Own.of_view_eq hok rfl)
  have f := Own.frame hok p
  exact ⟨f.allocs, f.handles, f.misuse⟩

/-- from an empty ledger (a fresh process): nothing is live afterwards, nothing was misused -/
theorem C09_chm_nothing_left {σ : Type} (D : Decoder σ) (hD : Lawful D) (P : Parse) (ops : List Op)
    (files : List (String × Bytes)) (plan : List (Kind × Nat)) :
    (program D P ops { files := files, plan := plan }).2.liveAllocs = [] ∧
    (program D P ops { files := files, plan := plan }).2.liveHandles = [] ∧
    (program D P ops { files := files, plan := plan }).2.misuse = [] :=
  nothing_left (fun hok => C09_chm_ledger_restored D hD P ops _ hok) rfl rfl rfl

/-- the same for a client that stops at any point without closing: what is live then is exactly what
    the session still owns (decoder cache, the headers held, the decompressor), nothing was misused -/
theorem C09_chm_session_owns {σ : Type} (D : Decoder σ) (hD : Lawful D) (P : Parse) (ops : List Op)
    (self : Nat) (w : World) (hok : w.view.ok) (hself : (alloc w).1 = some self) :
    let r := runOps D P ops ⟨self, ⟨none, .ok⟩, []⟩ (alloc w).2
    r.2.liveAllocs.Perm (decBlocks r.1.inst.d ++ (hdrsBlocks r.1.hdrs ++ [self]) ++ w.liveAllocs) ∧
    r.2.misuse = w.misuse := by
  intro r
  have hw : Own w.view [] [] w := Own.of_view_eq hok rfl
  have p0 : SessOwn w.view (⟨self, ⟨none, .ok⟩, []⟩ : Sess σ) (alloc w).2 := by
    have := spec_alloc w hw; rwa [hself] at this
  have p := runOps_spec D hD P ops _ _ p0
  have hs : r.1.self = self := p.2
  have p1 := p.1
  unfold SessOwn at p1
  rw [hs] at p1
  exact ⟨p1.perm, p1.misuse⟩

/-- a decoder that does nothing (consumes no input, produces no output) satisfies the frame law -/
def trivialDecoder : Decoder Unit := ⟨fun _ => (), fun _ _ _ _ => pure ⟨.ok, 0, ()⟩⟩

theorem trivialDecoder_lawful : Lawful trivialDecoder := fun _ _ _ _ w _ _ _ => Frame.refl w

/-- one read of the input, one write of what was read if `d->outfh` is set, the number of calls so far -/
def pumpRun (n : Nat) (bytes : Int) (inFh : Nat) (outFh : Option Nat) : M (LzxOut Nat) := do
  match ← read inFh bytes.toNat with
  | none => return ⟨.read, 0, n + 1⟩
  | some bs =>
    match outFh with
    | none => return ⟨.ok, bs.length, n + 1⟩
    | some o =>
      match ← write o bs with
      | none => return ⟨.write, bs.length, n + 1⟩
      | some _ => return ⟨.ok, bs.length, n + 1⟩

/-- so does one that really uses its handles the way `self->d->sys` does, and keeps a state -/
def pumpDecoder : Decoder Nat := ⟨fun _ => 0, pumpRun⟩

theorem pumpDecoder_lawful : Lawful pumpDecoder := by
  intro n bytes inFh outFh w hok hin hout
  refine Oab.Api.Plus.frame ((?_ : Pres (Oab.Api.Plus w.view [] []) (pumpRun n bytes inFh outFh)) w (.of_view_eq hok rfl))
  unfold pumpRun
  refine .bind (Oab.Api.Plus.read _ hin) fun r => ?_
  cases r with
  | none => exact .pure fun _ p => p
  | some bs =>
    cases outFh with
    | none => exact .pure fun _ p => p
    | some o =>
      refine .bind (Oab.Api.Plus.write _ (hout o rfl)) fun r2 => ?_
      cases r2 <;> exact .pure fun _ p => p

/-- a parsing parameter for the examples: every PMGL chunk lists a normal file, the ControlData system
    file and one more system file; `search_chunk` finds Content, ControlData (28 bytes at offset 0 of
    section 0) and SpanInfo (8 bytes at offset 4), does not find the ResetTable, reports a damaged
    chunk for the name "bad", and finds every other name in section 1 -/
def demoParse : Parse where
  entries := fun _ _ _ => ([.file, .sys (some .control) ⟨0, 0, 28⟩, .sys none ⟨0, 0, 0⟩], false, false)
  search := fun _ _ _ name =>
    if name = Special.content.name then .hit true none (some ⟨0, 0, 40⟩)
    else if name = Special.control.name then .hit true none (some ⟨0, 0, 28⟩)
    else if name = Special.spaninfo.name then .hit true none (some ⟨0, 4, 8⟩)
    else if name = Special.rtable.name then .miss
    else if name = "bad" then .bad
    else .hit true none (some ⟨1, 0, 5⟩)
  control := fun _ _ => .ok ⟨16, 32768, 0⟩
  resetEntry := fun _ _ _ => none
  spanLength := fun _ => .ok 1000
  place := fun _ s0 co _ span => .ok ({ offset := 0, length := span, inoffset := s0 + co }, span)

/-- a real CHM file (the writer of `MsPack/Spec/ChmEncode.lean`): version 3, two PMGL chunks of 64
    bytes, 64 bytes of content -/
def demoChm : Bytes :=
  encodeChm { version := 3, timestamp := 0, language := 0x409, chunkSize := 64, density := 2,
              chunks := [[], []], content := (List.range 64).map (·.toUInt8) }

def demoOps : List Op :=
  [.open_ "a.chm", .fastOpen "a.chm", .fastFind 0 "x", .fastFind 0 "bad",
   .extract 0 ⟨1, 0, 5⟩ "o1", .extract 0 ⟨0, 3, 7⟩ "o0", .extract 1 ⟨1, 0, 5⟩ "o2", .extract 1 ⟨1, 2, 3⟩ "o3",
   .open_ "missing", .close 0, .extract 0 ⟨1, 0, 0⟩ "o4"]

/-- the state half way through `demoOps`, fault-free -/
def demoMid : Sess Nat × World :=
  runOps pumpDecoder demoParse (demoOps.take 8) ⟨0, ⟨none, .ok⟩, []⟩
    { files := [("a.chm", demoChm)], nextId := 1, liveAllocs := [0] }

/-- mid-session both headers are held (the listing allocations of `open`: 3 entries for each of the 2
    chunks; the chunk cache with both chunks of each header; the system file entries `find_sys_file`
    added), the decoder cache with its LZX stream and its input handle are live, the section-0 member
    and the LZX outputs were written (the last one after a re-initialisation: `file->offset` 2 lies
    before `d->offset` 5) -/
example :
    demoMid.2.liveAllocs.length = 24 ∧ demoMid.2.liveHandles.length = 1 ∧ demoMid.2.misuse = [] ∧
    demoMid.1.hdrs.length = 2 ∧ (demoMid.1.inst.d.map fun d => d.state.isSome) = some true ∧
    demoMid.2.files.lookup "o0" = some [3, 4, 5, 6, 7, 8, 9] ∧
    demoMid.2.files.lookup "o1" = some [0, 1, 2, 3, 4] ∧ demoMid.2.files.lookup "o3" = some [2, 3, 4] := by
  decide +kernel

/-- the whole program with faults planned in four layers, all of which are reached (the call counters
    at the end say so): nothing is left -/
example :
    let w := (program pumpDecoder demoParse demoOps
      { files := [("a.chm", demoChm)], plan := [(.alloc, 20), (.read, 14), (.seek, 16), (.open_, 9)] }).2
    w.liveAllocs = [] ∧ w.liveHandles.length = 0 ∧ w.misuse = [] ∧
    w.counts.alloc ≥ 20 ∧ w.counts.read ≥ 14 ∧ w.counts.seek ≥ 16 ∧ w.counts.open_ ≥ 9 := by
  decide +kernel

/-- `fast_open` then one `extract` from section 1, with one planned fault: what `self->error` is, how
    many blocks are live afterwards (1 = only the decompressor), whether `d->infh` is open, `d->state` -/
def afterFault (kind : Kind) (k : Nat) : Err × Nat × Nat × Option Bool :=
  let r := runOps pumpDecoder demoParse [.fastOpen "a.chm", .extract 0 ⟨1, 0, 5⟩ "o1"] ⟨0, ⟨none, .ok⟩, []⟩
             { files := [("a.chm", demoChm)], nextId := 1, liveAllocs := [0], plan := [(kind, k)] }
  (r.1.inst.error, r.2.liveAllocs.length, r.2.liveHandles.length, r.1.inst.d.map fun d => d.state.isSome)

example :
    -- no fault: header, decoder cache, chunk cache + 2 chunks, 3 system file entries, 3 LZX blocks
    [afterFault .alloc 0,
     -- the header of `fast_open` / the decoder cache / the chunk cache array / a chunk
     afterFault .alloc 1, afterFault .alloc 2, afterFault .alloc 3, afterFault .alloc 4,
     -- the entry `find_sys_file` allocates / the ControlData buffer of `read_sys_file`
     afterFault .alloc 5, afterFault .alloc 7,
     -- the second chunk, wanted while looking for the ResetTable: the SpanInfo fallback still works
     afterFault .alloc 8,
     -- the LZX state block / the window (the input buffer is still asked for) / the input buffer
     afterFault .alloc 11, afterFault .alloc 12, afterFault .alloc 13]
    = [(.ok, 12, 1, some true),
       (.nomemory, 1, 0, none), (.nomemory, 2, 0, none), (.dataformat, 3, 1, some false), (.dataformat, 4, 1, some false),
       (.nomemory, 5, 1, some false), (.nomemory, 7, 1, some false),
       (.ok, 11, 1, some true),
       (.nomemory, 9, 1, some false), (.nomemory, 9, 1, some false), (.nomemory, 9, 1, some false)] := by
  decide +kernel

example :
    -- reads: a fixed header of `fast_open` / a chunk in `read_chunk` / ControlData / SpanInfo
    [afterFault .read 2, afterFault .read 5, afterFault .read 6, afterFault .read 8,
     -- seeks: the two of `mspack_sys_filelen` are forgiven; `read_chunk`; `read_sys_file`; the LZX input
     afterFault .seek 2, afterFault .seek 3, afterFault .seek 5, afterFault .seek 6, afterFault .seek 9,
     -- opens: `fast_open` / `d->infh` / the output / the handle of a `chmd_fast_find`
     afterFault .open_ 1, afterFault .open_ 2, afterFault .open_ 3, afterFault .open_ 4]
    = [(.read, 1, 0, none), (.dataformat, 4, 1, some false), (.read, 7, 1, some false), (.read, 9, 1, some false),
       (.ok, 12, 1, some true), (.ok, 12, 1, some true), (.dataformat, 4, 1, some false), (.seek, 7, 1, some false),
       (.seek, 12, 1, some true),
       (.open_, 1, 0, none), (.open_, 3, 0, some false), (.open_, 3, 1, some false), (.dataformat, 3, 1, some false)] := by
  decide +kernel

/-! A tolerated reset-table failure does not leave a stale error behind: a listing whose ResetTable entry claims
section 1 extracts at the first call. -/

def staleParse : Parse :=
  { demoParse with
    entries := fun _ _ _ =>
      ([.sys (some .content) ⟨0, 0, 40⟩, .sys (some .control) ⟨0, 0, 28⟩, .sys (some .spaninfo) ⟨0, 4, 8⟩,
        .sys (some .rtable) ⟨1, 0, 48⟩], false, false) }

example :
    let w0 : World := { files := [("a.chm", demoChm)], nextId := 1, liveAllocs := [0] }
    let r1 := runOps pumpDecoder staleParse [.open_ "a.chm", .extract 0 ⟨1, 0, 5⟩ "o"] ⟨0, ⟨none, .ok⟩, []⟩ w0
    r1.1.inst.error = .ok ∧ r1.2.files.lookup "o" = some [0, 1, 2, 3, 4] := by
  decide +kernel

end MsPack.Chm
