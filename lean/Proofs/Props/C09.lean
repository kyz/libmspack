import Proofs.Lemmas.SzddApiLedger
/-
C09 (everything acquired is released, on every path) and the handle half of C20 (callbacks only on
live handles, in the mode they were opened with; nothing freed or closed twice) for the SZDD
decompressor, proved on the effect model `MsPack/Szdd/Api.lean` (szddd.c + lzssd.c over the
instrumented system `MsPack/Sys.lean`).

Quantifiers: every program a client can write against one decompressor (`Op` lists: one-shot
decompress, or open / any number of extracts / close), every world — any file contents, any open
handles and live blocks of the client's own, and *any fault plan* (any set of failing alloc / open /
read / write / seek calls) — and every fuel.  `some ()` excludes only runs whose LZSS loop ran out of
fuel, which is not a return of the C function (termination is C04's business).
-/
namespace MsPack.Szdd
open MsPack.Sys MsPack.Szdd.Api

/-- create; any client program; destroy: the ledger is back where it started and no misuse of the
    interface was recorded on the way -/
theorem C09_szdd_ledger_restored (fuel : Nat) (ops : List Op) (w : World) (hok : w.view.ok)
    (hret : (program fuel ops w).1 = some ()) :
    (program fuel ops w).2.liveAllocs = w.liveAllocs ∧
    (program fuel ops w).2.liveHandles.map (fun h => (h.id, h.mode)) = w.liveHandles.map (fun h => (h.id, h.mode)) ∧
    (program fuel ops w).2.misuse = w.misuse :=
  Ret.restored (program_spec fuel ops) hok hret

/-- from an empty ledger (a fresh process): nothing is live afterwards, nothing was misused -/
theorem C09_szdd_nothing_left (fuel : Nat) (ops : List Op) (files : List (String × Bytes)) (plan : List (Kind × Nat))
    (hret : (program fuel ops { files := files, plan := plan }).1 = some ()) :
    (program fuel ops { files := files, plan := plan }).2.liveAllocs = [] ∧
    (program fuel ops { files := files, plan := plan }).2.liveHandles = [] ∧
    (program fuel ops { files := files, plan := plan }).2.misuse = [] :=
  nothing_left (fun hok => C09_szdd_ledger_restored fuel ops _ hok hret) rfl rfl rfl

/-- non-vacuity: a program that returns, on a world where a fault is planned and fires -/
example : (program 100 [.decompress "a" "b", .session "a" ["c", "d"]]
            { files := [("a", (Generated.szddSignatureExpand.map UInt8.ofNat) ++ [0x41, 0, 3, 0, 0, 0, 0xFF, 1, 2, 3])],
              plan := [(.write, 5)] }).1 = some () := by decide +kernel

end MsPack.Szdd
