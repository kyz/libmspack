import MsPack.Generated.Inventory
import MsPack.Cab.Extract
/-!
# C19 — separate instances are independent

What a Lean model can say (DESIGN.md §5 C19): (1) the *mechanism* — the library has no writable
object with static storage duration that any code path writes, re-proved against the inventory the
translator extracts from the library's objects (`nm`) and sources at every check; (2) given (1), an operation
is a function of its own instance state and read-only inputs, so every interleaving of the operation lists of
two instances gives each its solo results (`instances_independent`: true of any pure per-instance step
function, stated for two instances and instantiated for the CAB extract model; the content is clause (1)).  Data races themselves are
outside the model; the check runs the TSan build for those.
-/
namespace MsPack.C19
open MsPack.Generated

/-- every object the compiler placed in a writable section -/
theorem writable_statics_inventory :
    writableStatics =
      [("system.c", "msp_system"), ("system.c", "mspack_default_system"),
       ("szddd.c", "szdd_signature_expand"), ("szddd.c", "szdd_signature_qbasic")] := rfl

/-- … and every line of source that names one of them: definitions, `sys = mspack_default_system`
    (a read), `memcmp(buf, szdd_signature_*, 8)` (a read through `const void *`), and the `= NULL` initialiser of
    `mspack_default_system` under `MSPACK_NO_DEFAULT_SYSTEM`.  No assignment, no address taken except `&msp_system` in the initialiser of
    `mspack_default_system`: that is read off the list, which the theorem fixes. -/
theorem writable_statics_never_written :
    writableStaticUses =
      [("cabd.c", "mspack_default_system", "if (!sys) sys = mspack_default_system;"),
       ("chmd.c", "mspack_default_system", "if (!sys) sys = mspack_default_system;"),
       ("kwajd.c", "mspack_default_system", "if (!sys) sys = mspack_default_system;"),
       ("oabd.c", "mspack_default_system", "if (!sys) sys = mspack_default_system;"),
       ("system.c", "msp_system", "static struct mspack_system msp_system = {"),
       ("system.c", "msp_system", "struct mspack_system *mspack_default_system = &msp_system;"),
       ("system.c", "mspack_default_system", "struct mspack_system *mspack_default_system = &msp_system;"),
       ("system.c", "mspack_default_system", "struct mspack_system *mspack_default_system = NULL;"),
       ("szddd.c", "mspack_default_system", "if (!sys) sys = mspack_default_system;"),
       ("szddd.c", "szdd_signature_expand", "if ((memcmp(buf, szdd_signature_expand, 8) == 0)) {"),
       ("szddd.c", "szdd_signature_expand", "static unsigned char szdd_signature_expand[8] = {"),
       ("szddd.c", "szdd_signature_qbasic", "else if ((memcmp(buf, szdd_signature_qbasic, 8) == 0)) {"),
       ("szddd.c", "szdd_signature_qbasic", "static unsigned char szdd_signature_qbasic[8] = {")] := rfl

/-- libc entry points that keep no process-wide mutable state of their own (POSIX "MT-Safe" without the `race`,
    `const:locale` or `env` writer annotations): memory and string functions, the allocator, stdio on a `FILE *` the
    caller owns, wide-character classification (reads the locale, never sets it), integer helpers.  Deliberately
    absent: `setlocale`, `strtok`, `rand`/`srand`, `strerror`, `localtime`/`gmtime`/`ctime`/`asctime`, `getenv`/`setenv`/
    `putenv`, `tmpnam`, `signal`, `atexit`, `chdir`, `umask`, `readdir`, `basename`/`dirname`, `getpwnam`, … -/
def stateFreeLibc : List String :=
  ["memcmp", "memcpy", "memmove", "memset", "memchr", "strlen", "strcmp", "strncmp", "strcpy", "strncpy", "strcat",
   "strncat", "strchr", "strrchr", "strstr", "strnlen", "strdup", "strcasecmp", "strncasecmp",
   "malloc", "calloc", "realloc", "free",
   "fopen", "fclose", "fread", "fwrite", "fseek", "fseeko", "ftell", "ftello", "fflush", "ferror", "feof", "fputc", "fputs",
   "fprintf", "vfprintf", "snprintf", "vsnprintf", "sprintf", "stderr",
   "towlower", "towupper", "tolower", "toupper", "abs", "labs",
   "__stack_chk_fail", "__memcpy_chk", "__memset_chk", "__fprintf_chk", "__vfprintf_chk", "__fread_chk",
   "__strcpy_chk", "__strncpy_chk", "__snprintf_chk", "__sprintf_chk"]

/-- everything the library objects import from outside the library is such a function: no call can reach
    process-wide state that another thread's instance also uses (the locale, `strtok`'s cursor, the environment, …) -/
theorem imports_state_free : ∀ s ∈ externalImports, s ∈ stateFreeLibc := by decide +kernel

inductive Tag (α : Type) | a (x : α) | b (x : α)

def Tag.getA {α} : Tag α → Option α | .a x => some x | .b _ => none
def Tag.getB {α} : Tag α → Option α | .a _ => none | .b x => some x

variable {S Op Out : Type} (step : S → Op → S × Out)

/-- one instance alone -/
def run (s : S) : List Op → List Out
  | [] => []
  | op :: ops => (step s op).2 :: run (step s op).1 ops

/-- two instances, operations arriving in any interleaved order -/
def run2 (sa sb : S) : List (Tag Op) → List (Tag Out)
  | [] => []
  | .a op :: ops => .a (step sa op).2 :: run2 (step sa op).1 sb ops
  | .b op :: ops => .b (step sb op).2 :: run2 sa (step sb op).1 ops

/-- whatever the interleaving, each instance sees exactly its solo results -/
theorem instances_independent (sa sb : S) (ops : List (Tag Op)) :
    (run2 step sa sb ops).filterMap Tag.getA = run step sa (ops.filterMap Tag.getA) ∧
    (run2 step sa sb ops).filterMap Tag.getB = run step sb (ops.filterMap Tag.getB) := by
  induction ops generalizing sa sb with
  | nil => simp [run2, run]
  | cons op ops ih =>
    cases op with
    | a x =>
      have := ih (step sa x).1 sb
      simp only [run2, List.filterMap_cons, Tag.getA, Tag.getB, run, this.1, this.2, and_self]
    | b x =>
      have := ih sa (step sb x).1
      simp only [run2, List.filterMap_cons, Tag.getA, Tag.getB, run, this.1, this.2, and_self]

/-- the CAB instance as such a step function: state = (parameters, cached decoder), input files
    are shared and read-only, an operation is "extract this member" -/
def cabStep (files : Cab.Files) (s : Cab.Params × Option Cab.DState) (m : Cab.Member) :
    (Cab.Params × Option Cab.DState) × (Option (Err × Option Bytes)) :=
  match Cab.extract files s.1 s.2 m with
  | .done e w d => ((s.1, d), some (e, w))
  | .unsupported => (s, none)
  | .fault _ => (s, none)

theorem cab_instances_independent (files : Cab.Files) (sa sb) (ops : List (Tag Cab.Member)) :
    (run2 (cabStep files) sa sb ops).filterMap Tag.getA = run (cabStep files) sa (ops.filterMap Tag.getA) ∧
    (run2 (cabStep files) sa sb ops).filterMap Tag.getB = run (cabStep files) sb (ops.filterMap Tag.getB) :=
  instances_independent _ sa sb ops

end MsPack.C19
