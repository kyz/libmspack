import Proofs.Props.C08Stored
/-!
# C18 lifted to `extract()` for stored folders

`C01_stored_extract` / `C08_stored_any_order` hold for *every* parameter record: strict, SALVAGE, FIXMSZIP, both,
any DECOMPBUF ≥ 1.  Hence for a stored folder of well-formed blocks the four parameter combinations (and any two
buffer sizes) give identical results for any sequence of calls: the relaxed modes change nothing on valid data.
-/
namespace MsPack.Cab
open MsPack.Generated

theorem C18_stored_params_irrelevant (files : Files) (fname : String) (bytes : Bytes) (hlook : files.lookup fname = some bytes)
    (off : Nat) (blks : List DataBlk) (hwf : ∀ b ∈ blks, b.wf) (rest : Bytes)
    (hd : bytes.drop off = blks.flatMap encData ++ rest)
    (p q : Params) (hp : 0 < p.bufSize) (hq : 0 < q.bufSize) (key : Nat) (ctHigh : Nat) (hct : compMask (ctHigh * 16) = 0)
    (nblocks : Nat) (hnb : blks.length ≤ nblocks) (hmax : (plainOf blks).length ≤ cabLENGTHMAX)
    (ms : List (Nat × Nat)) (hms : ∀ m ∈ ms, m.1 + m.2 ≤ (plainOf blks).length) :
    runSeq files p fname off nblocks key ctHigh ms none = runSeq files q fname off nblocks key ctHigh ms none := by
  rw [C08_stored_any_order files fname bytes hlook off blks hwf rest hd p hp key ctHigh hct nblocks hnb hmax ms hms,
      C08_stored_any_order files fname bytes hlook off blks hwf rest hd q hq key ctHigh hct nblocks hnb hmax ms hms]

end MsPack.Cab
