import Proofs.Lemmas.RefusedWalk
import Proofs.Props.C08MszipCab
/-!
# C12 through the decoders: a block the block reader refused makes `extract` fail — every compression type

`Proofs/Props/C12.lean`: `readBlock` refuses a CFDATA block with a wrong checksum, a short block, a missing
continuation.  `C12Extract.lean`: for stored folders the refusal reaches the caller.  Here, for stored, MSZIP, Quantum
and LZX alike (`Proofs/Lemmas/RefusedWalk.lean`: one `Tri` walk per decoder):

* `C12_cab_feeder_error_refused`: if the feeder an `extract` call hands back is in the state "the block reader refused
  a block" (`¬ NR`: an error is recorded and it is not the end-of-folder DATAFORMAT) and the feeder it started from was
  not, the call's status is not OK.  Any mode (strict, salvage, repair), any parameters, any cache.
* `C12_cab_checksum_refused`: in particular a recorded MSPACK_ERR_CHECKSUM (which only `readBlock`'s checksum test
  produces) never goes with an OK status; likewise READ (truncated block) and OPEN (missing continuation cabinet).

**The literal statement "`readError ≠ OK` in the feeder handed back ⇒ status not OK" is false**, of the model and of
cabd.c: when a decoder's `read_input` asks for more after the folder's last block, `cabd_sys_read` records
MSPACK_ERR_DATAFORMAT (strict mode) and delivers what it has; the decoder goes on with those bytes (and the two zero
bytes `read_input` fakes), and the extraction ends with OK.  With a 4096-byte input buffer that happens on every small
folder (example at the end: status OK, `readError = DATAFORMAT`, `block > numBlocks`).  `NR` is `readError = OK` or
exactly that situation; what the theorem excludes is an OK status after a *block* error.

How it goes: a feeder read that meets a refused block returns `none` (everything else keeps `NR`, `feederRead_nr`);
`read_input` of each decoder turns `none` into the status exception READ; no status exception of the three decoders
carries OK and each ends the call with that status; so a call that returns OK has only made reads that keep `NR`
(`decompress_nr`).  `runPhase`'s `READ → read_error` substitution yields the recorded error, which is not OK when the
feeder is `¬ NR`.
-/
namespace MsPack.Cab
open MsPack.RefusedWalk

theorem C12_runPhase_nr (files : Files) (ds : DState) (dec : Dec) (n : Nat) (e : Err) (w : Bytes) (ds' : DState)
    (hn : NR ds.feeder) (h : runPhase files ds dec n = .ran e w ds') (he : e = .ok) : NR ds'.feeder := by
  obtain ⟨o, ho, rfl, _, rfl⟩ := runPhase_ran h
  by_cases hr : o.err = .read
  · rw [if_pos hr] at he; exact Or.inl he
  · rw [if_neg hr] at he; exact decompress_nr files dec ds.feeder n o hn ho he

theorem C12_fresh_nr (files : Files) (p : Params) (m : Member) (key : Nat) (ds : DState)
    (h : freshDState files p m key = .ok ds) : NR ds.feeder := by
  obtain ⟨_, _, _, _, _, _, _, rfl⟩ := freshDState_ok h
  exact Or.inl rfl

/-- C12, every compression type: an `extract` call that starts from no cache, or from a cached feeder whose last
    event was not a refused block, and returns OK hands back a feeder whose last event was not a refused block.
    Contrapositive (`C12_cab_feeder_error_refused`): a block error recorded during the call ⇒ status not OK. -/
theorem C12_cab_ok_keeps_nr (files : Files) (p : Params) (d : Option DState) (m : Member)
    (hd : ∀ ds, d = some ds → NR ds.feeder) (e : Err) (w : Option Bytes) (ds' : DState)
    (h : extract files p d m = .done e w (some ds')) (he : e = .ok) : NR ds'.feeder :=
  (CountLaws.CabInv.extract_reach (I := fun ds => NR ds.feeder) (G := (· = .ok)) rfl
    (fun ds dec n e w ds' hn _ hr he => C12_runPhase_nr files ds dec n e w ds' hn hr he) hd (C12_fresh_nr files p m) h).1
    he ds' rfl

/-- a block error recorded during the call ⇒ the call's status is not OK -/
theorem C12_cab_feeder_error_refused (files : Files) (p : Params) (d : Option DState) (m : Member)
    (hd : ∀ ds, d = some ds → NR ds.feeder) (e : Err) (w : Option Bytes) (ds' : DState)
    (h : extract files p d m = .done e w (some ds')) (hbad : ¬ NR ds'.feeder) : e ≠ .ok :=
  fun he => hbad (C12_cab_ok_keeps_nr files p d m hd e w ds' h he)

/-- `¬ NR` in plain terms -/
theorem C12_not_nr_iff (fd : Feeder) :
    ¬ NR fd ↔ fd.readError ≠ .ok ∧ (fd.block ≤ fd.numBlocks ∨ fd.readError ≠ .dataformat) := by
  unfold NR
  constructor
  · intro h
    refine ⟨fun hc => h (Or.inl hc), ?_⟩
    by_cases hb : fd.block ≤ fd.numBlocks
    · exact Or.inl hb
    · exact Or.inr (fun hc => h (Or.inr ⟨by omega, hc⟩))
  · rintro ⟨h1, h2⟩ (hc | ⟨hc1, hc2⟩)
    · exact h1 hc
    · rcases h2 with h2 | h2
      · omega
      · exact h2 hc2

/-- a recorded checksum / read / open error never goes with an OK status (fresh instance, or a cache whose feeder
    had no block error): `readBlock` is the only place that records CHECKSUM (stored checksum does not match), READ
    (block truncated) or OPEN (continuation cabinet missing) -/
theorem C12_cab_checksum_refused (files : Files) (p : Params) (d : Option DState) (m : Member)
    (hd : ∀ ds, d = some ds → NR ds.feeder) (e : Err) (w : Option Bytes) (ds' : DState)
    (h : extract files p d m = .done e w (some ds'))
    (hbad : ds'.feeder.readError = .checksum ∨ ds'.feeder.readError = .read ∨ ds'.feeder.readError = .open_) :
    e ≠ .ok := by
  refine C12_cab_feeder_error_refused files p d m hd e w ds' h ((C12_not_nr_iff _).mpr ?_)
  rcases hbad with hb | hb | hb <;> rw [hb] <;> exact ⟨by decide, Or.inr (by decide)⟩

/-- the invariant is kept along a session as long as the calls return OK; after a failed call the cache may hold a
    refused feeder, and `NR` of the cache is then simply not assumed for the next call's theorem -/
theorem C12_cab_ok_cache_nr (files : Files) (p : Params) (d : Option DState) (m : Member)
    (hd : ∀ ds, d = some ds → NR ds.feeder) (w : Option Bytes) (d' : Option DState)
    (h : extract files p d m = .done .ok w d') : ∀ ds, d' = some ds → NR ds.feeder := by
  intro ds hds
  subst hds
  exact C12_cab_ok_keeps_nr files p d m hd .ok w ds h rfl

/-! ## evaluation (the two-block MSZIP folder of `C08MszipCab`, 5 bytes) -/

/-- what a caller and the next call see: status, bytes, the feeder's recorded error, "past the last block" -/
def c12View : ExtractResult → Option (Err × Option Bytes × Err × Bool)
  | .done e w (some ds) => some (e, w, ds.feeder.readError, decide (ds.feeder.numBlocks < ds.feeder.block))
  | _ => none

/-- the end-of-folder situation: the whole folder extracted with OK, and the feeder has DATAFORMAT recorded -/
example : c12View (extract zccFiles {} none (mszipMember [zccPart] 2 7 1 0 5)) =
    some (.ok, some [1, 2, 3, 4, 5], .dataformat, true) := by decide +kernel

/-- the same file with the stored checksum of the second block set to 1 (it was 0 = "not checked") -/
def zccBadFile : Bytes :=
  [9, 9, 9] ++ zccBlock (Deflate.encFrame [.stored [1, 2, 3]]) 3 ++
    ([1, 0, 0, 0] ++ (zccBlock (Deflate.encFrame [.stored [4, 5]]) 2).drop 4)

/-- … is refused with MSPACK_ERR_CHECKSUM as soon as the decoder's first read reaches that block -/
example : c12View (extract [("a.cab", zccBadFile)] {} none (mszipMember [zccPart] 2 7 1 0 5)) =
    some (.checksum, some [], .checksum, false) := by decide +kernel

end MsPack.Cab
