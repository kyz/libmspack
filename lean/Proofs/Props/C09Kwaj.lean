import Proofs.Lemmas.KwajApiLedger
/-
C09 (everything acquired is released, on every path) and the handle half of C20 (callbacks only on
live handles, in the mode they were opened with; nothing freed or closed twice) for the KWAJ
decompressor, proved on the effect model `MsPack/Kwaj/Api.lean` (kwajd.c + lzssd.c + the allocation
skeletons of lzh_init/lzh_free and mszipd_init/mszipd_free, over the instrumented system
`MsPack/Sys.lean`).

Quantifiers: every program a client can write against one decompressor (`Op` lists: one-shot
decompress, or open / any number of extracts / close), every world — any file contents (hence any
header: any combination of the optional fields, any compression method, any junk), any open handles
and live blocks of the client's own, and *any fault plan* (any set of failing alloc / open / read /
write / seek calls) — every fuel, and every pair of bit-level decoder bodies (`lzh_decompress`,
`mszipd_decompress_kwaj`) that satisfy the frame law `Decoders.Lawful`: run with a live input and a
live output handle they leave the ledger as it was.  `some ()` excludes only runs whose copy loop or
LZSS loop ran out of fuel, which is not a return of the C function (termination is C04's business).
-/
namespace MsPack.Kwaj
open MsPack.Sys MsPack.Kwaj.Api
open MsPack.Szdd.Api (Frame)

/-- create; any client program; destroy: the ledger is back where it started and no misuse of the
    interface was recorded on the way -/
theorem C09_kwaj_ledger_restored (d : Decoders) (hd : d.Lawful) (fuel : Nat) (ops : List Op) (w : World)
    (hok : w.view.ok) (hret : (program d fuel ops w).1 = some ()) :
    (program d fuel ops w).2.liveAllocs = w.liveAllocs ∧
    (program d fuel ops w).2.liveHandles.map (fun h => (h.id, h.mode)) = w.liveHandles.map (fun h => (h.id, h.mode)) ∧
    (program d fuel ops w).2.misuse = w.misuse :=
  Ret.restored (program_spec d hd fuel ops) hok hret

/-- from an empty ledger (a fresh process): nothing is live afterwards, nothing was misused -/
theorem C09_kwaj_nothing_left (d : Decoders) (hd : d.Lawful) (fuel : Nat) (ops : List Op)
    (files : List (String × Bytes)) (plan : List (Kind × Nat))
    (hret : (program d fuel ops { files := files, plan := plan }).1 = some ()) :
    (program d fuel ops { files := files, plan := plan }).2.liveAllocs = [] ∧
    (program d fuel ops { files := files, plan := plan }).2.liveHandles = [] ∧
    (program d fuel ops { files := files, plan := plan }).2.misuse = [] :=
  nothing_left (fun hok => C09_kwaj_ledger_restored d hd fuel ops _ hok hret) rfl rfl rfl

/-- decoder bodies that do nothing satisfy the frame law -/
def trivialDecoders : Decoders := ⟨fun _ _ => pure .ok, fun _ _ => pure .ok⟩

theorem trivialDecoders_lawful : trivialDecoders.Lawful :=
  ⟨fun _ _ w _ _ _ => Frame.refl w, fun _ _ w _ _ _ => Frame.refl w⟩

/-- so do bodies that really use their handles: read a buffer, write what was read, report -/
def pumpOnce (inFh outFh : Nat) : M Err := do
  match ← read inFh 2048 with
  | none => return .read
  | some bs =>
    match ← write outFh bs with
    | none => return .write
    | some _ => return .ok

theorem pumpOnce_frameLaw : FrameLaw pumpOnce := by
  intro inFh outFh w hok hin hout
  refine Oab.Api.Plus.frame ((?_ : Pres (Oab.Api.Plus w.view [] []) _) w (.of_view_eq hok rfl))
  unfold pumpOnce
  refine .bind (Oab.Api.Plus.read _ hin) fun r => ?_
  cases r with
  | none => exact .pure fun _ p => p
  | some bs =>
    refine .bind (Oab.Api.Plus.write _ hout) fun r2 => ?_
    cases r2 <;> exact .pure fun _ p => p

/-- a KWAJ file with every optional header field: length, unknown1, unknown2 (3 bytes skipped),
    name "ab", extension "tx", extra text "xyz"; then five data bytes -/
def sampleFile (method : UInt8) : Bytes :=
  [0x4B, 0x57, 0x41, 0x4A, 0x88, 0xF0, 0x27, 0xD1, method, 0, 36, 0, 0x3F, 0,
   5, 0, 0, 0,   7, 7,   3, 0, 9, 9, 9,   0x61, 0x62, 0,   0x74, 0x78, 0,   3, 0, 0x78, 0x79, 0x7A,
   1, 2, 3, 4, 5]

/-- non-vacuity: a program over all five methods that returns, on a world where faults are planned
    and fire: the 3rd allocation is the name block of the first `open` (NOMEMORY with the header
    block live), the 2nd write is in the XOR copy loop of "o3", the 50th read is inside the LZSS
    decoder of the last step -/
example : (program trivialDecoders 100
            [.decompress "x" "o1", .session "x" ["o2", "o3"], .decompress "n" "o4", .decompress "l" "o5",
             .session "z" ["o6"], .decompress "q" "o7"]
            { files := [("n", sampleFile 0), ("x", sampleFile 1), ("q", sampleFile 2), ("l", sampleFile 3),
                        ("z", sampleFile 4)],
              plan := [(.alloc, 3), (.write, 2), (.read, 50)] }).1 = some () := by decide +kernel

/-- and on the fault-free world the header really is parsed with its name and extra blocks, which
    are live while the file is open -/
example : ((Api.open_ ⟨0, .ok⟩ "x" { files := [("x", sampleFile 1)], nextId := 1 }).1.2.map
            fun h => (h.f.filename, h.f.extra, h.f.name, h.f.extraText, h.f.dataOffset)) =
          some (some 3, some 4, [0x61, 0x62, 0x2E, 0x74, 0x78], [0x78, 0x79, 0x7A], 36) ∧
          (Api.open_ ⟨0, .ok⟩ "x" { files := [("x", sampleFile 1)], nextId := 1 }).2.liveAllocs = [4, 3, 2] := by
  decide +kernel

end MsPack.Kwaj
