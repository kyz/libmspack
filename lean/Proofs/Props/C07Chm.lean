import Proofs.Lemmas.ChmBounds
import Proofs.Lemmas.LoopTermChm
import Proofs.Props.C03Headers
/-!
# C07 for CHM — extract never writes more than declared; for stored (section 0) members OK means complete,
and the bytes are the right ones (C03 for stored members)

On the model of `chmd_extract` (`MsPack/Chm/Extract.lean`, fault-free host), for **every** content of the CHM file,
every header, every cached decompressor state and every entry `(section, offset, length)`:

* section 0 (`C07_chm_sec0_written_le`, `C07_chm_sec0_ok_complete`, `C03_chm_sec0_bytes`, `C07_chm_sec0_returns`):
  at most `length` bytes reach the output; MSPACK_ERR_OK ⇒ exactly `length` bytes, and they are the bytes of the input
  file at `sec0.offset + offset` (the sum as the C computes it, in `off_t`), all inside the file; the call always
  returns.  The copy loop's budget (`file.length / 512 + 2` rounds) is shown sufficient, so "OK" is never the
  model running out of fuel.
* `open_listed_nonneg`: every file `open()` lists has offset ≥ 0, length ≥ 0, section 0 or 1 — so `length.toNat` in
  the statements above is the declared length for every listed file; `C07_chm_open_extract_sec0` puts open and
  extract together.
* section 1 (`C07_chm_sec1_written_le`, `C07_chm_written_le`): the bound `≤ length`, given the LZX decoder's counting
  law `LzxBound` (hypothesis, as for CAB/OAB).  "OK ⇒ complete" is *not* stated for compressed members.
-/
namespace MsPack.Chm

/-- the contents of the file `chmd_extract` reads from: the handle cached in the decompressor if it belongs to
    this header (`d->chm == chm`), else the file opened under `chm->filename` -/
def sec0Input (files : Files) (inst : Inst) (key : Nat) (hdr : Header) : Bytes :=
  match inst.d with
  | none => (files.lookup hdr.filename).getD []
  | some d =>
    match d.infh with
    | none => (files.lookup hdr.filename).getD []
    | some h => if d.chm = key then (files.lookup h.name).getD [] else (files.lookup hdr.filename).getD []

/-- postcondition of `extract` on a section-0 member: `src` the input file, `pos` the absolute offset -/
def Sec0Post (src : Bytes) (pos length : Int) : ExtractResult → Prop
  | .done e _ _ (some w) =>
      ∃ k, k ≤ length.toNat ∧ w = (src.drop pos.toNat).take k ∧ w.length = k ∧ (e = .ok → k = length.toNat)
  | .done e _ _ none => e = .open_
  | .unsupported _ _ => False
  | .fault _ => False

/-- `chmd_extract` from "open file for output" on, for a section-0 member, with the decompressor state `d`
    (a copy of that part of `extract`; `extract_sec0_spec` shows `extract` runs it) -/
def sec0Tail (files : Files) (hdr : Header) (d : DState) (offset length : Int) : ExtractResult :=
  if length = 0 then .done .ok { error := .ok, d := some d } hdr (some []) else
  let x : X := { error := .ok, hdr := hdr, d := d }
  let finish (x : X) (out : Bytes) : ExtractResult := .done x.error { error := x.error, d := some x.d } x.hdr (some out)
  match x.d.infh with
  | none => .fault (.nullDeref "chmd_extract: d->infh")
  | some h =>
  let file := infhBytes files x
  match seekAbs ⟨file, h.pos⟩ (wrapI64 (hdr.sec0Offset + offset)) with
  | none => finish { x with error := .seek } []
  | some r =>
    let (err, out, r') := copyLoop (file.length / 512 + 2) r length []
    let x := { x with d := { x.d with infh := some { h with pos := r'.pos } } }
    finish (match err with | some e => { x with error := e } | none => x) out

theorem sec0Tail_spec (files : Files) (hdr : Header) (d : DState) (h : InFh) (hd : d.infh = some h)
    (offset length : Int) :
    Sec0Post ((files.lookup h.name).getD []) (wrapI64 (hdr.sec0Offset + offset)) length
      (sec0Tail files hdr d offset length) := by
  unfold sec0Tail
  by_cases hl : length = 0
  · rw [if_pos hl]
    exact ⟨0, by omega, by simp, rfl, fun _ => by omega⟩
  · rw [if_neg hl]
    simp only [hd, infhBytes]
    generalize (files.lookup h.name).getD [] = file
    generalize wrapI64 (hdr.sec0Offset + offset) = pos
    unfold seekAbs
    by_cases hp : pos < 0
    · rw [if_pos hp]
      exact ⟨0, by omega, by simp, rfl, fun h => by cases h⟩
    · rw [if_neg hp]
      have hlen : (file.drop pos.toNat).length ≤ file.length := by rw [List.length_drop]; omega
      have hc := copyLoop_eq file (file.length / 512 + 2) pos.toNat length [] _ rfl (.inr (by omega))
      simp only [Rd.seekStart, hc, copyAll, List.nil_append]
      clear hc
      by_cases hn : length.toNat ≤ (file.drop pos.toNat).length
      · rw [if_pos hn]
        exact ⟨length.toNat, Nat.le_refl _, rfl, by rw [List.length_take]; omega, fun _ => rfl⟩
      · rw [if_neg hn]
        have hk := Nat.div_mul_le_self (file.drop pos.toNat).length 512
        generalize (file.drop pos.toNat).length / 512 * 512 = k at hk ⊢
        exact ⟨k, by omega, rfl, by rw [List.length_take]; omega, fun he => by cases he⟩

theorem c08_extract_sec0_cases (files : Files) (fill : UInt8) (inst : Inst) (key : Nat) (hdr : Header)
    (offset length : Int) :
    (∃ d h, inst.d = some d ∧ d.infh = some h ∧ d.chm = key ∧
        extract files fill inst key hdr 0 offset length = sec0Tail files hdr d offset length) ∨
    ((∀ d h, inst.d = some d → d.infh = some h → d.chm ≠ key) ∧
      ((∃ d, files.lookup hdr.filename = none ∧
          extract files fill inst key hdr 0 offset length = .done .open_ ⟨.open_, some d⟩ hdr none ∧ d.infh = none) ∨
       (∃ b d, files.lookup hdr.filename = some b ∧ d.infh = some ⟨hdr.filename, 0⟩ ∧ d.chm = key ∧
          extract files fill inst key hdr 0 offset length = sec0Tail files hdr d offset length))) := by
  unfold extract
  obtain ⟨ierr, id⟩ := inst
  cases id with
  | none =>
    refine Or.inr ⟨fun _ _ h _ => (by cases h), ?_⟩
    simp only [Option.isNone_none, true_or, ↓reduceIte]
    cases hlk : files.lookup hdr.filename with
    | none => exact Or.inl ⟨_, rfl, rfl, rfl⟩
    | some file => exact Or.inr ⟨file, _, rfl, rfl, rfl, rfl⟩
  | some d0 =>
    obtain ⟨chm0, len0, off0, inoff0, st0, infh0⟩ := d0
    by_cases hre : (infh0.isNone ∨ chm0 ≠ key)
    · refine Or.inr ⟨fun d h hd hh => ?_, ?_⟩
      · cases hd
        simp only at hh
        subst hh
        simpa using hre
      · simp only [hre, ↓reduceIte]
        cases hlk : files.lookup hdr.filename with
        | none => exact Or.inl ⟨_, rfl, rfl, rfl⟩
        | some file => exact Or.inr ⟨file, _, rfl, rfl, rfl, rfl⟩
    · cases infh0 with
      | none => exact absurd (.inl rfl) hre
      | some h0 =>
        have hk : chm0 = key := by
          simp only [Option.isNone_some, Bool.false_eq_true, ne_eq, false_or, Decidable.not_not] at hre
          exact hre
        refine Or.inl ⟨_, h0, rfl, rfl, hk, ?_⟩
        simp only [hre, ↓reduceIte]
        rfl

theorem extract_sec0_spec (files : Files) (fill : UInt8) (inst : Inst) (key : Nat) (hdr : Header)
    (offset length : Int) :
    Sec0Post (sec0Input files inst key hdr) (wrapI64 (hdr.sec0Offset + offset)) length
      (extract files fill inst key hdr 0 offset length) := by
  rcases c08_extract_sec0_cases files fill inst key hdr offset length with
    ⟨d, h, hd, hh, hk, e⟩ | ⟨hno, ⟨d, _, e, _⟩ | ⟨b, d, _, hd, _, e⟩⟩
  · have : sec0Input files inst key hdr = (files.lookup h.name).getD [] := by
      unfold sec0Input; rw [hd]; simp only [hh, hk, if_true]
    rw [e, this]
    exact sec0Tail_spec files hdr d h hh offset length
  · rw [e]; rfl
  · have : sec0Input files inst key hdr = (files.lookup hdr.filename).getD [] := by
      unfold sec0Input
      cases hi : inst.d with
      | none => rfl
      | some d0 =>
        cases hf : d0.infh with
        | none => simp only [hf]
        | some h0 => simp only [hf, if_neg (hno d0 h0 hi hf)]
    rw [e, this]
    exact sec0Tail_spec files hdr d ⟨hdr.filename, 0⟩ hd offset length

/-- whatever the file contents, the decompressor's cached state and the header: extracting a section-0 member
    never hands more than its declared length to the output (`length.toNat`: a negative `off_t` length, which no
    directory entry can produce, counts as 0) -/
theorem C07_chm_sec0_written_le (files : Files) (fill : UInt8) (inst : Inst) (key : Nat) (hdr : Header)
    (offset length : Int) (e : Err) (inst' : Inst) (hdr' : Header) (w : Bytes)
    (h : extract files fill inst key hdr 0 offset length = .done e inst' hdr' (some w)) :
    w.length ≤ length.toNat := by
  have := extract_sec0_spec files fill inst key hdr offset length
  rw [h] at this
  obtain ⟨k, hk, _, hw, _⟩ := this
  omega

/-- MSPACK_ERR_OK means complete: exactly the declared number of bytes were written
    (contrapositive: fewer bytes — a truncated file, a member reaching beyond the end — give a non-OK status) -/
theorem C07_chm_sec0_ok_complete (files : Files) (fill : UInt8) (inst : Inst) (key : Nat) (hdr : Header)
    (offset length : Int) (inst' : Inst) (hdr' : Header) (w : Bytes)
    (h : extract files fill inst key hdr 0 offset length = .done .ok inst' hdr' (some w)) :
    w.length = length.toNat := by
  have := extract_sec0_spec files fill inst key hdr offset length
  rw [h] at this
  obtain ⟨k, _, _, hw, hk⟩ := this
  have := hk rfl
  omega

/-- the same with the length as the `off_t` it is, for the non-negative lengths directory entries have
    (`open_listed_nonneg` below) -/
theorem C07_chm_sec0_ok_complete_int (files : Files) (fill : UInt8) (inst : Inst) (key : Nat) (hdr : Header)
    (offset length : Int) (hlen : 0 ≤ length) (inst' : Inst) (hdr' : Header) (w : Bytes)
    (h : extract files fill inst key hdr 0 offset length = .done .ok inst' hdr' (some w)) :
    Int.ofNat w.length = length := by
  have := C07_chm_sec0_ok_complete files fill inst key hdr offset length inst' hdr' w h
  simp only [Int.ofNat_eq_natCast]
  omega

/-- content correctness for stored members: on MSPACK_ERR_OK the output is exactly the `length` bytes of the input
    file at `sec0.offset + file->offset` (the sum in `off_t`), and all of them lie inside the file -/
theorem C03_chm_sec0_bytes (files : Files) (fill : UInt8) (inst : Inst) (key : Nat) (hdr : Header)
    (offset length : Int) (inst' : Inst) (hdr' : Header) (w : Bytes)
    (h : extract files fill inst key hdr 0 offset length = .done .ok inst' hdr' (some w)) :
    w = ((sec0Input files inst key hdr).drop (wrapI64 (hdr.sec0Offset + offset)).toNat).take length.toNat ∧
    (0 < length → (wrapI64 (hdr.sec0Offset + offset)).toNat + length.toNat ≤ (sec0Input files inst key hdr).length) := by
  have := extract_sec0_spec files fill inst key hdr offset length
  rw [h] at this
  obtain ⟨k, _, hw, hwl, hk⟩ := this
  have hk := hk rfl
  subst hk
  refine ⟨hw, fun hne => ?_⟩
  rw [hw] at hwl
  simp only [List.length_take, List.length_drop] at hwl
  omega

theorem sec0Input_fresh (files : Files) (e : Err) (key : Nat) (hdr : Header) :
    sec0Input files { error := e, d := none } key hdr = (files.lookup hdr.filename).getD [] := rfl

theorem wrapI64_id (x : Int) (h0 : 0 ≤ x) (h1 : x < 9223372036854775808) : wrapI64 x = x := by
  unfold wrapI64; omega

/-- the section-0 branch of `extract` always returns (no undefined behaviour, nothing unmodelled), and it returns
    without an output file only when the CHM file cannot be opened -/
theorem C07_chm_sec0_returns (files : Files) (fill : UInt8) (inst : Inst) (key : Nat) (hdr : Header)
    (offset length : Int) :
    ∃ e inst' hdr' out, extract files fill inst key hdr 0 offset length = .done e inst' hdr' out ∧
      (out = none → e = .open_) := by
  have := extract_sec0_spec files fill inst key hdr offset length
  generalize extract files fill inst key hdr 0 offset length = res at this
  cases res with
  | done e i h out =>
    refine ⟨e, i, h, out, rfl, ?_⟩
    rintro rfl
    exact this
  | unsupported _ _ => exact this.elim
  | fault _ => exact this.elim


theorem readHeaders_listed (filename : String) (file : Bytes) (entire : Bool) (p : Parsed)
    (h : readHeaders filename file entire = .ok (.ok p)) :
    FilesNonneg p.hdr.files ∧ p.hdr.filename = filename :=
  ((readHeaders_spec filename file entire).2 p h).2

/-- every file `open()` lists has a non-negative offset and length and lives in section 0 or 1, and the header
    carries the name it was opened under — for every file content -/
theorem open_listed_nonneg (filename : String) (file : Bytes) (entire : Bool) (e : Err) (hdr : Header)
    (h : realOpen filename file entire = .ok (e, some hdr)) :
    FilesNonneg hdr.files ∧ hdr.filename = filename := by
  obtain ⟨_, p, hp, rfl⟩ := realOpen_cases h
  exact readHeaders_listed filename file entire p hp

/-- counting law of `lzxd_decompress(lzx, n)` as chmd.c uses it (input = the CHM file handle): at most `n` bytes are
    handed to `chmd_sys_write` (hypothesis; the same law the CAB and OAB theorems assume, its `≤` half) -/
def LzxBound : Prop :=
  ∀ (fuel : Nat) (st : Lzx.St Rd) (n : Nat) (o : DecodeOut (Lzx.St Rd)),
    Lzx.decompress rdSrc fuel st n = .ok o → o.written.length ≤ n

theorem lzxCall_bound (hL : LzxBound) (files : Files) (x : X) (bytes : Int) (e : Err) (w : Bytes) (x' : X)
    (h : lzxCall files x bytes = .ok (some (e, w, x'))) : w.length ≤ bytes.toNat := by
  rcases lzxCall_some _ _ _ _ _ _ h with ⟨_, rfl, _⟩ | ⟨_, _, o, _, _, ho, _, rfl, _⟩
  · exact Nat.zero_le _
  · exact hL _ _ _ _ ho

/-- what a finished `chmd_extract` call on a compressed member has written: nothing (and then the status is OK only for
    an empty member), or what one `lzxd_decompress` call for `askLen` bytes handed out; `d->length` is the one that call
    saw -/
def Sec1Out (files : Files) (offset length : Int) : ExtractResult → Prop
  | .done e inst' _ (some w) => ∃ d', inst' = ⟨e, some d'⟩ ∧
      ((w = [] ∧ (e = .ok → length = 0)) ∨
       ∃ x x', lzxCall files x (askLen x.d.length offset length) = .ok (some (e, w, x')) ∧ d'.length = x.d.length)
  | _ => True

theorem extract_sec1_out (files : Files) (fill : UInt8) (inst : Inst) (key : Nat) (hdr : Header)
    (sec : Nat) (hsec : sec ≠ 0) (offset length : Int) :
    Sec1Out files offset length (extract files fill inst key hdr sec offset length) := by
  have h := extract_step files fill inst key hdr sec offset length
  generalize extract files fill inst key hdr sec offset length = r at h
  cases h with
  | openFail | initFault | callFault => trivial
  | empty d _ _ hl => exact ⟨d, rfl, .inl ⟨rfl, fun _ => hl⟩⟩
  | stored _ _ _ _ _ hs => exact absurd hs hsec
  | refused d x1 e _ _ _ _ _ hne => exact ⟨x1.d, rfl, .inl ⟨rfl, fun h => absurd h hne⟩⟩
  | decoded d x2 x3 out _ _ _ _ _ hu =>
    obtain ⟨io, he, _⟩ := sec1End_eq x3
    rw [he]
    refine ⟨_, rfl, ?_⟩
    rcases hu with ⟨hne, rfl, rfl⟩ | ⟨_, e, x', hc, rfl⟩
    · exact .inl ⟨rfl, fun h => absurd h hne⟩
    · refine .inr ⟨x2, x', hc, ?_⟩
      rcases lzxCall_some _ _ _ _ _ _ hc with ⟨_, _, rfl⟩ | ⟨_, _, _, _, _, _, _, _, rfl⟩ <;> rfl

/-- `chmd_extract` on a member of the compressed section, **every** input and decompressor state: given the LZX
    counting law, never more than the declared length reaches the output.  (No "OK ⇒ complete" here: it needs more
    than a counting law — when `length > d->length - offset` the C asks the decoder for fewer bytes than declared and
    relies on the decoder failing.) -/
theorem C07_chm_sec1_written_le (hL : LzxBound) (files : Files) (fill : UInt8) (inst : Inst) (key : Nat) (hdr : Header)
    (sec : Nat) (hsec : sec ≠ 0) (offset length : Int) (e : Err) (inst' : Inst) (hdr' : Header) (w : Bytes)
    (h : extract files fill inst key hdr sec offset length = .done e inst' hdr' (some w)) :
    w.length ≤ length.toNat := by
  have := extract_sec1_out files fill inst key hdr sec hsec offset length
  rw [h] at this
  obtain ⟨_, _, ⟨rfl, _⟩ | ⟨x, x', hc, _⟩⟩ := this
  · exact Nat.zero_le _
  · have := lzxCall_bound hL _ _ _ _ _ _ hc
    unfold askLen at this
    split at this <;> omega

theorem C07_chm_written_le (hL : LzxBound) (files : Files) (fill : UInt8) (inst : Inst) (key : Nat) (hdr : Header)
    (sec : Nat) (offset length : Int) (e : Err) (inst' : Inst) (hdr' : Header) (w : Bytes)
    (h : extract files fill inst key hdr sec offset length = .done e inst' hdr' (some w)) :
    w.length ≤ length.toNat := by
  by_cases hsec : sec = 0
  · subst hsec
    exact C07_chm_sec0_written_le files fill inst key hdr offset length e inst' hdr' w h
  · exact C07_chm_sec1_written_le hL files fill inst key hdr sec hsec offset length e inst' hdr' w h

/-- the statement end to end: whatever bytes the file `name` holds, if `open()` returns a header, `f` is one of its
    listed files and lives in section 0, then extracting it with a fresh decompressor writes at most `f.length` bytes;
    and if the status is MSPACK_ERR_OK it wrote exactly `f.length` bytes, which are the bytes of the file at
    `sec0.offset + f.offset` (in `off_t` arithmetic) -/
theorem C07_chm_open_extract_sec0 (files : Files) (name : String) (file : Bytes) (hfile : files.lookup name = some file)
    (fill : UInt8) (ierr : Err) (key : Nat) (oe : Err) (hdr : Header)
    (hopen : realOpen name file true = .ok (oe, some hdr))
    (f : CFile) (hf : f ∈ hdr.files) (hsec : f.sec = 0)
    (e : Err) (inst' : Inst) (hdr' : Header) (w : Bytes)
    (h : extract files fill { error := ierr, d := none } key hdr f.sec f.offset f.length = .done e inst' hdr' (some w)) :
    Int.ofNat w.length ≤ f.length ∧
    (e = .ok → Int.ofNat w.length = f.length ∧
      w = (file.drop (wrapI64 (hdr.sec0Offset + f.offset)).toNat).take f.length.toNat) := by
  obtain ⟨hnn, hname⟩ := open_listed_nonneg name file true oe hdr hopen
  obtain ⟨_, hlen, _⟩ := hnn f hf
  rw [hsec] at h
  have hle := C07_chm_sec0_written_le _ _ _ _ _ _ _ _ _ _ _ h
  refine ⟨by simp only [Int.ofNat_eq_natCast]; omega, ?_⟩
  rintro rfl
  refine ⟨C07_chm_sec0_ok_complete_int _ _ _ _ _ _ _ hlen _ _ _ h, ?_⟩
  have := (C03_chm_sec0_bytes _ _ _ _ _ _ _ _ _ _ h).1
  rw [sec0Input_fresh, hname, hfile] at this
  exact this

/-- a member inside the file: OK and the three bytes at `sec0.offset + offset` = 2 + 1 -/
example : ∃ inst' hdr', extract [("x.chm", [9, 9, 1, 2, 3, 4, 5])] 0 {} 0 { filename := "x.chm", sec0Offset := 2 } 0 1 3
    = .done .ok inst' hdr' (some [2, 3, 4]) := ⟨_, _, rfl⟩

/-- a member reaching beyond the end of the file: MSPACK_ERR_READ, and the short run is not written -/
example : ∃ inst' hdr', extract [("x.chm", [9, 9, 1, 2, 3, 4, 5])] 0 {} 0 { filename := "x.chm", sec0Offset := 2 } 0 1 10
    = .done .read inst' hdr' (some []) := ⟨_, _, rfl⟩

set_option maxRecDepth 100000 in
/-- end to end on the CHM file of `C03Headers.lean`: `open()` lists "/b" (section 0, offset 5, length 1) and
    extracting it gives OK and the sixth content byte — the hypotheses of `C07_chm_open_extract_sec0` hold together -/
example : ∃ hdr f inst' hdr', realOpen "x.chm" (encodeChm exampleSpec) true = .ok (.ok, some hdr) ∧
    f ∈ hdr.files ∧ f.sec = 0 ∧
    extract [("x.chm", encodeChm exampleSpec)] 0 {} 0 hdr f.sec f.offset f.length = .done .ok inst' hdr' (some [6]) :=
  ⟨_, ⟨[0x2F, 0x62], 0, 5, 1⟩, _, _, C03_open_roundtrip exampleSpec exampleSpec_wf "x.chm", by decide, rfl, rfl⟩

end MsPack.Chm
