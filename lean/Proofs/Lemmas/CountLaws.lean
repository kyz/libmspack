import Proofs.Lemmas.ZipParts
import Proofs.Lemmas.Wp
import Proofs.Lemmas.ZipSim
import Proofs.Lemmas.LzxSim
import Proofs.Lemmas.QtmSim
/-!
# The stream decoders' walks for an arbitrary invariant, and their counting laws (lemmas for C07Decoders, C12Decoders)

Per decoder (`Zip`, `Lzx`, `Qtm`): a structure `Walk S I E` listing what an invariant `I` of the decoder state and an
exception condition `E` must allow (the effect of `read_input` on the source, the sticky error of `fail`, indifference to
every other field), and `…_walk : Walk S I E → Tri I E (…)` for the decoder's functions.  What `ZipSim.lean`, `LzxSim.lean`
and `QtmSim.lean` walk for two sources is not walked again: that walk is run with the source against itself (`Walk.toSim`,
`WalkOut.walk2`) and read as a triple.  Quantum's loops are walked for `WalkOut`, whose `I` may also look at `written` and
`outBytes`.

With `I := True`, `E e := HaltOk e` ("a status return carries a status ≠ OK") the walk says that OK can only come from the
normal exit, since the decoders hand the thrown status back as the call's result; the counting law (`Lzx.decompress_count`;
MSZIP's is in `CountLawsZip.lean`, Quantum's in `CountLawsQtm.lean`) is then the arithmetic of the output loop.

`ZipSim.decompress_sim` and `LzxSim.decompress_sim` carry the two-run walks through the output loops; they stand here
because they need that a status thrown inside the loop is not OK.
-/
namespace MsPack.CountLaws

theorem Tri.wp {ε s α : Type} {I : s → Prop} {E : ε → s → Prop} {m : ExceptT ε (StateM s) α} (h : Tri I E m) {st : s}
    (hi : I st) : MsPack.wp m (fun _ => I) E st :=
  .of_run (fun _ _ hr => h.out st hi _ _ hr) fun _ _ hr => h.out st hi _ _ hr

namespace Zip
open MsPack.Zip
variable {σ : Type} (S : Src σ)

def HaltOk : Zip.Halt → Prop
  | .sys e => e ≠ .ok
  | _ => True

/-- What a walk over the MSZIP decoder asks of an invariant `I` and an exception condition `E`.  No helper of
    `inflate` but `read_input` touches `src`, `error` or `inbufSize`, and none touches `repair`, so an `I` that looks at
    nothing else survives every other step (`frame`); a fault and a format error (`inf`) may come at any point. -/
structure Walk (S : Src σ) (I : St σ → Prop) (E : Zip.Halt → St σ → Prop) : Prop where
  frame : ∀ {a b : St σ}, I a → b.src = a.src → b.error = a.error → b.inbufSize = a.inbufSize →
    b.repair = a.repair → I b
  fault : ∀ f st, I st → E (.fault f) st
  inf : ∀ st, I st → E .inf st
  readNone : ∀ st src, I st → S.read st.src st.inbufSize = .ok (none, src) →
    E (.sys .read) { st with src := src, error := .read }
  readEnd : ∀ st src, I st → S.read st.src st.inbufSize = .ok (some [], src) →
    E (.sys .read) { st with src := src, error := .read }
  readMore : ∀ st got src (b : St σ), I st → S.read st.src st.inbufSize = .ok (some got, src) →
    b.src = src → b.error = st.error → b.inbufSize = st.inbufSize → b.repair = st.repair → I b

/-! The walks go through because every helper of `inflate` reaches `src`, `error`, `inbufSize`, `repair` only through
`readInput` (walked by hand below) and changes the other fields by `set`/`modify`, where `Walk.frame` applies by `rfl`. -/
section walk
variable {S} {I : St σ → Prop} {E : Zip.Halt → St σ → Prop} (W : Walk S I E)
include W

theorem readInput_walk : Tri I E (readInput S) := by
  constructor
  intro st hi res s' h
  unfold readInput at h
  rw [Qtm.run_get_bind] at h
  split at h
  · rw [ReadErr.run_throw] at h; cases h; exact W.fault _ _ hi
  · rename_i src hrd
    rw [ReadErr.run_set_bind, ReadErr.run_throw] at h; cases h
    exact W.readNone st src hi hrd
  · rename_i src hrd
    split at h
    · rw [ReadErr.run_set_bind, ReadErr.run_throw] at h; cases h
      exact W.readEnd st src hi hrd
    · rw [ReadErr.run_set] at h; cases h
      exact W.readMore st _ src _ hi hrd rfl rfl rfl rfl
  · rename_i got src _ hrd
    rw [ReadErr.run_set] at h; cases h
    exact W.readMore st _ src _ hi hrd rfl rfl rfl rfl

/-- `I` with the repair flag held fixed, and recorded at the exceptional ends too: what the walk of `ZipSim.lean` needs
    to run the decoder against itself -/
theorem Walk.withRepair (c : Bool) : Walk S (fun a => I a ∧ a.repair = c) (fun e a => E e a ∧ a.repair = c) where
  frame := fun h h1 h2 h3 h4 => ⟨W.frame h.1 h1 h2 h3 h4, h4.trans h.2⟩
  fault := fun f st h => ⟨W.fault f st h.1, h.2⟩
  inf := fun st h => ⟨W.inf st h.1, h.2⟩
  readNone := fun st src h hr => ⟨W.readNone st src h.1 hr, h.2⟩
  readEnd := fun st src h hr => ⟨W.readEnd st src h.1 hr, h.2⟩
  readMore := fun st got src b h hr h1 h2 h3 h4 => ⟨W.readMore st got src b h.1 hr h1 h2 h3 h4, h4.trans h.2⟩

omit W in
theorem sr_eq {J : St σ → Prop} {c : Bool} (hc : ∀ a, J a → a.repair = c) (a b : St σ)
    (h : CabLift.ZipSim.SR Eq J c a b) : b = a := by
  obtain ⟨hi, x, hx, rfl⟩ := h
  cases hx; rw [← hc a hi]

theorem Walk.toSim (c : Bool) :
    CabLift.ZipSim.Walk True Eq (fun a => I a ∧ a.repair = c) c (fun e a => E e a ∧ a.repair = c) S S where
  frame := (W.withRepair c).frame
  lock_eq := fun _ _ _ h hx => ⟨hx.symm, h.2.symm⟩
  fault := fun f a h _ => (W.withRepair c).fault f a h
  inf := (W.withRepair c).inf
  read := Sim.of_tri (sr_eq fun _ h => h.2) ⟨fun st h r s' hm => by
    have := (readInput_walk (W.withRepair c)).out st h.1 r s' hm
    cases r with
    | ok _ => exact ⟨this, _, rfl, by rw [← this.2]⟩
    | error _ => exact this⟩

omit W in
theorem Walk.tri_of_sim {α : Type} {m : ZM σ α}
    (h : ∀ c, Sim True (CabLift.ZipSim.SR Eq (fun a => I a ∧ a.repair = c) c) (fun e a => E e a ∧ a.repair = c) m m) :
    Tri I E m := by
  refine ⟨fun st hi r s' hm => ?_⟩
  have := (Sim.tri (sr_eq fun _ h => h.2) (h st.repair)).out st ⟨⟨hi, rfl⟩, _, rfl, rfl⟩ r s' hm
  cases r with
  | ok _ => exact this.1.1
  | error _ => exact this.1

theorem inflate_walk (fuel : Nat) : Tri I E (inflate S fuel) :=
  Walk.tri_of_sim fun c => CabLift.ZipSim.inflate_sim (W.toSim c) fuel

theorem scanCK_walk (fuel state : Nat) : Tri I E (scanCK S fuel state) :=
  Walk.tri_of_sim fun c => CabLift.ZipSim.scanCK_sim (W.toSim c) fuel state

end walk

theorem haltOk_walk : Walk S (fun _ => True) (fun e _ => HaltOk e) where
  frame := fun _ _ _ _ _ => trivial
  fault := fun _ _ _ => trivial
  inf := fun _ _ => trivial
  readNone := fun _ _ _ _ => (nofun : Err.read ≠ Err.ok)
  readEnd := fun _ _ _ _ => (nofun : Err.read ≠ Err.ok)
  readMore := fun _ _ _ _ _ _ _ _ _ _ => trivial

theorem inflate_throws (fuel : Nat) : Throws HaltOk (inflate S fuel) := (inflate_walk (haltOk_walk S) fuel).throws

theorem scanCK_throws (fuel state : Nat) : Throws HaltOk (scanCK S fuel state) :=
  (scanCK_walk (haltOk_walk S) fuel state).throws

end Zip

namespace Lzx
open MsPack.Lzx
variable {σ : Type} (S : Src σ)

def HaltOk : Lzx.Halt → Prop
  | .sys e => e ≠ .ok
  | _ => True

theorem outSlice_size (st : St σ) (n : Nat) (c : Array UInt8) (h : outSlice st n = .ok c) : c.size = n := by
  have := outSlice_fits st n
  rwa [h] at this

/-- What a walk over the LZX decoder asks of an invariant `I` and an exception condition `E`.  Only
    `read_input` and `fail` touch `src`, `error` and `inbufSize`, so an `I` that looks at nothing else survives
    every other step (`frame`); the remaining fields say what the two exceptions and the source may do. -/
structure Walk (S : Src σ) (I : St σ → Prop) (E : Lzx.Halt → St σ → Prop) : Prop where
  frame : ∀ {a b : St σ}, I a → b.src = a.src → b.error = a.error → b.inbufSize = a.inbufSize → I b
  fault : ∀ f st, I st → E (.fault f) st
  fail : ∀ st (b : St σ), I st → b.src = st.src → b.error = .decrunch → b.inbufSize = st.inbufSize →
    E (.sys .decrunch) b
  readNone : ∀ st src (b : St σ), I st → S.read st.src st.inbufSize = .ok (none, src) →
    b.src = src → b.error = .read → b.inbufSize = st.inbufSize → E (.sys .read) b
  readEnd : ∀ st src (b : St σ), I st → S.read st.src st.inbufSize = .ok (some [], src) →
    b.src = src → b.error = .read → b.inbufSize = st.inbufSize → E (.sys .read) b
  readMore : ∀ st got src (b : St σ), I st → S.read st.src st.inbufSize = .ok (some got, src) →
    b.src = src → b.error = st.error → b.inbufSize = st.inbufSize → I b

section walk
variable {S} {I : St σ → Prop} {E : Lzx.Halt → St σ → Prop} (W : Walk S I E)

include W

theorem readInput_walk : Tri I E (readInput S) := by
  constructor
  intro st hi res s' h
  unfold readInput at h
  rw [Qtm.run_get_bind] at h
  split at h
  · rw [ReadErr.run_throw] at h; cases h; exact W.fault _ _ hi
  · rename_i got src hrd
    dsimp only at h
    split at h
    · rw [ReadErr.run_set_bind, ReadErr.run_throw] at h; cases h
      exact W.readNone st src _ hi hrd rfl rfl rfl
    · split at h
      · rw [ReadErr.run_set_bind, ReadErr.run_throw] at h; cases h
        exact W.readEnd st src _ hi hrd rfl rfl rfl
      · rw [ReadErr.run_set] at h; cases h
        exact W.readMore st _ src _ hi hrd rfl rfl rfl
    · rw [ReadErr.run_set] at h; cases h
      exact W.readMore st _ src _ hi hrd rfl rfl rfl

omit W in
theorem sr_eq (a b : St σ) (h : CabLift.LzxSim.SR Eq I a b) : b = a := by
  obtain ⟨_, x, hx, rfl⟩ := h
  cases hx; rfl

theorem Walk.toSim : CabLift.LzxSim.Walk True Eq I E S S where
  frame := W.frame
  lock_eq := fun _ _ _ _ hx => hx.symm
  fault := fun f a h _ => W.fault f a h
  fail := fun a h => W.fail a _ h rfl rfl rfl
  read := Sim.of_tri sr_eq ⟨fun st h r s' hm => by
    have := (readInput_walk W).out st h.1 r s' hm
    cases r with
    | ok _ => exact ⟨this, _, rfl, rfl⟩
    | error _ => exact this⟩

omit W in
theorem Walk.tri_of_sim {α : Type} {m : LM σ α} (h : Sim True (CabLift.LzxSim.SR Eq I) E m m) : Tri I E m := by
  refine ⟨fun st hi r s' hm => ?_⟩
  have := (Sim.tri sr_eq h).out st ⟨hi, _, rfl, rfl⟩ r s' hm
  cases r with
  | ok _ => exact this.1
  | error _ => exact this

theorem frameBody_walk (fuel outBytes : Nat) : Tri I E (frameBody S fuel outBytes) :=
  Walk.tri_of_sim (CabLift.LzxSim.frameBody_sim W.toSim fuel outBytes)

end walk

theorem haltOk_walk : Walk S (fun _ => True) (fun e _ => HaltOk e) where
  frame := fun _ _ _ _ => trivial
  fault := fun _ _ _ => trivial
  fail := fun _ _ _ _ _ _ => (nofun : Err.decrunch ≠ Err.ok)
  readNone := fun _ _ _ _ _ _ _ _ => (nofun : Err.read ≠ Err.ok)
  readEnd := fun _ _ _ _ _ _ _ _ => (nofun : Err.read ≠ Err.ok)
  readMore := fun _ _ _ _ _ _ _ _ _ => trivial

theorem frameBody_throws (fuel outBytes : Nat) : Throws HaltOk (frameBody S fuel outBytes) :=
  (frameBody_walk (haltOk_walk S) fuel outBytes).throws

/-- the chunk is `fbWrite`'s, whatever ran before -/
theorem frameBody_size (fuel ob : Nat) (st : St σ) :
    wp (frameBody S fuel ob) (fun c _ => c.size ≤ ob) (fun _ _ => True) st := by
  have hw (fs) (st : St σ) : wp (fbWrite fs ob) (fun c _ => c.size ≤ ob) (fun _ _ => True) st := by
    unfold fbWrite
    simp only [wp_get_bind]
    split
    · exact (wp_throw ..).mpr trivial
    · rename_i chunk heq
      simp only [wp_set_bind, wp_pure]
      rw [outSlice_size _ _ _ heq]
      split <;> omega
  have h8 (fs) (st : St σ) : wp (fbE8 fs ob) (fun c _ => c.size ≤ ob) (fun _ _ => True) st := by
    unfold fbE8
    simp only [wp_get_bind, wp_ite]
    refine ⟨fun _ => wp.bind_any fun _ _ => ?_, fun _ => ⟨fun _ => ?_, fun _ => wp.bind_any fun _ => hw fs⟩⟩
    · split
      · split
        · exact wp.bind_any fun _ => hw fs
        · split <;> exact wp.bind_any fun _ => hw fs
      · exact wp.bind_any fun _ => hw fs
    · split
      · exact wp.bind_any fun _ => hw fs
      · split <;> exact wp.bind_any fun _ => hw fs
  have ha (fs) (st : St σ) : wp (fbAlign S fs ob) (fun c _ => c.size ≤ ob) (fun _ _ => True) st := by
    unfold fbAlign
    simp only [wp_get_bind, wp_ite]
    exact ⟨fun _ => wp.bind_any fun _ _ => (wp_get_bind ..).mpr ((wp_ite ..).mpr
        ⟨fun _ => wp.bind_any fun _ => h8 fs, fun _ => h8 fs _⟩),
      fun _ => ⟨fun _ => wp.bind_any fun _ => h8 fs, fun _ => h8 fs _⟩⟩
  have hd (st : St σ) : wp (fbDecode S fuel ob) (fun c _ => c.size ≤ ob) (fun _ _ => True) st := by
    unfold fbDecode
    simp only [wp_get_bind]
    refine wp.bind_any fun _ _ => ?_
    simp only [wp_get_bind, wp_ite]
    exact ⟨fun _ => wp.bind_any fun _ => ha _, fun _ => ha _ _⟩
  have hl (st : St σ) : wp (fbLen S fuel ob) (fun c _ => c.size ≤ ob) (fun _ _ => True) st := by
    unfold fbLen
    simp only [wp_get_bind, wp_ite]
    exact ⟨fun _ => ⟨fun _ => wp.bind_any fun _ => hd, fun _ => hd _⟩, fun _ => hd _⟩
  have hh (st : St σ) : wp (fbHeader S fuel ob) (fun c _ => c.size ≤ ob) (fun _ _ => True) st := by
    unfold fbHeader
    simp only [wp_get_bind, wp_ite]
    refine ⟨fun _ => wp.bind_any fun i _ => ?_, fun _ => hl _⟩
    split
    · exact wp.bind_any fun _ _ => wp.bind_any fun _ _ => wp.bind_any fun _ _ => wp.bind_any fun _ => hl
    · exact wp.bind_any fun _ _ => wp.bind_any fun _ => hl
  rw [frameBody_eq]
  unfold fbDelta
  simp only [wp_get_bind, wp_ite]
  exact ⟨fun _ => wp.bind_any fun _ t => (wp_get_bind ..).mpr ((wp_ite ..).mpr
      ⟨fun _ => wp.bind_any fun _ _ => wp.bind_any fun _ => hh, fun _ => hh _⟩),
    fun _ => ⟨fun _ => wp.bind_any fun _ _ => wp.bind_any fun _ => hh, fun _ => hh _⟩⟩

theorem frameLoop_count (fuel endFrame : Nat) : ∀ (n : Nat) (st : St σ) (outBytes : Nat) (acc : Array UInt8)
    (o : DecodeOut (St σ)), frameLoop S fuel endFrame n st outBytes acc = .ok o →
    o.written.length ≤ acc.size + outBytes ∧ (o.err = .ok → o.written.length = acc.size + outBytes) := by
  intro n
  induction n with
  | zero =>
    intro st outBytes acc o h
    rw [frameLoop.eq_1] at h
    split at h
    · cases h
    · split at h
      · cases h; exact ⟨by simp, fun hc => by cases hc⟩
      · rename_i h0
        cases h
        simp only [Decidable.not_not] at h0
        subst h0; simp
  | succ n ih =>
    intro st outBytes acc o h
    rw [frameLoop.eq_2] at h
    split at h
    · split at h
      · cases h
      · rename_i e s heq
        cases h
        exact ⟨by simp, fun hc => absurd hc ((frameBody_throws S fuel outBytes).out _ _ _ heq)⟩
      · rename_i chunk s heq
        have hc : chunk.size ≤ outBytes := (frameBody_size S fuel outBytes _).ok heq
        have := ih _ _ _ _ h
        simp only [Array.size_append] at this
        refine ⟨by omega, fun he => ?_⟩
        have := this.2 he
        omega
    · split at h
      · cases h; exact ⟨by simp, fun hc => by cases hc⟩
      · rename_i h0
        cases h
        simp only [Decidable.not_not] at h0
        subst h0; simp

theorem decompress_count (fuel : Nat) (st : St σ) (n : Nat) (o : DecodeOut (St σ))
    (h : Lzx.decompress S fuel st n = .ok o) :
    o.written.length ≤ n ∧ (o.err = .ok → o.written.length = n) := by
  unfold Lzx.decompress at h
  split at h
  · rename_i he
    cases h
    exact ⟨Nat.zero_le _, fun hc => absurd hc he⟩
  · dsimp only at h
    split at h
    · cases h
    · rename_i chunk heq
      have hs := outSlice_size _ _ _ heq
      have hmin : min (st.oEnd - st.oPtr) n ≤ n := Nat.min_le_right ..
      generalize min (st.oEnd - st.oPtr) n = i at *
      split at h
      · cases h
        simp only [Array.length_toList]
        omega
      · have := frameLoop_count S fuel _ _ _ _ _ _ h
        refine ⟨by omega, fun he => ?_⟩
        have := this.2 he
        omega

end Lzx

end MsPack.CountLaws

namespace MsPack.CabLift.ZipSim
open MsPack.Zip MsPack.Zip.ZipChunk
open MsPack.CountLaws.Zip (inflate_throws scanCK_throws)

variable {σ : Type}

/-- `Sim lock (SR Q I c') E` one level up, for two results of `decompressLoop`/`decompress`.  Without `lock` nothing is
    said of the second run after a status or a fault of the first: a strict run stops where a run in repair mode goes on. -/
def Out (lock : Prop) (Q : σ → σ → Prop) (I : Zip.St σ → Prop) (c' : Bool) (E : Zip.Halt → Zip.St σ → Prop)
    (r1 r2 : Except Fault (Zip.Out σ)) : Prop :=
  (lock → r2 = r1) ∧
  match r1 with
  | .ok o1 =>
    (o1.err = .ok → ∃ o2, r2 = .ok o2 ∧ o2.err = .ok ∧ o2.written = o1.written ∧ SR Q I c' o1.st o2.st) ∧
    (o1.err ≠ .ok → (o1.err = .decrunch ∧ ∃ s, I s ∧ o1.st = { s with error := .decrunch }) ∨ E (.sys o1.err) o1.st)
  | .error f => ∃ t, E (.fault f) t

/-- `Out` for one round of the loop (`frameStep`) -/
def RoundOut (lock : Prop) (Q : σ → σ → Prop) (I : Zip.St σ → Prop) (c' : Bool) (E : Zip.Halt → Zip.St σ → Prop)
    (r2 : Except Fault (FrameRes σ)) : Except Fault (FrameRes σ) → Prop
  | .error f => (∃ t, E (.fault f) t) ∧ (lock → r2 = .error f)
  | .ok (.stop e a') => (e ≠ .ok ∧ ((e = .decrunch ∧ ∃ s, I s ∧ a' = { s with error := .decrunch }) ∨ E (.sys e) a')) ∧
      (lock → r2 = .ok (.stop e a'))
  | .ok (.frame (some e) a') => (e ≠ .ok ∧ a'.repair = true ∧ E (.sys e) a') ∧ (lock → r2 = .ok (.frame (some e) a'))
  | .ok (.frame none a') => ∃ b', r2 = .ok (.frame none b') ∧ SR Q I c' a' b'

variable {lock : Prop} {Q : σ → σ → Prop} {I : Zip.St σ → Prop} {c' : Bool} {E : Zip.Halt → Zip.St σ → Prop}
  {S1 S2 : Src σ} (W : Walk lock Q I c' E S1 S2)
include W

theorem runInflate_sim (fuel : Nat) {a b : Zip.St σ} (hr : SR Q I c' a b) :
    match runInflate S1 fuel a with
    | .error f => (∃ t, E (.fault f) t) ∧ (lock → runInflate S2 fuel b = .error f)
    | .ok (.ok, a') => ∃ b', runInflate S2 fuel b = .ok (.ok, b') ∧ SR Q I c' a' b'
    | .ok (.inf, a') => E .inf a' ∧ (lock → runInflate S2 fuel b = .ok (.inf, a'))
    | .ok (.sys e, a') => (e ≠ .ok ∧ E (.sys e) a') ∧ (lock → runInflate S2 fuel b = .ok (.sys e, a')) := by
  have hs := inflate_sim W fuel
  rcases hm : (inflate S1 fuel).run.run a with ⟨r, a'⟩
  rw [runInflate_eq S1 hm]
  cases r with
  | ok u =>
    obtain ⟨b', h2, hr2⟩ := hs.ok a b hr u a' hm
    exact ⟨b', runInflate_eq S2 h2, hr2⟩
  | error e =>
    obtain ⟨he, hl⟩ := hs.err a b hr e a' hm
    cases e with
    | fault f => exact ⟨⟨a', he⟩, fun l => runInflate_eq S2 (hl l)⟩
    | inf => exact ⟨he, fun l => runInflate_eq S2 (hl l)⟩
    | sys e => exact ⟨⟨(inflate_throws S1 fuel).out _ _ _ hm, he⟩, fun l => runInflate_eq S2 (hl l)⟩

/-! Three things are asked beyond the walk.  A format error leaves a state in `I` (`hinf`).  In repair mode the first
run goes on after a format error, with a zero-filled frame, while nothing is known of the second run unless the runs
are locked: so a state in `I` in repair mode must come with `lock`, and be related to itself (`hrep`; the strict run
of C18 is never in repair mode).  And `E (.sys e)` survives what the loop does to the state after the throw: the zero
fill, `pending`, the sticky error set to `e` (`hE`). -/
variable (hinf : ∀ a, E .inf a → I a) (hrep : ∀ a, I a → a.repair = true → lock ∧ SR Q I c' a a)
  (hE : ∀ e (a b : Zip.St σ), e ≠ .ok → E (.sys e) a → b.src = a.src → b.inbufSize = a.inbufSize →
    b.repair = a.repair → (b.error = a.error ∨ b.error = e) → E (.sys e) b)
include hinf hrep hE

theorem frameStep_sim (fuel : Nat) {s1 s2 : Zip.St σ} (hr : SR Q I c' s1 s2) :
    RoundOut lock Q I c' E (frameStep S2 fuel s2) (frameStep S1 fuel s1) := by
  obtain ⟨hi, x, hx, rfl⟩ := hr
  unfold frameStep
  dsimp only
  have hsc := scanCK_sim W fuel 0
  have hr1 : SR Q I c' { s1 with bits := s1.bits.drop (s1.bits.length % 8) }
      { s1 with src := x, repair := c', bits := s1.bits.drop (s1.bits.length % 8) } :=
    ⟨W.frame hi rfl rfl rfl rfl, x, hx, rfl⟩
  generalize hm : (scanCK S1 fuel 0).run.run { s1 with bits := s1.bits.drop (s1.bits.length % 8) } = rs
  obtain ⟨r, t1⟩ := rs
  cases r with
  | error e =>
    obtain ⟨he, hl⟩ := hsc.err _ _ hr1 e t1 hm
    have hl' : lock → (scanCK S2 fuel 0).run.run _ = _ := hl
    cases e with
    | fault f => exact ⟨⟨t1, he⟩, fun l => by rw [hl' l]⟩
    | inf => exact ⟨⟨nofun, .inl ⟨rfl, t1, hinf _ he, rfl⟩⟩, fun l => by rw [hl' l]⟩
    | sys e => exact ⟨⟨(scanCK_throws S1 fuel 0).out _ _ _ hm, .inr he⟩, fun l => by rw [hl' l]⟩
  | ok u =>
    obtain ⟨t2, h2, hi2, x2, hx2, rfl⟩ := hsc.ok _ _ hr1 u t1 hm
    rw [show (scanCK S2 fuel 0).run.run _ = _ from h2]
    dsimp only
    have hri := runInflate_sim W fuel (a := { t1 with windowPosn := 0, bytesOutput := 0 })
      (b := { t1 with src := x2, repair := c', windowPosn := 0, bytesOutput := 0 })
      ⟨W.frame hi2 rfl rfl rfl rfl, x2, hx2, rfl⟩
    generalize runInflate S1 fuel { t1 with windowPosn := 0, bytesOutput := 0 } = q at hri ⊢
    cases q with
    | error f => exact ⟨hri.1, fun l => by rw [hri.2 l]⟩
    | ok p =>
      obtain ⟨res, u1⟩ := p
      cases res with
      | ok =>
        obtain ⟨u2, h3, hr3⟩ := hri
        rw [h3]
        dsimp only
        simp only [ne_eq, not_true_eq_false, false_and, ↓reduceIte]
        exact ⟨u2, rfl, hr3⟩
      | inf =>
        obtain ⟨he, hl⟩ := hri
        have hiu := hinf _ he
        cases hrp : u1.repair with
        | true =>
          have hc : ¬(InfRes.inf ≠ .ok ∧ (!u1.repair) = true) := fun h => by rw [hrp] at h; exact nomatch h.2
          rw [hl (hrep u1 hiu hrp).1]
          dsimp only
          rw [if_neg hc, if_pos (nofun : InfRes.inf ≠ .ok)]
          refine ⟨_, rfl, ?_⟩
          refine (hrep _ ?_ ?_).2
          · exact W.frame hiu rfl rfl rfl rfl
          · exact hrp
        | false =>
          have hc : InfRes.inf ≠ .ok ∧ (!u1.repair) = true := ⟨nofun, by rw [hrp]; rfl⟩
          dsimp only
          rw [if_pos hc]
          exact ⟨⟨nofun, .inl ⟨rfl, u1, hiu, rfl⟩⟩, fun l => by rw [hl l]; dsimp only; rw [if_pos hc]⟩
      | sys e =>
        obtain ⟨⟨hne, he⟩, hl⟩ := hri
        cases hrp : u1.repair with
        | true =>
          have hc : ¬(InfRes.sys e ≠ .ok ∧ (!u1.repair) = true) := fun h => by rw [hrp] at h; exact nomatch h.2
          dsimp only
          rw [if_neg hc, if_pos (nofun : InfRes.sys e ≠ .ok)]
          exact ⟨⟨hne, hrp, hE e u1 _ hne he rfl rfl rfl (.inl rfl)⟩,
            fun l => by rw [hl l]; dsimp only; rw [if_neg hc, if_pos (nofun : InfRes.sys e ≠ .ok)]⟩
        | false =>
          have hc : InfRes.sys e ≠ .ok ∧ (!u1.repair) = true := ⟨nofun, by rw [hrp]; rfl⟩
          dsimp only
          rw [if_pos hc]
          exact ⟨⟨hne, .inr (hE e u1 _ hne he rfl rfl rfl (.inr rfl))⟩, fun l => by rw [hl l]; dsimp only; rw [if_pos hc]⟩

theorem decompressLoop_sim (fuel : Nat) : ∀ (n : Nat) (s1 s2 : Zip.St σ) (outBytes : Nat) (w : Bytes),
    SR Q I c' s1 s2 →
    Out lock Q I c' E (decompressLoop S1 fuel n s1 outBytes w) (decompressLoop S2 fuel n s2 outBytes w) := by
  intro n
  induction n with
  | zero =>
    intro s1 s2 outBytes w hr
    rw [decompressLoop.eq_1, decompressLoop.eq_1]
    exact ⟨fun _ => rfl, s1, W.fault _ s1 hr.1 .hang⟩
  | succ n ih =>
    intro s1 s2 outBytes w hr
    rw [loop_succ, loop_succ]
    by_cases h0 : outBytes = 0
    · rw [if_pos h0, if_pos h0]
      exact ⟨fun l => by rw [SR.eq_of_lock W l hr], fun _ => ⟨_, rfl, rfl, rfl, hr⟩, fun h => absurd rfl h⟩
    · rw [if_neg h0, if_neg h0]
      have hs := frameStep_sim W hinf hrep hE fuel hr
      generalize frameStep S1 fuel s1 = q at hs ⊢
      cases q with
      | error f => exact ⟨fun l => by rw [hs.2 l], hs.1⟩
      | ok r =>
        cases r with
        | stop e a' => exact ⟨fun l => by rw [hs.2 l], fun h => absurd h hs.1.1, fun _ => hs.1.2⟩
        | frame se a' =>
          cases se with
          | some e =>
            obtain ⟨⟨hne, hrp, he⟩, hl⟩ := hs
            refine ⟨fun l => by rw [hl l], ?_⟩
            dsimp only
            rw [if_pos hrp]
            exact ⟨fun h => absurd h hne, fun _ => .inr (hE e a' _ hne he rfl rfl rfl (.inl rfl))⟩
          | none =>
            obtain ⟨b', h2, hi3, x3, hx3, rfl⟩ := hs
            rw [h2]
            exact ih _ _ _ _ ⟨W.frame hi3 rfl rfl rfl rfl, x3, hx3, rfl⟩

theorem decompress_sim (fuel : Nat) {s1 s2 : Zip.St σ} (n : Nat) (hr : SR Q I c' s1 s2) (he : s1.error = .ok) :
    Out lock Q I c' E (Zip.decompress S1 fuel s1 n) (Zip.decompress S2 fuel s2 n) := by
  obtain ⟨hi, x, hx, rfl⟩ := hr
  unfold Zip.decompress
  dsimp only
  rw [if_neg (not_not_intro he), if_neg (not_not_intro he)]
  have hr2 : SR Q I c' { s1 with pending := s1.pending.drop (min s1.pending.length n) }
      { s1 with src := x, repair := c', pending := s1.pending.drop (min s1.pending.length n) } :=
    ⟨W.frame hi rfl rfl rfl rfl, x, hx, rfl⟩
  by_cases h0 : n - min s1.pending.length n = 0
  · rw [if_pos h0, if_pos h0]
    exact ⟨fun l => by rw [SR.eq_of_lock W l hr2], fun _ => ⟨_, rfl, rfl, rfl, hr2⟩, fun h => absurd rfl h⟩
  · rw [if_neg h0, if_neg h0]
    exact decompressLoop_sim W hinf hrep hE fuel _ _ _ _ _ hr2

end MsPack.CabLift.ZipSim

namespace MsPack.CountLaws.Zip
open MsPack.Zip
variable {σ : Type} {S : Src σ} {I : St σ → Prop} {E : Zip.Halt → St σ → Prop} (W : Walk S I E)
include W

/-- Two things are asked beyond the walk: a format error leaves a state repair mode can go on from (`hinf`), and
    `E (.sys e)` survives what the loop does to the state after the throw — repair-mode zero fill, `pending`, the sticky
    error set to `e` (`hE`). -/
theorem decompress_outcome (hinf : ∀ s, E .inf s → I s)
    (hE : ∀ e (a b : St σ), E (.sys e) a → b.src = a.src → b.inbufSize = a.inbufSize → b.repair = a.repair →
      (b.error = a.error ∨ b.error = e) → E (.sys e) b)
    {fuel : Nat} {st : St σ} {n : Nat} {o : Out σ} (he : st.error = .ok) (hi : I st)
    (h : decompress S fuel st n = .ok o) :
    (o.err = .ok ∧ I o.st) ∨ (o.err = .decrunch ∧ ∃ s, I s ∧ o.st = { s with error := .decrunch }) ∨
      E (.sys o.err) o.st := by
  have := CabLift.ZipSim.decompress_sim (W.toSim st.repair)
    (fun a h => ⟨hinf a h.1, h.2⟩) (fun a h _ => ⟨trivial, h, _, rfl, by rw [← h.2]⟩)
    (fun e a b _ h hs hb hr herr => ⟨hE e a b h.1 hs hb hr herr, hr.trans h.2⟩)
    fuel n (s1 := st) ⟨⟨hi, rfl⟩, _, rfl, rfl⟩ he
  rw [h] at this
  by_cases ho : o.err = .ok
  · obtain ⟨_, _, _, _, hr⟩ := this.2.1 ho
    exact .inl ⟨ho, hr.1.1⟩
  · rcases this.2.2 ho with ⟨hd, s, hs, h2⟩ | hE'
    · exact .inr (.inl ⟨hd, s, hs.1, h2⟩)
    · exact .inr (.inr hE'.1)

end MsPack.CountLaws.Zip

namespace MsPack.CabLift.LzxSim
open MsPack.Lzx

variable {σ : Type}

variable {lock : Prop} {Q : σ → σ → Prop} {I : Lzx.St σ → Prop} {E : Lzx.Halt → Lzx.St σ → Prop} {S1 S2 : Src σ}
  (W : Walk lock Q I E S1 S2)
include W

theorem Out2.eq_of_lock {r1 r2 : Except Fault (DecodeOut (Lzx.St σ))}
    (h : Out2 lock (SR Q I) E (fun _ a b => b = a) r1 r2) (hl : lock) : r2 = r1 := by
  cases r1 with
  | error f => exact h.2 hl
  | ok o1 =>
    by_cases ho : o1.err = .ok
    · obtain ⟨⟨_, _, _⟩, rfl, he, hw, hs⟩ := h.1 ho
      cases SR.eq_of_lock W hl hs
      cases he.trans ho.symm; cases hw; rfl
    · obtain ⟨⟨_, _, _⟩, rfl, he, hw, hs⟩ := (h.2 ho).2 hl
      cases hs; cases he; cases hw; rfl

theorem decompress_sim (fuel : Nat) {s1 s2 : Lzx.St σ} (n : Nat) (hr : SR Q I s1 s2) (he : s1.error = .ok) :
    Out2 lock (SR Q I) E (fun _ a b => b = a) (Lzx.decompress S1 fuel s1 n) (Lzx.decompress S2 fuel s2 n) :=
  W.walk2.decompress (frameBody_sim W)
    (fun fuel ob _ _ _ _ hm => (CountLaws.Lzx.frameBody_throws S1 fuel ob).out _ _ _ hm rfl)
    (fun _ _ _ ⟨_, _, _, h⟩ => h ▸ rfl) fuel n hr he

end MsPack.CabLift.LzxSim

namespace MsPack.CountLaws.Lzx
open MsPack.Lzx

theorem decompress_outcome {σ : Type} {S : Src σ} {I : St σ → Prop} {E : Lzx.Halt → St σ → Prop} (W : Walk S I E)
    {fuel : Nat} {st : St σ} {n : Nat} {o : DecodeOut (St σ)} (he : st.error = .ok) (hi : I st)
    (h : Lzx.decompress S fuel st n = .ok o) : (o.err = .ok ∧ I o.st) ∨ E (.sys o.err) o.st := by
  have := CabLift.LzxSim.decompress_sim W.toSim fuel n (s1 := st) ⟨hi, _, rfl, rfl⟩ he
  rw [h] at this
  by_cases ho : o.err = .ok
  · obtain ⟨_, _, _, _, hr⟩ := this.1 ho
    exact .inl ⟨ho, hr.1⟩
  · exact .inr (this.2 ho).1

end MsPack.CountLaws.Lzx

namespace MsPack.CountLaws
namespace Qtm
open MsPack.Qtm
variable {σ : Type} (S : Src σ)

def HaltOk : Qtm.Halt → Prop
  | .sys e => e ≠ .ok
  | _ => True

/-- What a walk over the Quantum decoder asks of an exception condition `E`, given the invariant `I`: a fault is the
    source's own, one of `decodeSym`'s, or one of the decoder's, which is never a null dereference; a status is thrown
    by `fail` or by `read_input` when the source has nothing more. -/
structure Exits (S : Src σ) (I : Run σ → Prop) (E : Qtm.Halt → Run σ → Prop) : Prop where
  fault : ∀ f r, I r → (∀ w, f ≠ .nullDeref w) → E (.fault f) r
  readFault : ∀ f r, I r → S.read r.st.src r.st.inbufSize = .error f → E (.fault f) r
  symFault : ∀ f r m H L C, I r → decodeSym m H L C = .error f → E (.fault f) r
  fail : ∀ r, I r → E (.sys .decrunch) { r with st := { r.st with error := .decrunch } }
  readNone : ∀ r src, I r → S.read r.st.src r.st.inbufSize = .ok (none, src) →
    E (.sys .read) { r with st := { r.st with src := src, error := .read } }
  readEnd : ∀ r src, I r → S.read r.st.src r.st.inbufSize = .ok (some [], src) →
    E (.sys .read) { r with st := { r.st with src := src, error := .read } }

/-- What a walk asks of an invariant `I` that looks at `src`, `error` and `inbufSize` only.  Only `read_input` and
    `fail` touch these, so `I` survives every other step (`frame`); `readMore` is the read that brings bytes. -/
structure Walk (S : Src σ) (I : Run σ → Prop) (E : Qtm.Halt → Run σ → Prop) : Prop extends Exits S I E where
  frame : ∀ {a b : Run σ}, I a → b.st.src = a.st.src → b.st.error = a.st.error →
    b.st.inbufSize = a.st.inbufSize → I b
  readMore : ∀ r got src (b : Run σ), I r → S.read r.st.src r.st.inbufSize = .ok (some got, src) →
    b.st.src = src → b.st.error = r.st.error → b.st.inbufSize = r.st.inbufSize → I b

/-- As `Walk`, for an `I` that may also look at `written` and `outBytes`.  These change in `writeOut n` and in the
    `out_bytes -= n` after it, in mid-loop at the two pieces of `QtmPieces.lean`; each piece is asked for as a whole
    (`flush`, `wrap`), given its continuation.  The loops are walked for this structure; `Walk.walkOut` brings the
    invariants that look at neither field here, `CountLawsQtm.lean` the balance "written + owed = asked". -/
structure WalkOut (S : Src σ) (I : Run σ → Prop) (E : Qtm.Halt → Run σ → Prop) : Prop extends Exits S I E where
  frame : ∀ {a b : Run σ}, I a → b.st.src = a.st.src → b.st.error = a.st.error →
    b.st.inbufSize = a.st.inbufSize → b.written = a.written → b.outBytes = a.outBytes → I b
  readMore : ∀ r got src (b : Run σ), I r → S.read r.st.src r.st.inbufSize = .ok (some got, src) →
    b.st.src = src → b.st.error = r.st.error → b.st.inbufSize = r.st.inbufSize → b.written = r.written →
    b.outBytes = r.outBytes → I b
  flush : ∀ (ws : Nat) {k : QM σ Unit}, Tri I E k → Tri I E (flushThen ws k)
  wrap : ∀ {k : QM σ Unit}, Tri I E k → Tri I E (wrapThen k)

theorem setModel_src (st : Qtm.St σ) (id : MId) (m : Model) : (st.setModel id m).src = st.src := by
  cases id <;> rfl
theorem setModel_error (st : Qtm.St σ) (id : MId) (m : Model) : (st.setModel id m).error = st.error := by
  cases id <;> rfl
theorem setModel_inbufSize (st : Qtm.St σ) (id : MId) (m : Model) :
    (st.setModel id m).inbufSize = st.inbufSize := by
  cases id <;> rfl

/-! `readInput` and `fail` by hand; the bit reader, `trailerScan` and `symbolLoop` from the walk of `QtmSim.lean` for the
source against itself (`WalkOut.walk2`, `WalkOut.tri_of_sim`); the others are `unfold f; tri_auto [callees]`.  That goes
through because outside the two pieces `f` reaches `src`, `error`, `inbufSize`, `written`, `outBytes` only through
`readInput` and `fail`: at every other `set`/`modify` `tri_close` applies `WalkOut.frame` to the latest `I` hypothesis (the
state the last `get` returned, or the one `modify` is applied to) with five `rfl`s, and at a `throw` of one of the
decoder's own faults `tri_throw_close` applies `Exits.fault`. -/
section walk
variable {S} {I : Run σ → Prop} {E : Qtm.Halt → Run σ → Prop}

theorem liftF_walk {α : Type} (x : Except Fault α) (hx : ∀ f r, I r → x = .error f → E (.fault f) r) :
    Tri I E (liftF (σ := σ) x) := by
  unfold liftF
  split
  · exact Tri.pure _ _ _
  · exact Tri.throw fun r hr => hx _ r hr rfl

theorem fail_walk {α : Type} (hf : ∀ r, I r → E (.sys .decrunch) { r with st := { r.st with error := .decrunch } }) :
    Tri I E (Qtm.fail (σ := σ) (α := α) .decrunch) := by
  constructor
  intro r hi res s' h
  rw [fail_run] at h
  cases h
  exact hf r hi

variable (W : WalkOut S I E)
include W

local macro_rules | `(tactic| tri_throw_close) => `(tactic| exact Exits.fault (WalkOut.toExits ‹_›) _ _ ‹_› nofun)

local macro_rules | `(tactic| tri_close) => `(tactic| (refine WalkOut.frame ‹_› ‹_› ?_ ?_ ?_ ?_ ?_ <;> rfl))

theorem readInput_walk : Tri I E (Qtm.readInput S) := by
  constructor
  intro r hi res s' h
  unfold Qtm.readInput at h
  rw [run_get_bind] at h
  split at h
  · rw [ReadErr.run_throw] at h; cases h; exact W.readFault _ _ hi ‹_›
  · rename_i src hrd
    rw [ReadErr.run_set_bind, ReadErr.run_throw] at h; cases h
    exact W.readNone r src hi hrd
  · rename_i src hrd
    split at h
    · rw [ReadErr.run_set_bind, ReadErr.run_throw] at h; cases h
      exact W.readEnd r src hi hrd
    · rw [ReadErr.run_set] at h; cases h
      exact W.readMore r _ src _ hi hrd rfl rfl rfl rfl rfl
  · rename_i got src _ hrd
    rw [ReadErr.run_set] at h; cases h
    exact W.readMore r _ src _ hi hrd rfl rfl rfl rfl rfl

def DR (I : Run σ → Prop) (a b : Run σ) : Prop := I a ∧ b = a

omit W in
theorem WalkOut.sim_of_tri {α : Type} {m : QM σ α} (h : Tri I E m) : Sim True (DR I) E m m :=
  Sim.of_tri (fun _ _ h => h.2) ⟨fun st hi r s' hm => by
    have := h.out st hi.1 r s' hm
    cases r with
    | ok _ => exact ⟨this, rfl⟩
    | error _ => exact this⟩

omit W in
theorem WalkOut.tri_of_sim {α : Type} {m : QM σ α} (h : Sim True (DR I) E m m) : Tri I E m := by
  refine ⟨fun st hi r s' hm => ?_⟩
  have := (Sim.tri (fun _ _ h => h.2) h).out st ⟨hi, rfl⟩ r s' hm
  cases r with
  | ok _ => exact this.1
  | error _ => exact this

theorem WalkOut.walk2 : Walk2 True (DR I) E (fun _ a b => b = a) S S where
  split := fun {a b} h => ⟨a.st.src, a.loose, h.2⟩
  same := fun {a a' x l} ⟨hi, h⟩ hv => by
    have hl : l = a.loose := (Run.loose_put2 a x l).symm.trans (congrArg Run.loose h)
    have hx : x = a.st.src := congrArg (·.st.src) h
    have hv1 : a'.loose = a.loose := congrArg (fun v => v.1.1) hv
    have hv2 : a'.st.src = a.st.src := congrArg (fun v => v.2.1) hv
    subst hl hx
    refine ⟨W.frame hi hv2 (congrArg (fun v => v.2.2.1) hv) (congrArg (fun v => v.2.2.2.1) hv)
      (congrArg (fun v => v.2.2.2.2.1) hv) (congrArg (fun v => v.2.2.2.2.2) hv), ?_⟩
    rw [← hv1, ← hv2]
    rfl
  oob := fun _ => WalkOut.sim_of_tri (Tri.throw fun r hr => W.fault _ r hr nofun)
  shiftWidth := WalkOut.sim_of_tri (Tri.throw fun r hr => W.fault _ r hr nofun)
  hang := WalkOut.sim_of_tri (Tri.throw fun r hr => W.fault _ r hr nofun)
  fail := WalkOut.sim_of_tri (fail_walk W.fail)
  read := WalkOut.sim_of_tri (readInput_walk W)
  flush := fun ws _ h => WalkOut.sim_of_tri (W.flush ws (WalkOut.tri_of_sim h))

theorem ensureBits_walk (n k : Nat) : Tri I E (Qtm.ensureBits S n k) := WalkOut.tri_of_sim (W.walk2.ensureBits n k)

theorem peekBits_walk (n : Nat) : Tri I E (Qtm.peekBits (σ := σ) n) := WalkOut.tri_of_sim (W.walk2.peekBits n)

theorem removeBits_walk (n : Nat) : Tri I E (Qtm.removeBits (σ := σ) n) := WalkOut.tri_of_sim (W.walk2.removeBits n)

theorem readBits_walk (n : Nat) : Tri I E (Qtm.readBits S n) := WalkOut.tri_of_sim (W.walk2.readBits n)

theorem renorm_walk : ∀ fuel, Tri I E (renorm S fuel) := by
  intro fuel
  induction fuel with
  | zero => rw [renorm.eq_1]; tri_auto
  | succ fuel ih =>
    rw [renorm.eq_2]; tri_auto [ensureBits_walk W, peekBits_walk W, removeBits_walk W]

theorem getSymbol_walk (fuel : Nat) (id : MId) : Tri I E (getSymbol S fuel id) := by
  unfold getSymbol
  refine Tri.get_bind fun r hr => Tri.bind (liftF_walk _ fun f r hr => W.symFault f r _ _ _ _ hr) fun o => Tri.bind (Tri.set ?_) fun _ =>
    Tri.bind (renorm_walk W fuel) fun _ => Tri.pure _ _ _
  exact W.frame hr (setModel_src _ _ _) (setModel_error _ _ _) (setModel_inbufSize _ _ _) rfl rfl

theorem trailerScan_walk (fuel : Nat) : Tri I E (trailerScan S fuel) := WalkOut.tri_of_sim (W.walk2.trailerScan fuel)

theorem symbolLoop_walk (fuel frameEnd n : Nat) : Tri I E (symbolLoop S fuel frameEnd n) :=
  WalkOut.tri_of_sim (W.walk2.symbolLoop (fun fuel id => WalkOut.sim_of_tri (getSymbol_walk W fuel id)) fuel frameEnd n)

theorem blockLoop_walk (fuel : Nat) : ∀ n, Tri I E (Qtm.blockLoop S fuel n) := by
  intro n
  induction n with
  | zero => rw [Qtm.blockLoop.eq_1]; tri_auto
  | succ n ih =>
    rw [blockLoop_succ]
    tri_auto [readBits_walk W, symbolLoop_walk W, fail_walk W.fail, removeBits_walk W, trailerScan_walk W, W.wrap]

end walk

/-! An invariant that looks at neither `written` nor `outBytes` passes the two pieces step by step, and `body`'s last
write as well. -/
section free
variable {S} {I : Run σ → Prop} {E : Qtm.Halt → Run σ → Prop} (W : Walk S I E)
include W

local macro_rules | `(tactic| tri_throw_close) => `(tactic| exact Exits.fault (Walk.toExits ‹_›) _ _ ‹_› nofun)

local macro_rules | `(tactic| tri_close) => `(tactic| (refine Walk.frame ‹_› ‹_› ?_ ?_ ?_ <;> rfl))

theorem Walk.writeOut (p n : Nat) : Tri I E (writeOut (σ := σ) p n) := by
  constructor
  intro r hi res s' h
  rw [writeOut_run] at h
  split at h <;> cases h
  · exact W.fault _ _ hi nofun
  · exact W.frame hi rfl rfl rfl

theorem Walk.flush (ws : Nat) {k : QM σ Unit} (hk : Tri I E k) : Tri I E (flushThen ws k) := by
  unfold flushThen
  tri_auto [fail_walk W.fail, W.writeOut, hk]

theorem Walk.wrap {k : QM σ Unit} (hk : Tri I E k) : Tri I E (wrapThen k) := by
  unfold wrapThen
  tri_auto [W.writeOut, hk]

theorem Walk.walkOut : WalkOut S I E where
  toExits := W.toExits
  frame := fun h h1 h2 h3 _ _ => W.frame h h1 h2 h3
  readMore := fun r got src b h hr h1 h2 h3 _ _ => W.readMore r got src b h hr h1 h2 h3
  flush := fun ws _ hk => W.flush ws hk
  wrap := fun hk => W.wrap hk

theorem body_walk (fuel : Nat) : Tri I E (body S fuel) := by
  rw [body_eq]
  tri_auto [blockLoop_walk W.walkOut, W.writeOut]

end free

theorem haltOk_walk : Walk S (fun _ => True) (fun e _ => HaltOk e) where
  frame := fun _ _ _ _ => trivial
  fault := fun _ _ _ _ => trivial
  readFault := fun _ _ _ _ => trivial
  symFault := fun _ _ _ _ _ _ _ _ => trivial
  fail := fun _ _ => (nofun : Err.decrunch ≠ Err.ok)
  readNone := fun _ _ _ _ => (nofun : Err.read ≠ Err.ok)
  readEnd := fun _ _ _ _ => (nofun : Err.read ≠ Err.ok)
  readMore := fun _ _ _ _ _ _ _ _ _ => trivial

theorem body_throws (fuel : Nat) : Throws HaltOk (body S fuel) :=
  (body_walk (haltOk_walk S) fuel).throws

end Qtm
end MsPack.CountLaws
