import MsPack.Qtm.Invariant
/-!
# Quantum: the adaptive models never leave their arrays and never divide by zero

`Model.Ok B m` is the invariant of one `struct qtmd_model` between two `GET_SYMBOL`s: `1 ≤ entries ≤ 64` with the
sentinel slot `syms[entries]` inside the array, the stored symbols `< B` (the sort of `qtmd_update_model` permutes them,
never changes them), `cumfreq` strictly decreasing down to the sentinel `0`, and `cumfreq[0] ≤ 3800`.  `decodeSym`
(= `GET_SYMBOL` without the renormalisation) is walked once, `decodeSym_walk`: on `1 ≤ entries < syms.size` alone, with no
premise on the frequencies, it stays inside the model's array and `divZero` - raised on `syms[0].cumfreq = 0` - is the
only fault left; on `Model.Ok` it cannot fault at all.

The loops of `qtmd_update_model` are described first without any premise on the frequencies, by what they make of the
sequence `cf 0, cf 1, ..`: a downward loop makes each entry a function of its old value and the NEW next entry, the upward
one of its old value and the OLD next entry.  That the invariant survives is then arithmetic on sequences `Nat → Nat`,
with no model in it.  First branch: halving leaves entry `j` at most at `1904 + (entries - j)`, so the total at
`1904 + 64`.  Second branch: twice the sum of the new frequencies is at most the old total plus `entries`, so the sum is
at most `(3808 + 64) / 2`, and summing them up again cannot wrap.
-/
namespace MsPack.Qtm


def Model.el (m : Model) (k : Nat) : ModelSym := m.syms[k]?.getD default
def Model.cf (m : Model) (k : Nat) : Nat := (m.el k).cumfreq
def Model.sy (m : Model) (k : Nat) : Nat := (m.el k).sym

theorem Model.sym_el (m : Model) (i : Nat) (h : i < m.syms.size) : m.sym i = .ok (m.el i) := by
  simp [Model.sym, Model.el, h]

def Model.Sh (m m' : Model) : Prop := m'.entries = m.entries ∧ m'.syms.size = m.syms.size

theorem Model.Sh.refl (m : Model) : m.Sh m := ⟨rfl, rfl⟩
theorem Model.Sh.trans {a b c : Model} (h1 : a.Sh b) (h2 : b.Sh c) : a.Sh c :=
  ⟨h2.1.trans h1.1, h2.2.trans h1.2⟩

def Model.putCf (m : Model) (i v : Nat) : Model :=
  { m with syms := m.syms.setIfInBounds i { sym := m.sy i, cumfreq := v } }

theorem Model.setCumfreq_put (m : Model) (i v : Nat) (h : i < m.syms.size) :
    m.setCumfreq i v = .ok (m.putCf i v) := by
  simp [Model.setCumfreq, h, Model.putCf, Model.sy, Model.el, Array.setIfInBounds]

theorem Model.putCf_el (m : Model) (i v k : Nat) (h : i < m.syms.size) :
    (m.putCf i v).el k = if k = i then { sym := m.sy i, cumfreq := v } else m.el k := by
  simp only [Model.putCf, Model.el, Array.getElem?_setIfInBounds]
  by_cases hk : i = k
  · subst hk; simp [h]
  · have : ¬ k = i := fun e => hk e.symm
    simp [hk, this]

@[simp] theorem Model.putCf_entries' (m : Model) (i v : Nat) : (m.putCf i v).entries = m.entries := rfl

theorem Model.putCf_sh (m : Model) (i v : Nat) : m.Sh (m.putCf i v) :=
  ⟨rfl, by simp [Model.putCf]⟩

theorem Model.putCf_cf (m : Model) (i v k : Nat) (h : i < m.syms.size) :
    (m.putCf i v).cf k = if k = i then v else m.cf k := by
  simp only [Model.cf, Model.putCf_el _ _ _ _ h]
  split <;> rfl

theorem Model.putCf_sy (m : Model) (i v k : Nat) (h : i < m.syms.size) :
    (m.putCf i v).sy k = m.sy k := by
  simp only [Model.sy, Model.putCf_el _ _ _ _ h]
  split
  · rename_i hk; subst hk; rfl
  · rfl

theorem Model.setSym_spec (m : Model) (i : Nat) (s : ModelSym) (h : i < m.syms.size) :
    ∃ m', m.setSym i s = .ok m' ∧ m.Sh m' ∧ ∀ k, m'.el k = if k = i then s else m.el k := by
  refine ⟨_, Model.setSym_ok m i s h, ⟨rfl, by simp⟩, ?_⟩
  intro k
  simp only [Model.el, Array.getElem?_set]
  by_cases hk : i = k
  · subst hk; simp
  · have : ¬ k = i := fun e => hk e.symm
    simp [hk, this]


def sumF (f : Nat → Nat) : Nat → Nat
  | 0 => 0
  | n + 1 => sumF f n + f n

theorem sumF_congr (f g : Nat → Nat) (n : Nat) (h : ∀ k, k < n → g k = f k) : sumF g n = sumF f n := by
  induction n with
  | zero => rfl
  | succ n ih =>
    simp only [sumF]
    rw [ih (fun k hk => h k (by omega)), h n (by omega)]

theorem sumF_upd (f g : Nat → Nat) (i n : Nat) (hi : i < n) (h : ∀ k, k ≠ i → g k = f k) :
    sumF g n + f i = sumF f n + g i := by
  induction n with
  | zero => omega
  | succ n ih =>
    simp only [sumF]
    by_cases hn : i = n
    · subst hn
      have := sumF_congr f g i (fun k hk => h k (by omega))
      omega
    · have := ih (by omega)
      have := h n (fun e => hn e.symm)
      omega

theorem sumF_ge (f : Nat → Nat) (n : Nat) (h : ∀ k, k < n → 1 ≤ f k) : n ≤ sumF f n := by
  induction n with
  | zero => simp [sumF]
  | succ n ih =>
    simp only [sumF]
    have := ih (fun k hk => h k (by omega))
    have := h n (by omega)
    omega


/-- `struct qtmd_model` with the total `cumfreq[0]` at most `T`: between two `GET_SYMBOL`s `T = 3800` (`Model.Ok`:
    qtmd.c calls `qtmd_update_model` as soon as `syms[0].cumfreq > 3800`), right after the `+= 8` of `GET_SYMBOL`
    `T = 3808`.  64 is the size of the largest model (`m0sym` … `m3sym`). -/
structure Model.OkT (B T : Nat) (m : Model) : Prop where
  pos  : 1 ≤ m.entries
  lt   : m.entries < m.syms.size
  le64 : m.entries ≤ 64
  symB : ∀ k, k < m.entries → m.sy k < B
  dec  : ∀ k, k < m.entries → m.cf (k + 1) < m.cf k
  last : m.cf m.entries = 0
  top  : m.cf 0 ≤ T

abbrev Model.Ok (B : Nat) (m : Model) : Prop := m.OkT B 3800

theorem cf_le_of_dec (m : Model) (a : Nat) (hd : ∀ k, a ≤ k → k < m.entries → m.cf (k + 1) < m.cf k) :
    ∀ d, a + d ≤ m.entries → m.cf (a + d) + d ≤ m.cf a := by
  intro d
  induction d with
  | zero => intro _; simp
  | succ d ih =>
    intro h
    have h1 := ih (by omega)
    have h2 := hd (a + d) (by omega) (by omega)
    have : a + (d + 1) = a + d + 1 := by omega
    rw [this]; omega

theorem cf_le_top (m : Model) (hd : ∀ k, k < m.entries → m.cf (k + 1) < m.cf k) (j : Nat)
    (hj : j ≤ m.entries) : m.cf j ≤ m.cf 0 := by
  have := cf_le_of_dec m 0 (fun k _ hk => hd k hk) j (by omega)
  simp only [Nat.zero_add] at this
  omega


theorem initModel_el (dim start len : Nat) (fill : UInt8) (k : Nat) (hk : k ≤ len) (hl : len < dim) :
    (initModel dim start len fill).el k = { sym := (start + k) % 65536, cumfreq := (len - k) % 65536 } := by
  have : k < dim := by omega
  simp [Model.el, initModel, this, hk]

theorem initModel_Ok (dim start len : Nat) (fill : UInt8) (B : Nat) (h1 : 1 ≤ len) (h64 : len ≤ 64)
    (hl : len < dim) (hB : start + len ≤ B) : (initModel dim start len fill).Ok B := by
  have he : (initModel dim start len fill).entries = len := rfl
  refine ⟨by rw [he]; exact h1, by simp [initModel]; exact hl, by rw [he]; exact h64, ?_, ?_, ?_, ?_⟩
  · intro k hk
    rw [he] at hk
    simp only [Model.sy, initModel_el dim start len fill k (by omega) hl]
    omega
  · intro k hk
    rw [he] at hk
    simp only [Model.cf, initModel_el dim start len fill k (by omega) hl,
      initModel_el dim start len fill (k + 1) (by omega) hl]
    omega
  · simp only [he, Model.cf, initModel_el dim start len fill len (by omega) hl]
    omega
  · simp only [Model.cf, initModel_el dim start len fill 0 (by omega) hl]
    omega


theorem bumpLoop_spec (k : Nat) (m : Model) (hk : k ≤ m.entries) (hlt : m.entries < m.syms.size) :
    ∃ m', bumpLoop k m = .ok m' ∧ m.Sh m' ∧ (∀ j, m'.sy j = m.sy j) ∧
      (∀ j, m'.cf j = if j < k then (m.cf j + 8) % 65536 else m.cf j) := by
  induction k generalizing m with
  | zero => exact ⟨m, rfl, Model.Sh.refl m, fun _ => rfl, fun j => by simp⟩
  | succ i ih =>
    have h1 : i < m.syms.size := by omega
    simp only [bumpLoop, Model.sym_el _ _ h1, Model.setCumfreq_put _ _ _ h1, bind, Except.bind]
    obtain ⟨m', e, sh, hs, hc⟩ := ih (m.putCf i (((m.el i).cumfreq + 8) % 65536)) (by simp [Model.putCf]; omega)
      (by simp [Model.putCf]; omega)
    refine ⟨m', e, (Model.putCf_sh m i _).trans sh, ?_, ?_⟩
    · intro j; rw [hs j, Model.putCf_sy _ _ _ _ h1]
    · intro j
      rw [hc j, Model.putCf_cf _ _ _ _ h1]
      by_cases hji : j = i
      · subst hji
        have : ¬ j < j := by omega
        simp [this, Model.cf]
      · by_cases hlt' : j < i
        · have : j < i + 1 := by omega
          simp [hlt', this, hji]
        · have : ¬ j < i + 1 := by omega
          simp [hlt', this, hji]

def downLoop (g : Nat → Nat → Nat) : Nat → Model → Except Fault Model
  | 0, m => .ok m
  | i + 1, m => do
    let s ← m.sym i
    let nx ← m.sym (i + 1)
    downLoop g i (← m.setCumfreq i (g s.cumfreq nx.cumfreq))

def halve (c nx : Nat) : Nat := if c / 2 ≤ nx then (nx + 1) % 65536 else c / 2

theorem halveLoop_eq : ∀ k m, halveLoop k m = downLoop halve k m
  | 0, _ => rfl
  | k + 1, m => by simp only [halveLoop, downLoop, halve, halveLoop_eq k]

theorem resumLoop_eq : ∀ k m, resumLoop k m = downLoop (fun c nx => (c + nx) % 65536) k m
  | 0, _ => rfl
  | k + 1, m => by simp only [resumLoop, downLoop, resumLoop_eq k]

theorem downLoop_spec (g : Nat → Nat → Nat) (k : Nat) (m : Model) (hk : k < m.syms.size) :
    ∃ m', downLoop g k m = .ok m' ∧ m.Sh m' ∧ (∀ j, m'.sy j = m.sy j) ∧
      (∀ j, k ≤ j → m'.cf j = m.cf j) ∧ ∀ j, j < k → m'.cf j = g (m.cf j) (m'.cf (j + 1)) := by
  induction k generalizing m with
  | zero => exact ⟨m, rfl, .refl m, fun _ => rfl, fun _ _ => rfl, nofun⟩
  | succ i ih =>
    have h1 : i < m.syms.size := by omega
    simp only [downLoop, Model.sym_el _ _ h1, Model.sym_el _ _ hk, Model.setCumfreq_put _ _ _ h1, bind, Except.bind]
    obtain ⟨m', e, sh, hs, hge, hlt⟩ := ih (m.putCf i (g (m.cf i) (m.cf (i + 1)))) (by simp [Model.putCf]; omega)
    simp only [Model.putCf_cf _ _ _ _ h1] at hge hlt
    refine ⟨m', e, (Model.putCf_sh m i _).trans sh, fun j => by rw [hs j, Model.putCf_sy _ _ _ _ h1],
      fun j hj => by rw [hge j (by omega), if_neg (by omega)], fun j hj => ?_⟩
    by_cases hji : j = i
    · subst hji
      rw [hge j (Nat.le_refl _), hge (j + 1) (by omega), if_pos rfl, if_neg (by omega)]
    · rw [hlt j (by omega), if_neg hji]

def toFreq (c nx : Nat) : Nat := ((c + 65536 - nx) % 65536 + 1) % 65536 / 2

theorem toFreqLoop_cf (k i : Nat) (m : Model) (hk : i + k < m.syms.size) :
    ∃ m', toFreqLoop k i m = .ok m' ∧ m.Sh m' ∧ (∀ j, m'.sy j = m.sy j) ∧
      ∀ j, m'.cf j = if i ≤ j ∧ j < i + k then toFreq (m.cf j) (m.cf (j + 1)) else m.cf j := by
  induction k generalizing m i with
  | zero => exact ⟨m, rfl, .refl m, fun _ => rfl, fun j => by rw [if_neg (by omega)]⟩
  | succ k ih =>
    have h1 : i < m.syms.size := by omega
    have h2 : i + 1 < m.syms.size := by omega
    simp only [toFreqLoop, Model.sym_el _ _ h1, Model.sym_el _ _ h2, Model.setCumfreq_put _ _ _ h1, bind, Except.bind]
    obtain ⟨m', e, sh, hs, hc⟩ := ih (i + 1) (m.putCf i _) (by simp [Model.putCf]; omega)
    simp only [Model.putCf_cf _ _ _ _ h1] at hc
    refine ⟨m', e, (Model.putCf_sh m i _).trans sh, fun j => by rw [hs j, Model.putCf_sy _ _ _ _ h1], fun j => ?_⟩
    rw [hc j]
    by_cases hji : j = i
    · subst hji; rw [if_neg (by omega), if_pos rfl, if_pos (by omega)]; rfl
    · by_cases hj : i + 1 ≤ j ∧ j < i + 1 + k
      · rw [if_pos hj, if_neg hji, if_neg (by omega), if_pos (by omega)]
      · rw [if_neg hj, if_neg hji, if_neg (by omega)]

theorem sortInner_spec (P : ModelSym → Prop) (k i j : Nat) (m : Model) (hi : i < m.entries)
    (hij : i < j) (hk : j + k ≤ m.entries) (hlt : m.entries < m.syms.size)
    (hP : ∀ t, t < m.entries → P (m.el t)) :
    ∃ m', sortInner k i j m = .ok m' ∧ m.Sh m' ∧ (∀ t, m.entries ≤ t → m'.el t = m.el t) ∧
      (∀ t, t < m.entries → P (m'.el t)) ∧ sumF m'.cf m.entries = sumF m.cf m.entries := by
  induction k generalizing m j with
  | zero => exact ⟨m, rfl, Model.Sh.refl m, fun _ _ => rfl, hP, rfl⟩
  | succ k ih =>
    have h1 : i < m.syms.size := by omega
    have h2 : j < m.syms.size := by omega
    simp only [sortInner, Model.sym_el _ _ h1, Model.sym_el _ _ h2, bind, Except.bind]
    split
    · obtain ⟨ma, ea, sa, ela⟩ := Model.setSym_spec m i (m.el j) h1
      obtain ⟨mb, eb, sb, elb⟩ := Model.setSym_spec ma j (m.el i) (by rw [sa.2]; exact h2)
      simp only [ea, eb]
      have hen : mb.entries = m.entries := by rw [sb.1, sa.1]
      have elb' : ∀ t, mb.el t = if t = j then m.el i else if t = i then m.el j else m.el t := by
        intro t; rw [elb, ela]
      obtain ⟨m', e', s', hge, hP', hsum⟩ := ih (j + 1) mb (by rw [hen]; exact hi) (by omega)
        (by rw [hen]; omega)
        (by rw [hen, sb.2, sa.2]; exact hlt)
        (by intro t ht
            rw [hen] at ht
            rw [elb']
            split
            · exact hP i hi
            · split
              · exact hP j (by omega)
              · exact hP t ht)
      rw [hen] at hge hP' hsum
      refine ⟨m', e', (sa.trans sb).trans s', ?_, hP', ?_⟩
      · intro t ht
        rw [hge t ht, elb']
        have h3 : ¬ t = j := by omega
        have h4 : ¬ t = i := by omega
        simp only [h3, h4, if_false]
      · rw [hsum]
        have ha := sumF_upd m.cf ma.cf i m.entries hi (by
          intro t ht; simp only [Model.cf, ela, ht, if_false])
        have hb := sumF_upd ma.cf mb.cf j m.entries (by omega) (by
          intro t ht; simp only [Model.cf, elb, ht, if_false])
        have hai : ma.cf i = m.cf j := by simp only [Model.cf, ela, if_true]
        have haj : ma.cf j = m.cf j := by
          have : ¬ j = i := by omega
          simp only [Model.cf, ela, this, if_false]
        have hbj : mb.cf j = m.cf i := by simp only [Model.cf, elb, if_true]
        omega
    · simp only [pure, Except.pure]
      exact ih (j + 1) m hi (by omega) (by omega) hlt hP

theorem sortOuter_spec (P : ModelSym → Prop) (k i : Nat) (m : Model) (hk : i + k + 1 ≤ m.entries)
    (hlt : m.entries < m.syms.size) (hP : ∀ t, t < m.entries → P (m.el t)) :
    ∃ m', sortOuter k i m = .ok m' ∧ m.Sh m' ∧ (∀ t, m.entries ≤ t → m'.el t = m.el t) ∧
      (∀ t, t < m.entries → P (m'.el t)) ∧ sumF m'.cf m.entries = sumF m.cf m.entries := by
  induction k generalizing m i with
  | zero => exact ⟨m, rfl, Model.Sh.refl m, fun _ _ => rfl, hP, rfl⟩
  | succ k ih =>
    obtain ⟨m1, e1, s1, g1, p1, q1⟩ := sortInner_spec P (m.entries - (i + 1)) i (i + 1) m (by omega)
      (by omega) (by omega) hlt hP
    simp only [sortOuter, e1, bind, Except.bind]
    obtain ⟨m2, e2, s2, g2, p2, q2⟩ := ih (i + 1) m1 (by rw [s1.1]; omega) (by rw [s1.1, s1.2]; exact hlt)
      (by rw [s1.1]; exact p1)
    rw [s1.1] at g2 p2 q2
    exact ⟨m2, e2, s1.trans s2, fun t ht => by rw [g2 t ht, g1 t ht], p2, by rw [q2, q1]⟩

theorem down_seq (c' : Nat → Nat) (n : Nat) (I : Nat → Prop) (h0 : I n)
    (step : ∀ j, j < n → I (j + 1) → c' (j + 1) < c' j ∧ I j) : (∀ j, j < n → c' (j + 1) < c' j) ∧ I 0 := by
  have : ∀ d, d ≤ n → (∀ j, n - d ≤ j → j < n → c' (j + 1) < c' j) ∧ I (n - d) := by
    intro d
    induction d with
    | zero => exact fun _ => ⟨fun j h1 h2 => by omega, h0⟩
    | succ d ih =>
      intro hd
      obtain ⟨i1, i2⟩ := ih (by omega)
      have e : n - d = n - (d + 1) + 1 := by omega
      obtain ⟨s1, s2⟩ := step (n - (d + 1)) (by omega) (e ▸ i2)
      refine ⟨fun j h1 h2 => ?_, s2⟩
      by_cases hje : j = n - (d + 1)
      · subst hje; exact s1
      · exact i1 j (by omega) h2
  have := this n (Nat.le_refl _)
  rw [Nat.sub_self] at this
  exact ⟨fun j => this.1 j (Nat.zero_le _), this.2⟩

/-- 1904 = 3808 / 2; a repaired entry is the next one plus 1, hence the `n - j` -/
theorem halve_seq (c c' : Nat → Nat) (n : Nat) (hn : n ≤ 64) (hc : ∀ j, j ≤ n → c j ≤ 3808) (h0 : c' n = 0)
    (hr : ∀ j, j < n → c' j = halve (c j) (c' (j + 1))) :
    (∀ j, j < n → c' (j + 1) < c' j) ∧ c' 0 ≤ 1904 + n :=
  down_seq c' n (fun j => c' j ≤ 1904 + (n - j)) (by rw [h0]; omega) fun j hj i => by
    have := hc j (by omega)
    rw [hr j hj, halve]
    split <;> omega

theorem resum_seq (c c' : Nat → Nat) (n : Nat) (hp : ∀ j, j < n → 1 ≤ c j) (h0 : c' n = 0) (hT : sumF c n ≤ 65535)
    (hr : ∀ j, j < n → c' j = (c j + c' (j + 1)) % 65536) :
    (∀ j, j < n → c' (j + 1) < c' j) ∧ c' 0 = sumF c n := by
  have := down_seq c' n (fun j => sumF c j + c' j = sumF c n) (by rw [h0]; rfl) fun j hj i => by
    have := hp j hj
    rw [sumF] at i
    rw [hr j hj]
    omega
  simpa [sumF] using this

/-- a frequency `f` becomes `(f + 1) / 2` -/
theorem toFreq_le {c nx : Nat} (h : nx < c) (hc : c ≤ 3808) : 1 ≤ toFreq c nx ∧ 2 * toFreq c nx + nx ≤ c + 1 := by
  unfold toFreq; omega

theorem toFreq_seq (c c' : Nat → Nat) (n : Nat) (hdec : ∀ j, j < n → c (j + 1) < c j) (hb : ∀ j, j ≤ n → c j ≤ 3808)
    (hr : ∀ j, j < n → c' j = toFreq (c j) (c (j + 1))) :
    (∀ j, j < n → 1 ≤ c' j) ∧ 2 * sumF c' n + c n ≤ c 0 + n := by
  induction n with
  | zero => exact ⟨nofun, by simp [sumF]⟩
  | succ n ih =>
    obtain ⟨i1, i2⟩ := ih (fun j hj => hdec j (by omega)) (fun j hj => hb j (by omega)) (fun j hj => hr j (by omega))
    have := toFreq_le (hdec n (by omega)) (hb n (by omega))
    rw [← hr n (by omega)] at this
    refine ⟨fun j hj => ?_, by rw [sumF]; omega⟩
    by_cases hjn : j = n
    · subst hjn; exact this.1
    · exact i1 j (by omega)

theorem updateModel_walk (m : Model) (h1 : 1 ≤ m.entries) (hlt : m.entries < m.syms.size) :
    ∃ m', updateModel m = .ok m' ∧ m.Sh m' ∧ ∀ B, m.OkT B 3808 → m'.Ok B := by
  have ok : ∀ {m' : Model} {B}, m.OkT B 3808 → m.Sh m' → (∀ j, j < m.entries → m'.sy j < B) →
      (∀ j, j < m.entries → m'.cf (j + 1) < m'.cf j) → m'.cf m.entries = 0 → m'.cf 0 ≤ 3800 → m'.Ok B :=
    fun h sh y d l t => ⟨sh.1 ▸ h.pos, sh.1 ▸ sh.2 ▸ h.lt, sh.1 ▸ h.le64, sh.1 ▸ y, sh.1 ▸ d, sh.1 ▸ l, t⟩
  have hall : ∀ {B}, m.OkT B 3808 → ∀ j, j ≤ m.entries → m.cf j ≤ 3808 :=
    fun h j hj => Nat.le_trans (cf_le_top m h.dec j hj) h.top
  by_cases hsl : m.shiftsleft - 1 ≠ 0
  · simp only [updateModel]
    rw [if_pos hsl, halveLoop_eq]
    obtain ⟨m', e, sh, hs, hge, hr⟩ := downLoop_spec halve m.entries { m with shiftsleft := m.shiftsleft - 1 } hlt
    refine ⟨m', e, sh, fun B h => ?_⟩
    have l := (hge _ (Nat.le_refl _)).trans h.last
    obtain ⟨d, t⟩ := halve_seq m.cf m'.cf m.entries h.le64 (hall h) l hr
    exact ok h sh (fun j hj => hs j ▸ h.symB j hj) d l (by have := h.le64; omega)
  · simp only [updateModel]
    rw [if_neg hsl]
    obtain ⟨m1, e1, s1, y1, c1⟩ := toFreqLoop_cf m.entries 0 { m with shiftsleft := 50 } (by simpa using hlt)
    have fr : ∀ {B}, m.OkT B 3808 → (∀ j, j < m.entries → 1 ≤ m1.cf j) ∧ 2 * sumF m1.cf m.entries + m.cf m.entries ≤ m.cf 0 + m.entries :=
      fun h => toFreq_seq m.cf m1.cf m.entries h.dec (hall h) fun j hj => by
        rw [c1 j, if_pos ⟨Nat.zero_le _, by omega⟩]; rfl
    have en1 : m1.entries = m.entries := s1.1
    obtain ⟨m2, e2, s2, g2, p2, q2⟩ := sortOuter_spec (fun x => ∀ B, m.OkT B 3808 → x.sym < B ∧ 1 ≤ x.cumfreq)
      (m1.entries - 1) 0 m1 (by omega) (s1.1 ▸ s1.2 ▸ hlt) fun t ht B h =>
        ⟨by show m1.sy t < B; rw [y1 t]; exact h.symB t (en1 ▸ ht), (fr h).1 t (en1 ▸ ht)⟩
    have en2 : m2.entries = m.entries := s2.1.trans en1
    rw [en1] at g2 p2 q2
    obtain ⟨m3, e3, s3, y3, g3, r3⟩ := downLoop_spec (fun c nx => (c + nx) % 65536) m2.entries m2
      (s2.1 ▸ s2.2 ▸ s1.1 ▸ s1.2 ▸ hlt)
    rw [en2] at g3 r3
    simp only [bind, Except.bind, e1, e2, resumLoop_eq, e3]
    refine ⟨m3, rfl, (s1.trans s2).trans s3, fun B h => ?_⟩
    have l3 : m3.cf m.entries = 0 := by
      rw [g3 _ (Nat.le_refl _)]
      show (m2.el m.entries).cumfreq = 0
      rw [g2 _ (Nat.le_refl _)]
      show m1.cf m.entries = 0
      rw [c1, if_neg (by omega)]; exact h.last
    have := (fr h).2
    have := h.top; have := h.le64
    obtain ⟨d, t⟩ := resum_seq m2.cf m3.cf m.entries (fun j hj => (p2 j hj B h).2) l3 (by omega) r3
    exact ok h ((s1.trans s2).trans s3) (fun j hj => y3 j ▸ (p2 j hj B h).1) d l3 (by omega)

theorem Model.WF.sh {dim : Nat} {m m' : Model} (hw : m.WF dim) (s : m.Sh m') : m'.WF dim :=
  ⟨s.2.trans hw.size, s.1 ▸ hw.entries⟩

theorem scanSym_ok {dim : Nat} (m : Model) (hw : m.WF dim) (symf k i : Nat) (hk : i + k ≤ m.entries) :
    ∃ j, scanSym m symf k i = .ok j ∧ i ≤ j ∧ j ≤ i + k := by
  induction k generalizing i with
  | zero => exact ⟨i, rfl, Nat.le_refl _, Nat.le_refl _⟩
  | succ k ih =>
    have hs := hw.size; have he := hw.entries
    have h1 : i < m.syms.size := by omega
    simp only [scanSym, Model.sym_ok _ _ h1, bind, Except.bind]
    split
    · exact ⟨i, rfl, Nat.le_refl _, by omega⟩
    · obtain ⟨j, e, a, b⟩ := ih (i + 1) (by omega)
      exact ⟨j, e, by omega, by omega⟩

theorem bump_OkT {B i : Nat} {m m1 : Model} (h : m.Ok B) (hi : i ≤ m.entries) (s1 : m.Sh m1)
    (y1 : ∀ j, m1.sy j = m.sy j) (c1 : ∀ j, m1.cf j = if j < i then (m.cf j + 8) % 65536 else m.cf j) :
    m1.OkT B 3808 := by
  have c1' : ∀ j, j ≤ m.entries → m1.cf j = if j < i then m.cf j + 8 else m.cf j := by
    intro j hj
    rw [c1 j]
    have := Nat.le_trans (cf_le_top m h.dec j hj) h.top
    split
    · omega
    · rfl
  refine ⟨s1.1 ▸ h.pos, s1.1 ▸ s1.2 ▸ h.lt, s1.1 ▸ h.le64, fun k hk => y1 k ▸ h.symB k (s1.1 ▸ hk), fun k hk => ?_, ?_, ?_⟩
  · rw [s1.1] at hk
    rw [c1' k (by omega), c1' (k + 1) (by omega)]
    have := h.dec k hk
    split <;> split <;> omega
  · rw [s1.1, c1' _ (Nat.le_refl _), if_neg (by omega)]; exact h.last
  · rw [c1' 0 (by omega)]
    have := h.top
    split <;> omega

theorem decodeSym_walk (m : Model) (h1 : 1 ≤ m.entries) (hlt : m.entries < m.syms.size) (H L C : Nat) :
    (∃ o, decodeSym m H L C = .ok o ∧ m.Sh o.model ∧ ∀ B, m.Ok B → o.model.Ok B ∧ o.sym < B) ∨
    (decodeSym m H L C = .error .divZero ∧ m.cf 0 = 0) := by
  have h0 : 0 < m.syms.size := by omega
  obtain ⟨i, ei, ia, ib⟩ := scanSym_ok m ⟨rfl, hlt⟩
    ((((C + 1 + u32 - L) % u32 * (m.el 0).cumfreq + u32 - 1) % u32 / ((H + 65536 - L) % 65536 + 1)) % 65536)
    (m.entries - 1) 1 (by omega)
  have hi1 : i - 1 < m.syms.size := by omega
  have hi : i < m.syms.size := by omega
  have hie : i ≤ m.entries := by omega
  obtain ⟨m1, e1, s1, y1, c1⟩ := bumpLoop_spec i m hie hlt
  have h0' : 0 < m1.syms.size := by rw [s1.2]; exact h0
  have hsym : ∀ B, m.Ok B → (m.el (i - 1)).sym < B := fun B h => h.symB (i - 1) (by omega)
  unfold decodeSym
  simp only [Model.sym_el _ _ h0, bind, Except.bind, ei]
  have hr : ¬ ((H + 65536 - L) % 65536 + 1 = 0) := by omega
  simp only [hr, if_false, pure, Except.pure]
  have hi0 : ¬ (i = 0) := by omega
  simp only [hi0, if_false, Model.sym_el _ _ hi1, Model.sym_el _ _ hi]
  by_cases ht : (m.el 0).cumfreq = 0
  · exact .inr ⟨by simp [ht, throw, throwThe, MonadExceptOf.throw], ht⟩
  · left
    simp only [ht, if_false, e1, Model.sym_el _ _ h0']
    split
    · obtain ⟨m2, e2, s2, k2⟩ := updateModel_walk m1 (s1.1 ▸ h1) (s1.1 ▸ s1.2 ▸ hlt)
      simp only [e2]
      exact ⟨_, rfl, s1.trans s2, fun B h => ⟨k2 B (bump_OkT h hie s1 y1 c1), hsym B h⟩⟩
    · rename_i hgt
      exact ⟨_, rfl, s1, fun B h => ⟨{ bump_OkT h hie s1 y1 c1 with top := Nat.le_of_not_lt hgt }, hsym B h⟩⟩

theorem decodeSym_ok {dim : Nat} (m : Model) (hw : m.WF dim) (h1 : 1 ≤ m.entries) (H L C : Nat) :
    (∃ o, decodeSym m H L C = .ok o ∧ o.model.WF dim ∧ o.model.entries = m.entries) ∨
    decodeSym m H L C = .error .divZero :=
  (decodeSym_walk m h1 (hw.size ▸ hw.entries) H L C).imp (fun ⟨o, e, s, _⟩ => ⟨o, e, hw.sh s, s.1⟩) (·.1)

theorem decodeSym_spec (B : Nat) (m : Model) (h : m.Ok B) (H L C : Nat) :
    ∃ o, decodeSym m H L C = .ok o ∧ o.model.Ok B ∧ o.sym < B :=
  (decodeSym_walk m h.pos h.lt H L C).elim (fun ⟨o, e, _, k⟩ => ⟨o, e, k B h⟩) fun ⟨_, z⟩ => by
    have := h.dec 0 h.pos
    omega
end MsPack.Qtm
