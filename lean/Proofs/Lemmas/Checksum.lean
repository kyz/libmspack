import MsPack.Cab.Checksum
/-
`cabd_checksum`: the seed enters only by XOR, and changing any single byte of the data changes the checksum
(`cksum_set_ne`, the fact behind C12).
-/
namespace MsPack.Cab

theorem xor_left_cancel {a x y : Nat} (h : a ^^^ x = a ^^^ y) : x = y := by
  have := congrArg (a ^^^ ·) h
  simpa [← Nat.xor_assoc] using this

theorem xor_right_cancel {a x y : Nat} (h : x ^^^ a = y ^^^ a) : x = y := by
  rw [Nat.xor_comm x, Nat.xor_comm y] at h; exact xor_left_cancel h

theorem cksum_seed (d : Bytes) : ∀ s, cksum d s = s ^^^ cksum d 0 := by
  refine cksum.induct (motive := fun d _ => ∀ s, cksum d s = s ^^^ cksum d 0) ?_ ?_ d 0
  · intro a b c d rest _ ih s
    rw [cksum, ih, cksum, ih (0 ^^^ _)]
    simp [Nat.xor_assoc]
  · intro tail _ h s
    rw [cksum, cksum]
    · simp
    · intro a b c d rest; exact h a b c d rest
    · intro a b c d rest; exact h a b c d rest

theorem le32_inj {a b c d a' b' c' d' : UInt8} (h : le32 a b c d = le32 a' b' c' d') :
    a = a' ∧ b = b' ∧ c = c' ∧ d = d' := by
  have := a.toNat_lt; have := b.toNat_lt; have := c.toNat_lt; have := d.toNat_lt
  have := a'.toNat_lt; have := b'.toNat_lt; have := c'.toNat_lt; have := d'.toNat_lt
  unfold le32 at h
  have e : a.toNat = a'.toNat ∧ b.toNat = b'.toNat ∧ c.toNat = c'.toNat ∧ d.toNat = d'.toNat := by omega
  exact ⟨UInt8.toNat_inj.mp e.1, UInt8.toNat_inj.mp e.2.1, UInt8.toNat_inj.mp e.2.2.1, UInt8.toNat_inj.mp e.2.2.2⟩


theorem cksumTail_set_ne (t : Bytes) (ht : t.length < 4) (i : Nat) (v : UInt8) (h : i < t.length)
    (hv : v ≠ t[i]) : cksumTail (t.set i v) ≠ cksumTail t := by
  have hvn : ∀ x : UInt8, v ≠ x → v.toNat ≠ x.toNat := fun x hx hc => hx (UInt8.toNat_inj.mp hc)
  rcases t with _ | ⟨a, _ | ⟨b, _ | ⟨c, _ | ⟨d, t⟩⟩⟩⟩
  · exact absurd h (Nat.not_lt_zero _)
  · obtain rfl : i = 0 := Nat.lt_one_iff.1 h
    exact hvn a hv
  · rcases i with _ | _ | i
    · exact fun e => hvn a hv (by have e : v.toNat * 256 + b.toNat = a.toNat * 256 + b.toNat := e; omega)
    · exact fun e => hvn b hv (by have e : a.toNat * 256 + v.toNat = a.toNat * 256 + b.toNat := e; omega)
    · exact absurd h (by simp only [List.length_cons, List.length_nil]; omega)
  · rcases i with _ | _ | _ | i
    · exact fun e => hvn a hv (by
        have e : v.toNat * 65536 + b.toNat * 256 + c.toNat = a.toNat * 65536 + b.toNat * 256 + c.toNat := e; omega)
    · exact fun e => hvn b hv (by
        have e : a.toNat * 65536 + v.toNat * 256 + c.toNat = a.toNat * 65536 + b.toNat * 256 + c.toNat := e; omega)
    · exact fun e => hvn c hv (by
        have e : a.toNat * 65536 + b.toNat * 256 + v.toNat = a.toNat * 65536 + b.toNat * 256 + c.toNat := e; omega)
    · exact absurd h (by simp only [List.length_cons, List.length_nil]; omega)
  · exact absurd ht (by simp only [List.length_cons]; omega)

/-- **Any single-byte alteration of the data changes `cabd_checksum`** (every length, every
    position, every replacement value, every seed). -/
theorem cksum_set_ne (d : Bytes) : ∀ (i : Nat) (v : UInt8) (s : Nat) (h : i < d.length),
    v ≠ d[i] → cksum (d.set i v) s ≠ cksum d s := by
  refine cksum.induct (motive := fun d _ => ∀ (i : Nat) (v : UInt8) (s : Nat) (h : i < d.length),
    v ≠ d[i] → cksum (d.set i v) s ≠ cksum d s) ?_ ?_ d 0
  · intro a b c d rest _ ih i v s h hv
    have key : ∀ a' b' c' d', (a', b', c', d') ≠ (a, b, c, d) →
        cksum (a' :: b' :: c' :: d' :: rest) s ≠ cksum (a :: b :: c :: d :: rest) s := by
      intro a' b' c' d' hne heq
      rw [cksum, cksum, cksum_seed rest (s ^^^ _), cksum_seed rest (s ^^^ le32 a b c d)] at heq
      have := le32_inj (xor_left_cancel (xor_right_cancel heq))
      apply hne; simp [this]
    match i, h, hv with
    | 0, _, hv => exact key v b c d (by simpa using hv)
    | 1, _, hv => exact key a v c d (by simpa using hv)
    | 2, _, hv => exact key a b v d (by simpa using hv)
    | 3, _, hv => exact key a b c v (by simpa using hv)
    | i + 4, h, hv =>
      simp only [List.set_cons_succ]
      rw [cksum, cksum]
      exact ih i v _ (by simpa using h) (by simpa using hv)
  · intro tail _ hnot i v s h hv
    have hlen : tail.length < 4 := by
      match tail, hnot with
      | [], _ => simp
      | [_], _ => simp
      | [_, _], _ => simp
      | [_, _, _], _ => simp
      | a :: b :: c :: d :: rest, hnot => exact absurd rfl (hnot a b c d rest)
    have hnot' : ∀ a b c d rest, tail.set i v = a :: b :: c :: d :: rest → False := by
      intro a b c d rest he
      have := congrArg List.length he; simp at this; omega
    rw [cksum, cksum]
    · intro heq; exact cksumTail_set_ne tail hlen i v h hv (xor_left_cancel heq)
    · exact hnot
    · exact hnot'

end MsPack.Cab
