import Proofs.Lemmas.ZipBounds
import Proofs.Lemmas.CountLaws
/-!
# The chunking law of `Zip.decompress`

`mszipd_decompress(zip, n)` serves the request from the bytes of the current frame that were not handed out yet
(`pending`) and inflates the next `CK` frame when they run out.  Asking for `a` bytes and then for `b` bytes is the
same as asking for `a + b` bytes at once: same status, same bytes, same decoder state.

One `decompressLoop` iteration is `frameStep` (`ZipParts.lean`).  The law is proved for `decompressN`, where the round
counts of the two calls add up, and carried to `decompress` (`chunk_join`, `chunk_split`) because more fuel gives the
same result unless the fuel ran out (`NH`).

First the status walk (`inflate_status`, `scanCK_status`): nothing below `mszipd_decompress` writes `repair`, and `error`
is written in one place: `read_input` stores MSPACK_ERR_READ immediately before it returns it.  This is the walk of
`CountLaws.lean` with the invariant `Stat e0 r0`.
-/
namespace MsPack.Zip
open MsPack.CountLaws

variable {σ : Type} (S : Src σ)

def Stat (e0 : Err) (r0 : Bool) (s : St σ) : Prop := s.error = e0 ∧ s.repair = r0

def StatExit (e0 : Err) (r0 : Bool) (h : Halt) (s : St σ) : Prop :=
  s.repair = r0 ∧
    match h with
    | .inf => s.error = e0
    | .sys e => e ≠ .ok ∧ s.error = e
    | .fault _ => True

theorem stat_walk (e0 : Err) (r0 : Bool) : CountLaws.Zip.Walk S (Stat e0 r0) (StatExit e0 r0) where
  frame := fun h _ he _ hr => ⟨he.trans h.1, hr.trans h.2⟩
  fault := fun _ _ h => ⟨h.2, trivial⟩
  inf := fun _ h => ⟨h.2, h.1⟩
  readNone := fun _ _ h _ => ⟨h.2, nofun, rfl⟩
  readEnd := fun _ _ h _ => ⟨h.2, nofun, rfl⟩
  readMore := fun _ _ _ _ h _ _ he _ hr => ⟨he.trans h.1, hr.trans h.2⟩

theorem inflate_status (e0 : Err) (r0 : Bool) (fuel : Nat) : Tri (Stat e0 r0) (StatExit e0 r0) (inflate S fuel) :=
  CountLaws.Zip.inflate_walk (stat_walk S e0 r0) fuel

theorem scanCK_status (e0 : Err) (r0 : Bool) (fuel state : Nat) :
    Tri (Stat e0 r0) (StatExit e0 r0) (scanCK S fuel state) :=
  CountLaws.Zip.scanCK_walk (stat_walk S e0 r0) fuel state

end MsPack.Zip

namespace MsPack.Zip.ZipChunk
open MsPack.Generated

variable {σ : Type} (S : Src σ)

def EOk (e0 : Err) (h : Halt) (s : St σ) : Prop :=
  match h with
  | .sys e => e ≠ .ok
  | .inf => s.error = e0
  | .fault _ => True

def K (e0 : Err) {α : Type} (m : ZM σ α) (st : St σ) : Prop :=
  match exec m st with
  | (.ok _, s) => s.error = e0
  | (.error h, s) => EOk e0 h s

section rules
variable {α β : Type} {e0 : Err}

theorem K_pure_bind (a : α) (f : α → ZM σ β) (st : St σ) : K e0 (pure a >>= f) st = K e0 (f a) st := by
  rw [pure_bind]
theorem K_get (st : St σ) : K e0 (get : ZM σ (St σ)) st = (st.error = e0) := by
  unfold K; rfl

theorem EOk_inf (s : St σ) : EOk e0 .inf s = (s.error = e0) := rfl
theorem EOk_fault (f : Fault) (s : St σ) : EOk e0 (.fault f) s = True := rfl
theorem EOk_sys (e : Err) (s : St σ) : EOk e0 (.sys e) s = (e ≠ .ok) := rfl
end rules

attribute [irreducible] K

theorem frameStep_status (fuel : Nat) (st : St σ) (r : FrameRes σ) (h : frameStep S fuel st = .ok r) :
    match r with
    | .stop e st' => e ≠ .ok ∧ st'.error = e ∧ st'.repair = st.repair
    | .frame se st' => st'.repair = st.repair ∧ (se = none → st'.error = st.error) ∧
        ∀ e, se = some e → e ≠ .ok ∧ st'.error = e ∧ st'.repair = true := by
  unfold frameStep at h
  dsimp only at h
  cases hr : (scanCK S fuel 0).run.run { st with bits := st.bits.drop (st.bits.length % 8) } with
  | mk r0 s =>
    have hs := (scanCK_status S st.error st.repair fuel 0).out
      { st with bits := st.bits.drop (st.bits.length % 8) } ⟨rfl, rfl⟩ r0 s hr
    rw [hr] at h
    cases r0 with
    | error e =>
      cases e with
      | fault g => cases h
      | inf => cases h; exact ⟨nofun, rfl, hs.1⟩
      | sys e => cases h; exact ⟨hs.2.1, hs.2.2, hs.1⟩
    | ok a =>
      cases a
      dsimp only at h
      cases hx : exec (inflate S fuel) { s with windowPosn := 0, bytesOutput := 0 } with
      | mk r1 s2 =>
        have hi := (inflate_status S st.error st.repair fuel).out
          { s with windowPosn := 0, bytesOutput := 0 } hs r1 s2 hx
        rw [runInflate_eq S hx] at h
        cases r1 with
        | ok u =>
          cases u
          simp only [ne_eq, not_true_eq_false, false_and, ↓reduceIte, Except.ok.injEq] at h
          subst h
          exact ⟨hi.2, fun _ => hi.1, nofun⟩
        | error e =>
          cases e with
          | fault g => cases h
          | inf =>
            dsimp only at h
            cases hrp : s2.repair with
            | false =>
              rw [if_pos ⟨nofun, by rw [hrp]; rfl⟩] at h
              cases h; exact ⟨nofun, rfl, hi.1⟩
            | true =>
              rw [if_neg (fun hc => by rw [hrp] at hc; exact nomatch hc.2)] at h
              cases h; exact ⟨hi.1, fun _ => hi.2, nofun⟩
          | sys e =>
            dsimp only at h
            cases hrp : s2.repair with
            | false =>
              rw [if_pos ⟨nofun, by rw [hrp]; rfl⟩] at h
              cases h; exact ⟨hi.2.1, rfl, hi.1⟩
            | true =>
              rw [if_neg (fun hc => by rw [hrp] at hc; exact nomatch hc.2)] at h
              cases h
              refine ⟨hi.1, nofun, fun e' he' => ?_⟩
              cases he'
              exact ⟨hi.2.1, hi.2.2, hrp⟩

def FrameOk : FrameRes σ → Prop
  | .stop e _ => e ≠ .ok
  | .frame se st' => WinOk st' ∧ st'.bytesOutput ≤ zipFRAME_SIZE ∧ (se = none → st'.error = .ok) ∧
      (∀ e, se = some e → e ≠ .ok)

theorem frameStep_spec (fuel : Nat) (st : St σ) (hw : WinOk st) (he : st.error = .ok) (r : FrameRes σ)
    (h : frameStep S fuel st = .ok r) : FrameOk r := by
  have hst := frameStep_status S fuel st r h
  cases r with
  | stop e st' => exact hst.1
  | frame se st' =>
    have hok := frameStep_ok S fuel st hw
    rw [h] at hok
    exact ⟨hok.1, hok.2, fun hn => (hst.2.1 hn).trans he, fun e hse => (hst.2.2 e hse).1⟩

def pre (w0 : Bytes) : Except Fault (Out σ) → Except Fault (Out σ)
  | .error f => .error f
  | .ok o => .ok ⟨o.err, w0 ++ o.written, o.st⟩

theorem pre_ok_inv {w0 : Bytes} {r : Except Fault (Out σ)} {e : Err} {w : Bytes} {st : St σ}
    (h : pre w0 r = .ok ⟨e, w, st⟩) : ∃ w', r = .ok ⟨e, w', st⟩ ∧ w = w0 ++ w' := by
  cases r with
  | error f => cases h
  | ok o =>
    obtain ⟨e', w', st'⟩ := o
    simp only [pre, Except.ok.injEq, Out.mk.injEq] at h
    obtain ⟨rfl, rfl, rfl⟩ := h
    exact ⟨w', rfl, rfl⟩

theorem pre_ok (w0 : Bytes) (e : Err) (w : Bytes) (st : St σ) :
    pre w0 (.ok ⟨e, w, st⟩) = .ok ⟨e, w0 ++ w, st⟩ := rfl

theorem loop_acc (fuel : Nat) : ∀ (n : Nat) (st : St σ) (out : Nat) (w0 w : Bytes),
    decompressLoop S fuel n st out (w0 ++ w) = pre w0 (decompressLoop S fuel n st out w) := by
  intro n
  induction n with
  | zero => intro st out w0 w; rw [decompressLoop.eq_1, decompressLoop.eq_1]; rfl
  | succ n ih =>
    intro st out w0 w
    rw [loop_succ, loop_succ]
    split
    · rfl
    · cases hfs : frameStep S fuel st with
      | error f => rfl
      | ok r =>
        cases r with
        | stop e st' => rfl
        | frame se st' =>
          dsimp only
          cases se with
          | some e => dsimp only; split <;> simp only [pre, List.append_assoc]
          | none => dsimp only; rw [List.append_assoc]; exact ih ..

def NH {α : Type} (m m' : ZM σ α) : Prop :=
  ∀ st, (exec m st).1 ≠ .error (.fault .hang) → exec m' st = exec m st

theorem NH.refl {α : Type} (m : ZM σ α) : NH m m := fun _ _ => rfl

theorem NH.bind2 {α β : Type} {x x' : ZM σ α} {f g : α → ZM σ β} (hx : NH x x') (h : ∀ a, NH (f a) (g a)) :
    NH (x >>= f) (x' >>= g) := by
  intro st hnh
  rw [exec_bind] at hnh ⊢
  rw [exec_bind]
  cases hr : exec x st with
  | mk r s =>
    rw [hr] at hnh
    have hx' : exec x' st = exec x st := by
      apply hx
      rw [hr]
      cases r with
      | ok a => exact fun hc => nomatch hc
      | error e => intro hc; cases hc; exact hnh rfl
    rw [hx', hr]
    cases r with
    | ok a => exact h a s hnh
    | error e => rfl

theorem NH.hang {α : Type} (m' : ZM σ α) : NH (throw (.fault .hang) : ZM σ α) m' := by
  intro st hnh
  exact absurd rfl hnh

theorem huffBlock_nh (lit dist : Huff.Canon) (k : Nat) : ∀ fuel : Nat,
    NH (huffBlock S lit dist fuel) (huffBlock S lit dist (fuel + k)) := by
  intro fuel
  induction fuel with
  | zero => rw [huffBlock.eq_1]; exact NH.hang _
  | succ fuel ih =>
    rw [Nat.add_right_comm, huffBlock_succ, huffBlock_succ]
    refine NH.bind2 (NH.refl _) (fun code => ?_)
    split
    · exact NH.bind2 (NH.refl _) (fun _ => ih)
    · split
      · exact NH.refl _
      · exact NH.bind2 (NH.refl _) (fun _ => ih)

theorem scanCK_nh (k : Nat) : ∀ fuel state : Nat, NH (scanCK S fuel state) (scanCK S (fuel + k) state) := by
  intro fuel
  induction fuel with
  | zero => intro state; rw [scanCK.eq_1]; exact NH.hang _
  | succ fuel ih =>
    intro state
    have e : fuel + 1 + k = (fuel + k) + 1 := by omega
    rw [e, scanCK.eq_2, scanCK.eq_2]
    refine NH.bind2 (NH.refl _) (fun i => ?_)
    have key : ∀ x, NH (if x = 2 then pure () else scanCK S fuel x)
        (if x = 2 then pure () else scanCK S (fuel + k) x) := by
      intro x
      split
      · exact NH.refl _
      · exact ih _
    exact key _

theorem inflateBlock_nh (k blockType fuel : Nat) :
    NH (inflateBlock S blockType fuel) (inflateBlock S blockType (fuel + k)) := by
  unfold inflateBlock codedBlock
  split
  · exact NH.refl _
  · split
    · refine NH.bind2 (NH.refl _) fun _ => NH.bind2 (NH.refl _) fun st => ?_
      split
      · exact NH.refl _
      · split
        · exact NH.refl _
        · exact huffBlock_nh S _ _ k fuel
    · exact NH.refl _

theorem inflate_nh (k : Nat) : ∀ fuel : Nat, NH (inflate S fuel) (inflate S (fuel + k)) := by
  intro fuel
  induction fuel with
  | zero => rw [inflate.eq_1]; exact NH.hang _
  | succ fuel ih =>
    rw [Nat.add_right_comm, inflate_succ, inflate_succ]
    refine NH.bind2 (NH.refl _) fun lastBlock => NH.bind2 (NH.refl _) fun blockType =>
      NH.bind2 (inflateBlock_nh S k blockType fuel) fun _ => ?_
    unfold inflateNext
    split
    · exact ih
    · exact NH.refl _

theorem runInflate_nh (fuel k : Nat) (st : St σ) (h : runInflate S fuel st ≠ .error .hang) :
    runInflate S (fuel + k) st = runInflate S fuel st := by
  cases hr : exec (inflate S fuel) st with
  | mk r s =>
    rw [runInflate_eq S hr] at h ⊢
    refine runInflate_eq S ((inflate_nh S k fuel st ?_).trans hr)
    rw [hr]
    intro hc
    dsimp only at hc
    subst hc
    exact h rfl

theorem frameStep_nh (fuel k : Nat) (st : St σ) (h : frameStep S fuel st ≠ .error .hang) :
    frameStep S (fuel + k) st = frameStep S fuel st := by
  unfold frameStep at h ⊢
  dsimp only at h ⊢
  have hx := scanCK_nh S k fuel 0 { st with bits := st.bits.drop (st.bits.length % 8) }
  cases hr : (scanCK S fuel 0).run.run { st with bits := st.bits.drop (st.bits.length % 8) } with
  | mk r s =>
    rw [hr] at h
    have hr' : exec (scanCK S fuel 0) { st with bits := st.bits.drop (st.bits.length % 8) } = (r, s) := hr
    rw [hr'] at hx
    have hx' := hx (by
      intro hc
      dsimp only at hc
      subst hc
      exact h rfl)
    rw [show (scanCK S (fuel + k) 0).run.run { st with bits := st.bits.drop (st.bits.length % 8) } = (r, s) from hx']
    cases r with
    | error e => cases e <;> rfl
    | ok a =>
      cases a
      dsimp only at h ⊢
      by_cases hri : runInflate S fuel { s with windowPosn := 0, bytesOutput := 0 } = .error .hang
      · rw [hri] at h
        exact absurd rfl h
      · rw [runInflate_nh S fuel k _ hri]

theorem loop_more (fuel k j : Nat) : ∀ (n : Nat) (st : St σ) (out : Nat) (w : Bytes),
    decompressLoop S fuel n st out w ≠ .error .hang →
    decompressLoop S (fuel + k) (n + j) st out w = decompressLoop S fuel n st out w := by
  intro n
  induction n with
  | zero => intro st out w h; rw [decompressLoop.eq_1] at h; exact absurd rfl h
  | succ n ih =>
    intro st out w h
    rw [Nat.add_right_comm, loop_succ, loop_succ]
    rw [loop_succ] at h
    split
    · rfl
    · rename_i hout
      rw [if_neg hout] at h
      by_cases hfs : frameStep S fuel st = .error .hang
      · rw [hfs] at h
        exact absurd rfl h
      · rw [frameStep_nh S fuel k st hfs]
        cases hf : frameStep S fuel st with
        | error f => rfl
        | ok r =>
          rw [hf] at h
          cases r with
          | stop e st' => rfl
          | frame se st' =>
            dsimp only at h ⊢
            cases se with
            | some e => rfl
            | none => dsimp only at h ⊢; exact ih _ _ _ h

/-- `decompress` with the block-loop count `n` separated from the bound `fuel` of the inner loops -/
def decompressN (fuel n : Nat) (st : St σ) (outBytes : Nat) : Except Fault (Out σ) :=
  if st.error ≠ .ok then .ok ⟨st.error, [], st⟩ else
  let i := min st.pending.length outBytes
  let w := st.pending.take i
  let st := { st with pending := st.pending.drop i }
  let outBytes := outBytes - i
  if outBytes = 0 then .ok ⟨.ok, w, st⟩
  else decompressLoop S fuel n st outBytes w

theorem decompress_eq (fuel : Nat) (st : St σ) (outBytes : Nat) :
    decompress S fuel st outBytes = decompressN S fuel fuel st outBytes := rfl

theorem decompressN_more (fuel k j n : Nat) (st : St σ) (out : Nat)
    (h : decompressN S fuel n st out ≠ .error .hang) :
    decompressN S (fuel + k) (n + j) st out = decompressN S fuel n st out := by
  unfold decompressN at h ⊢
  split
  · rfl
  · rename_i he
    rw [if_neg he] at h
    dsimp only at h ⊢
    split
    · rfl
    · rename_i ho
      rw [if_neg ho] at h
      exact loop_more S fuel k j n _ _ _ h

theorem decompressN_mono_ok (fuel n k : Nat) (st : St σ) (out : Nat) (o : Out σ)
    (h : decompressN S fuel n st out = .ok o) : decompressN S fuel (n + k) st out = .ok o :=
  (decompressN_more S fuel 0 k n st out (by rw [h]; exact fun hc => nomatch hc)).trans h

theorem decompress_fuel_mono (fuel k : Nat) (st : St σ) (out : Nat)
    (h : decompress S fuel st out ≠ .error .hang) :
    decompress S (fuel + k) st out = decompress S fuel st out :=
  decompressN_more S fuel k k fuel st out h

theorem decompressN_err_ok (fuel n : Nat) (st : St σ) (out : Nat) (w : Bytes) (st' : St σ)
    (h : decompressN S fuel n st out = .ok ⟨.ok, w, st'⟩) : st.error = .ok := by
  by_cases he : st.error = .ok
  · exact he
  · unfold decompressN at h
    rw [if_pos he] at h
    simp only [Except.ok.injEq, Out.mk.injEq] at h
    exact h.1

theorem pend_exact (fuel m : Nat) (st : St σ) (he : st.error = .ok) (a : Nat) (ha : a ≤ st.pending.length) :
    decompressN S fuel m st a = .ok ⟨.ok, st.pending.take a, { st with pending := st.pending.drop a }⟩ := by
  unfold decompressN
  rw [if_neg (fun h => h he)]
  dsimp only
  rw [Nat.min_eq_right ha, Nat.sub_self, if_pos rfl]

theorem decompress_zero (fuel : Nat) (st : St σ) (he : st.error = .ok) : decompress S fuel st 0 = .ok ⟨.ok, [], st⟩ := by
  rw [decompress_eq, pend_exact S fuel fuel st he 0 (Nat.zero_le _)]
  rfl

theorem pend_past (fuel m : Nat) (st : St σ) (he : st.error = .ok) (out : Nat) (ho : st.pending.length < out) :
    decompressN S fuel m st out =
      decompressLoop S fuel m { st with pending := [] } (out - st.pending.length) st.pending := by
  unfold decompressN
  rw [if_neg (fun h => h he)]
  dsimp only
  rw [Nat.min_eq_left (Nat.le_of_lt ho), if_neg (by omega), List.take_length, List.drop_length]

theorem pend_serve (fuel m : Nat) (st : St σ) (he : st.error = .ok) (a b : Nat) (ha : a ≤ st.pending.length) :
    decompressN S fuel m st (a + b) =
      pre (st.pending.take a) (decompressN S fuel m { st with pending := st.pending.drop a } b) := by
  have hne : ¬ (st.error ≠ .ok) := fun h => h he
  unfold decompressN
  dsimp only
  rw [if_neg hne, if_neg hne]
  have hj : min st.pending.length (a + b) = a + min (st.pending.drop a).length b := by
    rw [List.length_drop]; omega
  rw [hj, List.take_add, List.drop_drop]
  have ho : a + b - (a + min (st.pending.drop a).length b) = b - min (st.pending.drop a).length b := by omega
  rw [ho]
  split
  · rfl
  · rw [loop_acc]

theorem loop_iter (fuel n : Nat) (st st' : St σ) (out : Nat) (w : Bytes) (hout : out ≠ 0)
    (hfs : frameStep S fuel st = .ok (.frame none st')) (hw : WinOk st') (hb : st'.bytesOutput ≤ zipFRAME_SIZE)
    (he : st'.error = .ok) :
    decompressLoop S fuel (n + 2) st out w =
      pre w (decompressN S fuel (n + 1) { st' with pending := st'.window.toList.take st'.bytesOutput } out) := by
  have hw' : st'.window.size = zipFRAME_SIZE := hw
  have hlen : (st'.window.toList.take st'.bytesOutput).length = st'.bytesOutput := by
    rw [List.length_take, Array.length_toList, hw']; exact Nat.min_eq_left hb
  rw [loop_succ, if_neg hout, hfs]
  dsimp only
  unfold decompressN
  rw [if_neg (fun h => h he)]
  dsimp only
  rw [hlen, Nat.min_comm]
  split
  · rename_i h0
    rw [h0, loop_succ, if_pos rfl]
    rfl
  · rw [← loop_acc]

/-- `n' + 2`: the rest of the request is served from the delivered frame with a round to spare (the one that sees
    nothing is left to ask for) -/
theorem past_step (fuel n : Nat) (st : St σ) (out : Nat) (e : Err) (w1 : Bytes) (st1 : St σ) (hw : WinOk st)
    (he : st.error = .ok) (ho : st.pending.length < out) (h : decompressN S fuel n st out = .ok ⟨e, w1, st1⟩) :
    (e ≠ .ok ∧ ∃ n0, n = n0 + 1 ∧
      (frameStep S fuel { st with pending := [] } = .ok (.stop e st1) ∧ w1 = st.pending ∨
       ∃ st', frameStep S fuel { st with pending := [] } = .ok (.frame (some e) st'))) ∨
    ∃ st' n' w1', n = n' + 2 ∧ frameStep S fuel { st with pending := [] } = .ok (.frame none st') ∧ WinOk st' ∧
      st'.bytesOutput ≤ zipFRAME_SIZE ∧ st'.error = .ok ∧ w1 = st.pending ++ w1' ∧
      decompressN S fuel (n' + 1) { st' with pending := st'.window.toList.take st'.bytesOutput }
        (out - st.pending.length) = .ok ⟨e, w1', st1⟩ := by
  rw [pend_past S fuel n st he out ho] at h
  have hout : out - st.pending.length ≠ 0 := by omega
  cases n with
  | zero => rw [decompressLoop.eq_1] at h; cases h
  | succ n =>
    cases hfs : frameStep S fuel { st with pending := [] } with
    | error f => rw [loop_succ, if_neg hout, hfs] at h; cases h
    | ok r =>
      have hs := frameStep_spec S fuel { st with pending := [] } hw he r hfs
      cases r with
      | stop e' st' =>
        rw [loop_succ, if_neg hout, hfs] at h
        simp only [Except.ok.injEq, Out.mk.injEq] at h
        obtain ⟨rfl, rfl, rfl⟩ := h
        exact .inl ⟨hs, n, rfl, .inl ⟨rfl, rfl⟩⟩
      | frame se st' =>
        obtain ⟨h1, h2, h3, h4⟩ := hs
        cases se with
        | some e' =>
          rw [loop_succ, if_neg hout, hfs] at h
          dsimp only at h
          have := h4 e' rfl
          split at h <;>
            (simp only [Except.ok.injEq, Out.mk.injEq] at h
             obtain ⟨rfl, _⟩ := h
             exact .inl ⟨this, n, rfl, .inr ⟨st', rfl⟩⟩)
        | none =>
          cases n with
          | zero =>
            rw [loop_succ, if_neg hout, hfs] at h
            dsimp only at h
            rw [decompressLoop.eq_1] at h; cases h
          | succ n' =>
            rw [loop_iter S fuel n' _ st' _ _ hout hfs h1 h2 (h3 rfl)] at h
            obtain ⟨w', k1, k2⟩ := pre_ok_inv h
            exact .inr ⟨st', n', w', rfl, rfl, h1, h2, h3 rfl, k2, k1⟩

theorem past_ok (fuel n : Nat) (st : St σ) (out : Nat) (w1 : Bytes) (st1 : St σ) (hw : WinOk st)
    (ho : st.pending.length < out) (h : decompressN S fuel n st out = .ok ⟨.ok, w1, st1⟩) :
    ∃ st' n' w1', n = n' + 2 ∧ frameStep S fuel { st with pending := [] } = .ok (.frame none st') ∧ WinOk st' ∧
      st'.bytesOutput ≤ zipFRAME_SIZE ∧ st'.error = .ok ∧ w1 = st.pending ++ w1' ∧
      decompressN S fuel (n' + 1) { st' with pending := st'.window.toList.take st'.bytesOutput }
        (out - st.pending.length) = .ok ⟨.ok, w1', st1⟩ :=
  (past_step S fuel n st out .ok w1 st1 hw (decompressN_err_ok S fuel n st out w1 st1 h) ho h).resolve_left
    fun h => h.1 rfl

theorem chunk_joinN (fuel : Nat) : ∀ (n : Nat) (st : St σ) (a : Nat) (w1 : Bytes) (st1 : St σ), WinOk st →
    decompressN S fuel n st a = .ok ⟨.ok, w1, st1⟩ →
    ∀ (m b : Nat) (e2 : Err) (w2 : Bytes) (st2 : St σ), decompressN S fuel m st1 b = .ok ⟨e2, w2, st2⟩ →
    decompressN S fuel (n + m) st (a + b) = .ok ⟨e2, w1 ++ w2, st2⟩ := by
  intro n
  induction n using Nat.strongRecOn with
  | _ n ih =>
    intro st a w1 st1 hw h m b e2 w2 st2 h2
    have he := decompressN_err_ok S fuel n st a w1 st1 h
    by_cases ha : a ≤ st.pending.length
    · rw [pend_exact S fuel n st he a ha] at h
      simp only [Except.ok.injEq, Out.mk.injEq, true_and] at h
      obtain ⟨rfl, rfl⟩ := h
      rw [pend_serve S fuel (n + m) st he a b ha, Nat.add_comm n m, decompressN_mono_ok S fuel m n _ _ _ h2]
      rfl
    · have ho : st.pending.length < a := by omega
      obtain ⟨st', n', w1', rfl, hfs, h3, h4, h5, rfl, h6⟩ := past_ok S fuel n st a w1 st1 hw ho h
      have hIH := ih (n' + 1) (by omega) { st' with pending := st'.window.toList.take st'.bytesOutput } _ _ _ h3 h6 m b e2 w2 st2 h2
      rw [pend_past S fuel _ st he (a + b) (by omega)]
      have e1 : n' + 2 + m = (n' + m) + 2 := by omega
      have e2' : a + b - st.pending.length = (a - st.pending.length) + b := by omega
      have e3 : n' + 1 + m = n' + m + 1 := by omega
      rw [e1, loop_iter S fuel (n' + m) _ st' _ _ (by omega) hfs h3 h4 h5, e2', ← e3, hIH, pre_ok, List.append_assoc]

theorem chunk_splitN (fuel : Nat) : ∀ (n : Nat) (st : St σ) (a b : Nat) (wt : Bytes) (st2 : St σ), WinOk st →
    decompressN S fuel n st (a + b) = .ok ⟨.ok, wt, st2⟩ →
    ∃ w1 st1 w2, decompressN S fuel n st a = .ok ⟨.ok, w1, st1⟩ ∧
      decompressN S fuel n st1 b = .ok ⟨.ok, w2, st2⟩ ∧ wt = w1 ++ w2 := by
  intro n
  induction n using Nat.strongRecOn with
  | _ n ih =>
    intro st a b wt st2 hw h
    have he := decompressN_err_ok S fuel n st (a + b) wt st2 h
    by_cases ha : a ≤ st.pending.length
    · rw [pend_serve S fuel n st he a b ha] at h
      obtain ⟨w2, h5, h6⟩ := pre_ok_inv h
      exact ⟨_, _, w2, pend_exact S fuel n st he a ha, h5, h6⟩
    · have ho : st.pending.length < a + b := by omega
      obtain ⟨st', n', wt', rfl, hfs, h3, h4, h5, rfl, h6⟩ := past_ok S fuel n st (a + b) wt st2 hw ho h
      have e2' : a + b - st.pending.length = (a - st.pending.length) + b := by omega
      rw [e2'] at h6
      obtain ⟨w1, st1, w2, k1, k2, rfl⟩ := ih (n' + 1) (by omega) { st' with pending := st'.window.toList.take st'.bytesOutput } _ _ _ _ h3 h6
      refine ⟨st.pending ++ w1, st1, w2, ?_, ?_, (List.append_assoc ..).symm⟩
      · rw [pend_past S fuel _ st he a (by omega),
          loop_iter S fuel n' _ st' _ _ (by omega) hfs h3 h4 h5, k1, pre_ok]
      · exact decompressN_mono_ok S fuel (n' + 1) 1 _ _ _ k2

theorem ok_length (fuel : Nat) : ∀ (n : Nat) (st : St σ) (out : Nat) (w : Bytes) (st1 : St σ), WinOk st →
    decompressN S fuel n st out = .ok ⟨.ok, w, st1⟩ → w.length = out := by
  intro n
  induction n using Nat.strongRecOn with
  | _ n ih =>
    intro st out w st1 hw h
    have he := decompressN_err_ok S fuel n st out w st1 h
    by_cases ha : out ≤ st.pending.length
    · rw [pend_exact S fuel n st he out ha] at h
      simp only [Except.ok.injEq, Out.mk.injEq, true_and] at h
      obtain ⟨rfl, rfl⟩ := h
      rw [List.length_take]; omega
    · have ho : st.pending.length < out := by omega
      obtain ⟨st', n', w', rfl, hfs, h3, h4, h5, rfl, h6⟩ := past_ok S fuel n st out w st1 hw ho h
      have := ih (n' + 1) (by omega) { st' with pending := st'.window.toList.take st'.bytesOutput } _ _ _ h3 h6
      rw [List.length_append, this]; omega

/-- twice the fuel that sufficed for the two calls suffices for the single one -/
theorem chunk_join (fuel : Nat) (st : St σ) (hst : WinOk st) (a b : Nat) (w1 : Bytes) (st1 : St σ) (e2 : Err)
    (w2 : Bytes) (st2 : St σ) (h1 : decompress S fuel st a = .ok ⟨.ok, w1, st1⟩)
    (h2 : decompress S fuel st1 b = .ok ⟨e2, w2, st2⟩) :
    decompress S (fuel + fuel) st (a + b) = .ok ⟨e2, w1 ++ w2, st2⟩ := by
  have hj := chunk_joinN S fuel fuel st a w1 st1 hst h1 fuel b e2 w2 st2 h2
  exact (decompressN_more S fuel fuel 0 (fuel + fuel) st (a + b) (by rw [hj]; exact fun hc => nomatch hc)).trans hj

theorem chunk_split (fuel : Nat) (st : St σ) (hst : WinOk st) (a b : Nat) (w : Bytes) (st2 : St σ)
    (h : decompress S fuel st (a + b) = .ok ⟨.ok, w, st2⟩) :
    ∃ st1, decompress S fuel st a = .ok ⟨.ok, w.take a, st1⟩ ∧ WinOk st1 ∧
      decompress S fuel st1 b = .ok ⟨.ok, w.drop a, st2⟩ ∧ w.length = a + b := by
  obtain ⟨w1, st1, w2, k1, k2, rfl⟩ := chunk_splitN S fuel fuel st a b w st2 hst h
  have hl := ok_length S fuel fuel st a w1 st1 hst k1
  have hst1 : WinOk st1 := by
    have := decompress_ok S fuel st a hst
    rw [decompress_eq, k1] at this; exact this
  have hl2 := ok_length S fuel fuel st1 b w2 st2 hst1 k2
  refine ⟨st1, ?_, hst1, ?_, by rw [List.length_append, hl, hl2]⟩
  · have t : (w1 ++ w2).take a = w1 := by rw [← hl]; exact List.take_left ..
    rw [t]; exact k1
  · have t : (w1 ++ w2).drop a = w2 := by rw [← hl]; exact List.drop_left ..
    rw [t]; exact k2

end MsPack.Zip.ZipChunk
