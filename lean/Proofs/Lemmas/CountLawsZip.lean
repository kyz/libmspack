import Proofs.Lemmas.ZipChunk
/-!
# MSZIP's counting law

`Zip.decompress_count`: never more bytes than asked, OK means exactly as many.  The output loop is followed round by round
(`ZipChunk.loop_succ`); of a round it takes that a stop or a frame with a status carries a status other than OK
(`frameStep_status`, which is why this stands after `ZipChunk.lean`) and that a frame leaves at most FRAME_SIZE bytes in a
whole window (`frameStep_ok`).
-/
namespace MsPack.CountLaws.Zip
open MsPack.Zip MsPack.Zip.ZipChunk
variable {σ : Type} (S : Src σ)

theorem decompressLoop_count (fuel : Nat) : ∀ (n : Nat) (st : St σ) (outBytes : Nat) (w : Bytes) (o : Out σ),
    decompressLoop S fuel n st outBytes w = .ok o →
    o.written.length ≤ w.length + outBytes ∧
    (WinOk st → o.err = .ok → o.written.length = w.length + outBytes) := by
  intro n
  induction n with
  | zero => intro st outBytes w o h; rw [decompressLoop.eq_1] at h; cases h
  | succ n ih =>
    intro st outBytes w o h
    rw [loop_succ] at h
    split at h
    · rename_i h0; cases h; subst h0; simp
    · have hok := frameStep_ok S fuel st
      cases hfs : frameStep S fuel st with
      | error f => rw [hfs] at h; cases h
      | ok r =>
        have hst := frameStep_status S fuel st r hfs
        rw [hfs] at h hok
        cases r with
        | stop e st' => cases h; exact ⟨by simp, fun _ he => absurd he hst.1⟩
        | frame se st' =>
          dsimp only at h
          -- the frame hands out `min outBytes bytesOutput` bytes at most, and exactly so when the window is whole
          have hlen : ((st'.window.toList.take st'.bytesOutput).take (min outBytes st'.bytesOutput)).length ≤ outBytes := by
            simp only [List.length_take, Array.length_toList]; omega
          cases se with
          | some e =>
            have he := (hst.2.2 e rfl).1
            dsimp only at h
            split at h <;> cases h <;>
              exact ⟨by simp only [List.length_append]; omega, fun _ hc => absurd hc he⟩
          | none =>
            dsimp only at h
            have := ih _ _ _ _ h
            simp only [List.length_append] at this
            have hle : ((st'.window.toList.take st'.bytesOutput).take (min outBytes st'.bytesOutput)).length
                ≤ min outBytes st'.bytesOutput := by
              simp only [List.length_take, Array.length_toList]; omega
            refine ⟨by omega, fun hw he => ?_⟩
            have hf := hok hw
            have h2 := this.2 hf.1 he
            have h3 : ((st'.window.toList.take st'.bytesOutput).take (min outBytes st'.bytesOutput)).length
                = min outBytes st'.bytesOutput := by
              have := hf.1; unfold WinOk at this
              simp only [List.length_take, Array.length_toList, this]; omega
            omega

theorem decompress_count (fuel : Nat) (st : St σ) (n : Nat) (o : Out σ)
    (h : decompress S fuel st n = .ok o) :
    o.written.length ≤ n ∧ (WinOk st → o.err = .ok → o.written.length = n) := by
  unfold decompress at h
  split at h
  · rename_i he
    cases h
    exact ⟨Nat.zero_le _, fun _ hc => absurd hc he⟩
  · dsimp only at h
    split at h
    · cases h
      simp only [List.length_take]
      omega
    · have := decompressLoop_count S fuel fuel _ _ _ _ h
      simp only [List.length_take] at this
      refine ⟨by omega, fun hw he => ?_⟩
      have := this.2 hw he
      omega

end MsPack.CountLaws.Zip
