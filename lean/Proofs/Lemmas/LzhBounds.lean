import MsPack.Kwaj.Lzh
import Proofs.Lemmas.HuffCanon
import Proofs.Lemmas.Src
import Proofs.Lemmas.Wp
/-!
# The KWAJ LZH decoder (kwajd.c): one walk for the bounds and for termination

Every function of the model is walked once, as a Hoare triple (`Walk`) under two switches.  `G` is the bounds reading:
the state at the start satisfies the size/index invariant `Inv`, and `read` delivers no more than it was asked for
(`Src.Bounded`); then `Inv` is kept and no checked access takes its fault branch.  `T` is the termination reading: the
source is finite (`SrcOk`); then the measure below stays bounded (`Inv_T`).  `K` is the two together.  A fault has a
`Cause` (`KE`): it is the source's; or `hang`, and then a condition `H` on the fuel holds; or an index fault of the
decoder's own, and then `G` fails.  `G := True`, `T := False` gives `decompress_fault` and `decompress_inv`;
`G := False`, `T := True` gives the C04 results in `LoopTermLzh.lean`.  `Post`, `SafeAt`, `Safe` state the bounds reading
for a single run; the walk does not go through them.

Measure.  While `inputEnd = 0` (no made-up byte has been handed out),
`bitsAt st.cur + 8 * rem st.src = st.cur.bits.length + 8 * (st.cur.iEnd - st.cur.iPtr) + 8 * rem st.src`, written `M` in
this paragraph, counts the real bits not yet consumed (`Inv_T` and `MainPre` bound it).  `READ_BYTES` never increases it (a byte moves from the
input buffer into the bit buffer; a refill moves bytes from the source into the input buffer);
`READ_HUFFSYM_SAFE` removes the decoded symbol's own length, which is at least one bit
(`Huff.decode_len`).  Every round of `mainLoop` starts with a `READ_HUFFSYM_SAFE`, so a round either
lowers `M`, or sets `inputEnd` (and then the next round leaves at once), or leaves the function.
Hence `M st + 2` rounds always suffice.

`lzh_read_lens` can leave without `STORE_BITS`, after which the caller's `RESTORE_BITS` brings
back the *saved* bit position: before `mainLoop` starts the same bound is therefore kept for the
saved copy as well (`Inv_T … true`); inside `mainLoop` nothing restores and only the locals count
(`Inv_T … false`).  A `return MSPACK_ERR_OK` out of a `_SAFE` macro happens only with
`inputEnd ≠ 0`; that is part of the exception condition (`KE`).
-/
namespace MsPack.Kwaj.Lzh
open MsPack.Generated

section bounds
variable {σ : Type} (S : Src σ) {α β : Type}

theorem byteBitsMSB_length (b : UInt8) : (byteBitsMSB b).length = 8 := by simp [byteBitsMSB]

theorem run_pure (a : α) (st : St σ) : (pure a : LM σ α).run.run st = (.ok a, st) := rfl

theorem run_throw (e : Halt) (st : St σ) : (throw e : LM σ α).run.run st = (.error e, st) := rfl

structure Inv (st : St σ) : Prop where
  m1       : st.matchlen1Len.size = kwajMATCHLEN1_SYMS
  m2       : st.matchlen2Len.size = kwajMATCHLEN2_SYMS
  ll       : st.litlenLen.size = kwajLITLEN_SYMS
  off      : st.offsetLen.size = kwajOFFSET_SYMS
  lit      : st.literalLen.size = kwajLITERAL_SYMS
  inbuf    : st.inbuf.size = kwajINPUT_SIZE
  window   : st.window.size = lzssWINDOW_SIZE
  pos      : st.pos < lzssWINDOW_SIZE
  curEnd   : st.cur.iEnd ≤ kwajINPUT_SIZE
  savedEnd : st.saved.iEnd ≤ kwajINPUT_SIZE

theorem Inv.lens {st : St σ} (h : Inv st) (t : Tbl) : (st.lens t).size = t.syms := by
  cases t <;> first | exact h.m1 | exact h.m2 | exact h.ll | exact h.off | exact h.lit

theorem init_inv (src : σ) (fill : UInt8) : Inv (init src fill) := by
  constructor <;> simp [init, kwajINPUT_SIZE, lzssWINDOW_SIZE]

/-- components the invariant talks about carried over unchanged / re-proved one by one -/
syntax "inv_tac " term : tactic
macro_rules
  | `(tactic| inv_tac $h) => `(tactic|
      (constructor <;>
        first
        | (have t := Inv.m1 $h; exact t) | (have t := Inv.m2 $h; exact t) | (have t := Inv.ll $h; exact t)
        | (have t := Inv.off $h; exact t) | (have t := Inv.lit $h; exact t)
        | (have t := Inv.inbuf $h; exact t) | (have t := Inv.window $h; exact t)
        | (have t := Inv.pos $h; exact t) | (have t := Inv.curEnd $h; exact t)
        | (have t := Inv.savedEnd $h; exact t) | skip))

def Post (Q : α → St σ → Prop) : Except Halt α × St σ → Prop
  | (.ok a, st) => Inv st ∧ Q a st
  | (.error (.ret _), st) => Inv st
  | (.error (.fault f), _) => FaultOK S f

def SafeAt (x : LM σ α) (st : St σ) (Q : α → St σ → Prop) : Prop := Post S Q (x.run.run st)

def Safe (x : LM σ α) : Prop := ∀ st, Inv st → SafeAt S x st (fun _ _ => True)

variable {S}

theorem SafeAt.mono {x : LM σ α} {st : St σ} {Q Q' : α → St σ → Prop} (hx : SafeAt S x st Q)
    (hq : ∀ a st', Inv st' → Q a st' → Q' a st') : SafeAt S x st Q' := by
  unfold SafeAt at *
  revert hx
  rcases x.run.run st with ⟨(_ | _) | _, _⟩
  · exact id
  · exact id
  · exact fun hx => ⟨hx.1, hq _ _ hx.1 hx.2⟩

theorem Safe.get_bind {f : St σ → LM σ β} (hf : ∀ s, Safe S (f s)) : Safe S (MonadState.get >>= f) :=
  fun st h => hf st st h

theorem blit_size : ∀ (got : Bytes) (a : Array UInt8) (k : Nat), (blit a k got).size = a.size
  | [], a, k => by rw [blit]
  | b :: rest, a, k => by rw [blit, blit_size rest]; simp

theorem syms_pos (t : Tbl) : 0 < t.syms := by cases t <;> decide

theorem setLens_inv {st : St σ} (h : Inv st) (t : Tbl) (a : Array UInt8) (ha : a.size = t.syms) :
    Inv (st.setLens t a) := by
  cases t <;> (simp only [St.setLens]; inv_tac h; exact ha)

end bounds

section measure
variable {σ : Type} {rem : σ → Nat}

structure SrcOk (S : Src σ) (rem : σ → Nat) : Prop where
  dec : ∀ s n c s', S.read s n = .ok (some c, s') → c.length + rem s' ≤ rem s
  nohang : ∀ s n, S.read s n ≠ .error .hang

def bitsAt (p : BitPos) : Nat := p.bits.length + 8 * (p.iEnd - p.iPtr)

def Inv_T (rem : σ → Nat) (w : Bool) (k B : Nat) (st : St σ) : Prop :=
  st.inputEnd ≠ 0 ∨
    (bitsAt st.cur + 8 * rem st.src + k ≤ B ∧ (w = true → bitsAt st.saved + 8 * rem st.src + k ≤ B))

theorem Inv_T.frame {rem : σ → Nat} {w k B} {st st' : St σ} (h : Inv_T rem w k B st)
    (h1 : st'.src = st.src) (h2 : st'.cur = st.cur) (h3 : st'.saved = st.saved) (h4 : st'.inputEnd = st.inputEnd) :
    Inv_T rem w k B st' := by
  unfold Inv_T at *; rw [h1, h2, h3, h4]; exact h

theorem Inv_T.mono {w : Bool} {c c' B : Nat} (h : c' ≤ c) (st : St σ) (hI : Inv_T rem w c B st) : Inv_T rem w c' B st := by
  rcases hI with hI | ⟨h1, h2⟩
  · exact Or.inl hI
  · exact Or.inr ⟨by omega, fun hw => by have := h2 hw; omega⟩

def MainPre (rem : σ → Nat) (fuel : Nat) (st : St σ) : Prop :=
  (st.inputEnd ≠ 0 ∧ 1 ≤ fuel) ∨ bitsAt st.cur + 8 * rem st.src + 2 ≤ fuel

theorem MainPre_of_Inv {fuel : Nat} (hf : 1 ≤ fuel) (st : St σ) (h : Inv_T rem false 2 fuel st) :
    MainPre rem fuel st := by
  rcases h with h | ⟨h, _⟩
  · exact Or.inl ⟨h, hf⟩
  · exact Or.inr h

end measure

section walk
variable {σ : Type} (S : Src σ) (rem : σ → Nat) (G T : Prop)

def K (w : Bool) (c B : Nat) (st : St σ) : Prop := (G → Inv st) ∧ (T → Inv_T rem w c B st)

def KE (H : Prop) : Halt → St σ → Prop
  | .ret e, st => (G → Inv st) ∧ (e = .ok → st.inputEnd ≠ 0)
  | .fault f, _ => Cause S H (fun f => ¬G ∧ f ≠ .hang) f

variable {S rem G T}

theorem KE.src {H : Prop} {f : Fault} {s : σ} {n : Nat} {st : St σ} (h : S.read s n = .error f) : KE S G H (.fault f) st :=
  show Cause S H (fun f => ¬G ∧ f ≠ .hang) f from .src h
theorem KE.own {H : Prop} {w : String} {st : St σ} (h : ¬G) : KE S G H (.fault (.oob w)) st :=
  show Cause S H (fun f => ¬G ∧ f ≠ .hang) _ from .own ⟨h, nofun⟩

theorem KE.hang {H : Prop} {st : St σ} (h : H) : KE S G H (.fault .hang) st :=
  show Cause S H (fun f => ¬G ∧ f ≠ .hang) _ from .hang h

theorem K.frame {w c B} {st st' : St σ} (h : K rem G T w c B st) (hi : Inv st → Inv st')
    (h1 : st'.src = st.src) (h2 : st'.cur = st.cur) (h3 : st'.saved = st.saved) (h4 : st'.inputEnd = st.inputEnd) :
    K rem G T w c B st' := ⟨fun g => hi (h.1 g), fun t => Inv_T.frame (h.2 t) h1 h2 h3 h4⟩

theorem K.mono {w : Bool} {c c' B : Nat} (hc : c' ≤ c) (st : St σ) (h : K rem G T w c B st) : K rem G T w c' B st :=
  ⟨h.1, fun t => Inv_T.mono hc st (h.2 t)⟩

variable (S G) in
abbrev Walk (H : Prop) {α : Type} (P : St σ → Prop) (x : LM σ α) (Q : St σ → Prop) : Prop := Triple (KE S G H) P x Q

variable {H : Prop} (hB : G → S.Bounded) (hS : T → SrcOk S rem)
include hB hS

/-- `lzh_read_input`: that what `read` delivers fits `inbuf` is the `read` contract (`Src.Bounded`) -/
theorem readInput_walk (st : St σ) (h : G → Inv st) :
    wp (readInput S) (fun _ st' => (G → Inv st') ∧ st'.cur = st.cur ∧ st'.saved.iPtr = 0 ∧
        (st.inputEnd ≠ 0 → st'.inputEnd ≠ 0) ∧
        (T → st'.inputEnd = 0 → st'.saved.bits = st.saved.bits ∧ 1 ≤ st'.saved.iEnd ∧
          st'.saved.iEnd + rem st'.src ≤ rem st.src))
      (KE S G H) st := by
  have hz : ∀ (src : σ) (e : Nat) (p : BitPos), p.iEnd = 1 → Inv st →
      Inv { st with src := src, inputEnd := e, inbuf := st.inbuf.setIfInBounds 0 0, saved := p } := fun src e p hp h => by
    inv_tac h
    · simp only [Array.size_setIfInBounds]; exact h.inbuf
    · rw [hp]; decide
  unfold readInput
  wp_step
  split
  · next hie => wp_step; exact ⟨fun g => hz _ _ _ rfl (h g), trivial, trivial, fun _ => by simp, fun _ h0 => by simp at h0⟩
  · next hie =>
    have hie : st.inputEnd = 0 := Decidable.byContradiction hie
    split
    · next f hf => wp_step; exact KE.src hf
    · wp_step; exact ⟨fun g => by have h := h g; inv_tac h, nofun⟩
    · wp_step; exact ⟨fun g => hz _ _ _ rfl (h g), trivial, trivial, fun h0 => absurd hie h0, fun _ h0 => by simp at h0⟩
    · next got src hne hr =>
      have hpos : 1 ≤ got.length := by
        cases got with
        | nil => exact (hne rfl).elim
        | cons a t => simp
      split
      · next hgt =>
        wp_step
        exact KE.own fun g => by have := hB g _ _ _ _ hr; have := (h g).inbuf; omega
      · next hle =>
        wp_step
        refine ⟨fun g => ?_, trivial, trivial, fun h0 => absurd hie h0, fun t _ => ⟨trivial, hpos, (hS t).dec _ _ _ _ hr⟩⟩
        have h := h g
        inv_tac h
        · rw [blit_size]; exact h.inbuf
        · exact hB g _ _ _ _ hr

/-- `READ_BYTES`: `i_ptr` is below `i_end ≤ 2048`, or has just been reset to 0 by `lzh_read_input`; 8 bits arrive -/
theorem readBytes_walk (w : Bool) (k B L : Nat) :
    Walk S G H (fun st => K rem G T w k B st ∧ L ≤ st.cur.bits.length) (readBytes S)
      (fun st => K rem G T w k B st ∧ L + 8 ≤ st.cur.bits.length) := by
  intro st ⟨hK, hL⟩
  unfold readBytes
  have take : ∀ st1 : St σ, (G → Inv st1 ∧ st1.cur.iPtr < kwajINPUT_SIZE) → L ≤ st1.cur.bits.length →
      (T → Inv_T rem w k B st1 ∧ (st1.inputEnd = 0 → st1.cur.iPtr < st1.cur.iEnd)) →
      wp (get >>= fun st : St σ =>
        if h : st.cur.iPtr < st.inbuf.size then
          (set { st with cur := { st.cur with iPtr := st.cur.iPtr + 1,
                                              bits := st.cur.bits ++ byteBitsMSB st.inbuf[st.cur.iPtr] } } : LM σ PUnit)
        else throw (.fault (.oob "lzh->inbuf (*i_ptr++)")))
        (fun _ st => K rem G T w k B st ∧ L + 8 ≤ st.cur.bits.length) (KE S G H) st1 := by
    intro st1 h1 hL1 hT
    wp_step
    split
    · wp_step
      refine ⟨⟨fun g => by have h := (h1 g).1; inv_tac h, fun t => ?_⟩, ?_⟩
      · obtain ⟨hI, hlt⟩ := hT t
        rcases hI with hi | ⟨ha, hb⟩
        · exact .inl hi
        · by_cases hi : st1.inputEnd = 0
          · refine .inr ⟨?_, hb⟩
            have := hlt hi
            simp only [bitsAt, List.length_append, byteBitsMSB_length] at ha ⊢; omega
          · exact .inl hi
      · simp only [List.length_append, byteBitsMSB_length]; omega
    · next hn => wp_step; exact KE.own fun g => hn (by rw [(h1 g).1.inbuf]; exact (h1 g).2)
  wp_step
  split
  · next hc =>
    refine (readInput_walk hB hS st hK.1).bind_of fun _ st1 ⟨hi, hcur, hp, hne, hz⟩ => ?_
    rw [wp_modify_bind]
    refine take { st1 with cur := { st1.cur with iPtr := st1.saved.iPtr, iEnd := st1.saved.iEnd } }
      (fun g => ⟨by have h := hi g; inv_tac h, by show st1.saved.iPtr < _; rw [hp]; decide⟩)
      (by show L ≤ st1.cur.bits.length; rw [hcur]; exact hL) fun t => ?_
    by_cases hie : st1.inputEnd = 0
    · obtain ⟨hb, hpos, hle⟩ := hz t hie
      have hie0 : st.inputEnd = 0 := Decidable.byContradiction fun h => hne h hie
      rcases hK.2 t with hI | ⟨hI1, hI2⟩
      · exact absurd hie0 hI
      · have hb' := congrArg List.length hb
        simp only [bitsAt] at hI1 hI2
        refine ⟨.inr ⟨?_, fun hw => ?_⟩, fun _ => ?_⟩
        · show st1.cur.bits.length + 8 * (st1.saved.iEnd - st1.saved.iPtr) + 8 * rem st1.src + k ≤ B
          rw [hcur, hp]; omega
        · have := hI2 hw
          show st1.saved.bits.length + 8 * (st1.saved.iEnd - st1.saved.iPtr) + 8 * rem st1.src + k ≤ B
          rw [hp]; omega
        · show st1.saved.iPtr < st1.saved.iEnd
          omega
    · exact ⟨.inl hie, fun h => absurd h hie⟩
  · next hlt =>
    exact take st (fun g => ⟨hK.1 g, by have := (hK.1 g).curEnd; omega⟩) hL fun t => ⟨hK.2 t, fun _ => Nat.lt_of_not_ge hlt⟩

/-- `ENSURE_BITS(n)` with `k + 1` units of fuel when at most `k` bytes are missing: every `READ_BYTES` that comes back
    adds 8 bits -/
theorem ensureBits_walk (w : Bool) (c B n : Nat) : ∀ k : Nat,
    Walk S G H (fun st => K rem G T w c B st ∧ n ≤ st.cur.bits.length + 8 * k) (ensureBits S n (k + 1))
      (K rem G T w c B) := by
  intro k
  induction k with
  | zero =>
    rw [ensureBits]
    refine .get_bind fun s => .ite (fun hc => ?_) fun _ => .pure _ fun _ h => h.1.1
    intro st ⟨⟨_, hn⟩, hs⟩; subst hs; omega
  | succ k ih =>
    rw [ensureBits]
    refine .get_bind fun s => .ite (fun hc => ?_) fun _ => .pure _ fun _ h => h.1.1
    refine .assume (n ≤ s.cur.bits.length + 8 * (k + 1)) (fun st ⟨⟨_, hn⟩, hs⟩ => hs ▸ hn) fun hn => ?_
    refine .bind ((readBytes_walk hB hS w c B s.cur.bits.length).pre fun st ⟨⟨hI, _⟩, hs⟩ => ⟨hI, hs ▸ Nat.le_refl _⟩)
      fun _ => ih.pre fun st ⟨hI, hl⟩ => ⟨hI, by omega⟩

theorem ensureBits4_walk (w : Bool) (c B n : Nat) (hn : n ≤ 16) :
    Walk S G H (K rem G T w c B) (ensureBits S n 4) (K rem G T w c B) :=
  (ensureBits_walk hB hS w c B n 3).pre fun _ h => ⟨h, by omega⟩

omit hB hS in
theorem removeBits_walk (w : Bool) (c B n : Nat) :
    Walk S G H (K rem G T w c B) (removeBits n : LM σ Unit) (K rem G T w c B) := by
  refine .modify _ fun st h => ⟨fun g => by have h := h.1 g; inv_tac h, fun t => (h.2 t).imp id fun ⟨h1, h2⟩ => ?_⟩
  simp only [bitsAt, List.length_drop] at h1 h2 ⊢
  exact ⟨by omega, h2⟩

omit hB hS in
theorem removeBits_strict_walk (c B n : Nat) (hn : 1 ≤ n) :
    Walk S G H (fun st => K rem G T false c B st ∧ n ≤ st.cur.bits.length) (removeBits n : LM σ Unit)
      (K rem G T false (c + 1) B) := by
  refine .modify _ fun st ⟨h, hl⟩ => ⟨fun g => by have h := h.1 g; inv_tac h, fun t => (h.2 t).imp id fun ⟨h1, _⟩ => ?_⟩
  simp only [bitsAt, List.length_drop] at h1 ⊢
  exact ⟨by omega, nofun⟩

omit hB hS in
theorem safeCheck_walk (P : St σ → Prop) (hP : ∀ st, P st → G → Inv st) :
    Walk S G H P (safeCheck : LM σ Unit) P := by
  unfold safeCheck
  refine .get_bind fun s => .ite (fun hc => .throw _ fun st ⟨h, hs⟩ => ⟨hP st h, fun _ => hs ▸ hc.1⟩) fun _ =>
    .pure _ fun _ h => h.1

theorem readBitsSafe_walk (w : Bool) (c B n : Nat) (hn : n ≤ 16) :
    Walk S G H (K rem G T w c B) (readBitsSafe S n) (K rem G T w c B) := by
  unfold readBitsSafe
  refine .bind (ensureBits4_walk hB hS w c B n hn) fun _ => .get_bind fun s => ?_
  refine .bind ((removeBits_walk w c B n).pre fun _ h => h.1) fun _ => ?_
  exact .bind (safeCheck_walk _ fun _ h => h.1) fun _ => .pure _ fun _ h => h

theorem readHuffSymSafe_strict_walk (c B : Nat) (cn : Huff.Canon) :
    Walk S G H (K rem G T false c B) (readHuffSymSafe S cn) (K rem G T false (c + 1) B) := by
  unfold readHuffSymSafe
  refine .bind (ensureBits4_walk hB hS false c B 16 (Nat.le_refl _)) fun _ => .get_bind fun s => ?_
  split
  · exact .throw _ fun st h => ⟨h.1.1, nofun⟩
  · next sym len hd =>
    have hl := Huff.decode_len _ _ _ _ hd
    refine .bind ((removeBits_strict_walk c B len hl.1).pre fun st ⟨hI, hs⟩ => ⟨hI, hs ▸ hl.2⟩) fun _ => ?_
    exact .bind (safeCheck_walk _ fun _ h => h.1) fun _ => .pure _ fun _ h => h

theorem readHuffSymSafe_walk (c B : Nat) (cn : Huff.Canon) :
    Walk S G H (K rem G T false c B) (readHuffSymSafe S cn) (K rem G T false c B) :=
  (readHuffSymSafe_strict_walk hB hS c B cn).weaken (fun _ h => h) (K.mono (Nat.le_succ _))

omit hB hS in
theorem setLen_walk (w : Bool) (c B : Nat) (t : Tbl) (i v : Nat) (hi : G → i < t.syms) :
    Walk S G H (K rem G T w c B) (setLen t i v : LM σ Unit) (K rem G T w c B) := by
  unfold setLen
  refine .get_bind fun s => .dite (fun _ => ?_) fun hn => .throw _ fun st ⟨h, hs⟩ => KE.own fun g => hn ?_
  · refine .set _ fun st ⟨h, hs⟩ => ?_
    subst hs
    exact ⟨fun g => setLens_inv (h.1 g) t _ (by rw [Array.size_set]; exact (h.1 g).lens t),
      fun tt => by cases t <;> exact Inv_T.frame (h.2 tt) rfl rfl rfl rfl⟩
  · subst hs; rw [(h.1 g).lens]; exact hi g

omit hB hS in
theorem lensFill_walk (w : Bool) (c B : Nat) (t : Tbl) (v : Nat) : ∀ k i : Nat, (G → i + k ≤ t.syms) →
    Walk S G H (K rem G T w c B) (lensFill t v k i : LM σ Unit) (K rem G T w c B)
  | 0, _, _ => by rw [lensFill]; exact .pure _ fun _ h => h
  | k + 1, i, hk => by
    rw [lensFill]
    exact .bind (setLen_walk w c B t i v fun g => by have := hk g; omega) fun _ =>
      lensFill_walk w c B t v k (i + 1) fun g => by have := hk g; omega

theorem lensType1_walk (w : Bool) (c B : Nat) (t : Tbl) :
    ∀ k i v : Nat, (G → i + k ≤ t.syms) →
    Walk S G H (K rem G T w c B) (lensType1 S t k i v) (K rem G T w c B)
  | 0, _, _, _ => by rw [lensType1]; exact .pure _ fun _ h => h
  | k + 1, i, v, hk => by
    have hs : ∀ v, Walk S G H (K rem G T w c B) (setLen t i v : LM σ Unit) (K rem G T w c B) := fun v =>
      setLen_walk w c B t i v fun g => by have := hk g; omega
    have ih := fun v => lensType1_walk w c B t k (i + 1) v fun g => by have := hk g; omega
    have hr := fun n hn => readBitsSafe_walk (H := H) hB hS w c B n hn
    rw [lensType1]
    refine .bind (hr 1 (by omega)) fun _ => .ite (fun _ => ?_) fun _ => ?_
    · exact .bind (hs v) fun _ => ih _
    · refine .bind (hr 1 (by omega)) fun _ => .ite (fun _ => ?_) fun _ => ?_
      · exact .bind (hs _) fun _ => ih _
      · exact .bind (hr 4 (by omega)) fun _ => .bind (hs _) fun _ => ih _

theorem lensType2_walk (w : Bool) (c B : Nat) (t : Tbl) :
    ∀ k i v : Nat, (G → i + k ≤ t.syms) →
    Walk S G H (K rem G T w c B) (lensType2 S t k i v) (K rem G T w c B)
  | 0, _, _, _ => by rw [lensType2]; exact .pure _ fun _ h => h
  | k + 1, i, v, hk => by
    have hs : ∀ v, Walk S G H (K rem G T w c B) (setLen t i v : LM σ Unit) (K rem G T w c B) := fun v =>
      setLen_walk w c B t i v fun g => by have := hk g; omega
    have ih := fun v => lensType2_walk w c B t k (i + 1) v fun g => by have := hk g; omega
    have hr := fun n hn => readBitsSafe_walk (H := H) hB hS w c B n hn
    rw [lensType2]
    refine .bind (hr 2 (by omega)) fun _ => .ite (fun _ => ?_) fun _ => ?_
    · exact .bind (hr 4 (by omega)) fun _ => .bind (hs _) fun _ => ih _
    · exact .bind (.pure _ fun _ h => h) fun _ => .bind (hs _) fun _ => ih _

theorem lensType3_walk (w : Bool) (c B : Nat) (t : Tbl) :
    ∀ k i : Nat, (G → i + k ≤ t.syms) →
    Walk S G H (K rem G T w c B) (lensType3 S t k i) (K rem G T w c B)
  | 0, _, _ => by rw [lensType3]; exact .pure _ fun _ h => h
  | k + 1, i, hk => by
    rw [lensType3]
    exact .bind (readBitsSafe_walk hB hS w c B 4 (by omega)) fun _ =>
      .bind (setLen_walk w c B t i _ fun g => by have := hk g; omega) fun _ =>
        lensType3_walk w c B t k (i + 1) fun g => by have := hk g; omega

omit hB hS in
theorem storeBits_walk (c B : Nat) :
    Walk S G H (K rem G T true c B) (storeBits : LM σ Unit) (K rem G T true c B) :=
  .modify _ fun st h => ⟨fun g => by have h := h.1 g; inv_tac h, fun t => (h.2 t).imp id fun ⟨h1, _⟩ => ⟨h1, fun _ => h1⟩⟩

omit hB hS in
theorem restoreBits_walk (c B : Nat) :
    Walk S G H (K rem G T true c B) (restoreBits : LM σ Unit) (K rem G T true c B) :=
  .modify _ fun st h => ⟨fun g => by have h := h.1 g; inv_tac h, fun t => (h.2 t).imp id fun ⟨_, h2⟩ => ⟨h2 rfl, h2⟩⟩

theorem readLensBody_walk (c B : Nat) (t : Tbl) (type : Nat) :
    Walk S G H (K rem G T true c B) (readLensBody S t type) (K rem G T true c B) := by
  have hp := syms_pos t
  have hr := readBitsSafe_walk (H := H) hB hS true c B 4 (by omega)
  have hs : ∀ v, Walk S G H (K rem G T true c B) (setLen t 0 v : LM σ Unit) (K rem G T true c B) := fun v =>
    setLen_walk true c B t 0 v fun _ => hp
  unfold readLensBody
  refine .bind (restoreBits_walk c B) fun _ => ?_
  refine .ite (fun _ => ?_) fun _ => .ite (fun _ => ?_) fun _ => .ite (fun _ => ?_) fun _ => .ite (fun _ => ?_) fun _ => ?_
  · exact .bind (lensFill_walk true c B t _ _ _ fun _ => by omega) fun _ => storeBits_walk c B
  · exact .bind hr fun _ => .bind (hs _) fun _ =>
      .bind (lensType1_walk hB hS true c B t _ _ _ fun _ => by omega) fun _ => storeBits_walk c B
  · exact .bind hr fun _ => .bind (hs _) fun _ =>
      .bind (lensType2_walk hB hS true c B t _ _ _ fun _ => by omega) fun _ => storeBits_walk c B
  · exact .bind (lensType3_walk hB hS true c B t _ _ fun _ => by omega) fun _ => storeBits_walk c B
  · exact .bind (Q := fun _ => False) (.throw _ fun st h => ⟨h.1, nofun⟩) fun _ => .false _

/-- `lzh_read_lens` as its caller sees it: a returned `MSPACK_ERR_OK` comes with the measure -/
theorem readLens_walk (c B : Nat) (t : Tbl) (type : Nat) (st : St σ)
    (hK : K rem G T true c B st) :
    wp (readLens S t type) (fun e st' => (G → Inv st') ∧ (e = Err.ok → T → Inv_T rem true c B st')) (KE S G H) st := by
  unfold readLens
  rw [wp_tryCatch]
  refine ((readLensBody_walk (H := H) hB hS c B t type).bind (fun _ => .pure Err.ok fun _ h => h) st hK).mono
    (fun _ _ h => ⟨h.1, fun _ => h.2⟩) ?_
  rintro (e | f) st1 h
  · exact (wp_pure ..).mpr ⟨h.1, fun he _ => .inl (h.2 he)⟩
  · exact (wp_throw ..).mpr h

theorem buildTree_walk (c B : Nat) (t : Tbl) (type : Nat) :
    Walk S G H (K rem G T true c B) (buildTree S t type) (K rem G T true c B) := by
  unfold buildTree
  refine .bind (storeBits_walk c B) fun _ st hK => (readLens_walk hB hS c B t type st hK).bind_of fun err st1 h => ?_
  by_cases he : err = .ok
  · subst he
    simp only [ne_eq, not_true_eq_false, if_false]
    refine (restoreBits_walk c B).bind (fun _ => .get_bind fun s => ?_) st1 ⟨h.1, h.2 rfl⟩
    split
    · exact .throw _ fun st h => ⟨h.1.1, nofun⟩
    · exact .pure _ fun _ h => h.1
  · simp only [ne_eq, he, not_false_eq_true, if_true]
    wp_step
    exact ⟨h.1, fun h' => absurd h' he⟩

omit hB hS in
theorem emitByte_walk (w : Bool) (c B : Nat) (b : UInt8) :
    Walk S G H (K rem G T w c B) (emitByte b : LM σ Unit) (K rem G T w c B) := by
  unfold emitByte
  refine .get_bind fun s => .dite (fun _ => ?_) fun hn => .throw _ fun st ⟨h, hs⟩ => KE.own fun g => hn ?_
  · refine .set _ fun st ⟨h, hs⟩ => ?_
    subst hs
    refine ⟨fun g => ?_, fun t => Inv_T.frame (h.2 t) rfl rfl rfl rfl⟩
    have h := h.1 g
    inv_tac h
    · rw [Array.size_set]; exact h.window
    · exact Nat.mod_lt _ (by decide)
  · subst hs; rw [(h.1 g).window]; exact (h.1 g).pos

omit hB hS in
theorem copyMatch_walk (w : Bool) (c B offset : Nat) : ∀ len : Nat,
    Walk S G H (K rem G T w c B) (copyMatch offset len : LM σ Unit) (K rem G T w c B)
  | 0 => by rw [copyMatch]; exact .pure _ fun _ h => h
  | len + 1 => by
    rw [copyMatch]
    refine .get_bind fun s => .dite (fun _ => ?_) fun hn => .throw _ fun st ⟨h, hs⟩ => KE.own fun g => hn ?_
    · exact .bind ((emitByte_walk w c B _).pre fun _ h => h.1) fun _ => copyMatch_walk w c B offset len
    · subst hs; rw [(h.1 g).window]; exact Nat.mod_lt _ (by decide)

theorem literalRun_walk (c B : Nat) (cn : Huff.Canon) : ∀ len : Nat,
    Walk S G H (K rem G T false c B) (literalRun S cn len) (K rem G T false c B)
  | 0 => by rw [literalRun]; exact .pure _ fun _ h => h
  | len + 1 => by
    rw [literalRun]
    exact .bind (readHuffSymSafe_walk hB hS c B cn) fun _ => .bind (emitByte_walk false c B _) fun _ =>
      literalRun_walk c B cn len

theorem mainLoop_walk (tr : Trees) : ∀ (fuel : Nat) (litRun : Bool),
    Walk S G (¬T) (fun st => (G → Inv st) ∧ (T → MainPre rem fuel st)) (mainLoop S tr fuel litRun) (fun st => G → Inv st) := by
  intro fuel
  induction fuel with
  | zero =>
    intro litRun
    rw [mainLoop]
    exact .throw _ fun st h => KE.hang fun t => by rcases h.2 t with ⟨_, h⟩ | h <;> omega
  | succ fuel ih =>
    intro litRun
    rw [mainLoop]
    refine .get_bind fun s => .ite (fun _ => .pure _ fun _ h => h.1.1) fun hz => ?_
    have hpre : ∀ st : St σ, ((G → Inv st) ∧ (T → MainPre rem (fuel + 1) st)) ∧ st = s →
        K rem G T false 1 fuel st ∧ (T → 1 ≤ fuel) := by
      rintro st ⟨h, rfl⟩
      refine ⟨⟨h.1, fun t => ?_⟩, fun t => ?_⟩ <;> rcases h.2 t with ⟨h, _⟩ | h
      · exact absurd h hz
      · exact .inr ⟨by omega, nofun⟩
      · exact absurd h hz
      · omega
    refine .assume (T → 1 ≤ fuel) (fun st h => (hpre st h).2) fun hf => ?_
    have hrec : ∀ b, Walk S G (¬T) (K rem G T false 2 fuel) (mainLoop S tr fuel b) (fun st => G → Inv st) :=
      fun b => (ih b).pre fun st h => ⟨h.1, fun t => MainPre_of_Inv (hf t) st (h.2 t)⟩
    have hfirst : ∀ cn, Walk S G (¬T) (fun st => ((G → Inv st) ∧ (T → MainPre rem (fuel + 1) st)) ∧ st = s)
        (readHuffSymSafe S cn) (K rem G T false 2 fuel) :=
      fun cn => (readHuffSymSafe_strict_walk hB hS 1 fuel cn).pre fun st h => (hpre st h).1
    refine .ite (fun _ => ?_) (fun _ => ?_) <;>
    · refine .bind (hfirst _) fun len => .ite (fun _ => ?_) fun _ => ?_
      · exact .bind (readHuffSymSafe_walk hB hS 2 fuel _) fun _ =>
          .bind (readBitsSafe_walk hB hS false 2 fuel 6 (by omega)) fun _ =>
          .bind (copyMatch_walk false 2 fuel _ _) fun _ => hrec _
      · exact .bind (readHuffSymSafe_walk hB hS 2 fuel _) fun _ =>
          .bind (literalRun_walk hB hS 2 fuel _ _) fun _ => hrec _

theorem readTypes_walk (w : Bool) (c B : Nat) : ∀ (k : Nat) (acc : List Nat),
    Walk S G H (K rem G T w c B) (readTypes S k acc) (K rem G T w c B)
  | 0, _ => by rw [readTypes]; exact .pure _ fun _ h => h
  | k + 1, acc => by
    rw [readTypes]; exact .bind (readBitsSafe_walk hB hS w c B 4 (by omega)) fun _ => readTypes_walk w c B k _

theorem decompressBody_walk (fuel B : Nat) (hf : T → B + 2 ≤ fuel) :
    Walk S G (¬T) (fun st => (G → Inv st) ∧ (T → 8 * rem st.src ≤ B)) (decompressBody S fuel) (fun st => G → Inv st) := by
  unfold decompressBody
  refine .bind (Q := fun st => (G → Inv st) ∧ st.inputEnd = 0 ∧ st.saved = {} ∧ (T → 8 * rem st.src ≤ B))
    (.modify _ fun st h => ⟨fun g => by have h := h.1 g; inv_tac h; simp, rfl, rfl, h.2⟩) fun _ => ?_
  refine .bind (Q := K rem G T true 0 B) (.modify _ fun st ⟨h1, _, h2, h3⟩ =>
    ⟨fun g => by have h := h1 g; inv_tac h, fun t => .inr ?_⟩) fun _ => ?_
  · simp only [h2, bitsAt]
    exact ⟨by simpa using h3 t, fun _ => by simpa using h3 t⟩
  refine .bind (Q := K rem G T true 0 B) (.modify _ fun st h => h.frame
    (fun h => by inv_tac h <;> simp [lzssWINDOW_SIZE]) rfl rfl rfl rfl) fun _ => ?_
  refine .bind (readTypes_walk hB hS true 0 B 6 []) fun types => ?_
  refine .bind (buildTree_walk hB hS 0 B _ _) fun m1 => ?_
  refine .bind (buildTree_walk hB hS 0 B _ _) fun m2 => ?_
  refine .bind (buildTree_walk hB hS 0 B _ _) fun ll => ?_
  refine .bind (buildTree_walk hB hS 0 B _ _) fun of => ?_
  refine .bind (buildTree_walk hB hS 0 B _ _) fun li => ?_
  refine (mainLoop_walk hB hS _ fuel false).pre fun st h => ⟨h.1, fun t => ?_⟩
  rcases h.2 t with h | ⟨h, _⟩
  · exact .inl ⟨h, by have := hf t; omega⟩
  · exact .inr (by have := hf t; omega)

theorem decompress_walk (fuel : Nat) (st : St σ) (hi : G → Inv st)
    (hf : T → 8 * rem st.src + 2 ≤ fuel) :
    match decompress S fuel st with
    | .error f => Cause S (¬T) (fun f => ¬G ∧ f ≠ .hang) f
    | .ok o => G → Inv o.st := by
  have h := decompressBody_walk hB hS fuel (8 * rem st.src) hf st ⟨hi, fun _ => Nat.le_refl _⟩
  unfold decompress
  rcases hr : (decompressBody S fuel).run.run st with ⟨(_ | _) | _, st1⟩
  · exact (h.error hr).1
  · exact h.error hr
  · exact h.ok hr

end walk

variable {σ : Type} {S : Src σ}

theorem decompress_fault (hB : S.Bounded) (fuel : Nat) (st : St σ) (h : Inv st) (f : Fault)
    (he : decompress S fuel st = .error f) : FaultOK S f := by
  have := decompress_walk (rem := fun _ => 0) (G := True) (T := False) (fun _ => hB) nofun fuel st (fun _ => h) nofun
  rw [he] at this
  exact this.ok fun hx => hx.1 trivial

theorem decompress_inv (hB : S.Bounded) (fuel : Nat) (st : St σ) (h : Inv st) (o : Out σ)
    (he : decompress S fuel st = .ok o) : Inv o.st := by
  have := decompress_walk (rem := fun _ => 0) (G := True) (T := False) (fun _ => hB) nofun fuel st (fun _ => h) nofun
  rw [he] at this
  exact this trivial

end MsPack.Kwaj.Lzh
