import MsPack.Chm.Extract
import Proofs.Lemmas.ChmPost
import Proofs.Lemmas.RdFacts
/-!
# CHM: every checked access of the model succeeds (lemmas for C02)

The CHM models index a directory chunk (`read_encint`, the `*p++` skipping loop, the quick-reference
slots of `search_chunk`) and the reset table read by `read_reset_table`; each such access is rendered as
a checked one with an explicit `Fault.oob` outcome, each pointer the C dereferences without a test as a
`Fault.nullDeref` outcome.  The lemmas below show none of them is taken:

* `e ≤ chunk.length` is what `read_encint` / the skipping loop need (`end` lies inside the chunk);
* `HdrInv` (chunk size ≥ 22, every cached chunk is `chunk_size` bytes long) is the invariant on the
  header that `readHeaders` establishes and `fastFind` / `extract` preserve;
* each function up to `fastFind` and `chmd_init_decomp` is walked once, for every input, with the conclusion
  `Faults B res` (`Post B Q res`; both are in `ChmPost.lean`): the fault it returns, if any, is not `hang` (the loops' fuel
  suffices), and `B` fails; so under `B` there is no `Fault` at all, and "never out of fuel" (C04) holds without `B`;
* `chmd_extract` is walked once (`extract_step`) into `ExtractStep`, one constructor per exit; `extract_inv`, the rule for
  an invariant of the cached state, and `extract_post` are read off it.
-/
namespace MsPack.Chm
open MsPack.Generated

open Lean Elab Tactic Meta in
/-- case split on the condition of the `if` at the head of the left-hand side of an equation hypothesis -/
elab "ite_head_at " h:ident " as " c:ident : tactic => do
  let g ← getMainGoal
  g.withContext do
    let fv ← getFVarId h
    let t := (← instantiateMVars (← fv.getType)).consumeMData
    let some (_, lhs, _) := t.eq? | throwError "ite_head_at: not an equation {t}"
    let lhs := lhs.consumeMData
    unless lhs.isAppOfArity ``ite 5 do throwError "ite_head_at: no if at the head"
    let cond ← Term.exprToSyntax (lhs.getArg! 1)
    evalTactic (← `(tactic| by_cases $c:ident : $cond <;> first | rw [if_pos $c] at $h:ident | rw [if_neg $c] at $h:ident))

/-- 22: the PMGL header and the entry count fit -/
def HdrInv (h : Header) : Prop :=
  22 ≤ h.chunkSize ∧ ∀ cc, h.chunkCache = some cc → ∀ p ∈ cc, p.2.length = h.chunkSize

theorem HdrInv.of_eq {h h' : Header} (hi : HdrInv h) (h1 : h'.chunkSize = h.chunkSize)
    (h2 : h'.chunkCache = h.chunkCache) : HdrInv h' := by
  unfold HdrInv; rw [h1, h2]; exact hi

def HeadersPost (filename : String) (res : Except Fault (Except Err Parsed)) : Prop :=
  (∀ f, res ≠ .error f) ∧
  ∀ p, res = .ok (.ok p) → HdrInv p.hdr ∧ FilesNonneg p.hdr.files ∧ p.hdr.filename = filename

theorem HeadersPost.err (filename : String) (e : Err) : HeadersPost filename (.ok (.error e)) :=
  ⟨fun _ h => (nomatch h), fun _ h => nomatch h⟩

theorem readHeaders_spec (filename : String) (file : Bytes) (entire : Bool) :
    HeadersPost filename (readHeaders filename file entire) := by
  have hinv : ∀ h : Header, 22 ≤ h.chunkSize → h.chunkCache = none → HdrInv h :=
    fun h h1 h2 => ⟨h1, fun cc hcc => by rw [h2] at hcc; cases hcc⟩
  apply readHeaders_rule (Q := HeadersPost filename)
  · exact fun _ => .err _ _
  · exact fun _ _ _ _ => .err _ _
  · exact fun _ _ => .err _ _
  · intro hdr hn hcs hcc hfl
    refine ⟨fun _ h => (nomatch h), fun p hp => ?_⟩
    cases hp
    exact ⟨hinv _ hcs hcc, hfl ▸ (fun _ hf => nomatch hf), hn⟩
  · exact fun _ _ _ f hf => absurd hf ((readChunks_fault _ _ _ _).1.no_fault trivial f)
  · intro hdr n r w hrc hn hcs hcc hfl
    refine ⟨fun _ h => (nomatch h), fun p hp => ?_⟩
    cases hp
    refine ⟨hinv _ hcs hcc, fun f hf => ?_, hn⟩
    rw [hfl] at hf
    exact ((readChunks_fault _ _ _ _).2 trivial _ hrc).2 w rfl (fun _ hf => nomatch hf) f (List.mem_reverse.1 hf)

theorem skipEncint_fault (chunk : Bytes) (e : Nat) : ∀ (fuel p : Nat),
    e - p + 1 ≤ fuel → Faults (e ≤ chunk.length) (skipEncint chunk e fuel p) := by
  intro fuel
  induction fuel with
  | zero => intro p h; omega
  | succ fuel ih =>
    intro p h
    rw [skipEncint]
    refine of_ite (fun hp => ?_) (fun _ => .ok _)
    split
    · rename_i hn
      exact .oob _ fun he => by rw [List.getElem?_eq_none_iff] at hn; omega
    · exact of_ite (fun _ => ih _ (by omega)) (fun _ => .ok _)

theorem qrTarget_fault (chunk : Bytes) (cs entriesOff m : Nat) :
    Faults (2 * m + 2 ≤ cs) (qrTarget chunk cs entriesOff m) := by
  unfold qrTarget
  exact of_ite (fun _ => .ok _) fun _ => of_ite (fun h => .oob _ (by omega)) fun _ => .ok _

/-- the interval `[l, r]` shrinks every round, so `r - l + 1` rounds suffice; `(l' + r') / 2` is the `M` that
    `search_chunk` recomputes from the final interval to index the quick-reference slots once more (`qrTarget`): it stays
    within the slots the area has -/
theorem bsearch_fault (chunk : Bytes) (cs entriesOff e : Nat) (fname : Bytes) (R : Nat) :
    ∀ (fuel l r : Nat), r - l + 1 ≤ fuel →
      Post (e ≤ chunk.length ∧ l ≤ r ∧ r ≤ R ∧ 2 * R + 2 ≤ cs)
        (fun v => ∀ cmp p nl l' r', v = .done cmp p nl l' r' → (l' + r') / 2 ≤ R)
        (bsearch chunk cs entriesOff e fname fuel l r) := by
  intro fuel
  induction fuel with
  | zero => intro l r h; omega
  | succ fuel ih =>
    intro l r h
    rw [bsearch]
    simp only
    split
    · rename_i f hq
      exact .fault ((qrTarget_fault _ _ _ _).pass hq fun b => by omega)
    · split
      · rename_i f hq
        exact .fault ((readEncint_fault _ _ _).pass hq fun b => b.1)
      · refine of_ite (fun _ => .ret _ fun _ _ _ _ _ _ hv => nomatch hv) fun _ => ?_
        refine of_ite (fun _ => .ret _ fun b _ _ _ _ _ hv => by cases hv; omega) fun _ => ?_
        refine of_ite (fun _ => of_ite (fun hm => ?_) fun _ => .ret _ fun _ _ _ _ _ _ hv => nomatch hv) fun _ => ?_
        · exact of_ite (fun hl => (ih _ _ (by omega)).mono (fun b => by omega) fun _ _ hv => hv)
            fun _ => .ret _ fun b _ _ _ _ _ hv => by cases hv; omega
        · exact of_ite (fun hl => (ih _ _ (by omega)).mono (fun b => by omega) fun _ _ hv => hv)
            fun _ => .ret _ fun b _ _ _ _ _ hv => by cases hv; omega

/-- `linear` is structural in the entry count; its three/one `skipEncint` calls get `e - p + 1` rounds -/
theorem linear_fault (chunk : Bytes) (e : Nat) (fname : Bytes) (isPmgl : Bool) :
    ∀ (n p : Nat) (r0 : Option Nat), Post (e ≤ chunk.length) (fun v => ∀ p' e', v = .found p' e' → e' = e)
      (linear chunk e fname isPmgl n p r0) := by
  have hend : ∀ (r0 : Option Nat) p' e', (if isPmgl then Search.notFound else
      match r0 with | some p => Search.found p e | none => .notFound) = .found p' e' → e' = e := by
    intro r0 p' e' h
    split at h
    · cases h
    · split at h
      · cases h; rfl
      · cases h
  intro n
  induction n with
  | zero => intro p r0; unfold linear; exact .ret _ fun _ => hend r0
  | succ n ih =>
    intro p r0
    unfold linear
    split
    · rename_i f hq; exact .fault ((readEncint_fault _ _ _).pass hq id)
    · simp only
      refine of_ite (fun _ => .ret _ fun _ _ _ h => nomatch h) fun _ => ?_
      refine of_ite (fun _ => .ret _ fun _ _ _ h => by cases h; rfl) fun _ => ?_
      refine of_ite (fun _ => .ret _ fun _ => hend r0) fun _ => ?_
      refine of_ite (fun _ => ?_) fun _ => ?_
      · split
        · rename_i f hq; exact .fault ((skipEncint_fault _ _ _ _ (Nat.le_refl _)).pass hq id)
        · split
          · rename_i f hq; exact .fault ((skipEncint_fault _ _ _ _ (Nat.le_refl _)).pass hq id)
          · split
            · rename_i f hq; exact .fault ((skipEncint_fault _ _ _ _ (Nat.le_refl _)).pass hq id)
            · exact ih _ _
      · split
        · rename_i f hq; exact .fault ((skipEncint_fault _ _ _ _ (Nat.le_refl _)).pass hq id)
        · exact ih _ _

theorem Post.lin {B : Prop} {len e : Nat} {res : Except Fault Search}
    (h : Post (e ≤ len) (fun v => ∀ p' e', v = .found p' e' → e' = e) res) (hb : B → e ≤ len) :
    Post B (fun v => ∀ p e, v = .found p e → e ≤ len) res :=
  h.mono hb fun b _ hv _ _ hr => (hv _ _ hr) ▸ hb b

/-- the binary search gets `qr_entries + 1` rounds for the interval `[0, qr_entries - 1]` -/
theorem searchChunk_fault (h : Header) (chunk fname : Bytes) :
    Post (chunk.length = h.chunkSize) (fun v => ∀ p e, v = .found p e → e ≤ chunk.length)
      (searchChunk h chunk fname) := by
  unfold searchChunk
  simp only
  generalize (1 + 2 ^ (if h.density < 16 then h.density else 16)) = qd
  generalize (if byteAt chunk 3 = 76 then pmgl_Entries else pmgi_Entries) = eo
  generalize u16At chunk (h.chunkSize - 2) = ne
  generalize u32At chunk pmgl_QuickRefSize = qs
  refine of_ite (fun _ => .ret _ fun _ _ _ hv => nomatch hv) fun _ => ?_
  refine of_ite (fun _ => .ret _ fun _ _ _ hv => nomatch hv) fun hqs => ?_
  have he : chunk.length = h.chunkSize → h.chunkSize - qs ≤ chunk.length := fun hl => by omega
  generalize hqe : (if Int.ofNat ((ne + qd - 1) % 4294967296 / qd * 2) > Int.ofNat qs - 2 then 0
    else (ne + qd - 1) % 4294967296 / qd) = qe
  refine of_ite (fun hq0 => ?_) fun _ => .lin (linear_fault _ _ _ _ _ _ _) he
  have hR : 2 * (qe - 1) + 2 ≤ h.chunkSize := by
    split at hqe
    · omega
    · rename_i hc; simp only [Int.ofNat_eq_natCast] at hc; omega
  have hbs := bsearch_fault chunk h.chunkSize eo (h.chunkSize - qs) fname (qe - 1) (qe + 1) 0 (qe - 1) (by omega)
  have hB : chunk.length = h.chunkSize →
      h.chunkSize - qs ≤ chunk.length ∧ 0 ≤ qe - 1 ∧ qe - 1 ≤ qe - 1 ∧ 2 * (qe - 1) + 2 ≤ h.chunkSize :=
    fun hl => ⟨he hl, Nat.zero_le _, Nat.le_refl _, hR⟩
  split
  · rename_i f hb; exact .fault (hbs.1.pass hb hB)
  · exact .ret _ fun _ _ _ hv => nomatch hv
  · exact .ret _ fun _ _ _ hv => nomatch hv
  · rename_i cmp p nl l r hb
    refine of_ite (fun _ => .ret _ fun hl _ _ hv => by cases hv; exact he hl) fun _ => ?_
    split
    · rename_i f hqt
      exact .fault ((qrTarget_fault _ _ _ _).pass hqt fun hl => by have := hbs.2 (hB hl) _ hb _ _ _ _ _ rfl; omega)
    · exact .lin (linear_fault _ _ _ _ _ _ _) he

def dropCache (h : Header) : Header := { h with chunkCache := none }

def SameDir (h h' : Header) : Prop := dropCache h' = dropCache h

theorem SameDir.refl (h : Header) : SameDir h h := rfl
theorem SameDir.trans {a b c : Header} (h1 : SameDir a b) (h2 : SameDir b c) : SameDir a c :=
  Eq.trans h2 h1
theorem SameDir.setCache (h : Header) (x : Option (List (Nat × Bytes))) :
    SameDir h { h with chunkCache := x } := rfl
theorem SameDir.chunkSize {a b : Header} (h : SameDir a b) : b.chunkSize = a.chunkSize := by
  have h' : dropCache b = dropCache a := h
  have := congrArg Header.chunkSize h'
  exact this

theorem HdrInv.setCache {h : Header} (hi : HdrInv h) (cc : List (Nat × Bytes))
    (hc : ∀ p ∈ cc, p.2.length = h.chunkSize) : HdrInv { h with chunkCache := some cc } :=
  ⟨hi.1, fun cc' hcc p hp => by cases hcc; exact hc p hp⟩

theorem HdrInv.cache {h : Header} (hi : HdrInv h) : ∀ p ∈ h.chunkCache.getD [], p.2.length = h.chunkSize := by
  intro p hp
  cases hcc : h.chunkCache with
  | none => rw [hcc] at hp; cases hp
  | some cc => rw [hcc] at hp; exact hi.2 cc hcc p hp

theorem lookup_mem : ∀ (l : List (Nat × Bytes)) (n : Nat) (c : Bytes), l.lookup n = some c → (n, c) ∈ l := by
  intro l
  induction l with
  | nil => intro n c h; cases h
  | cons a l ih =>
    intro n c h
    obtain ⟨k, v⟩ := a
    rw [List.lookup_cons] at h
    split at h
    · rename_i hk
      cases h
      have : n = k := by simpa using hk
      subst this
      exact List.mem_cons_self
    · exact List.mem_cons_of_mem _ (ih _ _ h)

theorem readChunk_post (st : FF) (file : Bytes) (n : Nat) (hi : HdrInv st.hdr) (res : Option Bytes × FF)
    (hr : readChunk st file n = res) :
    HdrInv res.2.hdr ∧ SameDir st.hdr res.2.hdr ∧ ∀ c, res.1 = some c → c.length = st.hdr.chunkSize := by
  have hcache := hi.cache
  unfold readChunk at hr
  simp only at hr
  split at hr
  · subst hr; exact ⟨hi, SameDir.refl _, fun _ hc => (by cases hc)⟩
  split at hr
  · rename_i c hlk
    subst hr
    refine ⟨hi.setCache _ hcache, SameDir.setCache _ _, fun c' hc => ?_⟩
    cases hc
    exact hcache _ (lookup_mem _ _ _ hlk)
  split at hr
  · subst hr; exact ⟨hi.setCache _ hcache, SameDir.setCache _ _, fun _ hc => (by cases hc)⟩
  split at hr
  · subst hr; exact ⟨hi.setCache _ hcache, SameDir.setCache _ _, fun _ hc => (by cases hc)⟩
  rename_i buf r' hre
  have hbl := Rd.readExact_length hre
  split at hr
  · subst hr; exact ⟨hi.setCache _ hcache, SameDir.setCache _ _, fun _ hc => (by cases hc)⟩
  · subst hr
    refine ⟨hi.setCache _ ?_, SameDir.setCache _ _, fun c' hc => ?_⟩
    · intro p hp
      rcases List.mem_cons.mp hp with rfl | hp
      · exact hbl
      · exact hcache p hp
    · cases hc; exact hbl


theorem readFound_fault (chunk : Bytes) (p e : Nat) (st : FF) :
    Post (e ≤ chunk.length) (fun o => o.st.hdr = st.hdr) (readFound chunk p e st) := by
  unfold readFound
  split
  · rename_i f hq; exact .fault ((readEncint_fault _ _ _).pass hq id)
  split
  · rename_i f hq; exact .fault ((readEncint_fault _ _ _).pass hq id)
  split
  · rename_i f hq; exact .fault ((readEncint_fault _ _ _).pass hq id)
  simp only
  exact of_ite (fun _ => .ret _ fun _ => rfl) fun _ => .ret _ fun _ => rfl

def FindPost (h : Header) (res : Except Fault FindOut) : Prop :=
  Post (HdrInv h) (fun o => HdrInv o.st.hdr ∧ SameDir h o.st.hdr) res

theorem FindPost.found {h h' : Header} {B : Prop} {res : Except Fault FindOut} (rf : Post B (fun o => o.st.hdr = h') res)
    (hb : HdrInv h → B ∧ HdrInv h' ∧ SameDir h h') : FindPost h res :=
  rf.mono (fun hi => (hb hi).1) fun hi o ho => by rw [ho]; exact (hb hi).2

theorem FindPost.trans {h h' : Header} {res : Except Fault FindOut} (p : FindPost h' res)
    (hk : HdrInv h → HdrInv h' ∧ SameDir h h') : FindPost h res :=
  p.mono (fun hi => (hk hi).1) fun hi _ ho => ⟨ho.1, (hk hi).2.trans ho.2⟩

/-- the PMGI descent: running out of fuel is the C's own `visits++ > num_chunks` check (MSPACK_ERR_DATAFORMAT), not a
    fault, so `hang` is not returned whatever the fuel -/
theorem descend_fault (file fname : Bytes) :
    ∀ (fuel n : Nat) (st : FF), FindPost st.hdr (descend file fname fuel n st) := by
  intro fuel
  induction fuel with
  | zero => intro n st; rw [descend]; exact .ret _ fun hi => ⟨hi, .refl _⟩
  | succ fuel ih =>
    intro n st
    rw [descend]
    split
    · rename_i st' hrc
      exact .ret _ fun hi => have := readChunk_post st file n hi _ hrc; ⟨this.1, this.2.1⟩
    · rename_i chunk st' hrc
      have hc := fun hi => readChunk_post st file n hi _ hrc
      have hk : HdrInv st.hdr → HdrInv st'.hdr ∧ SameDir st.hdr st'.hdr := fun hi => ⟨(hc hi).1, (hc hi).2.1⟩
      have hl : HdrInv st.hdr → chunk.length = st'.hdr.chunkSize := fun hi => by
        rw [(hc hi).2.1.chunkSize]; exact (hc hi).2.2 _ rfl
      have hs := searchChunk_fault st'.hdr chunk fname
      split
      · rename_i f hq; exact .fault (hs.1.pass hq hl)
      · exact .ret _ hk
      · exact .ret _ hk
      · rename_i p e hq
        have he := fun hi => hs.2 (hl hi) _ hq p e rfl
        split
        · exact .found (readFound_fault _ _ _ _) fun hi => ⟨he hi, hk hi⟩
        · split
          · rename_i f hq; exact .fault ((readEncint_fault _ _ _).pass hq he)
          · split
            · exact .ret _ hk
            · exact (ih (‹EncRes›.value % 4294967296) st').trans hk

/-- the PMGL chain walk, likewise -/
theorem walk_fault (file fname : Bytes) :
    ∀ (fuel n : Nat) (last : Search) (st : FF), FindPost st.hdr (walk file fname fuel n last st) := by
  intro fuel
  induction fuel with
  | zero => intro n last st; rw [walk]; exact .ret _ fun hi => ⟨hi, .refl _⟩
  | succ fuel ih =>
    intro n last st
    rw [walk]
    simp only
    split
    · exact .ret _ fun hi => ⟨hi, .refl _⟩
    split
    · rename_i st' hrc
      exact .ret _ fun hi => have := readChunk_post st file n hi _ hrc; ⟨this.1, this.2.1⟩
    · rename_i chunk st' hrc
      have hc := fun hi => readChunk_post st file n hi _ hrc
      have hk : HdrInv st.hdr → HdrInv st'.hdr ∧ SameDir st.hdr st'.hdr := fun hi => ⟨(hc hi).1, (hc hi).2.1⟩
      have hl : HdrInv st.hdr → chunk.length = st'.hdr.chunkSize := fun hi => by
        rw [(hc hi).2.1.chunkSize]; exact (hc hi).2.2 _ rfl
      have hs := searchChunk_fault st'.hdr chunk fname
      split
      · rename_i f hq; exact .fault (hs.1.pass hq hl)
      · rename_i p e hq
        exact .found (readFound_fault _ _ _ _) fun hi => ⟨hs.2 (hl hi) _ hq p e rfl, hk hi⟩
      · split
        · exact .ret _ hk
        · exact (ih (u32At chunk pmgl_NextChunk) ‹Search› st').trans hk

theorem fastFind_fault (file : Option Bytes) (st : FF) (filename : Bytes) :
    FindPost st.hdr (fastFind file st filename) := by
  unfold fastFind
  split
  · exact .ret _ fun hi => ⟨hi, .refl _⟩
  · simp only
    split
    · exact descend_fault _ _ _ _ _
    · exact walk_fault _ _ _ _ _ _

theorem Slot.get_set_self (h : Header) (f : CFile) (s : Slot) : s.get (s.set h f) = some f := by
  cases s <;> rfl

theorem Slot.get_set_mono (h : Header) (f : CFile) (s t : Slot) (ht : (t.get h).isSome) :
    (t.get (s.set h f)).isSome := by
  cases s <;> cases t <;> first | exact ht | rfl

theorem SameDir.slot {a b : Header} (h : SameDir a b) (t : Slot) : t.get b = t.get a := by
  have h' : dropCache b = dropCache a := h
  cases t
  · have := congrArg Header.content h'; exact this
  · have := congrArg Header.control h'; exact this
  · have := congrArg Header.spaninfo h'; exact this
  · have := congrArg Header.rtable h'; exact this

/-- what the helpers of `chmd_init_decomp` may change of the call's state -/
structure SysStep (x x' : X) : Prop where
  d : ∃ infh, x'.d = { x.d with infh := infh } ∧ infh.map (·.name) = x.d.infh.map (·.name)
  hdr : HdrInv x.hdr → HdrInv x'.hdr ∧ ∀ t : Slot, (t.get x.hdr).isSome → (t.get x'.hdr).isSome

theorem SysStep.refl (x : X) : SysStep x x := ⟨⟨_, rfl, rfl⟩, fun hi => ⟨hi, fun _ h => h⟩⟩

theorem SysStep.trans {a b c : X} (h1 : SysStep a b) (h2 : SysStep b c) : SysStep a c := by
  obtain ⟨⟨i1, e1, n1⟩, k1⟩ := h1
  obtain ⟨⟨i2, e2, n2⟩, k2⟩ := h2
  refine ⟨⟨i2, by rw [e2, e1], by rw [n2, e1]; exact n1⟩, fun hi => ?_⟩
  have a1 := k1 hi
  have a2 := k2 a1.1
  exact ⟨a2.1, fun t ht => a2.2 t (a1.2 t ht)⟩

theorem SysStep.error {x x' : X} (h : SysStep x x') (e : Err) : SysStep x { x' with error := e } := ⟨h.d, h.hdr⟩

def StepPost {β : Type} (x : X) (st : β → X) (Q : β → Prop) (res : Except Fault β) : Prop :=
  Faults (HdrInv x.hdr) res ∧ ∀ b, res = .ok b → SysStep x (st b) ∧ Q b

theorem StepPost.ok {β : Type} {x : X} {st : β → X} {Q : β → Prop} (b : β) (k : SysStep x (st b)) (q : Q b) :
    StepPost x st Q (.ok b) :=
  ⟨.ok _, fun _ hr => (by cases hr; exact ⟨k, q⟩)⟩

theorem StepPost.fault {β : Type} {x : X} {st : β → X} {Q : β → Prop} {f : Fault}
    (h : Faults (HdrInv x.hdr) (.error f : Except Fault β)) : StepPost x st Q (.error f) :=
  ⟨h, fun _ hr => (by cases hr)⟩

theorem findSysFile_spec (files : Files) (x : X) (slot : Slot) :
    StepPost x (·.2) (fun p => p.1 = .ok → (slot.get p.2.hdr).isSome) (findSysFile files x slot) := by
  unfold findSysFile
  split
  · rename_i f hg
    exact .ok _ (.refl x) (fun _ => by rw [hg]; rfl)
  · split
    · rename_i hq
      exact .fault ((fastFind_fault _ x.ff slot.name).1.pass hq id)
    · rename_i o hq
      have hk : SysStep x (x.setFF o.st) := ⟨⟨_, rfl, rfl⟩, fun hi =>
        have ho := (fastFind_fault _ x.ff slot.name).2 hi o hq
        ⟨ho.1, fun t ht => by rw [show t.get (x.setFF o.st).hdr = _ from ho.2.slot t]; exact ht⟩⟩
      simp only
      split
      · exact .ok _ hk (fun he => by cases he)
      · split
        · exact .ok _ hk (fun he => by cases he)
        · refine .ok _ (hk.trans ⟨⟨_, rfl, rfl⟩, fun hi => ⟨hi.of_eq (by cases slot <;> rfl) (by cases slot <;> rfl),
            fun t ht => Slot.get_set_mono _ _ _ _ (by cases t <;> exact ht)⟩⟩) (fun _ => by rw [Slot.get_set_self]; rfl)


theorem readSysFile_spec (files : Files) (x : X) (f : CFile) (res : Option Bytes × X)
    (hr : readSysFile files x f = res) :
    SysStep x res.2 ∧ ∀ data, res.1 = some data → data.length = (wrapI32 f.length).toNat := by
  unfold readSysFile at hr
  split at hr
  · subst hr; exact ⟨(SysStep.refl x).error _, fun _ hd => (by cases hd)⟩
  simp only at hr
  split at hr
  · subst hr; exact ⟨(SysStep.refl x).error _, fun _ hd => (by cases hd)⟩
  split at hr
  · subst hr; exact ⟨(SysStep.refl x).error _, fun _ hd => (by cases hd)⟩
  rename_i h hh
  have hk (p : Nat) (e : Err) : SysStep x ⟨e, x.hdr, { x.d with infh := some { h with pos := p } }⟩ :=
    ⟨⟨_, rfl, by rw [hh]; rfl⟩, fun hi => ⟨hi, fun _ ht => ht⟩⟩
  split at hr
  · subst hr; exact ⟨(SysStep.refl x).error _, fun _ hd => (by cases hd)⟩
  split at hr
  · subst hr; exact ⟨hk _ _, fun _ hd => (by cases hd)⟩
  · rename_i hdl
    subst hr
    refine ⟨hk _ _, fun data hd => ?_⟩
    cases hd
    exact Decidable.not_not.mp hdl

theorem readResetTable_spec (files : Files) (x : X) (entry : Nat) :
    StepPost x (·.2) (fun _ => True) (readResetTable files x entry) := by
  unfold readResetTable
  have hs := findSysFile_spec files x .rtable
  split
  · rename_i hq; exact .fault (hs.1.pass hq id)
  rename_i err x1 hq
  obtain ⟨k1, hsl⟩ := hs.2 _ hq
  refine of_ite (fun _ => .ok _ k1 trivial) (fun herr => ?_)
  split
  · rename_i hn
    have := hsl (Decidable.not_not.mp herr)
    rw [show Slot.get x1.hdr .rtable = x1.hdr.rtable from rfl, hn] at this
    cases this
  rename_i rt hrt
  refine of_ite (fun _ => .ok _ k1 trivial) (fun hlo => ?_)
  refine of_ite (fun _ => .ok _ k1 trivial) (fun hhi => ?_)
  split
  · rename_i x2 hrs
    exact .ok _ (k1.trans (readSysFile_spec files x1 rt _ hrs).1) trivial
  rename_i data x2 hrs
  obtain ⟨h2, hdl⟩ := readSysFile_spec files x1 rt _ hrs
  have k2 := k1.trans h2
  have hdl := hdl data rfl
  have hw : wrapI32 rt.length = rt.length := by
    unfold wrapI32
    simp only [lzxrtHeaderSIZEOF, Int.ofNat_eq_natCast] at hlo
    omega
  refine of_ite (fun _ => .ok _ k2 trivial) (fun _ => ?_)
  refine of_ite (fun hc => ?_) (fun _ => .ok _ k2 trivial)
  generalize (u32At data lzxrt_TableOffset + entry * u32At data lzxrt_EntrySize % 4294967296) % 4294967296 = pos at hc ⊢
  generalize u32At data lzxrt_EntrySize = es at hc ⊢
  have hfit (n : Nat) (he : es = n) : ¬ pos + n > data.length := by
    simp only [Int.ofNat_eq_natCast] at hc; omega
  exact of_ite (fun he => of_ite (fun h => absurd h (hfit 4 he)) (fun _ => .ok _ k2 trivial))
    (fun _ => of_ite (fun he => of_ite (fun h => absurd h (hfit 8 he)) (fun _ => .ok _ k2 trivial))
      (fun _ => .ok _ k2 trivial))

theorem readSpaninfo_spec (files : Files) (x : X) : StepPost x (·.2.2) (fun _ => True) (readSpaninfo files x) := by
  unfold readSpaninfo
  have hs := findSysFile_spec files x .spaninfo
  split
  · rename_i hq; exact .fault (hs.1.pass hq id)
  rename_i err x1 hq
  obtain ⟨k1, hsl⟩ := hs.2 _ hq
  refine of_ite (fun _ => .ok _ k1 trivial) (fun herr => ?_)
  split
  · rename_i hn
    have := hsl (Decidable.not_not.mp herr)
    rw [show Slot.get x1.hdr .spaninfo = x1.hdr.spaninfo from rfl, hn] at this
    cases this
  rename_i si hsi
  refine of_ite (fun _ => .ok _ k1 trivial) (fun _ => ?_)
  split
  · rename_i x2 hrs
    exact .ok _ (k1.trans (readSysFile_spec files x1 si _ hrs).1) trivial
  rename_i data x2 hrs
  have k2 := k1.trans (readSysFile_spec files x1 si _ hrs).1
  exact of_ite (fun _ => .ok _ k2 trivial) (fun _ => .ok _ k2 trivial)

def DInv (P : Lzx.St Rd → Prop) (d : DState) : Prop := ∀ st, d.state = some st → P st

def InitPost (P : Lzx.St Rd → Prop) (x : X) (res : Except Fault (Err × X)) : Prop :=
  (∀ f, res ≠ .error f) ∧ ∀ ret x', res = .ok (ret, x') →
    HdrInv x'.hdr ∧ DInv P x'.d ∧ (x.d.infh.isSome → x'.d.infh.isSome)

theorem InitPost.mk' {P : Lzx.St Rd → Prop} {x : X} (e : Err) (x' : X) (hi : HdrInv x'.hdr) (hd : DInv P x'.d)
    (hf : x.d.infh.isSome → x'.d.infh.isSome) : InitPost P x (.ok (e, x')) :=
  ⟨fun _ hf => (by cases hf), fun _ _ hr => (by cases hr; exact ⟨hi, hd, hf⟩)⟩

/-- what `chmd_init_decomp` does to the state of the call when it returns `ret` -/
structure InitStep (fill : UInt8) (x : X) (ret : Err) (x' : X) : Prop where
  error : x'.error = ret
  chm   : x'.d.chm = x.d.chm
  name  : x'.d.infh.map (·.name) = x.d.infh.map (·.name)
  state : x'.d.state = x.d.state ∨
    ∀ st, x'.d.state = some st → ∃ r wb ri ibs ol dl, Lzx.init (σ := Rd) r wb ri ibs ol dl fill = some st
  hdr   : HdrInv x.hdr → HdrInv x'.hdr

def InitRes (fill : UInt8) (x : X) (res : Except Fault (Err × X)) : Prop :=
  Faults (HdrInv x.hdr) res ∧ ∀ ret x', res = .ok (ret, x') → InitStep fill x ret x'

theorem InitRes.set {fill : UInt8} {x x1 : X} (k : SysStep x x1) (e : Err) (io off len : Int)
    (st : Option (Lzx.St Rd)) (hst : st = x1.d.state ∨
      ∀ s, st = some s → ∃ r wb ri ibs ol dl, Lzx.init (σ := Rd) r wb ri ibs ol dl fill = some s) :
    InitRes fill x (.ok (e, ⟨e, x1.hdr, { x1.d with inoffset := io, offset := off, length := len, state := st }⟩)) := by
  refine ⟨.ok _, fun _ _ hr => ?_⟩
  cases hr
  obtain ⟨⟨i, hd, hn⟩, hh⟩ := k
  rw [hd] at hst ⊢
  exact ⟨rfl, rfl, hn, hst, fun hi => (hh hi).1⟩

theorem InitRes.step {fill : UInt8} {x x1 : X} (k : SysStep x x1) (e : Err) :
    InitRes fill x (.ok (e, { x1 with error := e })) :=
  InitRes.set k e x1.d.inoffset x1.d.offset x1.d.length x1.d.state (.inl rfl)

theorem InitRes.fault {fill : UInt8} {x : X} {f : Fault} (h : Faults (HdrInv x.hdr) (.error f : Except Fault (Err × X))) :
    InitRes fill x (.error f) :=
  ⟨h, fun _ _ hr => (by cases hr)⟩

theorem InitRes.pass {α : Type} {fill : UInt8} {x x1 : X} {f : Fault} {r : Except Fault α} (k : SysStep x x1)
    (h : Faults (HdrInv x1.hdr) r) (hq : r = .error f) : InitRes fill x (.error f) :=
  .fault (h.pass hq fun hi => (k.hdr hi).1)

theorem InitRes.finish {fill : UInt8} {x x1 : X} (k : SysStep x x1) {io off len rem : Int} {c : Prop}
    {inst : Decidable c} {r : Rd} {wb ri ibs ol : Nat} {dl : Bool} :
    InitRes fill x
      (if rem ≤ 0 then
        .ok (.decrunch, { x1 with d := { x1.d with inoffset := io, offset := off, length := len }, error := .decrunch })
      else
        let ost : Option (Lzx.St Rd) := @ite _ c inst none (Lzx.init r wb ri ibs ol dl fill)
        let x2 : X := { x1 with d := { x1.d with inoffset := io, offset := off, length := len, state := ost } }
        let x3 : X := if ost.isNone then { x2 with error := .nomemory } else { x2 with error := .ok }
        .ok (x3.error, x3)) := by
  refine of_ite (fun _ => .set k _ _ _ _ _ (.inl rfl)) (fun _ => ?_)
  simp only
  generalize hst : @ite _ c inst none (Lzx.init r wb ri ibs ol dl fill) = ost
  have host : ∀ s, ost = some s → ∃ r wb ri ibs ol dl, Lzx.init (σ := Rd) r wb ri ibs ol dl fill = some s := by
    intro s hs
    rw [← hst] at hs
    split at hs
    · cases hs
    · exact ⟨_, _, _, _, _, _, hs⟩
  cases ost <;> exact .set k _ _ _ _ _ (.inr host)

theorem initDecomp_spec (files : Files) (fill : UInt8) (x : X) (off : Int) :
    InitRes fill x (initDecomp files fill x off) := by
  unfold initDecomp
  simp only
  have hs := findSysFile_spec files x .content
  split
  · rename_i hq; exact .pass (.refl x) hs.1 hq
  rename_i err x1 hq
  obtain ⟨k1, hsl1⟩ := hs.2 _ hq
  refine of_ite (fun _ => .step k1 _) (fun herr1 => ?_)
  have hs2 := findSysFile_spec files x1 .control
  split
  · rename_i hq2; exact .pass k1 hs2.1 hq2
  rename_i err2 x2 hq2
  obtain ⟨k12, hsl2⟩ := hs2.2 _ hq2
  have k2 := k1.trans k12
  refine of_ite (fun _ => .step k2 _) (fun herr2 => ?_)
  split
  · rename_i hn
    refine .fault (.null _ fun hi => ?_)
    have := (k12.hdr (k1.hdr hi).1).2 .content (hsl1 (Decidable.not_not.mp herr1))
    rw [show Slot.get x2.hdr .content = x2.hdr.content from rfl, hn] at this
    cases this
  · rename_i hn _
    have := hsl2 (Decidable.not_not.mp herr2)
    rw [show Slot.get x2.hdr .control = x2.hdr.control from rfl, hn] at this
    cases this
  rename_i content control hcontent hcontrol
  refine of_ite (fun _ => .step k2 _) (fun _ => ?_)
  split
  · rename_i x3 hrs
    exact .step (k2.trans (readSysFile_spec files x2 control _ hrs).1) _
  rename_i data x3 hrs
  have k3 := k2.trans (readSysFile_spec files x2 control _ hrs).1
  refine of_ite (fun _ => .step k3 _) (fun _ => ?_)
  split
  · exact .step k3 _
  split
  · exact .step k3 _
  refine of_ite (fun _ => .step k3 _) (fun _ => ?_)
  have hrt := readResetTable_spec files x3
  split
  · rename_i hq; exact .pass k3 (hrt _).1 hq
  rename_i rt x4 hq4
  have k4 := k3.trans ((hrt _).2 _ hq4).1
  cases rt with
  | some p =>
    obtain ⟨length, offset⟩ := p
    simp only
    exact .finish k4
  | none =>
    have hsp := readSpaninfo_spec files x4
    simp only
    split
    · rename_i hq
      split at hq
      · rename_i hq5; cases hq; exact .pass k4 hsp.1 hq5
      · split at hq <;> cases hq
    · rename_i err5 x5 hq
      split at hq
      · cases hq
      · rename_i hq5
        split at hq <;> cases hq
        exact .step (k4.trans (hsp.2 _ hq5).1) _
    · rename_i length offset entry x5 hq
      split at hq
      · cases hq
      · rename_i hq5
        split at hq <;> cases hq
        exact .finish (k4.trans (hsp.2 _ hq5).1)

theorem initDecomp_post (P : Lzx.St Rd → Prop)
    (hinit : ∀ r wb ri ibs ol dl fill st, Lzx.init (σ := Rd) r wb ri ibs ol dl fill = some st → P st)
    (files : Files) (fill : UInt8) (x : X) (off : Int) (hi : HdrInv x.hdr) (hd : DInv P x.d) :
    InitPost P x (initDecomp files fill x off) := by
  obtain ⟨h1, h2⟩ := initDecomp_spec files fill x off
  refine ⟨h1.no_fault hi, fun ret x' hr => ?_⟩
  obtain ⟨_, _, hn, hs, hh⟩ := h2 ret x' hr
  refine ⟨hh hi, fun st hst => ?_, fun hf => ?_⟩
  · rcases hs with hs | hs
    · exact hd st (hs ▸ hst)
    · obtain ⟨_, _, _, _, _, _, h⟩ := hs st hst
      exact hinit _ _ _ _ _ _ _ _ h
  · cases hx : x.d.infh with
    | none => rw [hx] at hf; cases hf
    | some _ => rw [hx] at hn; cases hx' : x'.d.infh with
      | none => rw [hx'] at hn; cases hn
      | some _ => rfl

/-- what the CHM layer needs from a safety invariant `P` of the LZX decoder state -/
structure LzxInv (P : Lzx.St Rd → Prop) : Prop where
  init : ∀ r wb ri ibs ol dl fill st, Lzx.init (σ := Rd) r wb ri ibs ol dl fill = some st → P st
  src  : ∀ (st : Lzx.St Rd) (r : Rd), P st → P { st with src := r }
  step : ∀ fuel st n o, P st → Lzx.decompress rdSrc fuel st n = .ok o → P o.st

def LzxFault (P : Lzx.St Rd → Prop) (f : Fault) : Prop :=
  ∃ fuel st n, P st ∧ Lzx.decompress rdSrc fuel st n = .error f

def InstInv (P : Lzx.St Rd → Prop) (inst : Inst) : Prop := ∀ d, inst.d = some d → DInv P d

theorem lzxCall_some (files : Files) (x : X) (b : Int) (e : Err) (w : Bytes) (x' : X)
    (h : lzxCall files x b = .ok (some (e, w, x'))) :
    (e = .args ∧ w = [] ∧ x' = x) ∨
    ∃ st hh o, x.d.state = some st ∧ x.d.infh = some hh ∧
      Lzx.decompress rdSrc (lzxFuel (infhBytes files x)) { st with src := ⟨infhBytes files x, hh.pos⟩ } b.toNat = .ok o ∧
      e = o.err ∧ w = o.written ∧
      x' = { x with d := { x.d with state := some o.st, infh := some { hh with pos := o.st.src.pos },
                                    offset := x.d.offset + Int.ofNat o.written.length } } := by
  unfold lzxCall at h
  split at h
  · cases h; exact .inl ⟨rfl, rfl, rfl⟩
  · cases h
  · rename_i st hh hst hin
    split at h
    · cases h; exact .inl ⟨rfl, rfl, rfl⟩
    · split at h
      · cases h
      · simp +zeta only at h
        split at h
        · cases h
        · rename_i o ho
          cases h
          exact .inr ⟨st, hh, o, hst, hin, ho, rfl, rfl, rfl⟩

theorem lzxCall_error (files : Files) (x : X) (b : Int) (f : Fault) (h : lzxCall files x b = .error f) :
    x.d.infh = none ∧ f ≠ .hang ∨
    ∃ st hh, x.d.state = some st ∧ x.d.infh = some hh ∧
      Lzx.decompress rdSrc (lzxFuel (infhBytes files x)) { st with src := ⟨infhBytes files x, hh.pos⟩ } b.toNat = .error f := by
  unfold lzxCall at h
  split at h
  · cases h
  · rename_i hn _; cases h; exact .inl ⟨hn, fun hc => by cases hc⟩
  · rename_i st hh hst hin
    split at h
    · cases h
    · split at h
      · cases h
      · simp +zeta only at h
        split at h
        · rename_i f' hf; cases h; exact .inr ⟨st, hh, hst, hin, hf⟩
        · cases h

theorem lzxCall_ne_none (files : Files) (x : X) (b : Int) : lzxCall files x b ≠ .ok none := by
  unfold lzxCall
  split
  · intro h; cases h
  · intro h; cases h
  · split
    · intro h; cases h
    · rw [show (!Lzx.implemented) = false from rfl]
      simp only [Bool.false_eq_true, if_false]
      split <;> (intro h; cases h)

theorem lzxCall_post {P : Lzx.St Rd → Prop} (L : LzxInv P) (files : Files) (x : X) (b : Int)
    (hd : DInv P x.d) (hf : x.d.infh.isSome) :
    (∀ f, lzxCall files x b = .error f → LzxFault P f) ∧
    (∀ e w x', lzxCall files x b = .ok (some (e, w, x')) → x'.hdr = x.hdr ∧ DInv P x'.d ∧ x'.d.infh.isSome) := by
  refine ⟨fun f h => ?_, fun e w x' h => ?_⟩
  · rcases lzxCall_error files x b f h with ⟨hn, _⟩ | ⟨st, hh, hst, _, hdec⟩
    · rw [hn] at hf; cases hf
    · exact ⟨_, _, _, L.src st _ (hd st hst), hdec⟩
  · rcases lzxCall_some files x b e w x' h with ⟨_, _, rfl⟩ | ⟨st, hh, o, hst, _, hdec, _, _, rfl⟩
    · exact ⟨rfl, hd, hf⟩
    · exact ⟨rfl, fun s hs => (by cases hs; exact L.step _ _ _ _ (L.src st _ (hd st hst)) hdec), rfl⟩

/-- the end of `chmd_extract` on a compressed member: the input position is saved in `d->inoffset`; after an error
    the decoder is dropped -/
def sec1End (x : X) : X :=
  let x := match x.d.infh with
    | some h => { x with d := { x.d with inoffset := Int.ofNat h.pos } }
    | none => x
  if x.error ≠ .ok then { x with d := { x.d with state := none } } else x

theorem sec1End_eq (x : X) : ∃ io, sec1End x =
    ⟨x.error, x.hdr, { x.d with inoffset := io, state := if x.error ≠ .ok then none else x.d.state }⟩ ∧
    ∀ h, x.d.infh = some h → io = Int.ofNat h.pos := by
  unfold sec1End
  cases hi : x.d.infh with
  | none => exact ⟨x.d.inoffset, by simp only; split <;> rfl, fun _ h => (by cases h)⟩
  | some h => exact ⟨Int.ofNat h.pos, by simp only; split <;> rfl, fun _ h' => (by cases h'; rfl)⟩

/-- `chmd_extract` up to "open input chm file if not open": the state it leaves behind when the file cannot be opened,
    and the state it goes on with (the cached one if it has a handle and belongs to this header, else a
    re-initialised one without decoder, on the header's file) -/
def openD (files : Files) (fill : UInt8) (inst : Inst) (key : Nat) (hdr : Header) : DState × Option DState :=
  let fillWord : Int := wrapI64 (Int.ofNat (fill.toNat * 0x0101010101010101))
  let d : DState := match inst.d with
    | some d => d
    | none => { chm := key, length := fillWord, offset := 0, inoffset := fillWord, state := none, infh := none }
  let reopen := d.infh.isNone ∨ d.chm ≠ key
  let d := if reopen then { d with chm := key, offset := 0, state := none, infh := none } else d
  (d, if reopen then
      match files.lookup hdr.filename with
      | some _ => some { d with infh := some ⟨hdr.filename, 0⟩ }
      | none => none
    else some d)

theorem openD_spec (I : DState → Prop) (files : Files) (fill : UInt8) (inst : Inst) (key : Nat) (hdr : Header)
    (hinst : ∀ d, inst.d = some d → I d)
    (hnew : ∀ d : DState, d.state = none → d.chm = key →
      d.infh = none ∨ d.infh = some ⟨hdr.filename, 0⟩ ∧ (files.lookup hdr.filename).isSome → I d) :
    I (openD files fill inst key hdr).1 ∧
    ∀ d, (openD files fill inst key hdr).2 = some d → I d ∧ d.infh.isSome := by
  unfold openD
  extract_lets fillWord d0 reopen d1
  have hd0 : I d0 := by
    unfold d0
    split
    · rename_i d hid; exact hinst d hid
    · exact hnew _ rfl rfl (.inl rfl)
  by_cases hre : reopen
  · have e : d1 = { d0 with chm := key, offset := 0, state := none, infh := none } := if_pos hre
    rw [if_pos hre]
    clear_value d1
    subst e
    refine ⟨hnew _ rfl rfl (.inl rfl), fun d hd => ?_⟩
    split at hd
    · rename_i hlk
      cases hd
      exact ⟨hnew _ rfl rfl (.inr ⟨rfl, by rw [hlk]; rfl⟩), rfl⟩
    · cases hd
  · have e : d1 = d0 := if_neg hre
    rw [if_neg hre]
    clear_value d1
    subst e
    refine ⟨hd0, fun d hd => ?_⟩
    cases hd
    refine ⟨hd0, ?_⟩
    cases hinf : d0.infh with
    | none => exact absurd (Or.inl (by rw [hinf]; rfl)) hre
    | some _ => rfl

/-- the number of bytes `chmd_extract` asks the decoder for: the declared length, or — "should decompress but
    still error out" — one more than the section has left -/
def askLen (dlen offset length : Int) : Int :=
  if length > wrapI64 (dlen - offset) then wrapI64 (dlen - offset) + 1 else length

/-- the `*self->d` a call goes on with after "open input chm file if not open" -/
def Opened (files : Files) (inst : Inst) (key : Nat) (hdr : Header) (d : DState) : Prop :=
  inst.d = some d ∨ d.state = none ∧ d.chm = key ∧
    (d.infh = none ∨ d.infh = some ⟨hdr.filename, 0⟩ ∧ (files.lookup hdr.filename).isSome)

/-- how every exit of `chmd_extract` after the output file is open hands back the call's state -/
abbrev ExtractResult.finish (x : X) (out : Bytes) : ExtractResult :=
  .done x.error { error := x.error, d := some x.d } x.hdr (some out)

/-- "(re)initialise compression state if not yet initialised, or we have advanced too far" -/
def Inited (files : Files) (fill : UInt8) (hdr : Header) (offset : Int) (d : DState) (x1 : X) : Prop :=
  x1 = ⟨.ok, hdr, d⟩ ∨ ∃ ret, initDecomp files fill ⟨.ok, hdr, { d with state := none }⟩ offset = .ok (ret, x1)

/-- "seek to input data" -/
def Sought (x1 xs : X) : Prop :=
  ∃ h, x1.d.infh = some h ∧ xs = { x1 with d := { x1.d with infh := some { h with pos := x1.d.inoffset.toNat } } }

/-- "get to correct offset": nothing, or one `lzxd_decompress` call without output file -/
def Skipped (files : Files) (offset : Int) (xs x2 : X) : Prop :=
  x2 = xs ∨ ∃ e w x', lzxCall files xs (wrapI64 (offset - xs.d.offset)) = .ok (some (e, w, x')) ∧ x2 = { x' with error := e }

def Ready (files : Files) (fill : UInt8) (hdr : Header) (offset : Int) (d : DState) (x2 : X) : Prop :=
  ∃ x1 xs, Inited files fill hdr offset d x1 ∧ x1.error = .ok ∧ Sought x1 xs ∧ Skipped files offset xs x2

/-- "if getting to the correct offset was error free, unpack file" -/
def Unpacked (files : Files) (offset length : Int) (x2 x3 : X) (out : Bytes) : Prop :=
  x2.error ≠ .ok ∧ x3 = x2 ∧ out = [] ∨
  x2.error = .ok ∧ ∃ e x', lzxCall files x2 (askLen x2.d.length offset length) = .ok (some (e, out, x')) ∧
    x3 = { x' with error := e }

/-- everything a `chmd_extract` call can return, one constructor per exit, in terms of the cached state,
    `chmd_init_decomp` and `lzxd_decompress` calls; none for `.unsupported` ("LZX not modelled": `lzxCall_ne_none`) -/
inductive ExtractStep (files : Files) (fill : UInt8) (inst : Inst) (key : Nat) (hdr : Header) (sec : Nat)
    (offset length : Int) : ExtractResult → Prop
  | openFail (d : DState) : Opened files inst key hdr d →
      ExtractStep files fill inst key hdr sec offset length (.done .open_ ⟨.open_, some d⟩ hdr none)
  | empty (d : DState) : Opened files inst key hdr d → d.infh.isSome → length = 0 →
      ExtractStep files fill inst key hdr sec offset length (.done .ok ⟨.ok, some d⟩ hdr (some []))
  | stored (d d' : DState) (e : Err) (out : Bytes) : Opened files inst key hdr d → sec = 0 → length ≠ 0 →
      (d' = d ∧ d.infh.isSome ∨ ∃ h p, d.infh = some h ∧ d' = { d with infh := some { h with pos := p } }) →
      ExtractStep files fill inst key hdr sec offset length (.done e ⟨e, some d'⟩ hdr (some out))
  | initFault (d : DState) (f : Fault) : Opened files inst key hdr d → d.infh.isSome → sec ≠ 0 → length ≠ 0 →
      initDecomp files fill ⟨.ok, hdr, { d with state := none }⟩ offset = .error f →
      ExtractStep files fill inst key hdr sec offset length (.fault f)
  | refused (d : DState) (x1 : X) (e : Err) : Opened files inst key hdr d → d.infh.isSome → sec ≠ 0 → length ≠ 0 →
      Inited files fill hdr offset d x1 → e ≠ .ok →
      ExtractStep files fill inst key hdr sec offset length (.finish { x1 with error := e } [])
  | callFault (d : DState) (x2 : X) (b : Int) (f : Fault) : Opened files inst key hdr d → d.infh.isSome → sec ≠ 0 →
      length ≠ 0 → Ready files fill hdr offset d x2 → x2.error = .ok → lzxCall files x2 b = .error f →
      ExtractStep files fill inst key hdr sec offset length (.fault f)
  | decoded (d : DState) (x2 x3 : X) (out : Bytes) : Opened files inst key hdr d → d.infh.isSome → sec ≠ 0 →
      length ≠ 0 → Ready files fill hdr offset d x2 → Unpacked files offset length x2 x3 out →
      ExtractStep files fill inst key hdr sec offset length (.finish (sec1End x3) out)

theorem extract_step (files : Files) (fill : UInt8) (inst : Inst) (key : Nat) (hdr : Header) (sec : Nat)
    (offset length : Int) :
    ExtractStep files fill inst key hdr sec offset length (extract files fill inst key hdr sec offset length) := by
  unfold extract
  extract_lets fillWord d0 reopen d1 opened finish
  have hop := openD_spec (Opened files inst key hdr) files fill inst key hdr (fun d hd => .inl hd)
    (fun d hs hk hf => .inr ⟨hs, hk, hf⟩)
  change Opened files inst key hdr d1 ∧ ∀ d, opened = some d → Opened files inst key hdr d ∧ d.infh.isSome at hop
  obtain ⟨hd1, hop⟩ := hop
  clear_value opened d1 reopen d0 fillWord
  split
  · exact .openFail d1 hd1
  rename_i _ d
  obtain ⟨hdd, hdf⟩ := hop d rfl
  refine of_ite (fun hl => .empty d hdd hdf hl) (fun hl => ?_)
  simp only
  refine of_ite (fun hs => ?_) (fun hs => ?_)
  · split
    · rename_i hn; rw [hn] at hdf; cases hdf
    rename_i h hh
    generalize seekAbs _ _ = sk
    cases sk with
    | none => exact .stored d d _ _ hdd hs hl (.inl ⟨rfl, hdf⟩)
    | some r =>
      simp only
      generalize copyLoop _ _ _ _ = cl
      obtain ⟨err, out, r'⟩ := cl
      cases err <;> exact .stored d _ _ _ hdd hs hl (.inr ⟨h, _, hh, rfl⟩)
  generalize hin : (if d.state.isNone = true ∨ offset < d.offset then _ else _ : Except Fault (Bool × X)) = inited
  have hinited :
      (∀ f, inited = .error f → initDecomp files fill ⟨.ok, hdr, { d with state := none }⟩ offset = .error f) ∧
      ∀ b x', inited = .ok (b, x') → Inited files fill hdr offset d x' ∧ x'.d.infh.isSome ∧
        (b = false → x'.error = .ok) ∧ (b = true → x'.error ≠ .ok) := by
    rw [← hin]
    split
    · split
      · rename_i f hq
        exact ⟨fun _ hf => (by cases hf; exact hq), fun _ _ hr => (by cases hr)⟩
      · rename_i ret x' hq
        have hs := (initDecomp_spec files fill _ offset).2 _ _ hq
        refine ⟨fun _ hf => (by cases hf), fun _ _ hr => ?_⟩
        cases hr
        refine ⟨.inr ⟨ret, hq⟩, ?_, fun hb => ?_, fun hb => ?_⟩
        · have hn := hs.name
          cases hx : d.infh with
          | none => rw [hx] at hdf; cases hdf
          | some _ =>
            simp only [hx] at hn
            cases hx' : x'.d.infh with
            | none => rw [hx'] at hn; cases hn
            | some _ => rfl
        · rw [hs.error]; simpa using hb
        · rw [hs.error]; simpa using hb
    · exact ⟨fun _ hf => (by cases hf),
        fun _ _ hr => (by cases hr; exact ⟨.inl rfl, hdf, fun _ => rfl, fun h => by cases h⟩)⟩
  clear hin
  split
  · rename_i _ f; exact .initFault d f hdd hdf hs hl (hinited.1 f rfl)
  · rename_i _ x1
    obtain ⟨hi1, _, _, hne⟩ := hinited.2 _ _ rfl
    exact .refused d x1 x1.error hdd hdf hs hl hi1 (hne rfl)
  rename_i _ x1
  obtain ⟨hi1, hf1, he1, _⟩ := hinited.2 _ _ rfl
  have he1 := he1 rfl
  refine of_ite (fun _ => .refused d x1 .decrunch hdd hdf hs hl hi1 (fun h => by cases h)) (fun _ => ?_)
  split
  · rename_i hn; rw [hn] at hf1; cases hf1
  rename_i h hh
  refine of_ite (fun _ => .refused d x1 .seek hdd hdf hs hl hi1 (fun h => by cases h)) (fun _ => ?_)
  have hxs : ∃ xs, xs = ({ x1 with d := { x1.d with infh := some { h with pos := x1.d.inoffset.toNat } } } : X) :=
    ⟨_, rfl⟩
  obtain ⟨xs, hxs⟩ := hxs
  have hso : Sought x1 xs := ⟨h, hh, hxs⟩
  have hes : xs.error = .ok := by rw [hxs]; exact he1
  generalize hp1 : (if wrapI64 (offset - x1.d.offset) = 0 then _ else _ : Except Fault (Option X)) = ph1
  have hph1 : (∀ f, ph1 = .error f → lzxCall files xs (wrapI64 (offset - xs.d.offset)) = .error f) ∧
      ph1 ≠ .ok none ∧ ∀ x', ph1 = .ok (some x') → Skipped files offset xs x' := by
    rw [← hp1, hxs]
    split
    · exact ⟨fun _ hf => (by cases hf), fun hc => (by cases hc), fun _ hr => (by cases hr; exact .inl rfl)⟩
    · split
      · rename_i f hq
        exact ⟨fun _ hf => (by cases hf; exact hq), fun h => (by cases h), fun _ hr => (by cases hr)⟩
      · rename_i hq; exact absurd hq (lzxCall_ne_none _ _ _)
      · rename_i e w x' hq
        exact ⟨fun _ hf => (by cases hf), fun h => (by cases h),
          fun _ hr => (by cases hr; exact .inr ⟨e, w, x', hq, rfl⟩)⟩
  clear hp1
  split
  · rename_i _ f
    exact .callFault d xs _ f hdd hdf hs hl ⟨x1, xs, hi1, he1, hso, .inl rfl⟩ hes (hph1.1 _ rfl)
  · exact absurd rfl hph1.2.1
  rename_i _ x2
  have hready : Ready files fill hdr offset d x2 := ⟨x1, xs, hi1, he1, hso, hph1.2.2 _ rfl⟩
  generalize hp2 : (if x2.error ≠ Err.ok then _ else _ : Except Fault (Option (X × Bytes))) = ph2
  have hph2 :
      (∀ f, ph2 = .error f → x2.error = .ok ∧ lzxCall files x2 (askLen x2.d.length offset length) = .error f) ∧
      ph2 ≠ .ok none ∧ ∀ x' out, ph2 = .ok (some (x', out)) → Unpacked files offset length x2 x' out := by
    rw [← hp2]
    split
    · rename_i hne
      exact ⟨fun _ hf => (by cases hf), fun hc => (by cases hc),
        fun _ _ hr => (by cases hr; exact .inl ⟨hne, rfl, rfl⟩)⟩
    · rename_i hok
      have hok := Decidable.not_not.mp hok
      split
      · rename_i f hq
        exact ⟨fun _ hf => (by cases hf; exact ⟨hok, hq⟩), fun h => (by cases h), fun _ _ hr => (by cases hr)⟩
      · rename_i hq; exact absurd hq (lzxCall_ne_none _ _ _)
      · rename_i e w x' hq
        exact ⟨fun _ hf => (by cases hf), fun h => (by cases h),
          fun _ _ hr => (by cases hr; exact .inr ⟨hok, e, x', hq, rfl⟩)⟩
  clear hp2
  split
  · rename_i _ f; exact .callFault d x2 _ f hdd hdf hs hl hready (hph2.1 _ rfl).1 (hph2.1 _ rfl).2
  · exact absurd rfl hph2.2.1
  rename_i _ x3 out
  exact .decoded d x2 x3 out hdd hdf hs hl hready (hph2.2.2 _ _ rfl)

def ExtractRes (I : Header → DState → Prop) (F : Fault → Prop) : ExtractResult → Prop
  | .done _ inst h _ => ∃ d, inst.d = some d ∧ I h d
  | .unsupported _ _ => False
  | .fault f => F f

theorem ExtractRes.mono {I I' : Header → DState → Prop} {F F' : Fault → Prop} {r : ExtractResult}
    (h : ExtractRes I F r) (hI : ∀ h d, I h d → I' h d) (hF : ∀ f, F f → F' f) : ExtractRes I' F' r := by
  cases r with
  | done _ _ _ _ => obtain ⟨d, hd, hi⟩ := h; exact ⟨d, hd, hI _ _ hi⟩
  | unsupported _ _ => exact h
  | fault f => exact hF f h

/-- `I` holds of the cached state between calls and is kept when the handle moves, `J` of the call's state from the seek
    to `d->inoffset` on; `chmd_init_decomp` keeps `I`, each `lzxd_decompress` call made with `self->error` OK keeps `J`
    whatever it returns, and the end of the call (`sec1End`) leads back to `I`; faults only on compressed members -/
theorem extract_inv (I : Header → DState → Prop) (J : X → Prop) (F : Fault → Prop)
    (files : Files) (fill : UInt8) (inst : Inst) (key : Nat) (hdr : Header) (sec : Nat) (offset length : Int)
    (hinst : ∀ d, inst.d = some d → I hdr d)
    (hnew : ∀ d : DState, d.state = none → d.chm = key →
      d.infh = none ∨ d.infh = some ⟨hdr.filename, 0⟩ ∧ (files.lookup hdr.filename).isSome → I hdr d)
    (hmove : ∀ (d : DState) (h : InFh) (p : Nat), I hdr d → d.infh = some h →
      I hdr { d with infh := some { h with pos := p } })
    (hinit : ∀ d, I hdr d → d.infh.isSome →
      (∀ f, initDecomp files fill ⟨.ok, hdr, { d with state := none }⟩ offset = .error f → F f) ∧
      ∀ ret x1, initDecomp files fill ⟨.ok, hdr, { d with state := none }⟩ offset = .ok (ret, x1) → I x1.hdr x1.d)
    (hseek : ∀ (x : X) (h : InFh), I x.hdr x.d → x.d.infh = some h →
      J { x with d := { x.d with infh := some { h with pos := x.d.inoffset.toNat } } })
    (hcall : ∀ x b, J x → x.error = .ok → (∀ f, lzxCall files x b = .error f → F f) ∧
      ∀ e w x', lzxCall files x b = .ok (some (e, w, x')) → J { x' with error := e })
    (hend : ∀ x, J x → I (sec1End x).hdr (sec1End x).d) :
    ExtractRes I (fun f => sec ≠ 0 ∧ F f) (extract files fill inst key hdr sec offset length) := by
  have h := extract_step files fill inst key hdr sec offset length
  generalize extract files fill inst key hdr sec offset length = r at h
  have hO : ∀ d, Opened files inst key hdr d → I hdr d :=
    fun d ho => ho.elim (hinst d) (fun ⟨a, b, c⟩ => hnew d a b c)
  have hI : ∀ d x1, I hdr d → d.infh.isSome → Inited files fill hdr offset d x1 → I x1.hdr x1.d := by
    rintro d x1 hd hf (rfl | ⟨ret, hq⟩)
    · exact hd
    · exact (hinit d hd hf).2 _ _ hq
  have hR : ∀ d x2, I hdr d → d.infh.isSome → Ready files fill hdr offset d x2 → J x2 := by
    rintro d x2 hd hf ⟨x1, xs, hi, he, ⟨h, hh, rfl⟩, hsk⟩
    have hj := hseek x1 h (hI d x1 hd hf hi) hh
    rcases hsk with rfl | ⟨e, w, x', hc, rfl⟩
    · exact hj
    · exact (hcall _ _ hj he).2 _ _ _ hc
  cases h with
  | openFail d ho => exact ⟨d, rfl, hO d ho⟩
  | empty d ho _ _ => exact ⟨d, rfl, hO d ho⟩
  | stored d d' _ _ ho _ _ hm =>
    rcases hm with ⟨rfl, _⟩ | ⟨h, p, hh, rfl⟩
    · exact ⟨_, rfl, hO _ ho⟩
    · exact ⟨_, rfl, hmove d h p (hO d ho) hh⟩
  | initFault d f ho hf hs _ hq => exact ⟨hs, (hinit d (hO d ho) hf).1 f hq⟩
  | refused d x1 e ho hf _ _ hi _ => exact ⟨x1.d, rfl, hI d x1 (hO d ho) hf hi⟩
  | callFault d x2 b f ho hf hs _ hr he hq => exact ⟨hs, (hcall x2 b (hR d x2 (hO d ho) hf hr) he).1 f hq⟩
  | decoded d x2 x3 out ho hf _ _ hr hu =>
    refine ⟨_, rfl, hend x3 ?_⟩
    have hj := hR d x2 (hO d ho) hf hr
    rcases hu with ⟨_, rfl, _⟩ | ⟨hok, e, x', hc, rfl⟩
    · exact hj
    · exact (hcall x2 _ hj hok).2 _ _ _ hc

theorem extract_post {P : Lzx.St Rd → Prop} (L : LzxInv P) (files : Files) (fill : UInt8) (inst : Inst)
    (key : Nat) (hdr : Header) (sec : Nat) (offset length : Int) (hi : HdrInv hdr) (hinst : InstInv P inst) :
    ExtractRes (fun h d => HdrInv h ∧ DInv P d) (fun f => sec ≠ 0 ∧ LzxFault P f)
      (extract files fill inst key hdr sec offset length) := by
  refine extract_inv _ (fun x => HdrInv x.hdr ∧ DInv P x.d ∧ x.d.infh.isSome) _ files fill inst key hdr sec
    offset length (fun d hd => ⟨hi, hinst d hd⟩) (fun d hs _ _ => ⟨hi, fun st hst => by rw [hs] at hst; cases hst⟩)
    (fun _ _ _ h _ => h) (fun d _ _ => ?_) (fun x h hx _ => ⟨hx.1, hx.2, rfl⟩) (fun x b hx _ => ?_) (fun x hx => ?_)
  · have hp := initDecomp_post P L.init files fill ⟨.ok, hdr, { d with state := none }⟩ offset hi
      (fun st hs => by cases hs)
    exact ⟨fun f hf => absurd hf (hp.1 f), fun _ _ hr => ⟨(hp.2 _ _ hr).1, (hp.2 _ _ hr).2.1⟩⟩
  · have hc := lzxCall_post L files x b hx.2.1 hx.2.2
    exact ⟨hc.1, fun e w x' hr => ⟨(hc.2 _ _ _ hr).1 ▸ hx.1, (hc.2 _ _ _ hr).2⟩⟩
  · obtain ⟨_, he, _⟩ := sec1End_eq x
    rw [he]
    refine ⟨hx.1, fun st hst => ?_⟩
    split at hst
    · cases hst
    · exact hx.2.1 st hst

end MsPack.Chm
