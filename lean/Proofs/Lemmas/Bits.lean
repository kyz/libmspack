import MsPack.Spec.Deflate
import MsPack.Spec.LzxEncode
import MsPack.Spec.LzhEncode
import MsPack.Kwaj.Lzh
import MsPack.Lzx.Decoder
import MsPack.Zip.Inflate
/-!
# Bit lists, most significant bit first

The `n` low bits of a number, highest first, and the value of such a list are defined in each specification and decoder
file that needs them: `LzxEnc.msbBits`, `LzhEnc.msbBits` and `Deflate.codeBits`; `Lzx.bitsVal`, `LzxEnc.bitsVal`,
`Kwaj.Lzh.bitsValMSB` and `LzhEnc.valMSB`.  Those with the same body are definitionally equal (`LzhEnc.msbBits_eq` states one such equation; the others are used silently),
the other two are equal by a lemma (`codeBits_eq_msbBits`, `valMSB_eq`).  The lemmas are proved about `LzxEnc.msbBits` and `Lzx.bitsVal`; the few that the
LZH files rewrite with are repeated for LZH's constants.  MSZIP's `Zip.bitsVal` takes the lowest bit first: it is
`Lzx.bitsVal` of the reversed list (`Zip.bitsVal_eq`).  `pack_bits` is about bits packed eight to a byte and read back,
in either order.
-/
namespace MsPack

theorem LzhEnc.msbBits_eq : @LzhEnc.msbBits = @LzxEnc.msbBits := rfl

namespace Lzx
open LzxEnc (msbBits)

theorem msbBits_length (n v : Nat) : (msbBits n v).length = n := by simp [msbBits]

theorem msbBits_succ (n v : Nat) : msbBits (n + 1) v = msbBits n (v / 2) ++ [v.testBit 0] := by
  unfold msbBits
  rw [List.range_succ, List.map_append]
  congr 1
  · apply List.map_congr_left
    intro i hi
    rw [List.mem_range] at hi
    rw [show n + 1 - 1 - i = (n - 1 - i) + 1 by omega, Nat.testBit_succ]
  · simp

theorem bitsVal_foldl (bs : List Bool) : ∀ acc : Nat,
    bs.foldl (fun acc b => acc * 2 + (if b then 1 else 0)) acc = acc * 2 ^ bs.length + bitsVal bs := by
  induction bs with
  | nil => intro acc; simp [bitsVal]
  | cons b rest ih =>
    intro acc
    unfold bitsVal
    rw [List.foldl_cons, List.foldl_cons, ih, ih (0 * 2 + _), List.length_cons, Nat.pow_succ, Nat.add_mul,
      Nat.mul_assoc, Nat.mul_comm 2, Nat.zero_mul, Nat.zero_add]
    omega

theorem bitsVal_append (a b : List Bool) : bitsVal (a ++ b) = bitsVal a * 2 ^ b.length + bitsVal b := by
  unfold bitsVal
  rw [List.foldl_append, bitsVal_foldl b]
  rfl

theorem bitsVal_concat (a : List Bool) (b : Bool) : bitsVal (a ++ [b]) = bitsVal a * 2 + (if b then 1 else 0) := by
  rw [bitsVal_append]; simp [bitsVal]

theorem bitsVal_cons (b : Bool) (bs : List Bool) :
    bitsVal (b :: bs) = (if b then 1 else 0) * 2 ^ bs.length + bitsVal bs := by
  rw [← List.singleton_append, bitsVal_append]; simp [bitsVal]

theorem bitsVal_lt : ∀ bs : List Bool, bitsVal bs < 2 ^ bs.length
  | [] => Nat.one_pos
  | b :: bs => by
    have := bitsVal_lt bs
    rw [bitsVal_cons, List.length_cons, Nat.pow_succ]
    cases b <;> simp <;> omega

theorem bitsVal_msbBits : ∀ (n v : Nat), bitsVal (msbBits n v) = v % 2 ^ n
  | 0, v => by simp [msbBits, bitsVal, Nat.mod_one]
  | n + 1, v => by
    rw [msbBits_succ, bitsVal_concat, bitsVal_msbBits n, Nat.pow_succ, Nat.mul_comm (2 ^ n) 2, Nat.mod_mul,
      Nat.testBit_zero]
    by_cases h : v % 2 = 1 <;> simp [h] <;> omega

theorem msbBits_bitsVal : ∀ (n : Nat) (bs : List Bool), bs.length = n → msbBits n (bitsVal bs) = bs
  | 0, bs, h => by
    have : bs = [] := List.eq_nil_of_length_eq_zero h
    subst this; rfl
  | n + 1, bs, h => by
    have hne : bs ≠ [] := by intro e; rw [e] at h; simp at h
    rw [← List.dropLast_concat_getLast hne] at h ⊢
    generalize bs.dropLast = init at h ⊢
    generalize bs.getLast hne = b at h ⊢
    have hl : init.length = n := by simpa using h
    rw [msbBits_succ, bitsVal_concat, Nat.testBit_zero]
    have h1 : (bitsVal init * 2 + (if b then 1 else 0)) / 2 = bitsVal init := by cases b <;> simp <;> omega
    have h2 : decide ((bitsVal init * 2 + (if b then 1 else 0)) % 2 = 1) = b := by cases b <;> simp <;> omega
    rw [h1, h2, msbBits_bitsVal n init hl]

theorem valMSB_eq : ∀ c : List Bool, LzhEnc.valMSB c = bitsVal c
  | [] => rfl
  | b :: c => by rw [LzhEnc.valMSB, bitsVal_cons, valMSB_eq c]

end Lzx

namespace Kwaj.Lzh

theorem msbBits_length (n v : Nat) : (LzhEnc.msbBits n v).length = n := Lzx.msbBits_length n v
theorem bitsValMSB_msbBits (n v : Nat) : bitsValMSB (LzhEnc.msbBits n v) = v % 2 ^ n := Lzx.bitsVal_msbBits n v

end Kwaj.Lzh

namespace Zip

theorem bitsVal_eq (bs : List Bool) : bitsVal bs = Lzx.bitsVal bs.reverse := (List.foldl_reverse ..).symm

theorem codeBits_length (n v : Nat) : (Deflate.codeBits n v).length = n := by
  simp [Deflate.codeBits, Deflate.natBits]

theorem codeBits_succ (n v : Nat) : Deflate.codeBits (n + 1) v = v.testBit n :: Deflate.codeBits n v := by
  unfold Deflate.codeBits Deflate.natBits
  rw [List.range_succ, List.map_append, List.reverse_append]
  rfl

theorem codeBits_eq_msbBits (n v : Nat) : Deflate.codeBits n v = LzxEnc.msbBits n v := by
  apply List.ext_getElem
  · rw [codeBits_length, Lzx.msbBits_length]
  · intro i h1 h2
    simp [Deflate.codeBits, Deflate.natBits, LzxEnc.msbBits]

/-- the code read so far, one more bit of the word `v` taken in -/
theorem shift_bit (v n : Nat) : v / 2 ^ (n + 1) * 2 + (if v.testBit n then 1 else 0) = v / 2 ^ n := by
  rw [Nat.testBit_eq_decide_div_mod_eq, Nat.pow_succ, ← Nat.div_div_eq_div_mul]
  generalize v / 2 ^ n = q
  by_cases h : q % 2 = 1 <;> simp [h] <;> omega

end Zip

/-- `byteOf` on at most eight bits and `bitsOf` are the two directions of one byte layout; the one law `hlaw` about the
    pair is all that is asked, so the theorem serves the packer of either bit order. -/
theorem pack_bits {byteOf : List Bool → UInt8} {bitsOf : UInt8 → List Bool}
    (hlaw : ∀ c, c.length ≤ 8 → bitsOf (byteOf c) = c ++ List.replicate (8 - c.length) false)
    {pack : Nat → List Bool → Bytes} (h0 : ∀ bs, pack 0 bs = [])
    (hs : ∀ f bs, pack (f + 1) bs = if bs.isEmpty then [] else byteOf (bs.take 8) :: pack f (bs.drop 8)) :
    ∀ (fuel : Nat) (bs : List Bool), bs.length ≤ fuel →
      (pack fuel bs).flatMap bitsOf = bs ++ List.replicate ((8 - bs.length % 8) % 8) false
  | 0, bs, h => by
    have : bs = [] := List.eq_nil_of_length_eq_zero (by omega)
    subst this; rw [h0]; rfl
  | fuel + 1, bs, h => by
    rw [hs]
    cases hbs : bs with
    | nil => rfl
    | cons x xs =>
      rw [← hbs]
      have hne : bs.isEmpty = false := by rw [hbs]; rfl
      have hpos : 0 < bs.length := by rw [hbs]; simp
      rw [hne, if_neg (by decide), List.flatMap_cons, hlaw _ (by rw [List.length_take]; omega),
        pack_bits hlaw h0 hs fuel _ (by rw [List.length_drop]; omega), List.length_take, List.length_drop]
      by_cases h8 : 8 ≤ bs.length
      · rw [Nat.min_eq_left h8, Nat.sub_self, List.replicate_zero, List.append_nil, ← List.append_assoc,
          List.take_append_drop]
        congr 2
        omega
      · have hd : bs.drop 8 = [] := List.drop_eq_nil_of_le (by omega)
        have ht : bs.take 8 = bs := List.take_of_length_le (by omega)
        rw [hd, ht, Nat.min_eq_right (by omega), List.nil_append]
        have : (8 - (bs.length - 8) % 8) % 8 = 0 := by omega
        rw [this, List.replicate_zero, List.append_nil]
        congr 2
        omega

end MsPack
