import Proofs.Lemmas.ChmBounds
import Proofs.Lemmas.Src
/-!
# CHM: the fuel the model's callers pass always suffices (C04, CHM part)

Every fuel loop of the CHM model, with the fuel its caller passes, never reports "out of fuel"
(`Fault.hang`; for `compareGo` / `copyLoop`, whose out-of-fuel result is not a separate value, the
result does not change when more fuel is given).  Pattern as in `Proofs/Lemmas/FeederTerm.lean`: a
measure that every iteration decreases, induction on the fuel with hypothesis `measure + 1 ≤ fuel`.  The loops that
return `hang` (`encLoop`, `skipEncint`, `bsearch`) and their callers up to `chmd_init_decomp` are walked in
`ChmPost.lean` and `ChmBounds.lean`; here `compareGo`, `copyLoop`, `realOpen`.

| loop          | fuel the caller passes      | measure                                   |
|---------------|-----------------------------|-------------------------------------------|
| `encLoop`     | 10 (`readEncint`)           | `9 - i` (bytes of the ENCINT still allowed) |
| `compareGo`   | `s1.length + 1` (`compare`) | `s1.length`                               |
| `skipEncint`  | `e - p + 1` (`linear`)      | `e - p`                                   |
| `bsearch`     | `qrEntries + 1`, `0 … qrEntries - 1` (`searchChunk`) | `R - L`          |
| `descend`/`walk` | `numChunks + 1` (`fastFind`) | no out-of-fuel fault at all: fuel 0 = the C's `visits++ > num_chunks` check |
| `readEntries`/`readChunks` | structural in the entry / chunk count | — (`readHeaders_spec`: no `Fault` at all) |
| `copyLoop`    | `file.length / 512 + 2` (`extract`) | `(bytes of the file left) / 512 + 1`, `+ 0` once `length ≤ 0` (`copyLoop_eq`: the result as a function of the bytes left) |
-/
namespace MsPack.Chm

theorem getUtf8Char_length (x : UInt8) (s : Bytes) : (getUtf8Char (x :: s)).2.length ≤ s.length := by
  unfold getUtf8Char
  simp only
  split
  · exact Nat.le_refl _
  · split
    · split
      · simp
      · simp
    · split
      · split
        · simp; omega
        · simp
      · split
        · split
          · simp; omega
          · simp
        · simp

/-- out of fuel and "one string ended" are the same value `none` in `compareGo`; with
    `s1.length + 1` rounds or more the result no longer depends on the fuel, i.e. the first equation
    (`fuel = 0`) is only ever reached with an empty `s1`, where the loop condition gives `none` too -/
theorem compareGo_fuel : ∀ (fuel fuel' : Nat) (s1 s2 : Bytes), s1.length + 1 ≤ fuel → s1.length + 1 ≤ fuel' →
    compareGo fuel s1 s2 = compareGo fuel' s1 s2 := by
  intro fuel
  induction fuel with
  | zero => intro fuel' s1 s2 h; omega
  | succ fuel ih =>
    intro fuel' s1 s2 h h'
    match fuel', h' with
    | fuel' + 1, h' =>
      rw [compareGo, compareGo]
      match s1, h, h' with
      | [], _, _ => simp
      | x :: s1, h, h' =>
        have hl := getUtf8Char_length x s1
        simp only [List.length_cons] at h h'
        have e1 := ih fuel' (getUtf8Char (x :: s1)).2 (getUtf8Char s2).2 (by omega) (by omega)
        simp only [e1]

theorem realOpen_no_hang (filename : String) (file : Bytes) (entire : Bool) :
    realOpen filename file entire ≠ .error .hang := by
  unfold realOpen
  split
  · rename_i f hf
    exact absurd hf ((readHeaders_spec _ _ _).1 f)
  · simp
  · split
    · simp
    · split <;> simp

/-- what the section-0 copy loop makes of the bytes `rest` the file has left, once the fuel covers their 512-byte runs -/
def copyAll (file : Bytes) (pos : Nat) (rest : Bytes) (n : Nat) (acc : Bytes) : Option Err × Bytes × Rd :=
  if n ≤ rest.length then (none, acc ++ rest.take n, ⟨file, pos + n⟩)
  else (some .read, acc ++ rest.take (rest.length / 512 * 512), ⟨file, pos + rest.length⟩)

/-- out of fuel and "all copied" are the same value (`none` error) in `copyLoop`.  A full 512-byte run takes 512 bytes
    of the file, a shorter run is the last one: once the fuel is above `(bytes left) / 512` — or `length ≤ 0` already —
    the result is `copyAll`, in which the fuel does not occur -/
theorem copyLoop_eq (file : Bytes) : ∀ (fuel pos : Nat) (length : Int) (acc rest : Bytes), file.drop pos = rest →
    length ≤ 0 ∨ rest.length < 512 * fuel →
    copyLoop fuel ⟨file, pos⟩ length acc = copyAll file pos rest length.toNat acc := by
  intro fuel
  induction fuel with
  | zero =>
    intro pos length acc rest _ h
    have h0 : length.toNat = 0 := by omega
    rw [copyLoop.eq_1, copyAll, h0, if_pos (Nat.zero_le _), List.take_zero, List.append_nil]; rfl
  | succ fuel ih =>
    intro pos length acc rest hd h
    rw [copyLoop.eq_2]
    by_cases hl : length ≤ 0
    · have h0 : length.toNat = 0 := by omega
      rw [if_pos hl, copyAll, h0, if_pos (Nat.zero_le _), List.take_zero, List.append_nil]; rfl
    · rw [if_neg hl]
      generalize hrun : (if (512 : Int) > length then length.toNat else 512) = run
      have hrun1 : run ≤ length.toNat ∧ run ≤ 512 ∧ 0 < run ∧ (run < 512 → run = length.toNat) := by
        rw [← hrun]; split <;> omega
      show (if ((file.drop pos).take run).length ≠ run then
              (some Err.read, acc, (⟨file, pos + ((file.drop pos).take run).length⟩ : Rd))
            else copyLoop fuel ⟨file, pos + ((file.drop pos).take run).length⟩ (length - Int.ofNat run)
              (acc ++ (file.drop pos).take run)) = _
      rw [hd, List.length_take]
      by_cases hg : run ≤ rest.length
      · have hk : (length - Int.ofNat run).toNat = length.toNat - run := by
          simp only [Int.ofNat_eq_natCast]; omega
        rw [Nat.min_eq_left hg, if_neg (fun hn => hn rfl),
          ih _ _ _ (rest.drop run) (by rw [← hd, List.drop_drop]) (by rw [List.length_drop]; omega), hk]
        unfold copyAll
        rw [List.length_drop, List.append_assoc, List.append_assoc]
        -- the run just read and what `copyAll` takes of the rest are one `take` of `rest`
        by_cases hn : length.toNat ≤ rest.length
        · rw [if_pos hn, if_pos (by omega), ← List.take_add, Nat.add_assoc]
          congr 4 <;> omega
        · rw [if_neg hn, if_neg (by omega), ← List.take_add, Nat.add_assoc]
          congr 4 <;> omega
      · have hlt : rest.length < run := Nat.lt_of_not_le hg
        rw [Nat.min_eq_right (Nat.le_of_lt hlt), if_pos (by omega), copyAll, if_neg (by omega),
          show rest.length / 512 * 512 = 0 by omega, List.take_zero, List.append_nil]

/-- `read_encint`: 10 rounds (9 bytes + the failing test) always suffice -/
theorem C04_chm_read_encint_no_hang (bs : Bytes) (p e : Nat) : readEncint bs p e ≠ .error .hang :=
  (readEncint_fault bs p e).no_hang

/-- `compare`: the `l1 + 1` rounds `compare` passes are enough — more fuel never changes the loop's result (out of
    fuel is not a separate value here; this is the statement that the fuel-0 equation does not influence the result) -/
theorem C04_chm_compare_no_hang (s1 s2 : Bytes) (fuel : Nat) (h : s1.length + 1 ≤ fuel) :
    compareGo fuel s1 s2 = compareGo (s1.length + 1) s1 s2 :=
  compareGo_fuel fuel (s1.length + 1) s1 s2 h (Nat.le_refl _)

example : compareGo 3 [0x41, 0x42] [0x61, 0x62, 0x63] = compareGo 100 [0x41, 0x42] [0x61, 0x62, 0x63] := by
  rw [C04_chm_compare_no_hang _ _ 100 (by decide)]; rfl

/-- `search_chunk` (binary search over the quick-ref area with `qr_entries + 1` rounds, linear scan, the ENCINT
    skipping loops with `end - p + 1` rounds): never out of fuel, for every chunk and header -/
theorem C04_chm_search_chunk_no_hang (h : Header) (chunk fname : Bytes) : searchChunk h chunk fname ≠ .error .hang :=
  (searchChunk_fault h chunk fname).no_hang

/-- the two chunk-chasing loops of `chmd_fast_find` for *every* fuel: the model (like the C with its `visits`
    counter) turns an exhausted budget into MSPACK_ERR_DATAFORMAT, so `hang` is not among the results at all -/
theorem C04_chm_descend_walk_no_hang (file fname : Bytes) (fuel n : Nat) (last : Search) (st : FF) :
    descend file fname fuel n st ≠ .error .hang ∧ walk file fname fuel n last st ≠ .error .hang :=
  ⟨(descend_fault file fname fuel n st).no_hang, (walk_fault file fname fuel n last st).no_hang⟩

/-- `chmd_fast_find` never hangs: for every file (cyclic PMGI/PMGL chains included), state and name -/
theorem C04_chm_fast_find_no_hang (file : Option Bytes) (st : FF) (filename : Bytes) :
    fastFind file st filename ≠ .error .hang :=
  (fastFind_fault file st filename).no_hang

/-- `chmd_read_headers` (entry loop, chunk loop — the latter runs `last_pmgl - first_pmgl + 1` times whatever the
    file says, and ends at the end of the file) and `chmd_real_open` -/
theorem C04_chm_read_headers_no_hang (filename : String) (file : Bytes) (entire : Bool) :
    readHeaders filename file entire ≠ .error .hang ∧ realOpen filename file entire ≠ .error .hang :=
  ⟨(readHeaders_spec filename file entire).1 _, realOpen_no_hang filename file entire⟩

/-- `read_reset_table`, `read_spaninfo`, `chmd_init_decomp`: no loop of their own; the system files are looked up through
    `chmd_fast_find` -/
theorem C04_chm_init_decomp_no_hang (files : Files) (fill : UInt8) (x : X) (entry : Nat) (fileOffset : Int) :
    readResetTable files x entry ≠ .error .hang ∧ readSpaninfo files x ≠ .error .hang ∧
    initDecomp files fill x fileOffset ≠ .error .hang :=
  ⟨(readResetTable_spec files x entry).1.no_hang, (readSpaninfo_spec files x).1.no_hang,
    (initDecomp_spec files fill x fileOffset).1.no_hang⟩

/-- the section-0 copy loop with the fuel `chmd_extract` passes (`file.length / 512 + 2`, `r` a handle on that file
    at any position, also beyond the end): more fuel never changes the result … -/
theorem C04_chm_copy_no_hang (r : Rd) (length : Int) (acc : Bytes) (fuel : Nat) (h : r.file.length / 512 + 2 ≤ fuel) :
    copyLoop fuel r length acc = copyLoop (r.file.length / 512 + 2) r length acc := by
  have hl : (r.file.drop r.pos).length ≤ r.file.length := by rw [List.length_drop]; omega
  rw [copyLoop_eq r.file fuel r.pos length acc _ rfl (.inr (by omega)),
    copyLoop_eq r.file _ r.pos length acc _ rfl (.inr (by omega))]

/-- … and a run that ends without an error has copied exactly the `length` bytes asked for -/
theorem C04_chm_copy_complete (r : Rd) (length : Int) (acc : Bytes)
    (h : (copyLoop (r.file.length / 512 + 2) r length acc).1 = none) :
    (copyLoop (r.file.length / 512 + 2) r length acc).2.1 = acc ++ (r.file.drop r.pos).take length.toNat := by
  have hl : (r.file.drop r.pos).length ≤ r.file.length := by rw [List.length_drop]; omega
  rw [copyLoop_eq r.file _ r.pos length acc _ rfl (.inr (by omega)), copyAll] at h ⊢
  split at h
  · rw [if_pos ‹_›]
  · cases h

-- non-vacuity: 3 bytes from a 3-byte file need both rounds of the fuel `3 / 512 + 2` (copy, then the `length ≤ 0` exit)
example : (copyLoop (([1, 2, 3] : Bytes).length / 512 + 2) ⟨[1, 2, 3], 0⟩ 3 []).1 = none ∧
    (copyLoop (([1, 2, 3] : Bytes).length / 512 + 2) ⟨[1, 2, 3], 0⟩ 3 []).2.1 = [1, 2, 3] := by decide

/-- `chmd_extract` of a compressed member: `hang` can only come out of an `lzxd_decompress` call (the bit-level
    decoder with its budget `lzxFuel`, not covered here); header look-ups, reset table, decoder set-up never cause it -/
theorem C04_chm_extract_no_hang (files : Files) (fill : UInt8) (inst : Inst) (key : Nat) (hdr : Header)
    (sec : Nat) (offset length : Int) (h : extract files fill inst key hdr sec offset length = .fault .hang) :
    sec ≠ 0 ∧ ∃ x bytes, lzxCall files x bytes = .error .hang := by
  have hs := extract_step files fill inst key hdr sec offset length
  rw [h] at hs
  cases hs with
  | initFault d _ _ _ _ _ hq => exact absurd hq (initDecomp_spec _ _ _ _).1.no_hang
  | callFault d x2 b _ _ _ hs _ _ _ hq => exact ⟨hs, x2, b, hq⟩

theorem C04_chm_extract_sec0_no_hang (files : Files) (fill : UInt8) (inst : Inst) (key : Nat) (hdr : Header)
    (offset length : Int) : extract files fill inst key hdr 0 offset length ≠ .fault .hang :=
  fun h => (C04_chm_extract_no_hang files fill inst key hdr 0 offset length h).1 rfl

end MsPack.Chm
