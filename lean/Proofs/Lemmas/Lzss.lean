import MsPack.Lzss.Decoder
import MsPack.Spec.Lzss
import Proofs.Lemmas.LzssRes
/-
LZSS (lzssd.c) round trip, lemmas: about the token-level specification of `MsPack/Spec/Lzss.lean` (`Tok`, `Ring`, `expand`, the
byte coding `encode`), and what each piece of the decoder model does on a fault-free file source
when the unread input (`rem`: buffered bytes ++ rest of the file) starts with a token's coding —
for every input-buffer size ≥ 1, i.e. wherever the buffer refills fall.  The decoder's state enters only
through `At r bs st` (its ring is `r`, its unread input `bs`): where the refills fall is settled once, in `nextByte_at`.
-/
namespace MsPack

theorem take_set_succ {α : Type} : ∀ (l : List α) (p : Nat) (b : α), p < l.length →
    (l.set p b).take (p + 1) = l.take p ++ [b]
  | [], _, _, h => by simp at h
  | x :: xs, 0, b, _ => by simp
  | x :: xs, p + 1, b, h => by
    simp only [List.set_cons_succ, List.take_succ_cons, List.cons_append, List.cons.injEq, true_and]
    exact take_set_succ xs p b (by simpa using h)

end MsPack

namespace MsPack.Lzss

theorem Ring.emit_ok {r : Ring} (h : r.ok) (b : UInt8) : (r.emit b).ok := by
  refine ⟨?_, Nat.mod_lt _ (by decide)⟩
  simp [Ring.emit, h.1]

theorem Ring.copy_ok : ∀ (n mpos : Nat) {r : Ring}, r.ok → (Ring.copy n mpos r).ok
  | 0, _, _, h => h
  | n + 1, _, _, h => Ring.copy_ok n _ (Ring.emit_ok h _)

theorem Ring.apply_ok {r : Ring} (h : r.ok) (t : Tok) : (r.apply t).ok := by
  cases t with
  | lit b => exact Ring.emit_ok h b
  | mat m l => exact Ring.copy_ok l m h

theorem expand_ok : ∀ (toks : List Tok) {r : Ring}, r.ok → (expand toks r).ok
  | [], _, h => h
  | t :: ts, _, h => expand_ok ts (Ring.apply_ok h t)

theorem ctrl_lt : ∀ (g : List Tok), ctrl g < 2 ^ g.length
  | [] => by simp [ctrl]
  | t :: ts => by
    have := ctrl_lt ts
    simp only [ctrl, List.length_cons, Nat.pow_succ]
    split <;> omega

theorem ctrl_testBit : ∀ (g : List Tok) (i : Nat) (h : i < g.length), (ctrl g).testBit i = g[i].isLit
  | t :: ts, 0, _ => by
    simp only [ctrl, Nat.testBit_zero, List.getElem_cons_zero]
    cases t.isLit <;> simp <;> omega
  | t :: ts, i + 1, h => by
    have ih := ctrl_testBit ts i (by simpa using h)
    simp only [ctrl, List.getElem_cons_succ, Nat.testBit_succ]
    rw [← ih]
    congr 1
    split <;> omega

theorem nibbles : ∀ h, h < 16 → ∀ d, d < 16 →
    ((h * 16 + d) &&& 0xF0) <<< 4 = h <<< 8 ∧ ((h * 16 + d) &&& 0x0F) = d := by
  decide

theorem match_bytes_decode (m : Nat) (hm : m < 4096) (d : Nat) (hd : d < 16) :
    (m % 256) ||| (((m / 256 * 16 + d) &&& 0xF0) <<< 4) = m ∧ ((m / 256 * 16 + d) &&& 0x0F) = d := by
  obtain ⟨h1, h2⟩ := nibbles (m / 256) (by omega) d hd
  refine ⟨?_, h2⟩
  rw [h1, Nat.or_comm, ← Nat.shiftLeft_add_eq_or_of_lt (Nat.mod_lt m (by decide : 0 < 2 ^ 8)), Nat.shiftLeft_eq]
  omega

def rem (st : St Rd) : Bytes := st.inbuf ++ st.src.file.drop st.src.pos
def ring (st : St Rd) : Ring := ⟨st.window, st.pos, st.out⟩

structure At (r : Ring) (bs : Bytes) (st : St Rd) : Prop where
  ring : ring st = r
  ok   : r.ok
  rem  : rem st = bs
  size : 1 ≤ st.inbufSize

variable {R : Err → St Rd → Prop} {F : Fault → Prop} {r : Ring} {bs : Bytes} {st : St Rd}

theorem nextByte_at {b : UInt8} (h : At r (b :: bs) st) :
    (nextByte Rd.src st).Post (fun b' st' => b' = b ∧ At r bs st') R F := by
  obtain ⟨hr, hok, hrem, hb⟩ := h
  unfold nextByte
  cases hi : st.inbuf with
  | cons x xs =>
    simp only [rem, hi, List.cons_append, List.cons.injEq] at hrem
    exact ⟨hrem.1, hr, hok, hrem.2, hb⟩
  | nil =>
    simp only [rem, hi, List.nil_append] at hrem
    simp only [Rd.src, Rd.read, hrem]
    obtain ⟨n, hn⟩ : ∃ n, st.inbufSize = n + 1 := ⟨st.inbufSize - 1, by omega⟩
    simp only [hn, List.take_succ_cons]
    refine ⟨rfl, hr, hok, ?_, hn ▸ hb⟩
    simp only [rem, List.length_cons, List.length_take]
    have : st.src.file.drop (st.src.pos + (min n bs.length + 1)) = bs.drop (min n bs.length) := by
      rw [← List.drop_drop, hrem, List.drop_succ_cons]
    rw [this]
    by_cases hl : n ≤ bs.length
    · rw [Nat.min_eq_left hl, List.take_append_drop]
    · have : bs.length ≤ n := by omega
      rw [Nat.min_eq_right this, List.take_of_length_le this, List.drop_length, List.append_nil]

/-- at the end of the input the function returns `MSPACK_ERR_OK`, wherever in a token that happens -/
theorem nextByte_end (h : At r [] st) (hR : ∀ st', ring st' = r → R .ok st') :
    (nextByte Rd.src st).Post (fun _ _ => False) R F := by
  have hrem := h.rem
  unfold nextByte
  simp only [rem, List.append_eq_nil_iff] at hrem
  rw [hrem.1]
  simp only [Rd.src, Rd.read, hrem.2, List.take_nil]
  exact hR _ h.ring

theorem emitByte_at (h : At r bs st) (b : UInt8) : (emitByte st b).Post (fun _ => At (r.emit b) bs) R F := by
  obtain ⟨rfl, hok, hrem, hb⟩ := h
  unfold emitByte
  rw [if_pos (by have := hok.1; have := hok.2; simp only [ring] at *; omega)]
  exact ⟨rfl, Ring.emit_ok hok b, hrem, hb⟩

theorem copyMatch_at : ∀ (len mpos : Nat) {r : Ring} {st : St Rd}, At r bs st → mpos < 4096 →
    (copyMatch len mpos st).Post (fun _ => At (Ring.copy len mpos r) bs) R F
  | 0, _, _, _, h, _ => h
  | len + 1, mpos, r, st, h, hm => by
    have hw : mpos < st.window.size := by have := h.ok.1; rw [← h.ring] at this; exact this ▸ hm
    rw [copyMatch_succ, dif_pos hw]
    refine (emitByte_at h _).bind fun _ st1 h1 => ?_
    have : st.window[mpos] = r.window.getD mpos 0 := by simp [← h.ring, Lzss.ring, Array.getD, hw]
    rw [this] at h1
    exact copyMatch_at len _ h1 (Nat.mod_lt _ (by decide))

theorem u8_toNat (x : Nat) (h : x < 256) : (UInt8.ofNat x).toNat = x := by
  simp [UInt8.toNat_ofNat']; omega

theorem and_pow_ne_zero (c j : Nat) : (c &&& 2 ^ j ≠ 0) ↔ c.testBit j = true := by
  constructor
  · intro h
    cases hb : c.testBit j with
    | true => rfl
    | false =>
      exfalso; apply h
      apply Nat.eq_of_testBit_eq
      intro i
      rw [Nat.testBit_and, Nat.testBit_two_pow, Nat.zero_testBit]
      by_cases hij : j = i
      · subst hij; simp [hb]
      · simp [hij]
  · intro hb h
    have : (c &&& 2 ^ j).testBit j = true := by
      rw [Nat.testBit_and, Nat.testBit_two_pow, hb]; simp
    rw [h, Nat.zero_testBit] at this
    cases this

theorem shl_one_pow (j : Nat) : (2 ^ j) <<< 1 = 2 ^ (j + 1) := by
  rw [Nat.shiftLeft_eq, Nat.pow_one]; exact (Nat.pow_succ ..).symm

theorem apply_at {c k j : Nat} {t : Tok} {tail : Bytes} (h : At r (t.bytes ++ tail) st) (ht : t.wf)
    (hc : c.testBit j = t.isLit) {Q : Unit → St Rd → Prop}
    (hk : ∀ st1, At (r.apply t) tail st1 → (tokenLoop Rd.src c k (2 ^ (j + 1)) st1).Post Q R F) :
    (tokenLoop Rd.src c (k + 1) (2 ^ j) st).Post Q R F := by
  rw [tokenLoop_succ, shl_one_pow]
  cases t with
  | lit b =>
    rw [if_pos ((and_pow_ne_zero c j).mpr hc)]
    exact (nextByte_at h).bind fun b' st0 ⟨eb, h0⟩ => (emitByte_at h0 b').bind fun _ st1 h1 => hk st1 (eb ▸ h1)
  | mat m l =>
    obtain ⟨hm, hl3, hl18⟩ : m < 4096 ∧ 3 ≤ l ∧ l ≤ 18 := ht
    obtain ⟨d1, d2⟩ := match_bytes_decode m hm (l - 3) (by omega)
    rw [if_neg (by rw [and_pow_ne_zero, hc]; simp [Tok.isLit])]
    refine (nextByte_at h).bind fun b0 st0 ⟨e0, h0⟩ => (nextByte_at h0).bind fun b1 st0' ⟨e1, h0'⟩ => ?_
    have hmpos : b0.toNat ||| ((b1.toNat &&& 0xF0) <<< 4) = m := by
      rw [e0, e1, u8_toNat _ (Nat.mod_lt _ (by decide)), u8_toNat _ (by omega)]; exact d1
    have hlen : (b1.toNat &&& 0x0F) + 3 = l := by rw [e1, u8_toNat _ (by omega), d2]; omega
    rw [hmpos, hlen]
    exact (copyMatch_at l m h0' hm).bind fun _ st1 h1 => hk st1 h1

/-- one `for (i = 1; i & 0xFF; i <<= 1)` loop from bit `j` on: `g` = the tokens still coded in this group, `k` = the
    iterations left.  A full group falls through with the ring advanced over `g`; a short (last) group ends in
    `return MSPACK_ERR_OK` at the end of the input, with the ring advanced over `g` as well. -/
theorem tokenLoop_at (c : Nat) : ∀ (g : List Tok) (k j : Nat) {r : Ring} {st : St Rd} (tail : Bytes),
    g.length ≤ k → (∀ t (h : t < g.length), c.testBit (j + t) = g[t].isLit) → (∀ t ∈ g, t.wf) →
    At r (g.flatMap Tok.bytes ++ tail) st → (g.length < k → tail = []) →
    (tokenLoop Rd.src c k (2 ^ j) st).Post (fun _ st' => g.length = k ∧ At (expand g r) tail st')
      (fun e st' => g.length < k ∧ e = .ok ∧ ring st' = expand g r) F
  | [], 0, _, _, _, _, _, _, _, h, _ => ⟨rfl, h⟩
  | [], k + 1, j, r, st, tail, _, _, _, h, htail => by
    rw [tokenLoop_succ]
    have h' : At r [] st := by simpa [htail (Nat.succ_pos k)] using h
    split <;> exact (nextByte_end h' fun st' hr => ⟨Nat.succ_pos k, rfl, hr⟩).bind fun _ _ h => h.elim
  | t :: g, 0, _, _, _, _, hlen, _, _, _, _ => by simp at hlen
  | t :: g, k + 1, j, r, st, tail, hlen, hbits, hwf, h, htail => by
    refine apply_at (t := t) (by simpa using h) (hwf t (List.mem_cons_self ..)) (hbits 0 (Nat.succ_pos _))
      fun st1 h1 => ?_
    refine (tokenLoop_at c g k (j + 1) tail (by simpa using hlen) (fun u hu => ?_)
      (fun u hu => hwf u (List.mem_cons_of_mem _ hu)) h1 (fun h => htail (by simpa using h))).mono
      (fun _ st' ⟨a, b⟩ => ⟨by simpa using a, b⟩) (fun e st' ⟨a, b⟩ => ⟨by simpa using a, b⟩)
    have := hbits (u + 1) (by simpa using hu)
    simpa [Nat.add_assoc, Nat.add_comm 1 u] using this

theorem encode_nil : encode [] = [] := by rw [encode]; simp

theorem encode_cons (toks : List Tok) (h : toks ≠ []) :
    encode toks = UInt8.ofNat (ctrl (toks.take 8)) :: ((toks.take 8).flatMap Tok.bytes ++ encode (toks.drop 8)) := by
  rw [encode, dif_neg h]; rfl

theorem expand_append (a b : List Tok) (r : Ring) : expand (a ++ b) r = expand b (expand a r) := by
  simp [expand, List.foldl_append]

theorem mainLoop_at (toks : List Tok) (fuel : Nat) {r : Ring} {st : St Rd} (hf : toks.length + 1 ≤ fuel)
    (hwf : ∀ t ∈ toks, t.wf) (h : At r (encode toks) st) :
    (mainLoop Rd.src 0 fuel st).Post (fun _ _ => False) (fun e st' => e = .ok ∧ ring st' = expand toks r) F := by
  obtain ⟨fuel, rfl⟩ : ∃ m, fuel = m + 1 := ⟨fuel - 1, by omega⟩
  rw [mainLoop_succ]
  by_cases hnil : toks = []
  · subst hnil
    rw [encode_nil] at h
    exact (nextByte_end h fun st' hr => ⟨rfl, hr⟩).bind fun _ _ h => h.elim
  · have hpos : 0 < toks.length := List.length_pos_iff.mpr hnil
    rw [encode_cons toks hnil] at h
    refine (nextByte_at h).bind fun cb st0 ⟨ecb, h0⟩ => ?_
    have hgl : (toks.take 8).length ≤ 8 := by simp [List.length_take]; omega
    have hc : cb.toNat ^^^ 0 = ctrl (toks.take 8) := by
      rw [ecb, Nat.xor_zero, u8_toNat]
      have := ctrl_lt (toks.take 8)
      have : 2 ^ (toks.take 8).length ≤ 2 ^ 8 := Nat.pow_le_pow_right (by decide) hgl
      omega
    have hd : (toks.take 8).length < 8 → toks.drop 8 = [] := fun h =>
      List.drop_eq_nil_of_le (by simp only [List.length_take] at h; omega)
    rw [hc, ← List.take_append_drop 8 toks, expand_append, List.take_append_drop]
    -- a short group is the last one: its `return` is the loop's
    refine ((tokenLoop_at (ctrl (toks.take 8)) (toks.take 8) 8 0 (encode (toks.drop 8)) hgl
      (fun t h => by simpa using ctrl_testBit (toks.take 8) t h) (fun t ht => hwf t (List.mem_of_mem_take ht)) h0
      (fun h => by rw [hd h, encode_nil])).mono (fun _ _ h => h) fun e st' ⟨hl, he, hr⟩ => ?_).bind fun _ st1 ⟨hl, h1⟩ =>
        mainLoop_at (toks.drop 8) fuel (by simp only [List.length_drop]; omega)
          (fun t ht => hwf t (List.mem_of_mem_drop ht)) h1
    rw [hd hl]; exact ⟨he, hr⟩
termination_by toks.length
decreasing_by simp only [List.length_drop]; omega

end MsPack.Lzss
