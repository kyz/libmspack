import Proofs.Lemmas.ZipChunk
/-!
# MSZIP: a status other than OK leaves the sticky error set

The only `sys` exit of the decoder is `read_input`, which stores MSPACK_ERR_READ before it returns it (the status walk,
`ZipChunk.lean`); `decompress_sticky` follows the block loop with `frameStep_status`.
-/
namespace MsPack.Zip.ZipSticky

variable {σ : Type} (S : Src σ)

/-- `ZipChunk.EOk` with one more fact at a `sys` exit: the sticky error is set -/
def EOk (e0 : Err) (h : Halt) (s : St σ) : Prop :=
  match h with
  | .sys e => e ≠ .ok ∧ s.error ≠ .ok
  | .inf => s.error = e0
  | .fault _ => True

def K (e0 : Err) {α : Type} (m : ZM σ α) (st : St σ) : Prop :=
  match exec m st with
  | (.ok _, s) => s.error = e0
  | (.error h, s) => EOk e0 h s

section rules
variable {α β : Type} {e0 : Err}

theorem K_pure_bind (a : α) (f : α → ZM σ β) (st : St σ) : K e0 (pure a >>= f) st = K e0 (f a) st := by
  rw [pure_bind]
theorem K_get (st : St σ) : K e0 (get : ZM σ (St σ)) st = (st.error = e0) := by
  unfold K; rfl

theorem EOk_inf (s : St σ) : EOk e0 .inf s = (s.error = e0) := rfl
theorem EOk_fault (f : Fault) (s : St σ) : EOk e0 (.fault f) s = True := rfl
theorem EOk_sys (e : Err) (s : St σ) : EOk e0 (.sys e) s = (e ≠ .ok ∧ s.error ≠ .ok) := rfl
end rules

attribute [irreducible] K

open ZipChunk in
theorem decompressLoop_sticky (fuel : Nat) : ∀ (n : Nat) (st : St σ) (outBytes : Nat) (w : Bytes) (o : Out σ),
    decompressLoop S fuel n st outBytes w = .ok o → o.err ≠ .ok → o.st.error ≠ .ok := by
  intro n
  induction n with
  | zero => intro st outBytes w o h; rw [decompressLoop.eq_1] at h; cases h
  | succ n ih =>
    intro st outBytes w o h he
    rw [loop_succ] at h
    split at h
    · cases h; exact absurd rfl he
    · cases hfs : frameStep S fuel st with
      | error f => rw [hfs] at h; cases h
      | ok r =>
        have hst := frameStep_status S fuel st r hfs
        rw [hfs] at h
        cases r with
        | stop e st' => cases h; exact fun hc => hst.1 (hst.2.1.symm.trans hc)
        | frame se st' =>
          cases se with
          | some e =>
            have hse := hst.2.2 e rfl
            dsimp only at h
            split at h <;> cases h <;> exact fun hc => hse.1 (hse.2.1.symm.trans hc)
          | none => exact ih _ _ _ _ h he

theorem decompress_sticky (fuel : Nat) (st : St σ) (n : Nat) (o : Out σ)
    (h : decompress S fuel st n = .ok o) (he : o.err ≠ .ok) : o.st.error ≠ .ok := by
  unfold decompress at h
  split at h
  · rename_i hne
    cases h
    exact hne
  · dsimp only at h
    split at h
    · cases h; exact absurd rfl he
    · exact decompressLoop_sticky S fuel fuel _ _ _ _ h he

end MsPack.Zip.ZipSticky
