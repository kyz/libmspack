import Proofs.Lemmas.FeederStep
import Proofs.Lemmas.RdFacts
/-
The postcondition of `cabd_sys_read_block`, proved in one walk over the function (`readBlock_post`): what a delivered
block satisfies, that it is delivered identically under laxer flags, and which faults can occur (`BlockSpec`,
`readBlock_spec`; hence no read past `d->input` in the block reader, C02), and how far the handles moved (`BlockPost`,
for the termination of the feeder, C04).  `readBlock_hdr` is the function once the block header is read: whoever knows
the header rewrites with it and settles the tests by `if_pos`/`if_neg`.
-/
namespace MsPack.Cab
open MsPack.Generated

/-- the handle after the per-block reserve that follows a block header -/
def Part.skip (part : Part) (r : Rd) : Rd := if part.blockResv ≠ 0 then r.seekCur part.blockResv else r

theorem Part.skip_of_zero {part : Part} (h : part.blockResv = 0) (r : Rd) : part.skip r = r := if_neg (· h)

theorem Part.skip_left (part : Part) (r : Rd) : (part.skip r).file.length - (part.skip r).pos ≤ r.file.length - r.pos := by
  unfold Part.skip; split
  · simp only [Rd.seekCur]; omega
  · exact Nat.le_refl _

/-- after an accepted block: delivered, or (a split block) on to the next cabinet of the set -/
def readBlock.rest (files : Files) (ic ib : Bool) (fuel : Nat) (r3 : Rd) (part : Part) (more : List Part) (acc : Bytes)
    (out : Nat) : BlockResult :=
  if out ≠ 0 then .ok acc out (some r3) (part :: more)
  else match more with
    | [] => .err .dataformat none []
    | nxt :: _ => match files.lookup nxt.fname with
      | none => .err .open_ none more
      | some bytes => readBlock files ic ib fuel (some ⟨bytes, nxt.offset⟩) more acc

/-- the round once the block header is read; the `d->input` overrun test is gone (the first test implies it) -/
theorem readBlock_hdr {files : Files} {ic ib : Bool} {fuel : Nat} {r r1 : Rd} {part : Part} {more : List Part}
    {acc hdr : Bytes} (h8 : r.readExact 8 = some (hdr, r1)) :
    readBlock files ic ib (fuel + 1) (some r) (part :: more) acc =
      if acc.length + u16At hdr 4 > cabINPUTMAX ∧ ((!ib) = true ∨ acc.length + u16At hdr 4 > cabINPUTMAX_SALVAGE) then
        .err .dataformat (some (part.skip r1)) (part :: more)
      else if u16At hdr 6 > cabBLOCKMAX ∧ (!ib) = true then .err .dataformat (some (part.skip r1)) (part :: more)
      else match (part.skip r1).readExact (u16At hdr 4) with
        | none => .err .read (some ((part.skip r1).read (u16At hdr 4)).2) (part :: more)
        | some (payload, r3) =>
          if u32At hdr 0 ≠ 0 ∧ (!ic) = true ∧ cksum (hdr.drop 4) (cksum payload 0) ≠ u32At hdr 0 then
            .err .checksum (some r3) (part :: more)
          else readBlock.rest files ic ib fuel r3 part more (acc ++ payload) (u16At hdr 6) := by
  rw [readBlock.eq_4]
  simp only [h8]
  refine ite_congr rfl (fun _ => rfl) fun h1 => ite_congr rfl (fun _ => rfl) fun _ => ?_
  rw [if_neg fun h => h1 ⟨Nat.lt_trans (by decide) h, .inr (Nat.lt_trans (by decide) h)⟩]
  rfl

/-- A delivered block fits `d->input` with the byte to spare that the Quantum trailer needs, and is delivered just so
    under any laxer flags; the only faults are the two null dereferences at entry (the `d->input` overrun is excluded by
    the size test before it). -/
def BlockSpec (files : Files) (ic ib : Bool) (fuel : Nat) (rd : Option Rd) (parts : List Part) (acc : Bytes) :
    BlockResult → Prop
  | .ok p out rd' parts' => rd'.isSome = true ∧ parts' ≠ [] ∧ p.length + 1 ≤ cabInputDim ∧
      ∀ ic' ib', (ic = true → ic' = true) → (ib = true → ib' = true) →
        readBlock files ic' ib' fuel rd parts acc = .ok p out rd' parts'
  | .err e _ _ => e ≠ .ok
  | .fault f => (rd = none ∧ f = .nullDeref "cabd_sys_read_block: d->infh") ∨
      (parts = [] ∧ f = .nullDeref "cabd_sys_read_block: d->data")

theorem not_true_mono {b c : Bool} (h : b = true → c = true) : (!c) = true → (!b) = true := by
  cases b <;> simp_all

def rdLeft : Option Rd → Nat
  | some r => r.file.length - r.pos
  | none => 0

def restLeft (files : Files) : List Part → Nat
  | [] => 0
  | p :: ps => (((files.lookup p.fname).getD []).length - p.offset) + restLeft files ps

def chainLeft (files : Files) (rd : Option Rd) (parts : List Part) : Nat :=
  rdLeft rd + restLeft files parts.tail

theorem readExact_left {r r' : Rd} {n : Nat} {c : Bytes} (h : r.readExact n = some (c, r')) :
    c.length = n ∧ (r'.file.length - r'.pos) + n ≤ r.file.length - r.pos := by
  obtain ⟨hn, -, rfl⟩ := Rd.readExact_eq_some_iff.1 h
  exact ⟨Rd.readExact_length h, by show r.file.length - (r.pos + n) + n ≤ _; omega⟩

/-- what a call consumed, measured by `chainLeft` (the bytes left in the open cabinet and, from their data offsets, in
    the later cabinets of the set): a delivered block took a header and what it added to `acc`; an error did not move
    the handles back -/
def BlockPost (files : Files) (rd : Option Rd) (parts : List Part) (acc : Bytes) : BlockResult → Prop
  | .ok payload _ rd' parts' => payload.length + 8 + chainLeft files rd' parts' ≤ acc.length + chainLeft files rd parts
  | .err _ rd' parts' => chainLeft files rd' parts' ≤ chainLeft files rd parts
  | .fault _ => True

def BlockBoth (files : Files) (ic ib : Bool) (fuel : Nat) (rd : Option Rd) (parts : List Part) (acc : Bytes)
    (res : BlockResult) : Prop :=
  BlockSpec files ic ib fuel rd parts acc res ∧ BlockPost files rd parts acc res

theorem readBlock_post (files : Files) (ic ib : Bool) : ∀ (fuel : Nat) (rd : Option Rd) (parts : List Part)
    (acc : Bytes), BlockBoth files ic ib fuel rd parts acc (readBlock files ic ib fuel rd parts acc) := by
  intro fuel
  induction fuel with
  | zero => intro rd parts acc; exact ⟨Err.noConfusion, Nat.le_refl _⟩
  | succ fuel ih =>
    intro rd parts acc
    match rd, parts with
    | none, _ => exact ⟨.inl ⟨rfl, rfl⟩, trivial⟩
    | some r, [] => exact ⟨.inr ⟨rfl, rfl⟩, trivial⟩
    | some r, part :: more =>
    have refuse {e : Err} {r' : Rd} (he : e ≠ .ok) (h : r'.file.length - r'.pos ≤ r.file.length - r.pos) :
        BlockBoth files ic ib (fuel + 1) (some r) (part :: more) acc (.err e (some r') (part :: more)) :=
      ⟨he, Nat.add_le_add_right h _⟩
    cases h8 : r.readExact 8 with
    | none => rw [readBlock.eq_4, h8]; exact refuse Err.noConfusion (Nat.le_refl _)
    | some x =>
    obtain ⟨hdr, r1⟩ := x
    have l1 := (readExact_left h8).2
    have l2 := part.skip_left r1
    rw [readBlock_hdr h8]
    -- `split` on these tests is slow (it tries to decide the later ones)
    refine iteInduction (fun _ => refuse Err.noConfusion (by omega)) fun h1 =>
      iteInduction (fun _ => refuse Err.noConfusion (by omega)) fun h2 => ?_
    cases hp : (part.skip r1).readExact (u16At hdr 4) with
    | none => exact refuse Err.noConfusion (by simp only [Rd.read, List.length_take, List.length_drop]; omega)
    | some y =>
    obtain ⟨payload, r3⟩ := y
    have ⟨hl, l3⟩ := readExact_left hp
    refine iteInduction (fun _ => refuse Err.noConfusion (by omega)) fun hck => ?_
    have hacc {ic' ib'} (hic : ic = true → ic' = true) (hib : ib = true → ib' = true) :
        readBlock files ic' ib' (fuel + 1) (some r) (part :: more) acc =
          readBlock.rest files ic' ib' fuel r3 part more (acc ++ payload) (u16At hdr 6) := by
      rw [readBlock_hdr h8, if_neg fun h => h1 ⟨h.1, h.2.imp_left (not_true_mono hib)⟩,
        if_neg fun h => h2 ⟨h.1, not_true_mono hib h.2⟩, hp]
      exact if_neg fun h => hck ⟨h.1, not_true_mono hic h.2.1, h.2.2⟩
    unfold readBlock.rest
    split
    next hout =>
      refine ⟨⟨rfl, List.cons_ne_nil _ _, ?_, fun ic' ib' hic hib => ?_⟩, ?_⟩
      · rw [List.length_append, hl]
        exact Nat.lt_of_not_le fun h => h1 ⟨Nat.lt_of_lt_of_le (by decide) h, .inr h⟩
      · rw [hacc hic hib]; exact if_pos hout
      · show (acc ++ payload).length + 8 + chainLeft files (some r3) (part :: more) ≤ acc.length + _
        simp only [chainLeft, rdLeft, List.length_append]; omega
    next hout =>
    split
    · exact ⟨Err.noConfusion, by simp [BlockPost, chainLeft, rdLeft, restLeft]⟩
    next nxt tl =>
    split
    · refine ⟨Err.noConfusion, ?_⟩
      show chainLeft files none (nxt :: tl) ≤ _
      simp only [chainLeft, rdLeft, List.tail_cons, restLeft]; omega
    next bytes hb =>
    have hnew : chainLeft files (some ⟨bytes, nxt.offset⟩) (nxt :: tl) + 8 + payload.length
        ≤ chainLeft files (some r) (part :: nxt :: tl) := by
      simp only [chainLeft, rdLeft, List.tail_cons, restLeft, hb, Option.getD_some]; omega
    have := ih (some ⟨bytes, nxt.offset⟩) (nxt :: tl) (acc ++ payload)
    revert this
    generalize readBlock files ic ib fuel _ _ _ = res
    intro this
    match res, this with
    | .err .., ⟨he, hle⟩ => exact ⟨he, Nat.le_trans hle (by omega)⟩
    | .fault _, ⟨hf, _⟩ => exact hf.elim (fun h => nomatch h.1) (fun h => nomatch h.1)
    | .ok p o rd' parts', ⟨⟨a, b, c, d⟩, hle⟩ =>
      refine ⟨⟨a, b, c, fun ic' ib' hic hib => ?_⟩, ?_⟩
      · rw [hacc hic hib, readBlock.rest, if_neg hout, hb]; exact d ic' ib' hic hib
      · have : p.length + 8 + chainLeft files rd' parts' ≤ (acc ++ payload).length + _ := hle
        rw [List.length_append] at this
        show p.length + 8 + chainLeft files rd' parts' ≤ acc.length + _
        omega

theorem readBlock_spec (files : Files) (ic ib : Bool) (fuel : Nat) (rd : Option Rd) (parts : List Part) (acc : Bytes) :
    BlockSpec files ic ib fuel rd parts acc (readBlock files ic ib fuel rd parts acc) :=
  (readBlock_post files ic ib fuel rd parts acc).1

theorem readBlock_no_oob (files : Files) (ic ib : Bool) (fuel : Nat) (rd : Option Rd) (parts : List Part)
    (acc : Bytes) (s : String) : readBlock files ic ib fuel rd parts acc ≠ .fault (.oob s) := by
  intro h
  have := readBlock_spec files ic ib fuel rd parts acc
  rw [h] at this
  exact this.elim (fun h => nomatch h.2) (fun h => nomatch h.2)

theorem readBlock_relax_mono (files : Files) (ic ib : Bool) (fuel : Nat) (rd : Option Rd) (parts : List Part)
    (acc : Bytes) (p : Bytes) (out : Nat) (rd' : Option Rd) (parts' : List Part)
    (h : readBlock files false false fuel rd parts acc = .ok p out rd' parts') :
    readBlock files ic ib fuel rd parts acc = .ok p out rd' parts' := by
  have := readBlock_spec files false false fuel rd parts acc
  rw [h] at this
  exact this.2.2.2 ic ib nofun nofun

theorem Feeder.nextBlock_spec {files : Files} {fd : Feeder} {r : BlockResult} (h : fd.nextBlock files = r) :
    BlockSpec files (fd.salvage || (fd.fixMszip && compMask fd.compType == 1)) fd.salvage (fd.parts.length + 1)
      fd.rd fd.parts [] r :=
  h ▸ readBlock_spec ..

end MsPack.Cab
