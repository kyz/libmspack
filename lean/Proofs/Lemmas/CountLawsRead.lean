import Proofs.Lemmas.Count
import Proofs.Lemmas.CountLaws
import Proofs.Lemmas.CountLawsZip
import Proofs.Lemmas.CountLawsQtm
import Proofs.Lemmas.FeederFaults
/-!
# A READ status goes with a failed feeder: each decoder, and `cabd_extract` over a joint invariant (lemmas for C07Decoders)

A decoder that reports MSPACK_ERR_READ has seen the CAB feeder fail, so the `READ → read_error`
substitution of `cabd_extract` cannot produce OK.  This is a joint property of decoder state and
feeder (`feeder.salvage = false`; a sticky READ in the decoder goes with `feeder.readError ≠ OK`): `ReadErrLaw` of
`Count.lean`, which asks it of every feeder, does not hold, so it is proved on the invariant (`zip_readErr`: `ZJ`/`ZOut`)
and carried through `extract` as `CabJoint.CallOk` / `StateOk` / `CabJ`; `ReadErrLzx`, `ReadErrQtm` are the same
invariant for the other two decoders, as instances of their walks.
-/
namespace MsPack.CountLaws.ReadErr
open MsPack.Cab

theorem feederRead_short (files : Files) : ∀ (fuel : Nat) (fd : Feeder) (todo : Nat) (got : Bytes)
    (r : Option Bytes) (fd' : Feeder), feederRead files fuel fd todo got = .ok (r, fd') →
    fd'.salvage = fd.salvage ∧
    ∀ g, r = some g → g.length ≤ got.length + todo ∧
      (fd.salvage = false → g.length < got.length + todo → fd'.readError = .dataformat) :=
  feederRead_induct files (hang := fun _ _ h => nomatch h)
    (done := fun _ _ h => by cases h; exact ⟨rfl, fun g hg => by cases hg; exact ⟨by omega, fun _ hl => by omega⟩⟩)
    (serve := fun _ _ ih r fd' h =>
      have this := ih r fd' h
      ⟨this.1, fun g hg => by
        have h2 := this.2 g hg
        simp only [List.length_append, List.length_take] at h2
        exact ⟨by omega, fun hs hl => h2.2 hs (by omega)⟩⟩)
    (pastEnd := fun {_ fd _ _} _ _ _ _ _ h => by
      cases h
      refine ⟨rfl, fun g hg => ?_⟩
      cases hg
      exact ⟨by omega, fun hs _ => by show (if fd.salvage then _ else _) = _; rw [hs]; rfl⟩)
    (fault := fun _ _ _ _ _ _ h => nomatch h)
    (refuse := fun _ _ _ _ _ _ h => by cases h; exact ⟨rfl, nofun⟩)
    (take := fun _ _ _ _ ih => ih)

theorem feederSrc_salvage (files : Files) (fd : Feeder) (n : Nat) (r : Option Bytes) (fd' : Feeder)
    (h : (feederSrc files).read fd n = .ok (r, fd')) : fd'.salvage = fd.salvage :=
  (feederRead_short files _ fd n [] r fd' h).1

theorem feederSrc_le (files : Files) (fd : Feeder) (n : Nat) (g : Bytes) (fd' : Feeder)
    (h : (feederSrc files).read fd n = .ok (some g, fd')) : g.length ≤ n := by
  have := ((feederRead_short files _ fd n [] _ fd' h).2 g rfl).1
  simpa using this

theorem feederSrc_short (files : Files) (fd : Feeder) (n : Nat) (g : Bytes) (fd' : Feeder)
    (h : (feederSrc files).read fd n = .ok (some g, fd')) (hs : fd.salvage = false) (hl : g.length < n) :
    fd'.readError ≠ .ok := by
  have := ((feederRead_short files _ fd n [] _ fd' h).2 g rfl).2 hs (by simpa using hl)
  rw [this]; intro hc; cases hc

section zip
variable (files : Files)

/-- while a call runs -/
def ZI (st : Zip.St Feeder) : Prop := st.error = .ok ∧ st.src.salvage = false ∧ st.inbufSize ≠ 0

def ZE : Zip.Halt → Zip.St Feeder → Prop
  | .sys e, st => e = .read ∧ st.error = .read ∧ st.src.readError ≠ .ok ∧ st.src.salvage = false ∧ st.inbufSize ≠ 0
  | .inf, st => ZI st
  | .fault _, _ => True

theorem ZI_of {a b : Zip.St Feeder} (h : ZI a) (h1 : b.error = a.error) (h2 : b.src = a.src)
    (h3 : b.inbufSize = a.inbufSize) : ZI b := by
  unfold ZI at *; rw [h1, h2, h3]; exact h

theorem readErr_walk : CountLaws.Zip.Walk (feederSrc files) ZI ZE where
  frame := fun h h2 h1 h3 _ => ZI_of h h1 h2 h3
  fault := fun _ _ _ => trivial
  inf := fun _ hi => hi
  readNone := fun _ _ hi hrd =>
    ⟨rfl, rfl, MsPack.CabLift.feederSrc_read_none files _ _ _ hrd,
      (feederSrc_salvage files _ _ _ _ hrd).trans hi.2.1, hi.2.2⟩
  readEnd := fun _ _ hi hrd =>
    ⟨rfl, rfl, feederSrc_short files _ _ _ _ hrd hi.2.1 (Nat.pos_of_ne_zero hi.2.2),
      (feederSrc_salvage files _ _ _ _ hrd).trans hi.2.1, hi.2.2⟩
  readMore := fun _ _ _ _ hi hrd h2 h1 h3 _ => by
    unfold ZI at *; rw [h1, h2, h3]; exact ⟨hi.1, (feederSrc_salvage files _ _ _ _ hrd).trans hi.2.1, hi.2.2⟩

/-- between calls -/
def ZJ (st : Zip.St Feeder) : Prop :=
  st.src.salvage = false ∧ st.inbufSize ≠ 0 ∧ (st.error = .read → st.src.readError ≠ .ok)

def ZOut (o : Zip.Out Feeder) : Prop := ZJ o.st ∧ (o.err = .read → o.st.src.readError ≠ .ok)

theorem zip_readErr (fuel : Nat) (st : Zip.St Feeder) (n : Nat) (o : Zip.Out Feeder) (hj : ZJ st)
    (h : Zip.decompress (feederSrc files) fuel st n = .ok o) : ZOut o := by
  by_cases he : st.error = .ok
  · rcases CountLaws.Zip.decompress_outcome (readErr_walk files) (fun _ h => h)
        (fun e a b ⟨h0, h1, h2, h3, h4⟩ hs hb _ herr =>
          ⟨h0, by rcases herr with h | h <;> rw [h] <;> first | exact h1 | exact h0,
            by rw [hs]; exact h2, by rw [hs]; exact h3, by rw [hb]; exact h4⟩)
        he ⟨he, hj.1, hj.2.1⟩ h with ⟨hok, hi⟩ | ⟨hd, s, hi, hs⟩ | hE
    · exact ⟨⟨hi.2.1, hi.2.2, fun hc => by rw [hi.1] at hc; cases hc⟩, fun hc => by rw [hok] at hc; cases hc⟩
    · rw [ZOut, hs, hd]; exact ⟨⟨hi.2.1, hi.2.2, nofun⟩, nofun⟩
    · obtain ⟨_, _, h2, h3, h4⟩ : ZE (.sys o.err) o.st := hE
      exact ⟨⟨h3, h4, fun _ => h2⟩, fun _ => h2⟩
  · rw [Zip.decompress_dead _ fuel st n he] at h
    cases h; exact ⟨hj, hj.2.2⟩

end zip

end MsPack.CountLaws.ReadErr

namespace MsPack.CountLaws.ReadErrLzx
open MsPack.Cab MsPack.CountLaws.ReadErr
variable (files : Files)

def LI (st : Lzx.St Feeder) : Prop := st.error = .ok ∧ st.src.salvage = false ∧ st.inbufSize ≠ 0

def LE : Lzx.Halt → Lzx.St Feeder → Prop
  | .sys e, st => st.error = e ∧ e ≠ .ok ∧ (e = .read → st.src.readError ≠ .ok) ∧ st.src.salvage = false ∧
      st.inbufSize ≠ 0
  | .fault _, _ => True

theorem LI_of {a b : Lzx.St Feeder} (h : LI a) (h1 : b.error = a.error) (h2 : b.src = a.src)
    (h3 : b.inbufSize = a.inbufSize) : LI b := by
  unfold LI at *; rw [h1, h2, h3]; exact h

theorem readErr_walk : CountLaws.Lzx.Walk (feederSrc files) LI LE where
  frame := fun h h2 h1 h3 => LI_of h h1 h2 h3
  fault := fun _ _ _ => trivial
  fail := fun _ _ hi h2 h1 h3 => by
    unfold LI at hi; rw [← h2, ← h3] at hi; exact ⟨h1, nofun, nofun, hi.2.1, hi.2.2⟩
  readNone := fun _ _ _ hi hrd h2 h1 h3 => by
    unfold LI at hi; rw [← h3] at hi; subst h2
    exact ⟨h1, nofun, fun _ => MsPack.CabLift.feederSrc_read_none files _ _ _ hrd,
      (feederSrc_salvage files _ _ _ _ hrd).trans hi.2.1, hi.2.2⟩
  readEnd := fun st _ _ hi hrd h2 h1 h3 => by
    unfold LI at hi; subst h2
    exact ⟨h1, nofun, fun _ => feederSrc_short files _ _ _ _ hrd hi.2.1 (Nat.pos_of_ne_zero hi.2.2),
      (feederSrc_salvage files _ _ _ _ hrd).trans hi.2.1, h3 ▸ hi.2.2⟩
  readMore := fun _ _ _ _ hi hrd h2 h1 h3 => by
    unfold LI at *; rw [h1, h2, h3]; exact ⟨hi.1, (feederSrc_salvage files _ _ _ _ hrd).trans hi.2.1, hi.2.2⟩

def LJ (st : Lzx.St Feeder) : Prop :=
  st.src.salvage = false ∧ st.inbufSize ≠ 0 ∧ (st.error = .read → st.src.readError ≠ .ok)

def LOut (o : DecodeOut (Lzx.St Feeder)) : Prop := LJ o.st ∧ (o.err = .read → o.st.src.readError ≠ .ok)

theorem lzx_readErr (fuel : Nat) (st : Lzx.St Feeder) (n : Nat) (o : DecodeOut (Lzx.St Feeder)) (hj : LJ st)
    (h : Lzx.decompress (feederSrc files) fuel st n = .ok o) : LOut o := by
  by_cases he : st.error = .ok
  · rcases CountLaws.Lzx.decompress_outcome (readErr_walk files) he ⟨he, hj.1, hj.2.1⟩ h with ⟨hok, hi⟩ | hE
    · exact ⟨⟨hi.2.1, hi.2.2, fun hc => by rw [hi.1] at hc; cases hc⟩, fun hc => by rw [hok] at hc; cases hc⟩
    · obtain ⟨h1, h2, h3, h4, h5⟩ : LE (.sys o.err) o.st := hE
      exact ⟨⟨h4, h5, fun hc => h3 (h1.symm.trans hc)⟩, h3⟩
  · rw [Lzx.decompress_dead _ fuel st n he] at h
    cases h; exact ⟨hj, hj.2.2⟩

theorem lzxInit_ok (src : Feeder) (wb ri ibs ol : Nat) (d : Bool) (fill : UInt8) (st : Lzx.St Feeder)
    (h : Lzx.init src wb ri ibs ol d fill = some st) : st.inbufSize ≠ 0 ∧ st.error = .ok :=
  let ⟨_, _, _, _, he, hb, _⟩ := Lzx.init_fields h; ⟨Nat.ne_of_gt (Nat.lt_of_succ_lt hb), he⟩

end MsPack.CountLaws.ReadErrLzx

namespace MsPack.CountLaws.ReadErrQtm
open MsPack.Cab MsPack.Qtm MsPack.CountLaws.ReadErr
open MsPack.CountLaws.Qtm (Walk body_walk)
variable (files : Files)

def QI (r : Run Feeder) : Prop := r.st.error = .ok ∧ r.st.src.salvage = false ∧ r.st.inbufSize ≠ 0

def QE : Qtm.Halt → Run Feeder → Prop
  | .sys e, r => r.st.error = e ∧ e ≠ .ok ∧ (e = .read → r.st.src.readError ≠ .ok) ∧ r.st.src.salvage = false ∧
      r.st.inbufSize ≠ 0
  | .fault _, _ => True

theorem readErr_walk : Walk (feederSrc files) QI QE where
  frame := fun h h2 h1 h3 => by unfold QI at *; rw [h1, h2, h3]; exact h
  fault := fun _ _ _ _ => trivial
  readFault := fun _ _ _ _ => trivial
  symFault := fun _ _ _ _ _ _ _ _ => trivial
  fail := fun _ hi => ⟨rfl, nofun, nofun, hi.2.1, hi.2.2⟩
  readNone := fun _ _ hi hrd =>
    ⟨rfl, nofun, fun _ => MsPack.CabLift.feederSrc_read_none files _ _ _ hrd,
      (feederSrc_salvage files _ _ _ _ hrd).trans hi.2.1, hi.2.2⟩
  readEnd := fun _ _ hi hrd =>
    ⟨rfl, nofun, fun _ => feederSrc_short files _ _ _ _ hrd hi.2.1 (Nat.pos_of_ne_zero hi.2.2),
      (feederSrc_salvage files _ _ _ _ hrd).trans hi.2.1, hi.2.2⟩
  readMore := fun _ _ _ _ hi hrd h2 h1 h3 => by
    unfold QI at *; rw [h1, h2, h3]; exact ⟨hi.1, (feederSrc_salvage files _ _ _ _ hrd).trans hi.2.1, hi.2.2⟩

theorem body_tri (fuel : Nat) : Tri QI QE (body (feederSrc files) fuel) := body_walk (readErr_walk files) fuel

def QJ (st : Qtm.St Feeder) : Prop :=
  st.src.salvage = false ∧ st.inbufSize ≠ 0 ∧ (st.error = .read → st.src.readError ≠ .ok)

def QOut (o : DecodeOut (Qtm.St Feeder)) : Prop := QJ o.st ∧ (o.err = .read → o.st.src.readError ≠ .ok)

theorem qtm_readErr (fuel : Nat) (st : Qtm.St Feeder) (n : Nat) (o : DecodeOut (Qtm.St Feeder)) (hj : QJ st)
    (h : Qtm.decompress (feederSrc files) fuel st n = .ok o) : QOut o := by
  have := Qtm.decompress_cases (feederSrc files) fuel st n (P := fun | .ok o => QOut o | .error _ => True)
    (fun _ => ⟨hj, hj.2.2⟩) fun he i _ _ => ⟨fun _ => trivial,
      fun _ _ => ⟨⟨hj.1, hj.2.1, fun hc => by rw [he] at hc; cases hc⟩, fun hc => by cases hc⟩, fun _ _ =>
      ((body_tri files fuel).wp (by exact ⟨he, hj.1, hj.2.1⟩)).mono
        (fun _ _ hr => ⟨⟨hr.2.1, hr.2.2, fun hc => by rw [show _ = Err.ok from hr.1] at hc; cases hc⟩, fun hc => by cases hc⟩)
        fun
        | .sys _, _, ⟨h1, _, h3, h4, h5⟩ => ⟨⟨h4, h5, fun hc => h3 (h1.symm.trans hc)⟩, h3⟩
        | .fault _, _, _ => trivial⟩
  rw [h] at this
  exact this

theorem qtmInit_ok (src : Feeder) (wb ibs : Nat) (fill : UInt8) (st : Qtm.St Feeder)
    (h : Qtm.init src wb ibs fill = some st) : st.inbufSize ≠ 0 ∧ st.error = .ok :=
  let ⟨_, _, _, _, he, hb, _⟩ := Qtm.init_fields h; ⟨Nat.ne_of_gt (Nat.lt_of_succ_lt hb), he⟩

end MsPack.CountLaws.ReadErrQtm

namespace MsPack.CountLaws.CabJoint
open MsPack.Cab MsPack.CountLaws.ReadErr

def CallOk (files : Files) (J : Dec → Feeder → Prop) : Prop :=
  ∀ dec fd n o, J dec fd → decompress files dec fd n = .ok (some o) →
    J o.dec o.feeder ∧ (o.err = .ok → o.written.length = n) ∧ (o.err = .read → o.feeder.readError ≠ .ok)

def StateOk (J : Dec → Feeder → Prop) (ds : DState) : Prop := ∀ dec, ds.dec = some dec → J dec ds.feeder

theorem runPhase_ok (files : Files) (J : Dec → Feeder → Prop) (hC : CallOk files J) (ds : DState) (dec : Dec)
    (n : Nat) (hj : J dec ds.feeder) (e : Err) (w : Bytes) (ds' : DState)
    (h : runPhase files ds dec n = .ran e w ds') : StateOk J ds' ∧ (e = .ok → w.length = n) := by
  obtain ⟨o, ho, rfl, rfl, rfl⟩ := runPhase_ran h
  obtain ⟨h1, h2, h3⟩ := hC _ _ _ _ hj ho
  refine ⟨fun dec' hd => by cases hd; exact h1, fun he => ?_⟩
  by_cases hr : o.err = .read
  · rw [if_pos hr] at he; exact absurd he (h3 hr)
  · rw [if_neg hr] at he; exact h2 he

theorem extract_reach_ok (files : Files) (J : Dec → Feeder → Prop) (hC : CallOk files J)
    {p : Params} {d : Option DState} {m : Member} (hd : ∀ ds, d = some ds → StateOk J ds)
    (hfresh : ∀ key ds, freshDState files p m key = .ok ds → StateOk J ds)
    {e : Err} {w : Option Bytes} {d' : Option DState} (h : extract files p d m = .done e w d') :
    (∀ ds', d' = some ds' → StateOk J ds') ∧
    (e = .ok → ∀ w', w = some w' → ∃ filelen key, memberCheck p m = .ok (filelen, key) ∧ w'.length = filelen) := by
  obtain ⟨hc, hw⟩ := CabInv.extract_reach (I := StateOk J) (G := fun _ => True) trivial
    (fun ds dec n e w ds' hp hd hr _ => (runPhase_ok files J hC ds dec n (hp _ hd) e w ds' hr).1) hd hfresh h
  refine ⟨hc trivial, fun he w' hw' => ?_⟩
  obtain ⟨filelen, key, hm, ho⟩ := hw w' hw'
  refine ⟨filelen, key, hm, ?_⟩
  obtain ⟨h0, _, rfl⟩ | ⟨hne, _⟩ | ⟨ds0, dec0, ds1, hp, hd, hr⟩ := ho
  · exact h0.symm
  · exact absurd he hne
  · exact (runPhase_ok files J hC _ _ _ (hp _ hd) _ _ _ hr).2 he

theorem extract_ok_complete (files : Files) (J : Dec → Feeder → Prop) (hC : CallOk files J)
    (p : Params) (hs : p.salvage = false) (d : Option DState) (m : Member)
    (hd : ∀ ds, d = some ds → StateOk J ds)
    (hfresh : ∀ key ds, freshDState files p m key = .ok ds → StateOk J ds)
    (w : Bytes) (d' : Option DState)
    (h : extract files p d m = .done .ok (some w) d') : w.length = m.length :=
  let ⟨_, _, hm, hl⟩ := (extract_reach_ok files J hC hd hfresh h).2 rfl w rfl
  hl.trans (memberCheck_strict _ _ _ _ hs hm)

/-- stored and MSZIP folders in strict mode -/
def CabJ : Dec → Feeder → Prop
  | .none _ e, fd => fd.salvage = false ∧ (e = .read → fd.readError ≠ .ok)
  | .mszip st, fd => fd.salvage = false ∧ st.inbufSize ≠ 0 ∧ Zip.WinOk st ∧ (st.error = .read → fd.readError ≠ .ok)
  | _, _ => False

theorem noned_readErr (files : Files) (bs : Nat) (fuel : Nat) (fd : Feeder) (bytes : Nat) (w : Bytes) (o : DecOut)
    (hs : fd.salvage = false) (h : nonedDecompress files bs fuel fd bytes w = .ok o) :
    o.feeder.salvage = false ∧ (o.err = .read → o.feeder.readError ≠ .ok) := by
  have := nonedDecompress_walk (I := fun fd => fd.salvage = false) (F := fun _ => True)
    (E := fun fd => fd.salvage = false ∧ fd.readError ≠ .ok)
    { fault := fun _ _ => trivial
      failed := fun hs hr => ⟨(feederSrc_salvage files _ _ _ _ hr).trans hs, MsPack.CabLift.feederSrc_read_none files _ _ _ hr⟩
      short := fun hs hr hl => ⟨(feederSrc_salvage files _ _ _ _ hr).trans hs,
        feederSrc_short files _ _ _ _ hr hs (Nat.lt_of_le_of_ne (feederSrc_le files _ _ _ _ hr) hl)⟩
      full := fun hs hr _ => (feederSrc_salvage files _ _ _ _ hr).trans hs } bs fuel fd bytes w hs
  rw [h] at this
  obtain ⟨_, ⟨he, hs', _⟩ | ⟨_, hE, _⟩⟩ := this
  · exact ⟨hs', fun hc => by rw [he] at hc; cases hc⟩
  · exact ⟨hE.1, fun _ => hE.2⟩

theorem cabJ_callOk (files : Files) : CallOk files CabJ := by
  intro dec fd n o hj h
  cases dec with
  | none bs e =>
    obtain ⟨hs, hr⟩ := hj
    obtain ⟨he, rfl⟩ | ⟨_, hd⟩ := decompress_ok_iff.1 h
    · exact ⟨⟨hs, hr⟩, fun hc => absurd hc he, hr⟩
    · obtain ⟨h1, h3⟩ := noned_readErr files bs _ _ _ _ _ hs hd
      obtain ⟨h2, _, hc⟩ := noned_count files bs _ _ _ _ _ hd
      refine ⟨?_, by simpa using hc, h3⟩
      rw [h2]
      exact ⟨h1, h3⟩
  | mszip st =>
    obtain ⟨hs, hb, hw, hr⟩ := hj
    obtain ⟨zo, hz, rfl⟩ := decompress_ok_iff.1 h
    have hzj : ZJ ({ st with src := fd } : Zip.St Feeder) := ⟨hs, hb, hr⟩
    obtain ⟨⟨z1, z2, z3⟩, z4⟩ := zip_readErr files _ _ n zo hzj hz
    have hw' : Zip.WinOk zo.st := by
      have := Zip.decompress_ok (feederSrc files) (chainFuel files fd) ({ st with src := fd } : Zip.St Feeder) n hw
      rw [hz] at this; exact this
    have hc := CountLaws.Zip.decompress_count (feederSrc files) _ _ n zo hz
    exact ⟨⟨z1, z2, hw', z3⟩, hc.2 hw, z4⟩
  | qtm st => exact absurd hj id
  | lzx st => exact absurd hj id
  | unsupported k => exact absurd hj id

theorem zipInit_ok (src : Feeder) (n : Nat) (repair : Bool) (fill : UInt8) (st : Zip.St Feeder)
    (h : Zip.init src n repair fill = some st) : st.inbufSize ≠ 0 ∧ st.error = .ok := by
  have f := Zip.init_fields h
  exact ⟨by have := f.2.2.2.2.2.2.2.2.1; omega, f.2.2.2.2.2.2.1⟩

theorem fresh_stateOk (files : Files) (p : Params) (hs : p.salvage = false) (m : Member)
    (hct : compMask m.compType ≤ 1) (key : Nat) (ds : DState)
    (h : freshDState files p m key = .ok ds) : StateOk CabJ ds := by
  obtain ⟨_, _, _, dec, _, _, hi, rfl⟩ := freshDState_ok h
  rintro _ ⟨⟩
  have hi := initDec_some hi
  cases dec with
  | none bs e => obtain ⟨_, _, rfl⟩ := hi; exact ⟨hs, fun hc => nomatch hc⟩
  | mszip st =>
    have h1 := zipInit_ok _ _ _ _ _ hi.2
    exact ⟨hs, h1.1, Zip.init_winOk _ _ _ _ _ hi.2, fun hc => by rw [h1.2] at hc; cases hc⟩
  | qtm st => omega
  | lzx st => omega
  | unsupported k => omega

theorem extract_stateOk (files : Files) (J : Dec → Feeder → Prop) (hC : CallOk files J)
    (p : Params) (d : Option DState) (m : Member)
    (hd : ∀ ds, d = some ds → StateOk J ds)
    (hfresh : ∀ key ds, freshDState files p m key = .ok ds → StateOk J ds)
    (e : Err) (w : Option Bytes) (ds' : DState)
    (h : extract files p d m = .done e w (some ds')) : StateOk J ds' :=
  (extract_reach_ok files J hC hd hfresh h).1 ds' rfl

end MsPack.CountLaws.CabJoint
