import Proofs.Lemmas.SysLedger
import MsPack.Cab.Api
/-
Ledger effect of the CAB API functions (model `MsPack/Cab/Api.lean`), under any fault plan, for any
file contents, for every value of the model's parameters.

cabd.c does not acquire and release in stack order: cabinets, their folders, files and strings live
from `open` / `search` to `close`, `self->d` with its input handle and decoder state lives from the
first `extract` to whichever `close` meets its folder (or to `destroy`), and `cabd_merge` moves
blocks from one set to another.  So the ledger during a session is described up to order:
`Own v bl hs w` = the world's live blocks are those of `v` plus a permutation of `bl`, its live
handles those of `v` plus a permutation of `hs`, nothing was misused.  Every function gets one
Hoare triple over `Own` (`Triple`), composed with `Triple.bind` and `Triple.ite` along the program;
the functions that may drop or create `self->d` get theirs over `OwnD v d bl hs` = `Own` with what
`d` holds beside `bl`, `hs`.
-/
namespace MsPack.Cab.Api
open MsPack.Sys
open MsPack.Szdd.Api (Frame)
open MsPack.Oab.Api (Plus)

syntax "perm_with" "[" Lean.Parser.Tactic.simpLemma,* "]" : tactic
macro_rules
  | `(tactic| perm_with [$ls,*]) =>
    `(tactic| (simp only [$ls,*]; first | exact List.Perm.refl _ | perm_count))

theorem seekEnd_live_view (w : World) (hok : w.view.ok) (id : Nat) (m : Mode) (h : (id, m) ∈ w.view.handles) :
    (seekEnd id w).2.view = w.view := Sys.seekEnd_live_view (fun _ _ => rfl) w hok id m h

theorem tell_world (id : Nat) (w : World) : (tell id w).2 = w := rfl

def Own (v : View) (bl : List Nat) (hs : List (Nat × Mode)) (w : World) : Prop :=
  ∃ ex hx, ex.Perm bl ∧ hx.Perm hs ∧ Plus v ex hx w

section
variable {v : View} {bl bl' : List Nat} {hs hs' : List (Nat × Mode)} {w w' : World}

theorem Own.perm (o : Own v bl hs w) (hb : bl.Perm bl') (hh : hs.Perm hs') : Own v bl' hs' w := by
  obtain ⟨ex, hx, p1, p2, p⟩ := o
  exact ⟨ex, hx, p1.trans hb, p2.trans hh, p⟩

theorem Own.permB (o : Own v bl hs w) (hb : bl.Perm bl') : Own v bl' hs w := o.perm hb (List.Perm.refl _)

theorem Own.of_view_eq (hv : v.ok) (h : w.view = v) : Own v [] [] w :=
  ⟨[], [], List.Perm.refl _, List.Perm.refl _, Plus.of_view_eq hv h⟩

theorem Own.frame (o : Own v [] [] w) : Frame v w := by
  obtain ⟨ex, hx, p1, p2, p⟩ := o
  have e1 : ex = [] := List.Perm.eq_nil p1
  have e2 : hx = [] := List.Perm.eq_nil p2
  subst e1; subst e2
  exact p.frame

theorem Own.ok (o : Own v bl hs w) : w.view.ok := by
  obtain ⟨_, _, _, _, p⟩ := o; exact p.ok

theorem Own.keep (o : Own v bl hs w) (h : w'.view = w.view) : Own v bl hs w' := by
  obtain ⟨ex, hx, p1, p2, p⟩ := o
  exact ⟨ex, hx, p1, p2, p.keep h⟩

theorem Own.step (o : Own v bl hs w) (f : Frame w.view w') : Own v bl hs w' := by
  obtain ⟨ex, hx, p1, p2, p⟩ := o
  exact ⟨ex, hx, p1, p2, p.step f⟩

theorem Own.mem_handles (o : Own v bl hs w) {h : Nat × Mode} (hm : h ∈ hs) : h ∈ w.view.handles := by
  obtain ⟨ex, hx, _, p2, p⟩ := o
  rw [p.handles]
  exact List.mem_append_left _ (p2.mem_iff.mpr hm)

end

/-- `Sys.Hoare` under the name the CAB lemmas use -/
def Triple {α} (P : World → Prop) (x : M α) (Q : α → World → Prop) : Prop := ∀ w, P w → Q (x w).1 (x w).2

theorem Triple.bind {α β} {P : World → Prop} {x : M α} {R : α → World → Prop} {f : α → M β}
    {Q : β → World → Prop} (hx : Triple P x R) (hf : ∀ a, Triple (R a) (f a) Q) : Triple P (x >>= f) Q :=
  Hoare.bind hx hf

theorem Triple.pure {α} {P : World → Prop} {a : α} {Q : α → World → Prop} (h : ∀ w, P w → Q a w) :
    Triple P (Pure.pure a : M α) Q := h

theorem Triple.post {α} {P : World → Prop} {x : M α} {Q Q' : α → World → Prop} (h : Triple P x Q)
    (hq : ∀ a w, Q a w → Q' a w) : Triple P x Q' := Hoare.post h hq

theorem Triple.pre {α} {P P' : World → Prop} {x : M α} {Q : α → World → Prop} (h : Triple P x Q)
    (hp : ∀ w, P' w → P w) : Triple P' x Q := Hoare.pre h hp

theorem Triple.ite {α} {P : World → Prop} {Q : α → World → Prop} {c : Prop} [Decidable c] {x y : M α}
    (hx : c → Triple P x Q) (hy : ¬c → Triple P y Q) : Triple P (if c then x else y) Q := Hoare.ite hx hy

section prim
variable {v : View} {bl : List Nat} {hs : List (Nat × Mode)}

theorem T.alloc : Triple (Own v bl hs) Sys.alloc (fun r => Own v (r.toList ++ bl) hs) := fun w ⟨ex, hx, p1, p2, p⟩ => by
  cases ha : (Sys.alloc w).1 with
  | none => exact ⟨ex, hx, p1, p2, p.alloc_none ha⟩
  | some a => exact ⟨a :: ex, hx, List.Perm.cons a p1, p2, p.alloc_some ha⟩

theorem T.free1 (a : Nat) : Triple (Own v (a :: bl) hs) (Sys.free (some a)) (fun _ => Own v bl hs) :=
  fun w ⟨ex, hx, p1, p2, p⟩ => by
  have hmem : a ∈ ex := p1.mem_iff.mpr (List.mem_cons_self ..)
  exact ⟨ex.erase a, hx, List.Perm.cons_inv ((List.perm_cons_erase hmem).symm.trans p1), p2, p.free_mem hmem⟩

theorem T.free (p : Option Nat) : Triple (Own v (p.toList ++ bl) hs) (Sys.free p) (fun _ => Own v bl hs) := by
  cases p with
  | none => exact fun w o => o.keep (free_none_view w)
  | some a => exact T.free1 a

theorem T.open_ (name : String) (m : Mode) :
    Triple (Own v bl hs) (Sys.open_ name m) (fun r => Own v bl (r.toList.map (·, m) ++ hs)) :=
  fun w ⟨ex, hx, p1, p2, p⟩ => by
  cases ho : (Sys.open_ name m w).1 with
  | none => exact ⟨ex, hx, p1, p2, p.open_none ho⟩
  | some id => exact ⟨ex, (id, m) :: hx, p1, List.Perm.cons _ p2, p.open_some ho⟩

theorem T.close (id : Nat) (m : Mode) : Triple (Own v bl ((id, m) :: hs)) (Sys.close id) (fun _ => Own v bl hs) :=
  fun w ⟨ex, hx, p1, p2, p⟩ => by
  have hmem : (id, m) ∈ hx := p2.mem_iff.mpr (List.mem_cons_self ..)
  exact ⟨ex, hx.erase (id, m), p1, List.Perm.cons_inv ((List.perm_cons_erase hmem).symm.trans p2), p.close_mem hmem⟩

theorem T.closeIf (fh : Option Nat) (m : Mode) :
    Triple (Own v bl (fh.toList.map (·, m) ++ hs)) (Api.closeIf fh) (fun _ => Own v bl hs) := by
  cases fh with
  | none => exact fun _ o => o
  | some id => exact T.close id m

theorem T.read (fh n : Nat) (h : (fh, Mode.read) ∈ hs) : Triple (Own v bl hs) (Sys.read fh n) (fun _ => Own v bl hs) :=
  fun w o => o.keep (read_live_view w o.ok fh n (o.mem_handles h))

theorem T.write (fh : Nat) (bs : Bytes) (h : (fh, Mode.write) ∈ hs) :
    Triple (Own v bl hs) (Sys.write fh bs) (fun _ => Own v bl hs) :=
  fun w o => o.keep (write_live_view w o.ok fh bs (o.mem_handles h))

theorem T.seekStart (fh off : Nat) (m : Mode) (h : (fh, m) ∈ hs) :
    Triple (Own v bl hs) (Sys.seekStart fh off) (fun _ => Own v bl hs) :=
  fun w o => o.keep (seekStart_live_view w o.ok fh off m (o.mem_handles h))

theorem T.seekCur (fh : Nat) (off : Int) (m : Mode) (h : (fh, m) ∈ hs) :
    Triple (Own v bl hs) (Sys.seekCur fh off) (fun _ => Own v bl hs) :=
  fun w o => o.keep (seekCur_live_view w o.ok fh off m (o.mem_handles h))

theorem T.seekEnd (fh : Nat) (m : Mode) (h : (fh, m) ∈ hs) :
    Triple (Own v bl hs) (Api.seekEnd fh) (fun _ => Own v bl hs) :=
  fun w o => o.keep (seekEnd_live_view w o.ok fh m (o.mem_handles h))

theorem T.tell (fh : Nat) : Triple (Own v bl hs) (Api.tell fh) (fun _ => Own v bl hs) := fun _ o => o

theorem T.ret {α} (a : α) {Q : α → World → Prop} {P : World → Prop} (h : ∀ w, P w → Q a w) :
    Triple P (Pure.pure a : M α) Q := h

end prim

def filesBlocks : List FileEnt → List Nat
  | [] => []
  | f :: fs => f.name :: f.mem :: filesBlocks fs

def partsBlocks : List Part → List Nat
  | [] => []
  | p :: ps => p.mem :: partsBlocks ps

def foldersBlocks : List Folder → List Nat
  | [] => []
  | fo :: fs => partsBlocks fo.parts ++ fo.mem :: foldersBlocks fs

def Cab.strs (c : Cab) : List Nat :=
  c.prevname.toList ++ (c.nextname.toList ++ (c.previnfo.toList ++ c.nextinfo.toList))

def cabsBlocks : List Cab → List Nat
  | [] => []
  | c :: cs => c.strs ++ c.mem :: cabsBlocks cs

def Chain.blocks (c : Chain) : List Nat := filesBlocks c.files ++ (foldersBlocks c.folders ++ cabsBlocks c.cabs)

def decBlocks : Option DecState → List Nat
  | none => []
  | some s => s.frees

def dBlocks : Option DState → List Nat
  | none => []
  | some d => decBlocks d.state ++ [d.mem]

def dHandles : Option DState → List (Nat × Mode)
  | none => []
  | some d => d.infh.toList.map (·, Mode.read)

/-- A function that may drop or create `self->d` is specified from `OwnD v d ..` to `OwnD v d' ..`, so that its caller's
    frame is `bl`, `hs` whatever `self->d` holds -/
def OwnD (v : View) (d : Option DState) (bl : List Nat) (hs : List (Nat × Mode)) (w : World) : Prop :=
  Own v (dBlocks d ++ bl) (dHandles d ++ hs) w

section
variable {v : View} {bl bl' : List Nat} {hs : List (Nat × Mode)} {d : Option DState} {w : World}

theorem OwnD.of_top (X : List Nat) (H : List (Nat × Mode))
    (o : Own v (X ++ (dBlocks d ++ bl)) (H ++ (dHandles d ++ hs)) w) : OwnD v d (X ++ bl) (H ++ hs) w :=
  o.perm (List.perm_append_comm_assoc ..) (List.perm_append_comm_assoc ..)

theorem OwnD.top (X : List Nat) (H : List (Nat × Mode)) (o : OwnD v d (X ++ bl) (H ++ hs) w) :
    Own v (X ++ (dBlocks d ++ bl)) (H ++ (dHandles d ++ hs)) w :=
  o.perm (List.perm_append_comm_assoc ..) (List.perm_append_comm_assoc ..)

theorem OwnD.permB (o : OwnD v d bl hs w) (p : bl.Perm bl') : OwnD v d bl' hs w :=
  Own.permB o (p.append_left _)

end

theorem filesBlocks_append (a b : List FileEnt) : filesBlocks (a ++ b) = filesBlocks a ++ filesBlocks b := by
  induction a with
  | nil => rfl
  | cons f fs ih => simp only [List.cons_append, filesBlocks, ih]

theorem partsBlocks_append (a b : List Part) : partsBlocks (a ++ b) = partsBlocks a ++ partsBlocks b := by
  induction a with
  | nil => rfl
  | cons f fs ih => simp only [List.cons_append, partsBlocks, ih]

theorem foldersBlocks_append (a b : List Folder) : foldersBlocks (a ++ b) = foldersBlocks a ++ foldersBlocks b := by
  induction a with
  | nil => rfl
  | cons f fs ih => simp only [List.cons_append, foldersBlocks, ih, List.append_assoc]

theorem cabsBlocks_append (a b : List Cab) : cabsBlocks (a ++ b) = cabsBlocks a ++ cabsBlocks b := by
  induction a with
  | nil => rfl
  | cons f fs ih => simp only [List.cons_append, cabsBlocks, ih, List.append_assoc]

theorem cabsBlocks_reverse (a : List Cab) : (cabsBlocks a.reverse).Perm (cabsBlocks a) := by
  induction a with
  | nil => exact List.Perm.refl _
  | cons c cs ih =>
    rw [List.reverse_cons, cabsBlocks_append]
    show (cabsBlocks cs.reverse ++ (c.strs ++ [c.mem])).Perm (c.strs ++ c.mem :: cabsBlocks cs)
    refine (List.Perm.append_right _ ih).trans ?_
    perm_count

section
variable {v : View} {bl : List Nat} {hs : List (Nat × Mode)}

theorem freeAll_spec : ∀ (l : List Nat), Triple (Own v (l ++ bl) hs) (freeAll l) (fun _ => Own v bl hs)
  | [] => Triple.pure fun _ o => o
  | a :: as => Triple.bind (T.free1 a) fun _ => freeAll_spec as

theorem freeDecomp_spec : ∀ (s : Option DecState),
    Triple (Own v (decBlocks s ++ bl) hs) (freeDecomp s) (fun _ => Own v bl hs)
  | none => Triple.pure fun _ o => o
  | some s => freeAll_spec s.frees

theorem dropD_spec (d : DState) : Triple (OwnD v (some d) bl hs) (dropD d) (fun _ => Own v bl hs) :=
  Triple.bind (T.closeIf d.infh .read) fun _ => Triple.bind
    ((freeDecomp_spec d.state).pre fun _ o => o.permB (by perm_with [dBlocks]))
    fun _ => T.free1 d.mem

theorem freeFiles_spec : ∀ (fs : List FileEnt),
    Triple (Own v (filesBlocks fs ++ bl) hs) (freeFiles fs) (fun _ => Own v bl hs)
  | [] => Triple.pure fun _ o => o
  | f :: fs => Triple.bind (T.free1 f.name) fun _ => Triple.bind (T.free1 f.mem) fun _ => freeFiles_spec fs

theorem freeParts_spec : ∀ (ps : List Part),
    Triple (Own v (partsBlocks ps ++ bl) hs) (freeParts ps) (fun _ => Own v bl hs)
  | [] => Triple.pure fun _ o => o
  | p :: ps => Triple.bind (T.free1 p.mem) fun _ => freeParts_spec ps

theorem dropIf_spec (d : Option DState) (folder : Nat) :
    Triple (OwnD v d bl hs) (dropIf d folder) (fun d' => OwnD v d' bl hs) :=
  match d with
  | none => Triple.pure fun _ o => o
  | some ds => .ite (fun _ => Triple.bind (dropD_spec ds) fun _ => Triple.pure fun _ o => o) fun _ =>
      Triple.pure fun _ o => o

theorem freeFolders_spec : ∀ (fs : List Folder) (d : Option DState),
    Triple (OwnD v d (foldersBlocks fs ++ bl) hs) (freeFolders d fs) (fun d' => OwnD v d' bl hs)
  | [], _ => Triple.pure fun _ o => o
  | fo :: fs, d => Triple.bind (dropIf_spec d fo.mem) fun d' =>
    Triple.bind ((freeParts_spec fo.parts).pre fun _ o => Own.permB o (by perm_with [foldersBlocks]))
      fun _ => Triple.bind (T.free1 fo.mem) fun _ => freeFolders_spec fs d'

theorem freeCabStrings_spec (c : Cab) :
    Triple (Own v (c.strs ++ bl) hs) (freeCabStrings c) (fun _ => Own v bl hs) :=
  Triple.bind ((T.free c.prevname).pre fun _ o => o.permB (by perm_with [Cab.strs])) fun _ =>
    Triple.bind (T.free c.nextname) fun _ => Triple.bind (T.free c.previnfo) fun _ => T.free c.nextinfo

theorem freeCabs_spec : ∀ (cs : List Cab),
    Triple (Own v (cabsBlocks cs ++ bl) hs) (freeCabs cs) (fun _ => Own v bl hs)
  | [] => Triple.pure fun _ o => o
  | c :: cs => Triple.bind ((freeCabStrings_spec c).pre fun _ o => o.permB (by perm_with [cabsBlocks]))
      fun _ => Triple.bind (T.free1 c.mem) fun _ => freeCabs_spec cs

theorem splitCabs_perm (cs : List Cab) (p : Nat) :
    (cabsBlocks (splitCabs cs p).1 ++ cabsBlocks (splitCabs cs p).2).Perm (cabsBlocks cs) := by
  unfold splitCabs
  split
  · dsimp only
    refine (List.Perm.append_right _ (cabsBlocks_reverse _)).trans ?_
    rw [← cabsBlocks_append, List.take_append_drop]
  · exact List.Perm.refl _

theorem splitCabs_nil (cs : List Cab) (p : Nat) : (splitCabs cs p).2 = [] → cabsBlocks cs = [] := by
  unfold splitCabs
  split
  · rename_i h
    intro e
    dsimp only at e
    have : (cs.drop p).length = 0 := by rw [e]; rfl
    rw [List.length_drop] at this
    omega
  · intro e; dsimp only at e; rw [e]; rfl

/-- one round of `while (origcab)` in `cabd_close` -/
theorem closeChain_spec (c : Chain) (p : Nat) (d : Option DState) :
    Triple (OwnD v d (c.blocks ++ bl) hs) (closeChain d c p) (fun d' => OwnD v d' bl hs) := by
  refine Triple.bind (R := fun _ => OwnD v d (foldersBlocks c.folders ++ (cabsBlocks c.cabs ++ bl)) hs) ?_ fun _ => ?_
  · refine Triple.pre (freeFiles_spec c.files) fun w o => ?_
    exact Own.permB o (by perm_with [Chain.blocks])
  · refine Triple.bind (freeFolders_spec c.folders d) fun d' => ?_
    have hsp := splitCabs_perm c.cabs p
    have hnil := splitCabs_nil c.cabs p
    generalize (splitCabs c.cabs p).1 = before at hsp
    generalize (splitCabs c.cabs p).2 = rest at hsp hnil
    cases rest with
    | nil =>
      refine Triple.pure fun w o => ?_
      rw [hnil rfl] at o
      exact o
    | cons o after =>
      dsimp only
      refine Triple.bind ?_ fun _ => Triple.bind (freeCabs_spec (bl := cabsBlocks after ++ (o.mem :: (dBlocks d' ++ bl))) before) fun _ =>
        Triple.bind (freeCabs_spec (bl := o.mem :: (dBlocks d' ++ bl)) after) fun _ => Triple.bind (T.free1 o.mem) fun _ =>
          Triple.pure fun w o => o
      refine Triple.pre (freeCabStrings_spec (bl := cabsBlocks before ++ (cabsBlocks after ++ (o.mem :: (dBlocks d' ++ bl)))) o) fun w ow => ?_
      refine Own.permB ow ?_
      have h2 : (cabsBlocks before ++ (o.strs ++ o.mem :: cabsBlocks after)).Perm (cabsBlocks c.cabs) := hsp
      refine (List.Perm.append_left (dBlocks d') (List.Perm.append_right bl h2.symm)).trans ?_
      perm_count

def groupBlocks (g : Group) : List Nat := g.flatMap Chain.blocks

theorem groupBlocks_cons (c : Chain) (cs : List Chain) : groupBlocks (c :: cs) = c.blocks ++ groupBlocks cs := by
  simp only [groupBlocks, List.flatMap_cons]

theorem groupBlocks_single (c : Chain) : groupBlocks [c] = c.blocks := by
  simp [groupBlocks]

theorem closeChains_spec : ∀ (cs : List Chain) (d : Option DState),
    Triple (OwnD v d (groupBlocks cs ++ bl) hs) (closeChains d cs) (fun d' => OwnD v d' bl hs) := by
  intro cs
  induction cs with
  | nil => intro d; exact fun _ o => o
  | cons c cs ih =>
    intro d
    rw [closeChains.eq_2, groupBlocks_cons, List.append_assoc]
    exact Triple.bind (closeChain_spec c c.anchor d) ih

def InstPost (v : View) (bl : List Nat) (hs : List (Nat × Mode)) (i : Inst) (i' : Inst) (w : World) : Prop :=
  i'.self = i.self ∧ OwnD v i'.d bl hs w

theorem close_spec (i : Inst) (g : Group) (p : Nat) :
    Triple (OwnD v i.d (groupBlocks g ++ bl) hs) (close_ i g p) (InstPost v bl hs i) := by
  unfold close_
  split
  · exact Triple.pure fun w o => ⟨rfl, o⟩
  · rename_i c
    rw [groupBlocks_single]
    exact Triple.bind (closeChain_spec c p i.d) fun d' => Triple.pure fun w o => ⟨rfl, o⟩
  · rename_i c cs _
    rw [groupBlocks_cons, List.append_assoc]
    exact Triple.bind (closeChain_spec c c.anchor i.d) fun d' =>
      Triple.bind (closeChains_spec cs d') fun d'' => Triple.pure fun w o => ⟨rfl, o⟩

theorem readString_spec (fh : Nat) (pe : Bool) (h : (fh, Mode.read) ∈ hs) :
    Triple (Own v bl hs) (readString fh pe) (fun r => Own v (r.2.toList ++ bl) hs) :=
  Triple.bind (T.tell fh) fun _ => Triple.bind (T.read fh 256 h) fun
    | none => Triple.pure fun _ o => o
    | some _ => .ite (fun _ => Triple.pure fun _ o => o) fun _ => .ite (fun _ => Triple.pure fun _ o => o) fun _ =>
      Triple.bind (T.seekStart fh _ .read h) fun _ => .ite (fun _ => Triple.pure fun _ o => o) fun _ =>
      Triple.bind T.alloc fun
        | none => Triple.pure fun _ o => o
        | some _ => Triple.pure fun _ o => o

theorem readPair_spec (fh : Nat) (h : (fh, Mode.read) ∈ hs) :
    Triple (Own v bl hs) (readPair fh) (fun r => Own v (r.2.1.toList ++ (r.2.2.toList ++ bl)) hs) :=
  Triple.bind (readString_spec fh false h) fun _ => .ite (fun _ => Triple.pure fun _ o => o) fun _ =>
  Triple.bind (readString_spec fh true h) fun _ => Triple.pure fun _ o => o.permB (by perm_count)

theorem pairIf_spec (c : Bool) (fh : Nat) (h : (fh, Mode.read) ∈ hs) :
    Triple (Own v bl hs) (pairIf c fh) (fun r => Own v (r.2.1.toList ++ (r.2.2.toList ++ bl)) hs) :=
  .ite (fun _ => readPair_spec fh h) fun _ => Triple.pure fun _ o => o

def Cab.fresh (c : Cab) : Prop := c.prevname = none ∧ c.nextname = none ∧ c.previnfo = none ∧ c.nextinfo = none

/-- what a chain owns, pushed on `t`: files on folders on cabinets, the order in which `cabd_read_headers`
    builds them, so that each of its exits leaves the ledger literally as `on` says -/
def Chain.on (c : Chain) (t : List Nat) : List Nat :=
  filesBlocks c.files ++ (foldersBlocks c.folders ++ (cabsBlocks c.cabs ++ t))

theorem Chain.on_eq (c : Chain) (t : List Nat) : c.on t = c.blocks ++ t := by
  simp only [Chain.on, Chain.blocks, List.append_assoc]

theorem readStrings_on (fh flags : Nat) (c : Cab) (hc : c.fresh) (h : (fh, Mode.read) ∈ hs) :
    Triple (Own v (cabsBlocks [c] ++ bl) hs) (readStrings fh flags c) (fun r => Own v (cabsBlocks [r.2] ++ bl) hs) := by
  obtain ⟨h1, h2, h3, h4⟩ := hc
  exact Triple.bind (pairIf_spec _ fh h) fun p => .ite
    (fun _ => Triple.pure fun w o => o.permB (by perm_with [cabsBlocks, Cab.strs, h1, h3]))
    fun _ => Triple.bind (pairIf_spec _ fh h) fun n => Triple.pure fun w o => o.permB (by
      perm_with [cabsBlocks, Cab.strs, h1, h2, h3, h4])

theorem readReserve_spec (fh flags : Nat) (h : (fh, Mode.read) ∈ hs) :
    Triple (Own v bl hs) (readReserve fh flags) (fun _ => Own v bl hs) :=
  .ite (fun _ => Triple.bind (T.read fh _ h) fun
    | none => Triple.pure fun _ o => o
    | some _ => .ite (fun _ => Triple.pure fun _ o => o) fun _ => .ite
      (fun _ => Triple.bind (T.seekCur fh _ .read h) fun _ =>
        .ite (fun _ => Triple.pure fun _ o => o) fun _ => Triple.pure fun _ o => o)
      fun _ => Triple.pure fun _ o => o) fun _ => Triple.pure fun _ o => o

theorem skipResv_spec (fh resv : Nat) (h : (fh, Mode.read) ∈ hs) :
    Triple (Own v bl hs) (skipResv fh resv) (fun _ => Own v bl hs) :=
  .ite (fun _ => T.seekCur fh _ .read h) fun _ => Triple.pure fun _ o => o

theorem readFolders_spec (fh cab : Nat) (cabName : String) (offset resv : Nat) (h : (fh, Mode.read) ∈ hs) :
    ∀ (n : Nat) (acc : List Folder),
      Triple (Own v (foldersBlocks acc ++ bl) hs) (readFolders fh cab cabName offset resv n acc)
        (fun r => Own v (foldersBlocks r.2 ++ bl) hs)
  | 0, _ => Triple.pure fun _ o => o
  | n + 1, _ => Triple.bind (T.read fh _ h) fun
    | none => Triple.pure fun _ o => o
    | some _ => .ite (fun _ => Triple.pure fun _ o => o) fun _ => Triple.bind (skipResv_spec fh resv h) fun _ =>
      .ite (fun _ => Triple.pure fun _ o => o) fun _ => Triple.bind T.alloc fun
        | none => Triple.pure fun _ o => o
        | some _ => (readFolders_spec fh cab cabName offset resv h n _).pre fun _ o => o.permB (by
            rw [foldersBlocks_append]
            perm_with [foldersBlocks, partsBlocks])

theorem readFiles_spec (fh : Nat) (salvage : Bool) (folders : List Folder) (nf : Nat) (h : (fh, Mode.read) ∈ hs) :
    ∀ (n : Nat) (acc : List FileEnt),
      Triple (Own v (filesBlocks acc ++ bl) hs) (readFiles fh salvage folders nf n acc)
        (fun r => Own v (filesBlocks r.2 ++ bl) hs) := by
  intro n
  induction n with
  | zero => intro acc; rw [readFiles.eq_1]; exact Triple.pure fun w o => o
  | succ n ih =>
    intro acc
    rw [readFiles.eq_2]
    refine Triple.bind (T.read fh _ h) fun
      | none => Triple.pure fun w o => o
      | some b => .ite (fun _ => Triple.pure fun w o => o) fun _ => Triple.bind T.alloc fun
        | none => Triple.pure fun w o => o
        | some m => Triple.bind (readString_spec fh false h) fun r => ?_
    generalize resolveFolder folders nf (u16At b Generated.cffileFolderIndex) = fo
    split
    · rename_i nm fo' h1 h2 h3
      refine (ih _).pre fun w o => o.permB ?_
      rw [filesBlocks_append, h3]
      perm_with [filesBlocks]
    · exact Triple.bind (T.free r.2) fun _ => Triple.bind (T.free1 m) fun _ =>
        .ite (fun _ => ih acc) fun _ => Triple.pure fun w o => o

theorem readHeadersBody_on (fh : Nat) (c : Cab) (hc : c.fresh) (offset : Nat) (salvage : Bool)
    (numFolders numFiles flags : Nat) (h : (fh, Mode.read) ∈ hs) :
    Triple (Own v (cabsBlocks [c] ++ bl) hs) (readHeadersBody fh c offset salvage numFolders numFiles flags)
      (fun r => Own v (r.2.on bl) hs) :=
  Triple.bind (readReserve_spec fh flags h) fun _ => .ite (fun _ => Triple.pure fun _ o => o) fun _ =>
  Triple.bind (readStrings_on fh flags c hc h) fun _ => .ite (fun _ => Triple.pure fun _ o => o) fun _ =>
  Triple.bind (readFolders_spec fh _ _ _ _ h numFolders []) fun fo => .ite (fun _ => Triple.pure fun _ o => o) fun _ =>
  Triple.bind (readFiles_spec fh salvage fo.2 numFolders h numFiles []) fun _ =>
    .ite (fun _ => Triple.pure fun _ o => o) fun _ => .ite (fun _ => Triple.pure fun _ o => o) fun _ =>
      Triple.pure fun _ o => o

theorem readHeaders_on (fh : Nat) (c : Cab) (hc : c.fresh) (offset : Nat) (salvage : Bool) (h : (fh, Mode.read) ∈ hs) :
    Triple (Own v (cabsBlocks [c] ++ bl) hs) (readHeaders fh c offset salvage) (fun r => Own v (r.2.on bl) hs) :=
  Triple.bind (T.seekStart fh offset .read h) fun _ => .ite (fun _ => Triple.pure fun _ o => o) fun _ =>
  Triple.bind (T.read fh _ h) fun
    | none => Triple.pure fun _ o => o
    | some _ => .ite (fun _ => Triple.pure fun _ o => o) fun _ => .ite (fun _ => Triple.pure fun _ o => o) fun _ =>
      .ite (fun _ => Triple.pure fun _ o => o) fun _ => .ite (fun _ => Triple.pure fun _ o => o) fun _ =>
        readHeadersBody_on fh c hc offset salvage _ _ _ h

def optChainBlocks : Option Chain → List Nat
  | none => []
  | some c => c.blocks

def OpenPost (v : View) (bl : List Nat) (hs : List (Nat × Mode)) (i : Inst) (r : Inst × Option Chain) (w : World) : Prop :=
  r.1.self = i.self ∧ OwnD v r.1.d (optChainBlocks r.2 ++ bl) hs w

theorem open_spec (i : Inst) (name : String) :
    Triple (OwnD v i.d bl hs) (open_ i name) (OpenPost v bl hs i) := by
  refine Triple.bind (T.open_ name .read) fun
    | none => Triple.pure fun w o => ⟨rfl, o⟩
    | some fh => Triple.bind T.alloc fun
      | none => Triple.bind (T.close fh .read) fun _ => Triple.pure fun w o => ⟨rfl, o⟩
      | some m => Triple.bind (readHeaders_on fh { mem := m, filename := name } ⟨rfl, rfl, rfl, rfl⟩ 0 i.salvage
          (List.mem_cons_self ..)) fun r => ?_
  rw [Chain.on_eq]
  refine .ite (fun _ => ?_) fun _ =>
    Triple.bind (T.close fh .read) fun _ => Triple.pure fun w o => ⟨rfl, OwnD.of_top _ [] o⟩
  refine Triple.bind (R := InstPost v bl ((fh, Mode.read) :: hs) i) ?_ fun i' => ?_
  · refine (close_spec i [r.2] 0).pre fun w o => ?_
    rw [groupBlocks_single]
    exact OwnD.of_top _ [_] o
  · refine Triple.bind (R := fun _ w => i'.self = i.self ∧ OwnD v i'.d bl hs w) ?_ fun _ => Triple.pure fun w o => o
    exact fun w ⟨e, o⟩ => ⟨e, T.close fh .read w (OwnD.top [] [_] o)⟩

theorem nonedInit_spec : Triple (Own v bl hs) nonedInit (fun r => Own v (decBlocks r ++ bl) hs) :=
  Triple.bind T.alloc fun st => Triple.bind T.alloc fun buf =>
    match st, buf with
    | some _, some _ => Triple.pure fun _ o => o
    | some _, none => Triple.bind (T.free _) fun _ => Triple.bind (T.free _) fun _ => Triple.pure fun _ o => o
    | none, _ => Triple.bind (T.free _) fun _ => Triple.bind (T.free _) fun _ => Triple.pure fun _ o => o

theorem mszipdInit_spec (n : Nat) : Triple (Own v bl hs) (mszipdInit n) (fun r => Own v (decBlocks r ++ bl) hs) :=
  .ite (fun _ => Triple.pure fun _ o => o) fun _ => Triple.bind T.alloc fun
    | none => Triple.pure fun _ o => o
    | some z => Triple.bind T.alloc fun
      | none => Triple.bind (T.free1 z) fun _ => Triple.pure fun _ o => o
      | some _ => Triple.pure fun _ o => o

theorem winInit_spec (argsOk : Bool) (method : Nat) (frees : Nat → Nat → Nat → List Nat)
    (hf : ∀ s w b, (frees s w b).Perm [b, w, s]) :
    Triple (Own v bl hs) (winInit argsOk method frees) (fun r => Own v (decBlocks r ++ bl) hs) := by
  refine .ite (fun _ => Triple.pure fun w o => o) fun _ => Triple.bind T.alloc fun
    | none => Triple.pure fun w o => o
    | some s => ?_
  have hfail : ∀ (win inb : Option Nat), Triple (Own v (inb.toList ++ (win.toList ++ ((some s).toList ++ bl))) hs)
      (do Sys.free win; Sys.free inb; Sys.free (some s); Pure.pure (none : Option DecState))
      (fun r => Own v (decBlocks r ++ bl) hs) := by
    intro win inb
    refine Triple.bind (R := fun _ => Own v (inb.toList ++ (s :: bl)) hs) ?_ fun _ =>
      Triple.bind (T.free inb) fun _ => Triple.bind (T.free1 s) fun _ => Triple.pure fun w o => o
    exact (T.free (bl := inb.toList ++ (s :: bl)) win).pre fun w o => o.permB (by perm_count)
  exact Triple.bind T.alloc fun win => Triple.bind T.alloc fun inb =>
    match win, inb with
    | some wn, some ib => Triple.pure fun w o => o.permB (List.Perm.append_right bl (hf s wn ib).symm)
    | some _, none => hfail _ _
    | none, _ => hfail _ _

theorem initDecomp_spec (bufSize ct : Nat) :
    Triple (Own v bl hs) (initDecomp bufSize ct) (fun r => Own v (decBlocks r.2 ++ bl) hs) :=
  .ite (fun _ => Triple.bind nonedInit_spec fun _ => Triple.pure fun _ o => o) fun _ =>
  .ite (fun _ => Triple.bind (mszipdInit_spec _) fun _ => Triple.pure fun _ o => o) fun _ =>
  .ite (fun _ => Triple.bind (winInit_spec _ _ _ fun _ _ _ => by perm_count) fun _ => Triple.pure fun _ o => o) fun _ =>
  .ite (fun _ => Triple.bind (winInit_spec _ _ _ fun _ _ _ => by perm_count) fun _ => Triple.pure fun _ o => o) fun _ =>
  Triple.pure fun _ o => o

/-- "allocate generic decompression state" -/
def EnsurePost (v : View) (bl : List Nat) (hs : List (Nat × Mode)) (d : Option DState) (r : Option DState)
    (w : World) : Prop :=
  match r with
  | none => d = none ∧ Own v bl hs w
  | some ds => OwnD v (some ds) bl hs w

theorem ensureD_spec (d : Option DState) : Triple (OwnD v d bl hs) (ensureD d) (EnsurePost v bl hs d) :=
  match d with
  | some _ => Triple.pure fun _ o => o
  | none => Triple.bind T.alloc fun
    | none => Triple.pure fun _ o => ⟨rfl, o⟩
    | some _ => Triple.pure fun _ o => o

theorem switchCab_spec (d : DState) (fol : Folder) :
    Triple (Own v bl (dHandles (some d) ++ hs)) (switchCab d fol)
      (fun d1 w => d1.mem = d.mem ∧ d1.state = d.state ∧ Own v bl (dHandles (some d1) ++ hs) w) :=
  .ite (fun _ => Triple.bind (T.closeIf d.infh .read) fun _ => Triple.bind (T.open_ fol.cabName .read) fun _ =>
    Triple.pure fun _ o => ⟨rfl, rfl, o⟩) fun _ => Triple.pure fun _ o => ⟨rfl, rfl, o⟩

/-- "change folder or reset the current folder" -/
theorem resetFolder_spec (bufSize : Nat) (d : DState) (fol : Folder) :
    Triple (OwnD v (some d) bl hs) (resetFolder bufSize d fol) (fun r => OwnD v (some r.2) bl hs) := by
  refine Triple.bind (R := fun _ => Own v (d.mem :: bl) (dHandles (some d) ++ hs)) ?_ fun _ => ?_
  · exact (freeDecomp_spec d.state).pre fun w o => Own.permB o (by perm_with [dBlocks])
  · refine Triple.bind (switchCab_spec (bl := d.mem :: bl) { d with state := none } fol) fun d1 => ?_
    have hpost : ∀ w, (d1.mem = d.mem ∧ d1.state = none ∧ Own v (d.mem :: bl) (dHandles (some d1) ++ hs) w) →
        OwnD v (some d1) bl hs w := by
      intro w ⟨e1, e2, o⟩
      refine o.permB ?_
      simp only [dBlocks, e1, e2, decBlocks, List.nil_append, List.singleton_append]
      exact List.Perm.refl _
    cases hfh : d1.infh with
    | none => exact Triple.pure hpost
    | some fh =>
      dsimp only
      have hmem : (fh, Mode.read) ∈ dHandles (some d1) ++ hs := by simp [dHandles, hfh]
      refine Triple.bind (R := fun _ w => d1.mem = d.mem ∧ d1.state = none ∧ Own v (d.mem :: bl) (dHandles (some d1) ++ hs) w) ?_ fun b => ?_
      · intro w ⟨e1, e2, o⟩
        exact ⟨e1, e2, T.seekStart fh fol.offset .read hmem w o⟩
      · refine .ite (fun _ => Triple.pure hpost) fun _ => ?_
        refine Triple.bind (R := fun s w => d1.mem = d.mem ∧ d1.state = none ∧
            Own v (decBlocks s.2 ++ (d.mem :: bl)) (dHandles (some d1) ++ hs) w) ?_ fun s => ?_
        · intro w ⟨e1, e2, o⟩
          exact ⟨e1, e2, initDecomp_spec bufSize fol.compType w o⟩
        · cases s.2 with
          | none =>
            dsimp only
            exact Triple.pure fun w h => hpost w h
          | some st =>
            dsimp only
            refine Triple.pure fun w ⟨e1, e2, o⟩ => ?_
            dsimp only
            refine o.perm ?_ ?_
            · simp only [dBlocks, decBlocks, e1]; perm_count
            · simp only [dHandles, hfh]; exact List.Perm.refl _

structure Switched (v : View) (old new : Option Nat) (w' : World) : Prop where
  allocs  : w'.view.allocs = v.allocs
  misuse  : w'.view.misuse = v.misuse
  nextId  : v.nextId ≤ w'.view.nextId
  handles : (new = old ∧ w'.view.handles = v.handles) ∨
            (∃ o, old = some o ∧ w'.view.handles = new.toList.map (·, Mode.read) ++ v.handles.filter (·.1 ≠ o) ∧
              ∀ h, new = some h → v.nextId ≤ h ∧ h < w'.view.nextId)

/-- the switch law for the decoder body: it leaves live blocks and the misuse record as they were;
    the live handles too, except that it may have closed the input handle it was given and opened
    another one in its place (or failed to: `none`), which it then reports as `d->infh`.  With
    `d->infh` NULL it touches no handle (the real decoders stay failed once failed). -/
def BodyLaw (body : Body) : Prop :=
  ∀ (a : BodyArgs) (inFh outFh : Option Nat) (w : World), w.view.ok →
    (∀ h, inFh = some h → (h, Mode.read) ∈ w.view.handles) →
    (∀ o, outFh = some o → (o, Mode.write) ∈ w.view.handles) →
    Switched w.view inFh (body a inFh outFh w).1.infh (body a inFh outFh w).2

theorem Own.switched {w w' : World} {old new : Option Nat}
    (o : Own v bl (old.toList.map (·, Mode.read) ++ hs) w) (s : Switched w.view old new w') :
    Own v bl (new.toList.map (·, Mode.read) ++ hs) w' := by
  rcases s.handles with ⟨e, hh⟩ | ⟨fh, e, hh, hfresh⟩
  · subst e
    exact o.step ⟨s.allocs, hh, s.misuse, s.nextId⟩
  · subst e
    obtain ⟨ex, hx, p1, p2, p⟩ := o
    have hmem : (fh, Mode.read) ∈ hx := p2.mem_iff.mpr (by simp)
    have hmemw : (fh, Mode.read) ∈ w.view.handles := by rw [p.handles]; exact List.mem_append_left _ hmem
    have hfil : w.view.handles.filter (·.1 ≠ fh) = hx.erase (fh, Mode.read) ++ v.handles := by
      rw [Oab.Api.filter_ne_eq_erase _ fh .read p.ok.handles_nd hmemw, p.handles, List.erase_append_left _ hmem]
    have hk := ok_filter_handles p.ok (·.1 ≠ fh)
    refine ⟨ex, new.toList.map (·, Mode.read) ++ hx.erase (fh, Mode.read), p1, ?_, ?_⟩
    · refine List.Perm.append_left _ ?_
      exact List.Perm.cons_inv ((List.perm_cons_erase hmem).symm.trans p2)
    · refine ⟨s.allocs.trans p.allocs, ?_, s.misuse.trans p.misuse, Nat.le_trans p.nextId s.nextId, ?_⟩
      · rw [hh, hfil, List.append_assoc]
      · refine ⟨?_, ?_, ?_⟩
        · intro a ha; rw [s.allocs] at ha; exact Nat.lt_of_lt_of_le (p.ok.allocs_lt a ha) s.nextId
        · intro h hin
          rw [hh] at hin
          rcases List.mem_append.mp hin with h1 | h1
          · cases hn : new with
            | none => rw [hn] at h1; cases h1
            | some n =>
              rw [hn] at h1
              simp only [Option.toList_some, List.map_cons, List.map_nil, List.mem_singleton] at h1
              rw [h1]; exact (hfresh n hn).2
          · exact Nat.lt_of_lt_of_le (hk.handles_lt h h1) s.nextId
        · rw [hh, List.map_append]
          refine List.nodup_append.mpr ⟨?_, ?_, ?_⟩
          · cases new <;> simp
          · exact hk.handles_nd
          · intro a ha b hb
            cases hn : new with
            | none => rw [hn] at ha; simp at ha
            | some n =>
              rw [hn] at ha
              simp only [Option.toList_some, List.map_cons, List.map_nil, List.mem_singleton] at ha
              obtain ⟨y, hy, rfl⟩ := List.mem_map.mp hb
              have : y.1 < w.view.nextId := hk.handles_lt y hy
              have := (hfresh n hn).1
              rw [ha]; omega

theorem body_spec {body : Body} (hb : BodyLaw body) (a : BodyArgs) (inFh outFh : Option Nat)
    (hout : ∀ o, outFh = some o → (o, Mode.write) ∈ hs) :
    Triple (Own v bl (inFh.toList.map (·, Mode.read) ++ hs)) (body a inFh outFh)
      (fun r => Own v bl (r.infh.toList.map (·, Mode.read) ++ hs)) := by
  intro w o
  refine o.switched (hb a inFh outFh w o.ok ?_ ?_)
  · intro h e; subst e; exact o.mem_handles (by simp)
  · intro x e; exact o.mem_handles (List.mem_append_right _ (hout x e))

theorem runBody_spec {body : Body} (hb : BodyLaw body) (salvage : Bool) (fol : Folder) (d : DState) (outFh : Nat)
    (skip : Bool) (hout : (outFh, Mode.write) ∈ hs) :
    Triple (Own v bl (dHandles (some d) ++ hs)) (runBody body salvage fol d outFh skip)
      (fun r w => r.2.mem = d.mem ∧ r.2.state = d.state ∧ Own v bl (dHandles (some r.2) ++ hs) w) :=
  Triple.bind (R := fun r1 => Own v bl (r1.infh.toList.map (·, Mode.read) ++ hs))
    (.ite (fun _ => body_spec hb _ d.infh none fun _ e => nomatch e) fun _ => Triple.pure fun _ o => o) fun r1 =>
    .ite (fun _ => Triple.pure fun _ o => ⟨rfl, rfl, o⟩) fun _ =>
      Triple.bind (body_spec hb _ r1.infh (some outFh) fun _ e => by cases e; exact hout) fun _ =>
        Triple.pure fun _ o => ⟨rfl, rfl, o⟩

theorem extract_spec {body : Body} (hb : BodyLaw body) (i : Inst) (fol : Folder) (sane rewind empty skip : Bool)
    (out : String) :
    Triple (OwnD v i.d bl hs) (extract body i fol sane rewind empty skip out) (fun r => InstPost v bl hs i r.1) := by
  refine .ite (fun _ => Triple.pure fun w o => ⟨rfl, o⟩) fun _ => Triple.bind (ensureD_spec i.d) fun
    | none => Triple.pure fun w (h : i.d = none ∧ Own v bl hs w) => ⟨rfl, show OwnD v i.d bl hs w from h.1 ▸ h.2⟩
    | some d => Triple.bind (R := fun r : Err × DState => OwnD v (some r.2) bl hs)
      (.ite (fun _ => resetFolder_spec i.bufSize d fol) fun _ => Triple.pure fun w o => o) fun r =>
      .ite (fun _ => Triple.pure fun w o => ⟨rfl, o⟩) fun _ => Triple.bind (T.open_ out .write) fun
        | none => Triple.pure fun w o => ⟨rfl, o⟩
        | some fh => Triple.bind (R := fun (e : Err × DState) w => e.2.mem = r.2.mem ∧ e.2.state = r.2.state ∧
              Own v (dBlocks (some r.2) ++ bl) (dHandles (some e.2) ++ ((fh, Mode.write) :: hs)) w)
            (.ite (fun _ => Triple.pure fun w o => ⟨rfl, rfl, OwnD.of_top [] [_] o⟩) fun _ =>
              (runBody_spec hb i.salvage fol r.2 fh skip (List.mem_cons_self ..)).pre fun w o => OwnD.of_top [] [_] o)
            fun e => Triple.bind (R := fun _ => OwnD v (some e.2) bl hs) ?_ fun _ => Triple.pure fun w o => ⟨rfl, o⟩
  -- `e.2` differs from `r.2` in `infh` and `incab` only, which `dBlocks` does not read
  intro w ⟨e1, e2, o⟩
  have hb2 : dBlocks (some e.2) = dBlocks (some r.2) := by simp only [dBlocks, e1, e2]
  rw [← hb2] at o
  exact T.close fh .write _ (OwnD.top (d := some e.2) [] [_] o)

theorem Triple.withProp {α} {p : Prop} {P : World → Prop} {x : M α} {Q : α → World → Prop} (h : Triple P x Q) :
    Triple (fun w => p ∧ P w) x (fun a w => p ∧ Q a w) := fun w hw => ⟨hw.1, h w hw.2⟩

theorem groupBlocks_append (a b : List Chain) : groupBlocks (a ++ b) = groupBlocks a ++ groupBlocks b := by
  simp only [groupBlocks, List.flatMap_append]

theorem groupBlocks_toList (c : Option Chain) : groupBlocks c.toList = optChainBlocks c := by
  cases c <;> simp [groupBlocks, optChainBlocks]

def TryPost (v : View) (bl : List Nat) (hs : List (Nat × Mode)) (i : Inst) (r : Inst × Err × Option Chain) (w : World) : Prop :=
  (r.2.1 ≠ .ok → r.2.2 = none) ∧ r.1.self = i.self ∧ OwnD v r.1.d (optChainBlocks r.2.2 ++ bl) hs w

theorem tryCab_spec (i : Inst) (fh : Nat) (name : String) (caboff : Nat) (h : (fh, Mode.read) ∈ hs) :
    Triple (OwnD v i.d bl hs) (tryCab i fh name caboff) (TryPost v bl hs i) := by
  refine Triple.bind T.alloc fun
    | none => Triple.pure fun w o => ⟨fun _ => rfl, rfl, o⟩
    | some m => Triple.bind (readHeaders_on fh { mem := m, filename := name } ⟨rfl, rfl, rfl, rfl⟩ caboff i.salvage
        (List.mem_append_right _ h)) fun r => ?_
  rw [Chain.on_eq]
  refine .ite (fun _ => ?_) fun _ => Triple.pure fun w o => ⟨fun hne => absurd rfl hne, rfl, OwnD.of_top _ [] o⟩
  refine Triple.bind (R := InstPost v bl hs i) ?_ fun i' =>
    .ite (fun _ => Triple.pure fun w ⟨e, o⟩ => ⟨fun _ => rfl, e, o⟩) fun _ => Triple.pure fun w ⟨e, o⟩ => ⟨fun _ => rfl, e, o⟩
  refine (close_spec i [r.2] 0).pre fun w o => ?_
  rw [groupBlocks_single]
  exact OwnD.of_top _ [] o

def FindPost (v : View) (bl : List Nat) (hs : List (Nat × Mode)) (i : Inst) (i' : Inst) (found : List Chain) (w : World) : Prop :=
  i'.self = i.self ∧ OwnD v i'.d (groupBlocks found ++ bl) hs w

theorem find_spec (fh : Nat) (name : String) (h : (fh, Mode.read) ∈ hs) :
    ∀ (ss : List FindStep) (i : Inst) (acc : List Chain),
      Triple (OwnD v i.d (groupBlocks acc ++ bl) hs) (find fh name ss i acc) (fun r => FindPost v bl hs i r.1 r.2.2)
  | [], _, _ => Triple.pure fun _ o => ⟨rfl, o⟩
  | st :: ss, i, acc => Triple.bind (T.read fh _ (List.mem_append_right _ h)) fun
    | none => Triple.pure fun _ o => ⟨rfl, o⟩
    | some _ => .ite (fun _ => Triple.pure fun _ o => ⟨rfl, o⟩) fun _ =>
      match st.hit with
      | none => find_spec fh name h ss i acc
      | some hit => Triple.bind (R := TryPost v (groupBlocks acc ++ bl) hs i)
          (.ite (fun _ => tryCab_spec i fh name hit.caboff h) fun _ => Triple.pure fun _ o => ⟨fun _ => rfl, rfl, o⟩)
          fun r =>
          have hacc : ∀ w, TryPost v (groupBlocks acc ++ bl) hs i r w →
              r.1.self = i.self ∧ OwnD v r.1.d (groupBlocks (acc ++ r.2.2.toList) ++ bl) hs w :=
            fun w ⟨_, e, o⟩ => ⟨e, o.permB (by rw [groupBlocks_append, groupBlocks_toList]; perm_count)⟩
          .ite (fun hne => Triple.pure fun w ⟨hn, e, o⟩ => ⟨e, by rw [hn hne] at o; exact o⟩) fun _ =>
          .ite (fun _ => Triple.pure hacc) fun _ =>
          Triple.bind (R := fun _ w => r.1.self = i.self ∧ OwnD v r.1.d (groupBlocks (acc ++ r.2.2.toList) ++ bl) hs w)
            (fun w hw => ⟨(hacc w hw).1, T.seekStart fh _ .read (List.mem_append_right _ h) w (hacc w hw).2⟩) fun _ =>
          .ite (fun _ => Triple.pure fun _ o => o) fun _ w ⟨e, o⟩ =>
            (find_spec fh name h ss r.1 _ w o).imp (·.trans e) id

theorem fileLen_spec (fh : Nat) (h : (fh, Mode.read) ∈ hs) :
    Triple (Own v bl hs) (fileLen fh) (fun _ => Own v bl hs) :=
  Triple.bind (T.tell fh) fun cur => Triple.bind (T.seekEnd fh .read h) fun _ =>
    .ite (fun _ => Triple.pure fun _ o => o) fun _ =>
    Triple.bind (T.tell fh) fun _ => Triple.bind (T.seekStart fh cur .read h) fun _ =>
    .ite (fun _ => Triple.pure fun _ o => o) fun _ => Triple.pure fun _ o => o

theorem search_spec (i : Inst) (name : String) (script : List FindStep) :
    Triple (OwnD v i.d bl hs) (search i name script) (fun r => FindPost v bl hs i r.1 r.2) :=
  Triple.bind T.alloc fun
    | none => Triple.pure fun _ o => ⟨rfl, o⟩
    | some buf => Triple.bind (T.open_ name .read) fun
      | none => Triple.bind (T.free1 buf) fun _ => Triple.pure fun _ o => ⟨rfl, o⟩
      | some fh => Triple.bind (fileLen_spec fh (List.mem_cons_self ..)) fun _ =>
        Triple.bind (R := fun r : Inst × Err × List Chain => FindPost v (buf :: bl) ((fh, Mode.read) :: hs) i r.1 r.2.2)
          (.ite (fun _ => Triple.pure fun _ o => ⟨rfl, OwnD.of_top [buf] [_] o⟩) fun _ =>
            (find_spec fh name (List.mem_cons_self ..) script i []).pre fun _ o => OwnD.of_top [buf] [_] o) fun r =>
        Triple.bind (R := fun _ w => r.1.self = i.self ∧ OwnD v r.1.d (buf :: (groupBlocks r.2.2 ++ bl)) hs w)
          (fun w ⟨e1, o⟩ => ⟨e1, T.close fh .read w (OwnD.top [] [_] (o.permB List.perm_middle))⟩) fun _ =>
        Triple.bind (R := fun _ w => r.1.self = i.self ∧ OwnD v r.1.d (groupBlocks r.2.2 ++ bl) hs w)
          (fun w ⟨e1, o⟩ => ⟨e1, T.free1 buf w (OwnD.top [buf] [] o)⟩) fun _ => Triple.pure fun _ o => o

theorem delFiles_spec (rfol : Nat) : ∀ (fs : List FileEnt),
    Triple (Own v (filesBlocks fs ++ bl) hs) (delFiles rfol fs) (fun kept => Own v (filesBlocks kept ++ bl) hs) := by
  intro fs
  induction fs generalizing bl with
  | nil => exact Triple.pure fun w o => o
  | cons f fs ih =>
    rw [delFiles.eq_2]
    exact .ite (fun _ => Triple.bind (T.free1 f.name) fun _ => Triple.bind (T.free1 f.mem) fun _ => ih) fun _ =>
      Triple.bind ((ih (bl := f.name :: f.mem :: bl)).pre fun w o => o.permB (by perm_with [filesBlocks])) fun rest =>
        Triple.pure fun w o => o.permB (by perm_with [filesBlocks])

/-- `cabd_merge`: nothing changed, or the joined set owns what the two sets owned, plus the new data
    part, minus the disused folder and the duplicate file entries -/
def MergePost (v : View) (bl : List Nat) (hs : List (Nat × Mode)) (l r : Chain) (m : Err × Option Chain) (w : World) : Prop :=
  match m.2 with
  | none => Own v (l.blocks ++ (r.blocks ++ bl)) hs w
  | some j => Own v (j.blocks ++ bl) hs w

theorem merge_spec (l r : Chain) (k : MergeKind) :
    Triple (Own v (l.blocks ++ (r.blocks ++ bl)) hs) (merge l r k) (MergePost v bl hs l r) := by
  cases k with
  | plain =>
    refine Triple.pure fun w o => ?_
    show Own v (Chain.blocks _ ++ bl) hs w
    exact o.permB (by perm_with [Chain.blocks, filesBlocks_append, foldersBlocks_append, cabsBlocks_append])
  | refuse => exact Triple.pure fun w o => o
  | folders =>
    unfold merge
    dsimp only
    split
    · rename_i lfol rfol rrest hl hr
      have hdl : l.folders.dropLast ++ [lfol] = l.folders := by
        obtain ⟨ys, e⟩ := List.getLast?_eq_some_iff.mp hl
        rw [e, List.dropLast_concat]
      generalize l.folders.dropLast = pre at hdl
      refine Triple.bind T.alloc fun a => ?_
      cases a with
      | none => exact Triple.pure fun w o => o
      | some data =>
        dsimp only
        refine Triple.bind (R := fun _ => Own v (filesBlocks (l.files ++ r.files) ++
            (foldersBlocks pre ++ (partsBlocks lfol.parts ++ (data :: (partsBlocks rfol.parts ++ (lfol.mem ::
              (foldersBlocks rrest ++ (cabsBlocks l.cabs ++ (cabsBlocks r.cabs ++ bl))))))))) hs) ?_ fun _ => ?_
        · refine (T.free1 rfol.mem).pre fun w o => o.permB ?_
          simp only [Chain.blocks, ← hdl, hr, foldersBlocks_append, filesBlocks_append, foldersBlocks]
          perm_count
        · refine Triple.bind (delFiles_spec rfol.mem _) fun kept => ?_
          refine Triple.pure fun w o => ?_
          show Own v (Chain.blocks _ ++ bl) hs w
          refine o.permB ?_
          simp only [Chain.blocks, foldersBlocks_append, cabsBlocks_append, partsBlocks_append, foldersBlocks, partsBlocks]
          perm_count
    · exact Triple.pure fun w o => o

def groupsBlocks (gs : List Group) : List Nat := gs.flatMap groupBlocks

def SessInv (v : View) (s : Sess) (w : World) : Prop :=
  Own v (groupsBlocks s.groups ++ (dBlocks s.inst.d ++ [s.inst.self])) (dHandles s.inst.d ++ []) w

theorem SessInv.ownD {v : View} {s : Sess} {w : World} (h : SessInv v s w) :
    OwnD v s.inst.d (groupsBlocks s.groups ++ [s.inst.self]) [] w :=
  OwnD.of_top _ [] h

theorem SessInv.of_ownD {v : View} {s : Sess} {w : World}
    (h : OwnD v s.inst.d (groupsBlocks s.groups ++ [s.inst.self]) [] w) : SessInv v s w :=
  OwnD.top _ [] h

theorem dropTwo_perm (gs : List Group) (a b : Nat) (x y : Group) (hx : gs[a]? = some x) (hy : gs[b]? = some y)
    (hab : a ≠ b) : (groupsBlocks gs).Perm (groupBlocks x ++ (groupBlocks y ++ groupsBlocks (dropTwo gs a b))) := by
  unfold dropTwo groupsBlocks
  split
  · rename_i hlt
    have h1 := flatMap_eraseIdx_perm groupBlocks gs b y hy
    have hx' : (gs.eraseIdx b)[a]? = some x := by rw [List.getElem?_eraseIdx_of_lt hlt]; exact hx
    have h2 := flatMap_eraseIdx_perm groupBlocks _ a x hx'
    exact (h1.trans (List.Perm.append_left _ h2)).trans (List.perm_append_comm_assoc _ _ _)
  · have hlt : b < a := by omega
    have h1 := flatMap_eraseIdx_perm groupBlocks gs a x hx
    have hy' : (gs.eraseIdx a)[b]? = some y := by rw [List.getElem?_eraseIdx_of_lt hlt]; exact hy
    have h2 := flatMap_eraseIdx_perm groupBlocks _ b y hy'
    exact h1.trans (List.Perm.append_left _ h2)

theorem single_erase (g : Group) (c : Nat) (x : Chain) (hl : g.length = 1) (hc : g[c]? = some x) :
    groupBlocks (g.eraseIdx c) = [] := by
  match g, c, hl, hc with
  | [y], 0, _, _ => rfl
  | [y], c + 1, _, hc => simp at hc

theorem runJoin_spec (s : Sess) (gl cl gr cr : Nat) (kind : MergeKind) :
    Triple (SessInv v s) (runJoin s gl cl gr cr kind) (fun s' => SessInv v s') := by
  unfold runJoin
  split
  · rename_i grpL grpR hL hR
    split
    · rename_i l r hl hr
      refine .ite (fun _ => Triple.pure fun w o => o) fun hcond => ?_
      have hne : gl ≠ gr := fun e => hcond (Or.inl e)
      have hsplit : (groupsBlocks s.groups).Perm (l.blocks ++ (r.blocks ++ (groupBlocks (grpL.eraseIdx cl) ++
          (groupBlocks (grpR.eraseIdx cr) ++ groupsBlocks (dropTwo s.groups gl gr))))) := by
        have h0 := dropTwo_perm s.groups gl gr grpL grpR hL hR hne
        have h1 : (groupBlocks grpL).Perm (l.blocks ++ groupBlocks (grpL.eraseIdx cl)) :=
          flatMap_eraseIdx_perm Chain.blocks grpL cl l hl
        have h2 : (groupBlocks grpR).Perm (r.blocks ++ groupBlocks (grpR.eraseIdx cr)) :=
          flatMap_eraseIdx_perm Chain.blocks grpR cr r hr
        refine h0.trans ((List.Perm.append h1 (List.Perm.append_right _ h2)).trans ?_)
        perm_count
      refine Triple.bind (R := MergePost v (groupBlocks (grpL.eraseIdx cl) ++
          (groupBlocks (grpR.eraseIdx cr) ++ (groupsBlocks (dropTwo s.groups gl gr) ++
            (dBlocks s.inst.d ++ [s.inst.self])))) (dHandles s.inst.d ++ []) l r) ?_ fun m => ?_
      · refine (merge_spec l r kind).pre fun w o => o.permB ?_
        refine (List.Perm.append_right _ hsplit).trans ?_
        perm_count
      · cases hm : m.2 with
        | none =>
          refine Triple.pure fun w o => ?_
          unfold MergePost at o; rw [hm] at o
          refine o.permB ?_
          refine List.Perm.trans ?_ (List.Perm.append_right _ hsplit.symm)
          perm_count
        | some j =>
          dsimp only
          refine .ite (fun h1 => ?_) fun h1 => ?_
          · refine Triple.pure fun w o => ?_
            unfold MergePost at o; rw [hm, single_erase grpR cr r h1 hr] at o
            refine o.permB ?_
            have hset := flatMap_set_perm Chain.blocks { j with anchor := l.anchor } grpL cl l hl
            show (_ : List Nat).Perm (groupsBlocks (grpL.set cl { j with anchor := l.anchor } :: dropTwo s.groups gl gr) ++ _)
            simp only [groupsBlocks, List.flatMap_cons]
            refine List.Perm.trans ?_ (List.Perm.append_right _ (List.Perm.append_right _ hset.symm))
            show (_ : List Nat).Perm ((j.blocks ++ groupBlocks (grpL.eraseIdx cl)) ++ _ ++ _)
            perm_count
          · have hL1 : grpL.length = 1 := by
              apply Classical.byContradiction
              intro hcon
              exact hcond (Or.inr ⟨hcon, h1⟩)
            refine Triple.pure fun w o => ?_
            unfold MergePost at o; rw [hm, single_erase grpL cl l hL1 hl] at o
            refine o.permB ?_
            have hset := flatMap_set_perm Chain.blocks { j with anchor := l.cabs.length + r.anchor } grpR cr r hr
            show (_ : List Nat).Perm (groupsBlocks (grpR.set cr { j with anchor := l.cabs.length + r.anchor } :: dropTwo s.groups gl gr) ++ _)
            simp only [groupsBlocks, List.flatMap_cons]
            refine List.Perm.trans ?_ (List.Perm.append_right _ (List.Perm.append_right _ hset.symm))
            show (_ : List Nat).Perm ((j.blocks ++ groupBlocks (grpR.eraseIdx cr)) ++ _ ++ _)
            perm_count
    · exact Triple.pure fun w o => o
  · exact Triple.pure fun w o => o

theorem runOp_spec {body : Body} (hb : BodyLaw body) (s : Sess) (op : Op) :
    Triple (SessInv v s) (runOp body s op) (fun s' => SessInv v s') := by
  cases op with
  | open_ name =>
    rw [runOp.eq_1]
    refine Triple.bind ((open_spec s.inst name).pre fun w o => SessInv.ownD o) fun r => ?_
    cases hr : r.2 with
    | none =>
      refine Triple.pure fun w ⟨e, o⟩ => ?_
      rw [hr] at o
      exact SessInv.of_ownD (s := ⟨r.1, s.groups⟩) (e ▸ o)
    | some c =>
      refine Triple.pure fun w ⟨e, o⟩ => ?_
      rw [hr] at o
      refine SessInv.of_ownD (s := ⟨r.1, [c] :: s.groups⟩) ?_
      show OwnD v r.1.d (groupsBlocks ([c] :: s.groups) ++ [r.1.self]) [] w
      rw [e]
      simpa only [optChainBlocks, groupsBlocks, List.flatMap_cons, groupBlocks_single, List.append_assoc] using o
  | search name script =>
    rw [runOp.eq_2]
    refine Triple.bind ((search_spec s.inst name script).pre fun w o => SessInv.ownD o) fun r => ?_
    refine Triple.pure fun w ⟨e, o⟩ => ?_
    refine SessInv.of_ownD (s := ⟨r.1, if r.2.isEmpty = true then s.groups else r.2 :: s.groups⟩) ?_
    show OwnD v r.1.d (groupsBlocks (if r.2.isEmpty = true then s.groups else r.2 :: s.groups) ++ [r.1.self]) [] w
    rw [e]
    split
    · rename_i hemp
      rw [List.isEmpty_iff.mp hemp] at o
      exact o
    · simpa only [groupsBlocks, List.flatMap_cons, List.append_assoc] using o
  | close g p =>
    rw [runOp.eq_3]
    split
    · exact Triple.pure fun w o => o
    · rename_i grp hg
      have hp := flatMap_eraseIdx_perm groupBlocks s.groups g grp hg
      refine Triple.bind (R := InstPost v (groupsBlocks (s.groups.eraseIdx g) ++ [s.inst.self]) [] s.inst) ?_ fun i => ?_
      · refine (close_spec s.inst grp p).pre fun w o => (SessInv.ownD o).permB ?_
        rw [← List.append_assoc]
        exact hp.append_right _
      · refine Triple.pure fun w ⟨e, o⟩ => SessInv.of_ownD (s := ⟨i, s.groups.eraseIdx g⟩) ?_
        show OwnD v i.d (_ ++ [i.self]) [] w
        rw [e]; exact o
  | extract g c f sane rewind empty skip out =>
    rw [runOp.eq_4]
    split
    · exact Triple.pure fun w o => o
    · rename_i fol _
      refine Triple.bind ((extract_spec hb s.inst fol sane rewind empty skip out).pre fun w o => SessInv.ownD o) fun r => ?_
      exact Triple.pure fun w ⟨e, o⟩ => SessInv.of_ownD (s := ⟨r.1, s.groups⟩) (e ▸ o)
  | join gl cl gr cr kind => rw [runOp.eq_5]; exact runJoin_spec s gl cl gr cr kind
  | setParam b sv => rw [runOp.eq_6]; exact Triple.pure fun w o => o

theorem runOps_spec {body : Body} (hb : BodyLaw body) : ∀ (ops : List Op) (s : Sess),
    Triple (SessInv v s) (runOps body ops s) (fun s' => SessInv v s')
  | [], _ => Triple.pure fun _ o => o
  | op :: ops, s => Triple.bind (runOp_spec hb s op) fun s' => runOps_spec hb ops s'

theorem closeAll_spec : ∀ (gs : List Group) (i : Inst),
    Triple (OwnD v i.d (groupsBlocks gs ++ bl) hs) (closeAll i gs) (InstPost v bl hs i) := by
  intro gs
  induction gs with
  | nil => intro i; exact Triple.pure fun w o => ⟨rfl, o⟩
  | cons g gs ih =>
    intro i
    rw [closeAll.eq_2]
    show Triple (OwnD v i.d (groupBlocks g ++ groupsBlocks gs ++ bl) hs) _ _
    rw [List.append_assoc]
    refine Triple.bind (close_spec i g _) fun i' w ⟨e, o⟩ => ?_
    obtain ⟨e2, o2⟩ := ih i' w o
    exact ⟨e2.trans e, o2⟩

theorem destroy_spec (i : Inst) : Triple (OwnD v i.d (i.self :: bl) hs) (destroy i) (fun _ => Own v bl hs) := by
  refine Triple.bind (R := fun _ => Own v (i.self :: bl) hs) ?_ fun _ => T.free1 i.self
  cases i.d with
  | none => exact Triple.pure fun w o => o
  | some d => exact dropD_spec d

end

theorem create_spec {v : View} {bl : List Nat} {hs : List (Nat × Mode)} :
    Triple (Own v bl hs) create
      (fun r w => match r with
        | none => Own v bl hs w
        | some i => i.d = none ∧ Own v (i.self :: bl) hs w) :=
  Triple.bind T.alloc fun
    | none => Triple.pure fun _ o => o
    | some _ => Triple.pure fun _ o => ⟨rfl, o⟩

theorem program_spec (body : Body) (hb : BodyLaw body) (ops : List Op) (v : View) :
    Triple (Own v [] []) (program body ops) (fun _ => Own v [] []) := by
  refine Triple.bind create_spec fun
    | none => Triple.pure fun w o => o
    | some i0 => Triple.bind (R := fun s => SessInv v s) ?_ fun s =>
      Triple.bind ((closeAll_spec s.groups s.inst).pre fun w o => SessInv.ownD o) fun i =>
        (destroy_spec i).pre fun w ⟨e, o⟩ => e ▸ o
  refine (runOps_spec hb ops { inst := i0 }).pre fun w ⟨hd, o⟩ => ?_
  show Own v (groupsBlocks [] ++ (dBlocks i0.d ++ [i0.self])) (dHandles i0.d ++ []) w
  rw [hd]
  exact o

end MsPack.Cab.Api
