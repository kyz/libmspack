import Proofs.Lemmas.QtmBounds
import Proofs.Lemmas.FeederThread
import Proofs.Lemmas.QtmFaults
/-!
# Threading the feeder-liveness invariant through the Quantum decoder model

`QJ r = FeederLive r.st.src`; `QE`: a fault is not a null dereference, after a status return the feeder is live
unless the sticky error is set: an instance (`live_walk`) of the walk of `CountLaws.lean` over the Quantum model.
The faults of the model's pure `Except Fault` part (`decodeSym` and the model update), which `liftF` re-throws, are
those of `decodeSym_only` (`QtmFaults.lean`).
-/
namespace MsPack.CabLift
open MsPack.Cab

namespace QtmThread
open MsPack.Qtm

def QJ (r : Run Feeder) : Prop := FeederLive r.st.src

def QE : Qtm.Halt → Run Feeder → Prop
  | .fault f, _ => ∀ w, f ≠ .nullDeref w
  | .sys _, r => r.st.error = .ok → QJ r

variable (files : Files)

theorem live_walk : CountLaws.Qtm.Walk (feederSrc files) QJ QE where
  frame := fun h h1 _ _ => by unfold QJ at *; rw [h1]; exact h
  fault := fun _ _ _ h => h
  readFault := fun f r hj hr => absurd hr (feederSrc_read_no_fault files r.st.src _ f hj)
  symFault := fun f _ m H L C _ h =>
    decodeSym_only (P := fun f => ∀ w, f ≠ .nullDeref w) (fun _ _ => nofun) (fun _ => nofun) m H L C f h
  fail := fun _ _ => (nofun : Err.decrunch = Err.ok → _)
  readNone := fun _ _ _ _ => (nofun : Err.read = Err.ok → _)
  readEnd := fun _ _ _ _ => (nofun : Err.read = Err.ok → _)
  readMore := fun r got src b hj hr h1 _ _ => by
    unfold QJ at *; rw [h1]; exact feederSrc_read_live files r.st.src _ got src hj hr

def QOut : Except Fault (DecodeOut (Qtm.St Feeder)) → Prop
  | .error f => ∀ w, f ≠ .nullDeref w
  | .ok o => o.st.error = .ok → FeederLive o.st.src

theorem decompress_thr (fuel : Nat) (st : Qtm.St Feeder) (n : Nat) (hj : st.error = .ok → FeederLive st.src) :
    QOut (Qtm.decompress (feederSrc files) fuel st n) := by
  refine Qtm.decompress_cases _ fuel st n (P := QOut) (fun _ => hj) fun he i _ _ =>
    ⟨fun _ => nofun, fun _ _ _ => hj he, fun _ _ => ?_⟩
  exact ((CountLaws.Qtm.body_walk (live_walk files) fuel).wp (by exact hj he)).mono (fun _ _ h _ => h)
    fun | .sys _, _, h => h | .fault _, _, h => h

end QtmThread

end MsPack.CabLift
