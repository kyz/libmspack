import MsPack.Lzss.Decoder
/-!
The LZSS decoder's loops (`copyMatch`, `tokenLoop`, `mainLoop`) as sequences of their pieces: `Res.bind` is what their
three-armed `match`es do (go on after `.ok`, hand a `.ret` or a `.fault` on), `*_succ` the loop bodies written with it, and
`Res.Post` the one triple every walk over them is stated in.
-/
namespace MsPack.Lzss
open MsPack.Generated

variable {σ : Type} (S : Src σ) {α β : Type}

def Res.bind (r : Res σ α) (f : α → St σ → Res σ β) : Res σ β :=
  match r with
  | .ok a st => f a st
  | .ret e st => .ret e st
  | .fault f => .fault f

/- The model's `match`es and `Res.bind`'s are different matcher constants, stuck on the same scrutinee: `rfl` sees them
   agree only once the scrutinee is a constructor, hence the `cases`. -/
theorem copyMatch_succ (len mpos : Nat) (st : St σ) :
    copyMatch (len + 1) mpos st =
      if h : mpos < st.window.size then
        (emitByte st st.window[mpos]).bind fun _ st => copyMatch len ((mpos + 1) % lzssWINDOW_SIZE) st
      else .fault (.oob "window[mpos]") := by
  rw [copyMatch]; split
  · cases emitByte st st.window[mpos] <;> rfl
  · rfl

theorem tokenLoop_succ (c k i : Nat) (st : St σ) :
    tokenLoop S c (k + 1) i st =
      if c &&& i ≠ 0 then
        (nextByte S st).bind fun b st => (emitByte st b).bind fun _ st => tokenLoop S c k (i <<< 1) st
      else
        (nextByte S st).bind fun b0 st => (nextByte S st).bind fun b1 st =>
          (copyMatch ((b1.toNat &&& 0x0F) + 3) (b0.toNat ||| ((b1.toNat &&& 0xF0) <<< 4)) st).bind fun _ st =>
            tokenLoop S c k (i <<< 1) st := by
  rw [tokenLoop]; split
  · cases nextByte S st <;> try rfl
    rename_i b st1; dsimp only [Res.bind]; cases emitByte st1 b <;> rfl
  · cases nextByte S st <;> try rfl
    rename_i b0 st1; dsimp only [Res.bind]
    cases nextByte S st1 <;> try rfl
    rename_i b1 st2; dsimp only [Res.bind]
    cases copyMatch _ _ st2 <;> rfl

theorem mainLoop_succ (invert fuel : Nat) (st : St σ) :
    mainLoop S invert (fuel + 1) st =
      (nextByte S st).bind fun cb st => (tokenLoop S (cb.toNat ^^^ invert) 8 1 st).bind fun _ st =>
        mainLoop S invert fuel st := by
  rw [mainLoop]
  cases nextByte S st <;> try rfl
  rename_i cb st1; dsimp only [Res.bind]
  cases tokenLoop S _ 8 1 st1 <;> rfl

def Res.Post (Q : α → St σ → Prop) (R : Err → St σ → Prop) (F : Fault → Prop) : Res σ α → Prop
  | .ok a st => Q a st
  | .ret e st => R e st
  | .fault f => F f

variable {Q Q' : α → St σ → Prop} {R R' : Err → St σ → Prop} {F F' : Fault → Prop}

theorem Res.Post.bind {Q' : β → St σ → Prop} {r : Res σ α} {f : α → St σ → Res σ β} (hr : r.Post Q R F)
    (hf : ∀ a st, Q a st → (f a st).Post Q' R F) : (r.bind f).Post Q' R F := by
  cases r with
  | ok a st => exact hf a st hr
  | _ => exact hr

theorem Res.Post.mono {r : Res σ α} (hr : r.Post Q R F) (hQ : ∀ a st, Q a st → Q' a st)
    (hR : ∀ e st, R e st → R' e st := by exact fun _ _ h => h) (hF : ∀ f, F f → F' f := by exact fun _ h => h) :
    r.Post Q' R' F' := by
  cases r with
  | ok a st => exact hQ a st hr
  | ret e st => exact hR e st hr
  | fault f => exact hF f hr

end MsPack.Lzss
