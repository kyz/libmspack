import MsPack.Lzx.Decoder
import Proofs.Lemmas.LzxFrame
import Proofs.Lemmas.FillSim
import Proofs.Lemmas.LzxSim
/-!
# LZX: two runs from states that differ only in never-read cells stay in step

`Sim μ a b`: every field equal except
* `pretreeLen`, `alignedLen` (same sizes; same contents below `μ.pk` / `μ.ak`: their first 20 / 8
  entries are written before each use),
* `maintreeLen`, `lengthLen` (same sizes, same contents below `MAXSYMBOLS`, which is all that
  `lzxd_reset_state` clears, `lzxd_read_lens` reads and `make_decode_table` looks at; the 64 spare
  entries above keep the allocator's fill),
* `e8Buf` (same size; same contents below `oEnd` while the pending output lives there),
* `blockLength` (equal once a block header has been read: `blockType = 3 →`; `μ.w = true` suspends
  the clause between the two assignments in the header),
* `lengthEmpty` (equal in verbatim/aligned blocks: `blockType ∈ {1,2} →`; while a header is being
  read, `μ.hm = some bt`, the clause is replaced by `blockType = bt`).
and `nOff`: `NUM_CHARS + numOffsets ≤ MAINTREE_MAXSYMBOLS` (set by `lzxd_init`), so the second
`READ_LENGTHS` of the main tree stays inside the part that agrees.
The window is equal in both runs (zero-filled by `lzxd_init`, then reference data and output).
Only the length tables, the block header, `resetState` and the output stage (`fbWrite`, `fbE8`) read or write
these cells; they are walked here (the block header along the `hdr*` pieces of `LzxPieces.lean`).  Every other
function of the model is covered by the walk of `LzxSim.lean`, of which `walk2` is the instance for this relation.
-/
namespace MsPack.Lzx.Fill
open MsPack.Generated MsPack.FillSim
variable {σ : Type}

/-- which conditional clauses of `Sim` are in force -/
structure Mode where
  /-- `true`: the `blockLength` clause is suspended (between the two assignments of the block header) -/
  w  : Bool
  /-- `some bt`: a block header is being read, `blockType = bt`; the `lengthEmpty` clause is suspended -/
  hm : Option Nat
  /-- `pretreeLen` agrees below `pk`, `alignedLen` below `ak` -/
  pk : Nat
  ak : Nat

/-- between blocks -/
def Mode.normal : Mode := ⟨false, none, 0, 0⟩
def Mode.weak (bt : Nat) : Mode := ⟨true, some bt, 0, 0⟩

structure Sim (μ : Mode) (a b : St σ) : Prop where
  eq : b = { a with blockLength := b.blockLength, lengthEmpty := b.lengthEmpty, pretreeLen := b.pretreeLen,
                    maintreeLen := b.maintreeLen, lengthLen := b.lengthLen, alignedLen := b.alignedLen,
                    e8Buf := b.e8Buf }
  pre : Agree μ.pk a.pretreeLen b.pretreeLen
  ali : Agree μ.ak a.alignedLen b.alignedLen
  main : Agree lzxMAINTREE_MAXSYMBOLS a.maintreeLen b.maintreeLen
  len : Agree lzxLENGTH_MAXSYMBOLS a.lengthLen b.lengthLen
  nOff : lzxNUM_CHARS + a.numOffsets ≤ lzxMAINTREE_MAXSYMBOLS
  e8sz : b.e8Buf.size = a.e8Buf.size
  e8 : a.oInE8 = true → Agree a.oEnd a.e8Buf b.e8Buf
  bl : μ.w = false → a.blockType = 3 → b.blockLength = a.blockLength
  le : match μ.hm with
       | none => (a.blockType = 1 ∨ a.blockType = 2) → b.lengthEmpty = a.lengthEmpty
       | some bt => a.blockType = bt

theorem Sim.split {μ} {a b : St σ} (h : Sim μ a b) : ∃ x, b = a.put x := ⟨b.loose, h.eq⟩

theorem Sim.same {μ} {a b a' b' : St σ} (h : Sim μ a b) (e : b' = a'.put b.loose) (hv : a'.view = a.view) :
    Sim μ a' b' := by
  subst e
  obtain ⟨x, rfl⟩ := h.split
  simp only [St.view, St.loose, Prod.mk.injEq, Loose.mk.injEq] at hv
  obtain ⟨⟨e1, e2, e3, e4, e5, e6, e7⟩, e8, e9, e10, e11⟩ := hv
  refine ⟨rfl, e3 ▸ h.pre, e6 ▸ h.ali, e4 ▸ h.main, e5 ▸ h.len, e8 ▸ h.nOff, e7 ▸ h.e8sz, ?_, ?_, ?_⟩
  · rw [e9, e10, e7]; exact h.e8
  · rw [e11, e1]; exact h.bl
  · rw [e11, e2]; exact h.le

theorem Sim.weaken {μ} {a b : St σ} (h : Sim μ a b) : Sim (Mode.weak a.blockType) a b :=
  ⟨h.eq, h.pre.mono (Nat.zero_le _), h.ali.mono (Nat.zero_le _), h.main, h.len, h.nOff, h.e8sz, h.e8,
    fun h => (nomatch h), rfl⟩

def EE : Halt → St σ → St σ → Prop
  | .sys e, t1, t2 => (∃ bt, Sim (Mode.weak bt) t1 t2) ∧ t1.error = e ∧ e ≠ .ok
  | .fault _, _, _ => True

theorem zero_agree {n : Nat} : ∀ (l : List Nat) (a b : Array UInt8), Agree n a b →
    Agree n (l.foldl (fun a i => a.setIfInBounds i 0) a) (l.foldl (fun a i => a.setIfInBounds i 0) b)
  | [], a, b, h => h
  | i :: l, a, b, h => by
    rw [List.foldl_cons, List.foldl_cons]
    exact zero_agree l _ _ (h.setIfInBounds i 0)

theorem lensOf_agree {m n : Nat} {a b : Array UInt8} (h : Agree m a b) (hn : n ≤ m) : lensOf a n = lensOf b n := by
  unfold lensOf
  rw [h.extract_eq hn]

theorem copyAcross_agree (src : Array UInt8) (start : Nat) : ∀ (n k : Nat) (a b : Array UInt8), Agree k a b →
    RelX (Agree (k + n)) (copyAcross src start n k a) (copyAcross src start n k b)
  | 0, k, a, b, h => h
  | n + 1, k, a, b, h => by
    rw [copyAcross, copyAcross]
    cases src[start + k]? with
    | none => exact rfl
    | some v =>
      refine rel_dite (by rw [h.size]) (fun hk hk' => ?_) fun _ _ => rfl
      have := copyAcross_agree src start n (k + 1) _ _ (h.set_extend v hk hk')
      rwa [Nat.add_assoc, Nat.add_comm 1 n] at this

theorem e8Loop_agree {n : Nat} (dataend : Nat) (filesize : Int) (hd : dataend + 10 ≤ n) :
    ∀ (fuel p : Nat) (curpos : Int) (a b : Array UInt8), Agree n a b →
    RelX (Agree n) (e8Loop dataend filesize fuel p curpos a) (e8Loop dataend filesize fuel p curpos b)
  | 0, p, curpos, a, b, h => by
    rw [e8Loop, e8Loop]
    exact rel_ite _ (fun _ => rfl) fun _ => h
  | fuel + 1, p, curpos, a, b, h => by
    rw [e8Loop, e8Loop]
    refine rel_ite _ (fun hp => ?_) fun _ => h
    rw [← h.get? (i := p) (by omega)]
    cases a[p]? with
    | none => exact rfl
    | some v =>
      refine rel_ite _ (fun _ => e8Loop_agree dataend filesize hd fuel _ _ a b h) fun _ =>
        rel_dite (by rw [h.size]) (fun h3 h3' => ?_) fun _ _ => rfl
      have g0 : a[p + 1]'(by omega) = b[p + 1]'(by omega) := h.get (by omega) _ _
      have g1 : a[p + 1 + 1]'(by omega) = b[p + 1 + 1]'(by omega) := h.get (by omega) _ _
      have g2 : a[p + 1 + 2]'(by omega) = b[p + 1 + 2]'(by omega) := h.get (by omega) _ _
      have g3 : a[p + 1 + 3]'(by omega) = b[p + 1 + 3]'(by omega) := h.get (by omega) _ _
      simp only [g0, g1, g2, g3]
      exact e8Loop_agree dataend filesize hd fuel _ _ _ _
        (rel_ite (R := Agree n) _ (fun _ => (((h.set _ _ _ _).set _ _ _ _).set _ _ _ _).set _ _ _ _) fun _ => h)

section
variable (S : Src σ) {α : Type} {μ : Mode} {P Q : St σ → St σ → Prop}

theorem fault_sim (f : Fault) : InStep EE P Q (throw (.fault f) : LM σ α) :=
  .throw fun _ _ _ => ⟨trivial, fun _ => trivial⟩

theorem fail_sim (e : Err) (he : e ≠ .ok) : InStep EE (Sim μ) Q (fail e : LM σ α) := by
  refine inStep_iff.mpr fun s1 s2 h => ?_
  obtain ⟨x, rfl⟩ := h.split
  unfold fail
  wsimp
  exact ⟨rfl, ⟨s1.blockType, h.weaken.same rfl rfl⟩, rfl, he⟩

theorem fail_bind_sim {β : Type} (e : Err) (he : e ≠ .ok) (f : α → LM σ β) :
    InStep EE (Sim μ) Q (fail e >>= f) :=
  inStep_iff.mpr fun _ _ h => wp2_bind (inStep_iff.mp (fail_sim (Q := fun _ _ => False) e he) h) fun _ _ _ _ hq => hq.2.elim

theorem get_sim {f : St σ → LM σ α} (hf : ∀ t, InStep EE (Sim μ) Q (f t)) (hi : ∀ t x, f (t.put x) = f t) :
    InStep EE (Sim μ) Q (get >>= f) :=
  .get hf fun _ _ h => by obtain ⟨x, rfl⟩ := h.split; exact hi _ _

theorem modify_sim {f : St σ → St σ} (hf : ∀ t x, f (t.put x) = (f t).put x) (hv : ∀ t, (f t).view = t.view) :
    InStep EE (Sim μ) (Sim μ) (modify f : LM σ PUnit) :=
  .modify fun _ _ h => by obtain ⟨x, rfl⟩ := h.split; exact h.same (hf _ _) (hv _)

theorem readInput_sim : InStep EE (Sim μ) (Sim μ) (readInput S) := by
  refine inStep_iff.mpr fun s1 s2 h => ?_
  obtain ⟨x, rfl⟩ := h.split
  unfold readInput
  rw [wp2_get_bind]
  simp only []
  split
  · wsimp; exact ⟨rfl, trivial⟩
  · split
    · wsimp
      exact ⟨rfl, ⟨s1.blockType, h.weaken.same rfl rfl⟩, rfl, by decide⟩
    · refine wp2_ite (fun _ => ?_) fun _ => ?_
      · wsimp
        exact ⟨rfl, ⟨s1.blockType, h.weaken.same rfl rfl⟩, rfl, by decide⟩
      · exact ⟨rfl, h.same rfl rfl⟩
    · exact ⟨rfl, h.same rfl rfl⟩

theorem walk2 (μ : Mode) : Walk2 True (Sim (σ := σ) μ) (fun _ _ => True) EE S S where
  split := fun {a b} h => ⟨a.src, b.loose, h.eq⟩
  same := fun {a a' x l} h hv => by
    have hx : x = a'.src := (congrArg St.src h.eq).trans (congrArg (fun v => v.2.1) hv).symm
    subst hx
    exact h.same rfl (congrArg (fun v => v.1) hv)
  fault := fun f _ => fault_sim f
  fail := fail_sim _ (by decide)
  read := readInput_sim S

end

section
variable (S : Src σ) {μ : Mode}

/-- the part of a length array that `lzxd_reset_state` clears -/
def bound : Tree → Nat
  | .main => lzxMAINTREE_MAXSYMBOLS
  | .length => lzxLENGTH_MAXSYMBOLS

theorem getLen_sim (t : Tree) (x : Nat) (hx : x < bound t) : InStep EE (Sim μ) (Sim μ) (getLen t x : LM σ Nat) := by
  refine .get (fun _ => ?_) fun s1 s2 h => ?_
  · extract_lets a
    clear_value a
    split
    · exact .pure _
    · exact fault_sim _
  · cases t
    · simp only [h.main.get? hx]
    · simp only [h.len.get? hx]

theorem setLen_sim (t : Tree) (x : Nat) (v : UInt8) : InStep EE (Sim μ) (Sim μ) (setLen t x v : LM σ Unit) := by
  refine inStep_iff.mpr fun s1 s2 h => ?_
  obtain ⟨y, rfl⟩ := h.split
  unfold setLen
  wsimp
  cases t
  · simp only [← h.main.size]
    exact wp2_dite (fun hc => ⟨rfl, { h with eq := rfl, main := h.main.set x v hc (h.main.size ▸ hc) }⟩) fun _ => ⟨rfl, trivial⟩
  · simp only [← h.len.size]
    exact wp2_dite (fun hc => ⟨rfl, { h with eq := rfl, len := h.len.set x v hc (h.len.size ▸ hc) }⟩) fun _ => ⟨rfl, trivial⟩

theorem fillLens_sim (t : Tree) (v : UInt8) : ∀ y x : Nat, InStep EE (Sim μ) (Sim μ) (fillLens t v y x : LM σ Unit)
  | 0, _ => .pure _
  | y + 1, x => .bind (setLen_sim t x v) fun _ => fillLens_sim t v y (x + 1)

theorem readLensLoop_sim (t : Tree) (pre : Huff.Canon) (last : Nat) (hl : last ≤ bound t) :
    ∀ fuel x : Nat, InStep EE (Sim μ) (Sim μ) (readLensLoop S t pre last fuel x)
  | 0, _ => fault_sim _
  | fuel + 1, x => by
    rw [readLensLoop]
    refine .ite (fun hx => .bind ((walk2 S _).readHuffSym _ _) fun _ => .ite (fun _ => ?_) fun _ => .ite (fun _ => ?_) fun _ =>
      .ite (fun _ => ?_) fun _ => ?_) fun _ => .pure _
    · exact .bind ((walk2 S _).readBits 4) fun _ => .bind (fillLens_sim t 0 _ x) fun _ => readLensLoop_sim t pre last hl fuel _
    · exact .bind ((walk2 S _).readBits 5) fun _ => .bind (fillLens_sim t 0 _ x) fun _ => readLensLoop_sim t pre last hl fuel _
    · exact .bind ((walk2 S _).readBits 1) fun _ => .bind ((walk2 S _).readHuffSym _ _) fun _ =>
        .bind (getLen_sim t x (by omega)) fun _ => .bind (fillLens_sim t _ _ x) fun _ => readLensLoop_sim t pre last hl fuel _
    · exact .bind (getLen_sim t x (by omega)) fun _ => .bind (setLen_sim t x _) fun _ => readLensLoop_sim t pre last hl fuel _

theorem readPretreeLens_sim {w hm ak} : ∀ k x : Nat,
    InStep EE (Sim ⟨w, hm, x, ak⟩) (Sim ⟨w, hm, x + k, ak⟩) (readPretreeLens S k x)
  | 0, _ => .pure _
  | k + 1, x => by
    rw [readPretreeLens]
    have ih := readPretreeLens_sim (w := w) (hm := hm) (ak := ak) k (x + 1)
    rw [Nat.add_assoc, Nat.add_comm 1 k] at ih
    refine .bind ((walk2 S _).readBits 4) fun y => inStep_iff.mpr fun s1 s2 h => ?_
    obtain ⟨z, rfl⟩ := h.split
    wsimp
    simp only [← h.pre.size]
    refine wp2_dite (fun hc => ?_) fun _ => ⟨rfl, trivial⟩
    wsimp
    exact inStep_iff.mp ih { h with eq := rfl, pre := h.pre.set_extend _ hc (h.pre.size ▸ hc) }

theorem readAlignedLens_sim {w hm pk} : ∀ k x : Nat,
    InStep EE (Sim ⟨w, hm, pk, x⟩) (Sim ⟨w, hm, pk, x + k⟩) (readAlignedLens S k x)
  | 0, _ => .pure _
  | k + 1, x => by
    rw [readAlignedLens]
    have ih := readAlignedLens_sim (w := w) (hm := hm) (pk := pk) k (x + 1)
    rw [Nat.add_assoc, Nat.add_comm 1 k] at ih
    refine .bind ((walk2 S _).readBits 3) fun y => inStep_iff.mpr fun s1 s2 h => ?_
    obtain ⟨z, rfl⟩ := h.split
    wsimp
    simp only [← h.ali.size]
    refine wp2_dite (fun hc => ?_) fun _ => ⟨rfl, trivial⟩
    wsimp
    exact inStep_iff.mp ih { h with eq := rfl, ali := h.ali.set_extend _ hc (h.ali.size ▸ hc) }

theorem Sim.setPk {w hm pk ak pk'} {a b : St σ} (h : Sim ⟨w, hm, pk, ak⟩ a b) (hp : pk' ≤ pk) :
    Sim ⟨w, hm, pk', ak⟩ a b :=
  { h with pre := h.pre.mono hp }

theorem Sim.setAk {w hm pk ak ak'} {a b : St σ} (h : Sim ⟨w, hm, pk, ak⟩ a b) (hp : ak' ≤ ak) :
    Sim ⟨w, hm, pk, ak'⟩ a b :=
  { h with ali := h.ali.mono hp }

theorem readLengths_sim (fuel : Nat) (t : Tree) (first last : Nat) (hl : last ≤ bound t) {w hm pk ak} :
    InStep EE (Sim ⟨w, hm, pk, ak⟩) (Sim ⟨w, hm, 0, ak⟩) (readLengths S fuel t first last) := by
  refine .bind ((readPretreeLens_sim S lzxPRETREE_MAXSYMBOLS 0).pre fun _ _ h => h.setPk (Nat.zero_le _)) fun _ =>
    .get (fun _ => ?_) fun _ _ h => by rw [lensOf_agree h.pre (Nat.le_add_left lzxPRETREE_MAXSYMBOLS 0)]
  split
  · exact fail_sim _ (by decide)
  · exact (readLensLoop_sim S t _ last hl fuel first).pre fun _ _ h => h.setPk (Nat.zero_le _)

end

section
variable (S : Src σ)

/-- `lengthEmpty` assigned: the clause about it is in force again -/
theorem lengthEmpty_sim (v : Bool) {w hm pk ak} : InStep EE (Sim ⟨w, hm, pk, ak⟩) (Sim ⟨w, none, pk, ak⟩)
    (modify fun st => { st with lengthEmpty := v } : LM σ PUnit) :=
  .modify fun _ _ h => by
    obtain ⟨x, rfl⟩ := h.split
    exact { h with eq := rfl, le := fun _ => rfl }

theorem hdrLength_sim (fuel : Nat) {bt : Nat} :
    InStep EE (Sim ⟨false, some bt, 0, 0⟩) (Sim Mode.normal) (hdrLength S fuel) := by
  refine .bind (readLengths_sim S fuel .length 0 _ (by decide)) fun _ => .bind (lengthEmpty_sim false) fun _ =>
    .get (fun _ => ?_) fun _ _ h => by rw [lensOf_agree h.len (Nat.le_refl _)]
  extract_lets ll
  clear_value ll
  split
  · exact modify_sim (fun _ _ => rfl) fun _ => rfl
  · exact .bind (modify_sim (fun _ _ => rfl) fun _ => rfl) fun _ =>
      .ite (fun _ => fail_bind_sim _ (by decide) _) fun _ => lengthEmpty_sim true

theorem hdrIntel_sim (fuel : Nat) {bt : Nat} :
    InStep EE (Sim ⟨false, some bt, 0, 0⟩) (Sim Mode.normal) (hdrIntel S fuel) :=
  .bind (getLen_sim .main 0xE8 (by decide)) fun _ => .ite
    (fun _ => .bind (modify_sim (fun _ _ => rfl) fun _ => rfl) fun _ => hdrLength_sim S fuel)
    fun _ => hdrLength_sim S fuel

theorem hdrMain_sim (fuel : Nat) {bt : Nat} :
    InStep EE (Sim ⟨false, some bt, 0, 0⟩) (Sim Mode.normal) (hdrMain S fuel) := by
  refine .bind (readLengths_sim S fuel .main 0 256 (by decide)) fun _ => inStep_iff.mpr fun s1 s2 h => ?_
  obtain ⟨x, rfl⟩ := h.split
  rw [wp2_get_bind]
  refine inStep_iff.mp (.bind (readLengths_sim S fuel .main 256 _ h.nOff) fun _ => .get (fun _ => ?_) fun _ _ h => by
    rw [lensOf_agree h.main (Nat.le_refl _)]) h
  split
  · exact .bind (modify_sim (fun _ _ => rfl) fun _ => rfl) fun _ => fail_bind_sim _ (by decide) _
  · exact .bind (modify_sim (fun _ _ => rfl) fun _ => rfl) fun _ => hdrIntel_sim S fuel

theorem hdrAligned_sim (fuel : Nat) {bt : Nat} :
    InStep EE (Sim ⟨false, some bt, 0, 0⟩) (Sim Mode.normal) (hdrAligned S fuel) := by
  refine .bind (readAlignedLens_sim S lzxALIGNED_MAXSYMBOLS 0) fun _ =>
    .get (fun _ => ?_) fun _ _ h => by rw [lensOf_agree h.ali (Nat.le_add_left lzxALIGNED_MAXSYMBOLS 0)]
  split
  · exact .bind (modify_sim (fun _ _ => rfl) fun _ => rfl) fun _ => fail_bind_sim _ (by decide) _
  · exact .bind (modify_sim (fun _ _ => rfl) fun _ => rfl) fun _ =>
      (hdrMain_sim S fuel).pre fun _ _ h => h.setAk (Nat.zero_le _)

theorem hdrRaw_sim : InStep EE (Sim ⟨false, some 3, 0, 0⟩) (Sim Mode.normal) (hdrRaw S) := by
  refine .post (.bind (modify_sim (fun _ _ => rfl) fun _ => rfl) fun _ => .bind ((walk2 S _).readRaw 12 []) fun buf => ?_)
    fun a b (h : Sim ⟨false, some 3, 0, 0⟩ a b) =>
      { h with le := fun h12 => by have h3 : a.blockType = 3 := h.le; omega }
  split
  · exact modify_sim (fun _ _ => rfl) fun _ => rfl
  · exact fault_sim _

theorem hdrBody_sim (fuel : Nat) : InStep EE (Sim Mode.normal) (Sim Mode.normal) (hdrBody S fuel) := by
  refine .bind ((walk2 S _).readBits 3) fun bt => .bind (Q := Sim ⟨true, some bt, 0, 0⟩) (.modify fun _ _ h => ?_) fun _ =>
    .bind ((walk2 S _).readBits 16) fun _ => .bind ((walk2 S _).readBits 8) fun _ =>
    .bind (Q := Sim ⟨false, some bt, 0, 0⟩) (.modify fun _ _ h => ?_) fun _ =>
    .ite (fun _ => .ite (fun _ => hdrAligned_sim S fuel) fun _ => hdrMain_sim S fuel) fun _ => .ite (fun hb3 => ?_) fun _ =>
    fail_sim _ (by decide)
  · obtain ⟨x, rfl⟩ := h.split
    exact { h with eq := rfl, bl := fun hw => (nomatch hw), le := rfl }
  · obtain ⟨x, rfl⟩ := h.split
    exact { h with eq := rfl, bl := fun _ _ => rfl }
  · subst hb3
    exact .bind (modify_sim (fun _ _ => rfl) fun _ => rfl) fun _ => get_sim (fun _ =>
      .ite (fun _ => .bind ((walk2 S _).ensureBits 16 3) fun _ => hdrRaw_sim S) fun _ => hdrRaw_sim S) fun _ _ => rfl

theorem readBlockHeader_sim (fuel : Nat) : InStep EE (Sim Mode.normal) (Sim Mode.normal) (readBlockHeader S fuel) := by
  refine inStep_iff.mpr fun s1 s2 h => ?_
  rw [readBlockHeader_eq, wp2_get_bind]
  have e : (s2.blockType = 3 ∧ s2.blockLength % 2 = 1) ↔ (s1.blockType = 3 ∧ s1.blockLength % 2 = 1) := by
    obtain ⟨x, rfl⟩ := h.split
    exact and_congr_right fun hb3 => by rw [h.bl rfl hb3]
  simp only [e]
  exact inStep_iff.mp (.ite (fun _ => .bind ((walk2 S _).nextByte) fun _ => hdrBody_sim S fuel) fun _ => hdrBody_sim S fuel) h

end

section
variable (S : Src σ)

theorem outSlice_sim {μ} {s1 s2 : St σ} (h : Sim μ s1 s2) (n : Nat)
    (hn : s1.oInE8 = true → n = 0 ∨ s1.oPtr + n ≤ s1.oEnd) : outSlice s2 n = outSlice s1 n := by
  obtain ⟨x, rfl⟩ := h.split
  unfold outSlice
  simp only []
  by_cases he : s1.oInE8 = true
  · simp only [he, if_true]
    rw [h.e8sz]
    by_cases hc : s1.oPtr + n ≤ s1.e8Buf.size
    · simp only [if_pos hc]
      congr 1
      rcases hn he with h0 | hle
      · subst h0
        exact (Array.extract_empty_of_stop_le_start (Nat.le_refl _)).trans
          (Array.extract_empty_of_stop_le_start (Nat.le_refl _)).symm
      · exact ((h.e8 he).extract_eq hle).symm
    · simp only [if_neg hc]
  · have he' : s1.oInE8 = false := by simpa using he
    simp only [he', Bool.false_eq_true, if_false]

theorem fbWrite_sim (frameSize outBytes : Nat) :
    InStep EE (fun a b => Sim Mode.normal a b ∧
        (a.oInE8 = true → a.oPtr + (if outBytes < frameSize then outBytes else frameSize) ≤ a.oEnd))
      (Sim Mode.normal) (fbWrite frameSize outBytes : LM σ (Array UInt8)) := by
  refine inStep_iff.mpr fun s1 s2 ⟨h, hn⟩ => ?_
  unfold fbWrite
  have ho := outSlice_sim h _ (fun he => Or.inr (hn he))
  obtain ⟨x, rfl⟩ := h.split
  simp only []
  rw [wp2_get_bind]
  simp only []
  rw [ho]
  split
  · exact ⟨rfl, trivial⟩
  · wsimp
    exact ⟨rfl, h.same rfl rfl⟩

theorem fbE8_sim (frameSize outBytes : Nat) :
    InStep EE (Sim Mode.normal) (Sim Mode.normal) (fbE8 frameSize outBytes : LM σ (Array UInt8)) := by
  refine inStep_iff.mpr fun s1 s2 h => ?_
  unfold fbE8
  obtain ⟨x, rfl⟩ := h.split
  rw [wp2_get_bind]
  simp only []
  refine wp2_ite (fun _ => inStep_iff.mp (fail_bind_sim .decrunch (by decide) _) h) fun _ => wp2_ite (fun hc => ?_) fun _ => ?_
  · rcases (copyAcross_agree s1.window s1.framePosn frameSize 0 _ _ (.zero h.e8sz.symm)).cases with
      ⟨f, e1, e2⟩ | ⟨a, b, e1, e2, hab⟩
    · rw [e1, e2]
      exact ⟨rfl, trivial⟩
    · rw [e1, e2]
      simp only []
      rcases (e8Loop_agree (n := 0 + frameSize) (frameSize - 10) s1.intelFilesize (by omega) frameSize 0
        (toS32 s1.offset) a b hab).cases with ⟨f, e3, e4⟩ | ⟨a', b', e3, e4, hab'⟩
      · rw [e3, e4]
        exact ⟨rfl, trivial⟩
      · rw [e3, e4]
        simp only []
        rw [wp2_set_bind]
        refine inStep_iff.mp (fbWrite_sim _ _) ⟨{ h with eq := rfl, e8sz := hab'.size.symm, e8 := fun _ => hab'.mono (Nat.le_add_left _ _) }, fun _ => ?_⟩
        simp only []
        split <;> omega
  · rw [wp2_set_bind]
    exact inStep_iff.mp (fbWrite_sim _ _) ⟨{ h with eq := rfl, e8 := fun he => nomatch he }, fun he => nomatch he⟩

theorem resetState_sim {s1 s2 : St σ} (h : Sim Mode.normal s1 s2) : Sim Mode.normal (resetState s1) (resetState s2) := by
  obtain ⟨x, rfl⟩ := h.split
  refine ⟨?_, h.pre, h.ali, ?_, ?_, h.nOff, h.e8sz, h.e8, fun _ h3 => ?_, fun h12 => ?_⟩
  · simp only [resetState]
  · unfold resetState
    dsimp only
    generalize List.range lzxMAINTREE_MAXSYMBOLS = l
    exact zero_agree l _ _ h.main
  · unfold resetState
    dsimp only
    generalize List.range lzxLENGTH_MAXSYMBOLS = l
    exact zero_agree l _ _ h.len
  · simp [resetState] at h3
  · simp [resetState] at h12

theorem frameBody_sim (fuel outBytes : Nat) :
    InStep EE (Sim Mode.normal) (Sim Mode.normal) (frameBody S fuel outBytes) :=
  (walk2 S .normal).frameBody (readBlockHeader_sim S) (fun _ _ _ h hbt => h.le hbt) fbE8_sim (fun _ _ => resetState_sim)
    fuel outBytes

end

section
variable (S : Src σ)

/-- between calls: the decoder is alive and the states are related, or a status return has made
    `error` sticky (then every later `decompress` returns at once) -/
def TS (a b : St σ) : Prop :=
  Sim Mode.normal a b ∨ ((∃ bt, Sim (Mode.weak bt) a b) ∧ a.error ≠ .ok)

def OutR : Except Fault (DecodeOut (St σ)) → Except Fault (DecodeOut (St σ)) → Prop :=
  RelX (fun o1 o2 => o1.err = o2.err ∧ o1.written = o2.written ∧ TS o1.st o2.st)

theorem OutR.of_out2 {r1 r2 : Except Fault (DecodeOut (St σ))}
    (h : Out2 True (Sim Mode.normal) (fun _ _ => True) EE r1 r2) : OutR r1 r2 := by
  cases r1 with
  | error f => rw [h.2 trivial]; exact (rfl : f = f)
  | ok o1 =>
    by_cases ho : o1.err = .ok
    · obtain ⟨o2, rfl, he, hw, hs⟩ := h.1 ho
      exact ⟨ho.trans he.symm, hw.symm, .inl hs⟩
    · obtain ⟨o2, rfl, he, hw, hs⟩ := (h.2 ho).2 trivial
      exact ⟨he.symm, hw.symm, .inr ⟨hs.1, hs.2.1 ▸ hs.2.2⟩⟩

theorem decompress_sim (fuel : Nat) {a b : St σ} (h : TS a b) (n : Nat) :
    OutR (decompress S fuel a n) (decompress S fuel b n) := by
  by_cases he : a.error = .ok
  · rcases h with h | ⟨_, hne⟩
    · refine .of_out2 ((walk2 S .normal).decompress (frameBody_sim S) (fun fuel ob s1 s2 hr t hm => ?_)
        (fun _ _ _ h => outSlice_sim h _ fun _ => by omega) fuel n h he)
      obtain ⟨_, _, hx⟩ := ((frameBody_sim S fuel ob).err s1 s2 hr _ _ hm).2 trivial
      exact hx.2.2 rfl
    · exact absurd he hne
  · have hs : ∃ x, b = a.put x := by rcases h with h | ⟨⟨_, h⟩, _⟩ <;> exact h.split
    obtain ⟨x, rfl⟩ := hs
    unfold decompress
    rw [if_pos he, if_pos he]
    exact ⟨rfl, rfl, h⟩

theorem setOutputLength_sim {a b : St σ} (h : TS a b) (n : Nat) : TS (setOutputLength a n) (setOutputLength b n) := by
  unfold setOutputLength
  split
  · rcases h with h | ⟨⟨bt, h⟩, hne⟩
    · obtain ⟨x, rfl⟩ := h.split
      exact Or.inl (h.same rfl rfl)
    · obtain ⟨x, rfl⟩ := h.split
      exact Or.inr ⟨⟨bt, h.same rfl rfl⟩, hne⟩
  · exact h

def RefR (a : St σ) (x : Loose) (p q : Err × St σ) : Prop :=
  ∃ r w, p.2 = { a with refDataSize := r, window := w } ∧ q = (p.1, { a.put x with refDataSize := r, window := w })

theorem setReferenceData_put (a : St σ) (x : Loose) (len : Nat) (ref : Option Bytes) :
    RefR a x (setReferenceData a len ref) (setReferenceData (a.put x) len ref) := by
  unfold setReferenceData
  refine rel_ite _ (fun _ => ⟨_, _, rfl, rfl⟩) fun _ => rel_ite _ (fun _ => ⟨_, _, rfl, rfl⟩) fun _ =>
    rel_ite _ (fun _ => ⟨_, _, rfl, rfl⟩) fun _ => rel_ite _ (fun _ => ⟨_, _, rfl, rfl⟩) fun _ => ?_
  cases ref with
  | none => exact ⟨_, _, rfl, rfl⟩
  | some bytes =>
    dsimp only
    generalize writeBytes _ _ _ = r
    cases r with
    | error _ => exact ⟨_, _, rfl, rfl⟩
    | ok w => exact rel_ite _ (fun _ => ⟨_, _, rfl, rfl⟩) fun _ => ⟨_, _, rfl, rfl⟩

theorem setReferenceData_sim {μ} {a b : St σ} (h : Sim μ a b) (len : Nat) (ref : Option Bytes) :
    (setReferenceData a len ref).1 = (setReferenceData b len ref).1 ∧
    Sim μ (setReferenceData a len ref).2 (setReferenceData b len ref).2 ∧
    (setReferenceData a len ref).2.error = a.error := by
  obtain ⟨x, rfl⟩ := h.split
  obtain ⟨r, w, e1, e2⟩ := setReferenceData_put a x len ref
  rw [e2, e1]
  exact ⟨rfl, h.same rfl rfl, rfl⟩

theorem setReferenceData_ts {a b : St σ} (h : TS a b) (len : Nat) (ref : Option Bytes) :
    (setReferenceData a len ref).1 = (setReferenceData b len ref).1 ∧
    TS (setReferenceData a len ref).2 (setReferenceData b len ref).2 := by
  rcases h with h | ⟨⟨bt, h⟩, hne⟩
  · have := setReferenceData_sim h len ref
    exact ⟨this.1, Or.inl this.2.1⟩
  · have := setReferenceData_sim h len ref
    exact ⟨this.1, Or.inr ⟨⟨bt, this.2.1⟩, by rw [this.2.2]; exact hne⟩⟩

theorem lens_agree (c d : Nat) (f1 f2 : UInt8) :
    Agree c (Array.replicate c (0 : UInt8) ++ Array.replicate (d - c) f1)
            (Array.replicate c (0 : UInt8) ++ Array.replicate (d - c) f2) := by
  refine ⟨by simp, fun i hi => ?_⟩
  rw [Array.getElem?_append_left (by simpa using hi), Array.getElem?_append_left (by simpa using hi)]

def InitR : Option (St σ) → Option (St σ) → Prop
  | some a, some b => TS a b
  | none, none => True
  | _, _ => False

theorem init_sim (src : σ) (wb ri ibs ol : Nat) (isDelta : Bool) (f1 f2 : UInt8) :
    InitR (init src wb ri ibs ol isDelta f1) (init src wb ri ibs ol isDelta f2) := by
  unfold init
  refine rel_ite _ (fun _ => trivial) fun _ => rel_ite _ (fun _ => trivial) fun _ => ?_
  cases hs : lzxPositionSlots[wb - 15]? with
  | none => trivial
  | some slots =>
    refine Or.inl ⟨rfl, lens_agree 0 _ _ _, lens_agree 0 _ _ _, lens_agree _ _ _ _, lens_agree _ _ _ _, ?_, by simp,
      fun _ => .zero (by simp), fun _ h3 => (nomatch h3), fun h12 => ?_⟩
    · show lzxNUM_CHARS + slots * 8 ≤ lzxMAINTREE_MAXSYMBOLS
      have := Lzx.slots_le _ _ hs
      simp only [lzxNUM_CHARS, lzxMAINTREE_MAXSYMBOLS]
      omega
    · simp at h12

/-- a call of the streaming API between `lzxd_init` and `lzxd_free` -/
inductive Call
  | decompress (outBytes : Nat)
  | setOutputLength (n : Nat)
  /-- `lzxd_set_reference_data(lzx, sys, input, length)`; `ref` = what the base file delivers -/
  | setReferenceData (length : Nat) (ref : Option Bytes)

/-- what the caller observes: per `decompress` call the fault, or the status and the bytes written
    (a fault ends the trace: the C program has no defined behaviour after it); per
    `setReferenceData` call its status -/
def trace (fuel : Nat) : St σ → List Call → List (Except Fault (Err × Bytes))
  | _, [] => []
  | st, .setOutputLength n :: cs => trace fuel (setOutputLength st n) cs
  | st, .setReferenceData len ref :: cs =>
    .ok ((setReferenceData st len ref).1, []) :: trace fuel (setReferenceData st len ref).2 cs
  | st, .decompress n :: cs =>
    match decompress S fuel st n with
    | .error f => [.error f]
    | .ok o => .ok (o.err, o.written) :: trace fuel o.st cs

theorem trace_sim (fuel : Nat) : ∀ (cs : List Call) (a b : St σ), TS a b → trace S fuel a cs = trace S fuel b cs
  | [], _, _, _ => rfl
  | .setOutputLength n :: cs, a, b, h => by
    rw [trace, trace]
    exact trace_sim fuel cs _ _ (setOutputLength_sim h n)
  | .setReferenceData len ref :: cs, a, b, h => by
    rw [trace, trace]
    have hr := setReferenceData_ts h len ref
    rw [hr.1, trace_sim fuel cs _ _ hr.2]
  | .decompress n :: cs, a, b, h => by
    rw [trace, trace]
    have hd := decompress_sim S fuel h n
    rcases hd.cases with ⟨f, e1, e2⟩ | ⟨o1, o2, e1, e2, he, hw, hs⟩
    · rw [e1, e2]
    · rw [e1, e2]
      simp only [he, hw]
      rw [trace_sim fuel cs _ _ hs]

theorem lzx_fill_independent (fuel : Nat) (src : σ) (wb ri ibs ol : Nat) (isDelta : Bool) (f1 f2 : UInt8)
    (cs : List Call) :
    (init src wb ri ibs ol isDelta f1).map (fun st => trace S fuel st cs) =
    (init src wb ri ibs ol isDelta f2).map (fun st => trace S fuel st cs) := by
  have hi := init_sim src wb ri ibs ol isDelta f1 f2
  generalize init src wb ri ibs ol isDelta f1 = i1 at hi
  generalize init src wb ri ibs ol isDelta f2 = i2 at hi
  cases i1 <;> cases i2
  · rfl
  · exact hi.elim
  · exact hi.elim
  · exact congrArg some (trace_sim S fuel cs _ _ hi)

end

end MsPack.Lzx.Fill
