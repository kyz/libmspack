import MsPack.Cab.Extract
/-!
# One round of `cabd_sys_read`, and the induction over its rounds

The loop of `feederRead` does one of four things per round: it is done, it serves bytes from the buffer, it finds the
folder used up, or it reads the next block (which faults, is refused, or is taken in).  The feeders that result are
named (`serve`, `pastEnd`, `refuse`, `takeBlock`: plain structure updates, every field by `rfl`), `feederRead_succ`
is the round as an equation, and `feederRead_induct` is the induction over the rounds with the *result* in the motive.
Its first use is `feederRead_frame`: the fields no read changes.
-/
namespace MsPack.Cab

/-- `cabd_sys_read` copies what it can of `todo` bytes out of the buffer -/
def Feeder.serve (fd : Feeder) (todo : Nat) : Feeder := { fd with buf := fd.buf.drop todo }

/-- … is asked for more after the folder's last block -/
def Feeder.pastEnd (fd : Feeder) : Feeder :=
  { fd with block := fd.block + 1, readError := if fd.salvage then fd.readError else .dataformat }

/-- the call of `cabd_sys_read_block` for the next block -/
def Feeder.nextBlock (files : Files) (fd : Feeder) : BlockResult :=
  readBlock files (fd.salvage || (fd.fixMszip && compMask fd.compType == 1)) fd.salvage (fd.parts.length + 1)
    fd.rd fd.parts []

/-- … which refused it with `e` -/
def Feeder.refuse (fd : Feeder) (e : Err) (rd : Option Rd) (parts : List Part) : Feeder :=
  { fd with block := fd.block + 1, readError := e, rd := rd, parts := parts }

/-- … which delivered it: Quantum's trailer byte, and the length announced to LZX with the folder's last block -/
def Feeder.takeBlock (fd : Feeder) (payload : Bytes) (out : Nat) (rd : Option Rd) (parts : List Part) : Feeder :=
  { fd with block := fd.block + 1, readError := .ok, rd := rd, parts := parts, outlen := fd.outlen + out
            buf := if compMask fd.compType = 2 then payload ++ [0xFF] else payload
            lzxLen := if fd.block + 1 ≥ fd.numBlocks ∧ compMask fd.compType = 3 then some (fd.outlen + out)
                      else fd.lzxLen }

def Feeder.afterBlock (files : Files) (fuel : Nat) (fd : Feeder) (todo : Nat) (got : Bytes) :
    BlockResult → Except Fault (Option Bytes × Feeder)
  | .fault f => .error f
  | .err e rd parts => .ok (none, fd.refuse e rd parts)
  | .ok payload out rd parts => feederRead files fuel (fd.takeBlock payload out rd parts) todo got

theorem feederRead_succ (files : Files) (fuel : Nat) (fd : Feeder) (todo : Nat) (got : Bytes) :
    feederRead files (fuel + 1) fd todo got =
      if todo = 0 then .ok (some got, fd)
      else if fd.buf ≠ [] then
        feederRead files fuel (fd.serve todo) (todo - (fd.buf.take todo).length) (got ++ fd.buf.take todo)
      else if fd.numBlocks ≤ fd.block then .ok (some got, fd.pastEnd)
      else fd.afterBlock files fuel todo got (fd.nextBlock files) := by
  rw [feederRead.eq_2]
  refine ite_congr rfl (fun _ => rfl) fun _ => ite_congr rfl (fun _ => rfl) fun _ =>
    ite_congr rfl (fun _ => ?_) fun _ => ?_
  · unfold Feeder.pastEnd; cases fd.salvage <;> rfl
  · unfold Feeder.nextBlock
    dsimp only
    generalize readBlock .. = res
    cases res with
    | fault f => rfl
    | err e rd parts => rfl
    | ok payload out rd parts =>
      show feederRead files fuel _ todo got = feederRead files fuel _ todo got
      congr 1
      unfold Feeder.takeBlock
      split <;> rfl

/-- induction over the rounds of `cabd_sys_read`, the result in the motive: one hypothesis per way a round can go
    (`fd` is given its type wherever `fd.buf` is written: left to unification, the projections are postponed, which is
    slow to elaborate) -/
@[elab_as_elim]
theorem feederRead_induct (files : Files)
    {P : Nat → Feeder → Nat → Bytes → Except Fault (Option Bytes × Feeder) → Prop}
    (hang : ∀ {fd todo got}, P 0 fd todo got (.error .hang))
    (done : ∀ {fuel fd got}, P (fuel + 1) fd 0 got (.ok (some got, fd)))
    (serve : ∀ {fuel} {fd : Feeder} {todo got r}, todo ≠ 0 → fd.buf ≠ [] →
      P fuel (fd.serve todo) (todo - (fd.buf.take todo).length) (got ++ fd.buf.take todo) r → P (fuel + 1) fd todo got r)
    (pastEnd : ∀ {fuel} {fd : Feeder} {todo got}, todo ≠ 0 → fd.buf = [] → fd.numBlocks ≤ fd.block →
      P (fuel + 1) fd todo got (.ok (some got, fd.pastEnd)))
    (fault : ∀ {fuel} {fd : Feeder} {todo got f}, todo ≠ 0 → fd.buf = [] → fd.block < fd.numBlocks →
      fd.nextBlock files = .fault f → P (fuel + 1) fd todo got (.error f))
    (refuse : ∀ {fuel} {fd : Feeder} {todo got e rd parts}, todo ≠ 0 → fd.buf = [] → fd.block < fd.numBlocks →
      fd.nextBlock files = .err e rd parts → P (fuel + 1) fd todo got (.ok (none, fd.refuse e rd parts)))
    (take : ∀ {fuel} {fd : Feeder} {todo got payload out rd parts r}, todo ≠ 0 → fd.buf = [] → fd.block < fd.numBlocks →
      fd.nextBlock files = .ok payload out rd parts → P fuel (fd.takeBlock payload out rd parts) todo got r →
      P (fuel + 1) fd todo got r) :
    ∀ fuel fd todo got, P fuel fd todo got (feederRead files fuel fd todo got) := by
  intro fuel
  induction fuel with
  | zero => exact fun _ _ _ => hang
  | succ fuel ih =>
    intro fd todo got
    rw [feederRead_succ]
    by_cases h0 : todo = 0
    · subst h0; exact done
    · rw [if_neg h0]
      by_cases hb : fd.buf ≠ []
      · rw [if_pos hb]; exact serve h0 hb (ih ..)
      · rw [if_neg hb]
        have hb := Decidable.not_not.mp hb
        by_cases hge : fd.numBlocks ≤ fd.block
        · rw [if_pos hge]; exact pastEnd h0 hb hge
        · rw [if_neg hge]
          have hlt := Nat.lt_of_not_le hge
          cases hrb : fd.nextBlock files with
          | fault f => exact fault h0 hb hlt hrb
          | err e rd parts => exact refuse h0 hb hlt hrb
          | ok payload out rd parts => exact take h0 hb hlt hrb (ih ..)

theorem feederRead_frame (files : Files) (fuel : Nat) (fd : Feeder) (todo : Nat) (got : Bytes) :
    ∀ r fd', feederRead files fuel fd todo got = .ok (r, fd') →
      fd'.salvage = fd.salvage ∧ fd'.fixMszip = fd.fixMszip ∧ fd'.numBlocks = fd.numBlocks ∧
        fd'.compType = fd.compType :=
  feederRead_induct files (hang := fun _ _ h => nomatch h) (done := fun _ _ h => by cases h; exact ⟨rfl, rfl, rfl, rfl⟩)
    (serve := fun _ _ ih => ih) (pastEnd := fun _ _ _ _ _ h => by cases h; exact ⟨rfl, rfl, rfl, rfl⟩)
    (fault := fun _ _ _ _ _ _ h => nomatch h) (refuse := fun _ _ _ _ _ _ h => by cases h; exact ⟨rfl, rfl, rfl, rfl⟩)
    (take := fun _ _ _ _ ih => ih) fuel fd todo got

end MsPack.Cab
