import Proofs.Lemmas.ZipRun
import Proofs.Lemmas.Count
/-!
# From `Zip.Run` to the decoder calls of `Cab.extract`

* `runPhase_run` / `runPhase_of_run`: a decoder call of `cabd_extract` that returned is a `Zip.Run` fact about the
  decoder reading from the `DState`'s feeder, and conversely — given that the call, whose fuel is the `chainFuel` of
  that feeder, does not run out of it (`nohang_fresh`, `nohang_of_run`: the static fuel condition on the fresh pair
  gives that for the fresh pair and for every pair it reaches by an OK call).
* `Tracks`: the one description of the cached decoder — the fresh pair after ONE decoder call.  A decoder call from a
  tracked pair is the tail of one call of the fresh pair (`Run.tail`), so what it leaves is tracked.
-/
namespace MsPack.Cab

/-- `cabd_extract`'s `READ → read_error` substitution -/
def subErr (e : Err) (fd : Feeder) : Err := if e = .read then fd.readError else e

theorem zcc_decFuel_le_chainFuel (files : Files) (fd : Feeder) : decFuel files ≤ chainFuel files fd :=
  Nat.le_add_right _ _

section
variable {files : Files}

theorem runPhase_run {ds ds' : DState} {st : Zip.St Feeder} {k : Nat} {e : Err} {w : Bytes}
    (h : runPhase files ds (.mszip st) k = .ran e w ds') :
    ∃ e0 Z2, Zip.Run (feederSrc files) { st with src := ds.feeder } k ⟨e0, w, Z2⟩ ∧ e = subErr e0 Z2.src ∧
      ds' = { ds with offset := ds.offset + w.length, feeder := Z2.src, dec := some (.mszip Z2) } := by
  obtain ⟨o, hc, rfl, rfl, rfl⟩ := runPhase_ran h
  obtain ⟨zo, hz, rfl⟩ := decompress_ok_iff.1 hc
  exact ⟨zo.err, zo.st, ⟨_, hz⟩, rfl, rfl⟩

theorem runPhase_of_run {ds : DState} {st Z2 : Zip.St Feeder} {k : Nat} {e0 : Err} {w : Bytes}
    (hr : Zip.Run (feederSrc files) { st with src := ds.feeder } k ⟨e0, w, Z2⟩)
    (hnh : Zip.decompress (feederSrc files) (chainFuel files ds.feeder) { st with src := ds.feeder } k ≠ .error .hang) :
    runPhase files ds (.mszip st) k = .ran (subErr e0 Z2.src) w
      { ds with offset := ds.offset + w.length, feeder := Z2.src, dec := some (.mszip Z2) } :=
  runPhase_of_ok (ZipChunkCab.decompress_mszip_ok files st ds.feeder k _ (hr.at_fuel _ hnh))

variable {fd0 : Feeder} {st0 : Zip.St Feeder}

theorem nohang_fresh (hf0 : st0.bits.length + 8 * st0.inbuf.length + 8 * feederLeft files fd0
      + (if st0.inputEnd then 0 else 16) + 1 ≤ decFuel files) (k : Nat) :
    Zip.decompress (feederSrc files) (chainFuel files fd0) { st0 with src := fd0 } k ≠ .error .hang :=
  Zip.C04_zip_decompress_no_hang (feederSrc_ok files) _ _ k (Nat.le_trans hf0 (zcc_decFuel_le_chainFuel files fd0))

/-- an OK call did not raise the bits still obtainable (`Run.bits`), and `decFuel files ≤ chainFuel files fd` for every
    feeder -/
theorem nohang_of_run (hf0 : st0.bits.length + 8 * st0.inbuf.length + 8 * feederLeft files fd0
      + (if st0.inputEnd then 0 else 16) + 1 ≤ decFuel files)
    {off : Nat} {w : Bytes} {Z : Zip.St Feeder}
    (hp : Zip.Run (feederSrc files) { st0 with src := fd0 } off ⟨.ok, w, Z⟩) (k : Nat) :
    Zip.decompress (feederSrc files) (chainFuel files Z.src) Z k ≠ .error .hang :=
  Zip.C04_zip_decompress_no_hang (feederSrc_ok files) _ Z k
    (Nat.le_trans (Nat.add_le_add_right (hp.bits (feederSrc_ok files)) 1)
      (Nat.le_trans hf0 (zcc_decFuel_le_chainFuel files Z.src)))

end

section
variable (files : Files) (fd0 : Feeder) (st0 : Zip.St Feeder)

/-- **the cached `self->d` of an MSZIP folder between calls**: this folder's decoder/feeder pair, as the fresh pair
    (`st0` over `fd0`) becomes by ONE decoder call that returned status `e` after writing `ds.offset` bytes — an OK
    call, or, in strict mode, any call (`Zip.Joins`) -/
def Tracks (key : Nat) (ds : DState) (e : Err) : Prop :=
  ∃ (st : Zip.St Feeder) (R : Nat) (w : Bytes), ds.folder = key ∧ ds.dec = some (.mszip st) ∧
    Zip.Run (feederSrc files) { st0 with src := fd0 } R ⟨e, w, { st with src := ds.feeder }⟩ ∧
    w.length = ds.offset ∧ Zip.Joins { st0 with src := fd0 } e

variable {files fd0 st0}

theorem Tracks.dec {key : Nat} {ds : DState} {e : Err} (h : Tracks files fd0 st0 key ds e) :
    ∃ st, ds.dec = some (.mszip st) :=
  let ⟨st, _, _, _, h, _⟩ := h; ⟨st, h⟩

theorem Tracks.fresh (he : st0.error = .ok) (key : Nat) : Tracks files fd0 st0 key ⟨key, 0, fd0, some (.mszip st0)⟩ .ok :=
  ⟨st0, 0, [], rfl, rfl, Zip.Run.zero he, rfl, .inl rfl⟩

theorem runPhase_tail (hst : Zip.ZipInv st0) {key : Nat} {ds ds' : DState} {e0 e : Err}
    (ht : Tracks files fd0 st0 key ds e0) {st : Zip.St Feeder} (hdec : ds.dec = some (.mszip st)) {k : Nat} {w : Bytes}
    (h : runPhase files ds (.mszip st) k = .ran e w ds') :
    ∃ R e' w0 Z2, Zip.Run (feederSrc files) { st0 with src := fd0 } R ⟨e', w0 ++ w, Z2⟩ ∧ w0.length = ds.offset ∧
      e = subErr e' Z2.src ∧ ds' = ⟨key, ds.offset + w.length, Z2.src, some (.mszip Z2)⟩ ∧
      (e0 = .ok ∨ 0 < k → R = ds.offset + k) := by
  obtain ⟨st', R, w0, rfl, hdec', hcall, hlen, hj⟩ := ht
  cases hdec.symm.trans hdec'
  obtain ⟨e', Z2, hz, he, rfl⟩ := runPhase_run h
  obtain ⟨R', hr, hR⟩ := hcall.tail hst hj hz
  exact ⟨R', e', w0, Z2, hr, hlen, he, rfl, fun hk => by rw [hR hk, hlen]⟩

theorem runPhase_tracks (hst : Zip.ZipInv st0) (hs : st0.repair = false ∧ st0.error = .ok) {key : Nat}
    {ds ds' : DState} {e0 e : Err} (ht : Tracks files fd0 st0 key ds e0) {st : Zip.St Feeder}
    (hdec : ds.dec = some (.mszip st)) {k : Nat} {w : Bytes} (h : runPhase files ds (.mszip st) k = .ran e w ds') :
    ∃ e', Tracks files fd0 st0 key ds' e' := by
  obtain ⟨R, e', w0, Z2, hr, hlen, _, rfl, _⟩ := runPhase_tail hst ht hdec h
  exact ⟨e', Z2, R, w0 ++ w, rfl, rfl, hr, by rw [List.length_append, hlen], .inr hs⟩

end
end MsPack.Cab
