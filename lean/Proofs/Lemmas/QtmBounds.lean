import Proofs.Lemmas.QtmModelBounds
import Proofs.Lemmas.Wp
/-!
# Quantum: the invariant of `struct qtmd_stream` and the exception condition of the decoder's monad

`StInv st` is the invariant of `struct qtmd_stream` between calls: window allocated at its declared size,
1024 ≤ size ≤ 2^21, `o_end` and `window_posn` inside the window, bit buffer of at most 32 bits, and `Model.Ok` for each of
the nine models.  `Exc E A` is the exception condition with which the functions of the monad `QM` are specified in the
calculus of `Wp.lean`: a status code is thrown in a state satisfying `E`, a fault is in `A`.  `wp x Q E A r` is
`MsPack.wp x Q (Exc E A) r` under a name of its own (`wp_eq`); the Quantum files state their lemmas in `MsPack.wp` directly.
-/
namespace MsPack.Qtm
open MsPack.Generated


structure WinInv (wsz ws oEnd wp bl bb : Nat) : Prop where
  wsz  : wsz = ws
  lo   : 1024 ≤ ws
  hi   : ws ≤ 2097152
  oend : oEnd ≤ ws
  posn : wp ≤ ws
  bl   : bl ≤ 32
  bb   : bb < u32

/-- each model with the symbol bound its users rely on: 42 = dimension of `extra_bits`/`position_base`,
    27 = dimension of `length_base`/`length_extra` -/
structure ModInv (m0 m1 m2 m3 m4 m5 m6 m6len m7 : Model) : Prop where
  m0 : m0.Ok 65536
  m1 : m1.Ok 65536
  m2 : m2.Ok 65536
  m3 : m3.Ok 65536
  m4 : m4.Ok 42
  m5 : m5.Ok 42
  m6 : m6.Ok 42
  m6len : m6len.Ok 27
  m7 : m7.Ok 65536

def StInv {σ : Type} (st : St σ) : Prop :=
  WinInv st.window.size st.windowSize st.oEnd st.windowPosn st.bitsLeft st.bitBuffer ∧
  ModInv st.model0 st.model1 st.model2 st.model3 st.model4 st.model5 st.model6 st.model6len st.model7

def MId.B : MId → Nat
  | .m4 => 42 | .m5 => 42 | .m6 => 42 | .m6len => 27
  | .m0 => 65536 | .m1 => 65536 | .m2 => 65536 | .m3 => 65536 | .m7 => 65536

theorem StInv.model {σ : Type} {st : St σ} (h : StInv st) (id : MId) : (st.model id).Ok id.B := by
  cases id
  · exact h.2.m0
  · exact h.2.m1
  · exact h.2.m2
  · exact h.2.m3
  · exact h.2.m4
  · exact h.2.m5
  · exact h.2.m6
  · exact h.2.m6len
  · exact h.2.m7

theorem StInv.setModel {σ : Type} {st : St σ} (h : StInv st) (id : MId) (m : Model) (hm : m.Ok id.B) :
    StInv (st.setModel id m) := by
  obtain ⟨hw, h0, h1, h2, h3, h4, h5, h6, h6l, h7⟩ := h
  cases id
  · exact ⟨hw, hm, h1, h2, h3, h4, h5, h6, h6l, h7⟩
  · exact ⟨hw, h0, hm, h2, h3, h4, h5, h6, h6l, h7⟩
  · exact ⟨hw, h0, h1, hm, h3, h4, h5, h6, h6l, h7⟩
  · exact ⟨hw, h0, h1, h2, hm, h4, h5, h6, h6l, h7⟩
  · exact ⟨hw, h0, h1, h2, h3, hm, h5, h6, h6l, h7⟩
  · exact ⟨hw, h0, h1, h2, h3, h4, hm, h6, h6l, h7⟩
  · exact ⟨hw, h0, h1, h2, h3, h4, h5, hm, h6l, h7⟩
  · exact ⟨hw, h0, h1, h2, h3, h4, h5, h6, hm, h7⟩
  · exact ⟨hw, h0, h1, h2, h3, h4, h5, h6, h6l, hm⟩

theorem St.setModel_windowSize {σ : Type} (st : St σ) (id : MId) (m : Model) :
    (st.setModel id m).windowSize = st.windowSize := by cases id <;> rfl

theorem StInv.withWindow {σ : Type} {st : St σ} (h : StInv st) (w : Array UInt8)
    (hw : w.size = st.window.size) : StInv { st with window := w } :=
  ⟨⟨hw.trans h.1.wsz, h.1.lo, h.1.hi, h.1.oend, h.1.posn, h.1.bl, h.1.bb⟩, h.2⟩

theorem StInv.withOut {σ : Type} {st : St σ} (h : StInv st) (p e : Nat) (he : e ≤ st.windowSize) :
    StInv { st with oPtr := p, oEnd := e } :=
  ⟨⟨h.1.wsz, h.1.lo, h.1.hi, he, h.1.posn, h.1.bl, h.1.bb⟩, h.2⟩

theorem u32_pos : 0 < u32 := by rw [u32_eq]; omega


variable {σ : Type} (S : Src σ)

def wp {α : Type} (x : QM σ α) (Q : α → Run σ → Prop) (E : Run σ → Prop) (A : Fault → Prop)
    (r : Run σ) : Prop :=
  match x.run.run r with
  | (.ok a, r') => Q a r'
  | (.error (.sys _), r') => E r'
  | (.error (.fault f), _) => A f

section
variable {α : Type} {Q : α → Run σ → Prop} {E : Run σ → Prop} {A : Fault → Prop} {r : Run σ}

def Exc (E : Run σ → Prop) (A : Fault → Prop) : Halt → Run σ → Prop
  | .sys _, r => E r
  | .fault f, _ => A f

theorem wp_eq (x : QM σ α) : wp x Q E A r = MsPack.wp x Q (Exc E A) r := by
  unfold wp MsPack.wp
  cases x.run.run r with
  | mk res r' => cases res with
    | ok a => rfl
    | error e => cases e <;> rfl

theorem wp_imp {x : QM σ α} {Q Q' : α → Run σ → Prop} {E' : Run σ → Prop} {A' : Fault → Prop}
    (h : MsPack.wp x Q (Exc E A) r) (hq : ∀ a r', Q a r' → Q' a r') (he : ∀ r', E r' → E' r') (ha : ∀ f, A f → A' f) :
    MsPack.wp x Q' (Exc E' A') r :=
  h.mono hq fun e r' => match e with | .sys _ => he r' | .fault f => ha f

theorem wp_ite_mid (P : α → Run σ → Prop) (c : Prop) [Decidable c] (x y : QM σ α)
    (hx : c → wp x P E A r) (hy : ¬ c → wp y P E A r) (hQ : ∀ a r', P a r' → Q a r') :
    wp (if c then x else y) Q E A r := by
  simp only [wp_eq] at *
  split
  · exact (hx ‹_›).post hQ
  · exact (hy ‹_›).post hQ
end

theorem pow_split (n : Nat) (hn : n ≤ 32) : 2 ^ n * 2 ^ (32 - n) = u32 := by
  rw [← Nat.pow_add]
  have : n + (32 - n) = 32 := by omega
  rw [this]; rfl

theorem shl_or_lt (val v a b : Nat) (hv : val < 2 ^ a) (hb : v < 2 ^ b) : shl val b ||| v < 2 ^ (a + b) := by
  apply Nat.or_lt_two_pow
  · rw [shl, pow2_eq, Nat.pow_add]
    exact Nat.mul_lt_mul_of_lt_of_le hv (Nat.le_refl _) (Nat.two_pow_pos _)
  · exact Nat.lt_of_lt_of_le hb (Nat.pow_le_pow_right (by omega) (by omega))


theorem copyFwdLoop_size (n s d : Nat) (w : Array UInt8) : (copyFwdLoop n s d w).size = w.size := by
  induction n generalizing s d w with
  | zero => rfl
  | succ n ih => simp [copyFwdLoop, ih]

theorem copyMaskedLoop_size (mask n j d : Nat) (w : Array UInt8) :
    (copyMaskedLoop mask n j d w).size = w.size := by
  induction n generalizing j d w with
  | zero => rfl
  | succ n ih => simp [copyMaskedLoop, ih]

theorem tableAt_wp {Q : Nat → Run σ → Prop} {E : Run σ → Prop} {A : Fault → Prop} {r : Run σ} (what : String)
    (t : List Nat) (i : Nat) (hi : i < t.length) (hQ : ∀ v, v ∈ t → Q v r) :
    MsPack.wp (tableAt what t i : QM σ Nat) Q (Exc E A) r := by
  unfold tableAt
  rw [List.getElem?_eq_getElem hi]
  exact (wp_pure ..).2 (hQ _ (List.getElem_mem hi))

theorem extraBits_le : ∀ v ∈ qtmExtraBits, v ≤ 19 := by decide
theorem lengthExtra_le : ∀ v ∈ qtmLengthExtra, v ≤ 5 := by decide
theorem lengthBase_le : ∀ v ∈ qtmLengthBase, v ≤ 254 := by decide

def DecE (P : Except Fault (DecodeOut (St σ)) → Prop) : Halt → Run σ → Prop
  | .sys e, r => P (.ok ⟨e, r.written.toList, r.st⟩)
  | .fault f, _ => P (.error f)

/-- `qtmd_decompress` around its decoding loop: a recorded error is returned at once; stored-up bytes (`i` of them)
    are handed out first; if that serves the request the call returns; otherwise `body` runs on the restored local
    state and its outcome is what the call returns -/
theorem decompress_cases {P : Except Fault (DecodeOut (St σ)) → Prop} (fuel : Nat) (st : St σ) (n : Nat)
    (herr : st.error ≠ .ok → P (.ok ⟨st.error, [], st⟩))
    (hrun : st.error = .ok → ∀ i, i ≤ st.oEnd - st.oPtr → i ≤ n →
      (i > 0 ∧ st.oPtr + i > st.window.size → P (.error (.oob "qtmd window (write)"))) ∧
      (¬(i > 0 ∧ st.oPtr + i > st.window.size) → n - i = 0 →
        P (.ok ⟨.ok, (st.window.extract st.oPtr (st.oPtr + i)).toList, { st with oPtr := st.oPtr + i }⟩)) ∧
      (¬(i > 0 ∧ st.oPtr + i > st.window.size) → n - i ≠ 0 → MsPack.wp (body S fuel)
        (fun _ r => P (.ok ⟨.ok, r.written.toList,
          { r.st with inbuf := r.inbuf, bitBuffer := r.bitBuffer, bitsLeft := r.bitsLeft % 256,
                      windowPosn := r.windowPosn, frameTodo := r.frameTodo, H := r.H, L := r.L, C := r.C }⟩))
        (DecE P)
        { inbuf := st.inbuf, bitBuffer := st.bitBuffer, bitsLeft := st.bitsLeft, windowPosn := st.windowPosn,
          frameTodo := st.frameTodo, H := st.H, L := st.L, C := st.C, outBytes := n - i,
          written := st.window.extract st.oPtr (st.oPtr + i), st := { st with oPtr := st.oPtr + i } })) :
    P (decompress S fuel st n) := by
  unfold decompress
  by_cases he : st.error = .ok
  · rw [if_neg (not_not_intro he)]
    dsimp only
    generalize hi : (if st.oEnd - st.oPtr > n then n else st.oEnd - st.oPtr) = i
    obtain ⟨h1, h2, h3⟩ := hrun he i (by rw [← hi]; split <;> omega) (by rw [← hi]; split <;> omega)
    split
    · rename_i hc
      exact h1 hc
    · rename_i hg
      split
      · rename_i hc
        exact h2 hg hc
      · rename_i hc
        have hb := h3 hg hc
        split
        · rename_i heq; exact hb.error heq
        · rename_i heq; exact hb.error heq
        · rename_i heq; exact hb.ok heq
  · rw [if_pos he]
    exact herr he

theorem decompress_dead (fuel : Nat) (st : St σ) (n : Nat) (he : st.error ≠ .ok) :
    decompress S fuel st n = .ok ⟨st.error, [], st⟩ :=
  decompress_cases S fuel st n (P := (· = _)) (fun _ => rfl) fun h => absurd h he

theorem init_StInv (src : σ) (wb ibs : Nat) (fill : UInt8) (st : St σ)
    (h : init src wb ibs fill = some st) : StInv st := by
  unfold init at h
  by_cases hwb : wb < 10 ∨ wb > 21
  · simp [hwb] at h
  · by_cases hsz : (ibs + 1) / 2 * 2 < 2
    · simp [hwb, hsz] at h
    · simp only [hwb, hsz, if_false] at h
      cases h
      have hwb1 : 10 ≤ wb := by omega
      have hwb2 : wb ≤ 21 := by omega
      have hlo : 1024 ≤ 2 ^ wb := by
        have : 2 ^ 10 ≤ 2 ^ wb := Nat.pow_le_pow_right (by omega) hwb1
        omega
      have hhi : 2 ^ wb ≤ 2097152 := by
        have : 2 ^ wb ≤ 2 ^ 21 := Nat.pow_le_pow_right (by omega) hwb2
        omega
      refine ⟨⟨by simp, hlo, hhi, Nat.zero_le _, Nat.zero_le _, Nat.zero_le _, u32_pos⟩, ?_⟩
      have h4 : (if wb * 2 > 24 then 24 else wb * 2) ≤ 24 ∧ 1 ≤ (if wb * 2 > 24 then 24 else wb * 2) := by
        split <;> omega
      have h5 : (if wb * 2 > 36 then 36 else wb * 2) ≤ 36 ∧ 1 ≤ (if wb * 2 > 36 then 36 else wb * 2) := by
        split <;> omega
      exact ⟨initModel_Ok _ _ _ _ _ (by omega) (by omega) (by decide) (by omega),
        initModel_Ok _ _ _ _ _ (by omega) (by omega) (by decide) (by omega),
        initModel_Ok _ _ _ _ _ (by omega) (by omega) (by decide) (by omega),
        initModel_Ok _ _ _ _ _ (by omega) (by omega) (by decide) (by omega),
        initModel_Ok _ _ _ _ _ h4.2 (by omega) (Nat.lt_succ_of_le h4.1) (by omega),
        initModel_Ok _ _ _ _ _ h5.2 (by omega) (Nat.lt_succ_of_le h5.1) (by omega),
        initModel_Ok _ _ _ _ _ (by omega) (by omega) (Nat.lt_succ_of_le (by omega)) (by omega),
        initModel_Ok _ _ _ _ _ (by omega) (by omega) (by decide) (by omega),
        initModel_Ok _ _ _ _ _ (by omega) (by omega) (by decide) (by omega)⟩

end MsPack.Qtm
