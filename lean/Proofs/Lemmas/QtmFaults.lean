import MsPack.Qtm.Decoder
/-!
# Quantum: which faults the pure model functions can raise

`Only P x`: every fault of `x : Except Fault α` satisfies `P`.  The functions under `decodeSym` (`Model.sym` ..
`updateModel`) raise out-of-bounds faults of the model arrays and `divZero`, nothing else: `decodeSym_only`, for any
`P` that holds of those.
-/
namespace MsPack.Qtm

def Only {α : Type} (P : Fault → Prop) (x : Except Fault α) : Prop := ∀ f, x = .error f → P f

section
variable {α β : Type} {P : Fault → Prop}

theorem Only.ok (a : α) : Only P (.ok a : Except Fault α) := fun _ h => nomatch h
theorem Only.pure (a : α) : Only P (pure a : Except Fault α) := fun _ h => nomatch h
theorem Only.raise {f : Fault} (h : P f) : Only P (throw f : Except Fault α) := fun _ h' => by cases h'; exact h
theorem Only.bind {x : Except Fault α} {g : α → Except Fault β} (hx : Only P x) (hg : ∀ a, Only P (g a)) :
    Only P (x >>= g) := by
  cases x with
  | error e => intro f h; cases h; exact hx _ rfl
  | ok a => exact hg a
theorem Only.ite {c : Prop} [Decidable c] {x y : Except Fault α} (hx : Only P x) (hy : Only P y) :
    Only P (if c then x else y) := by split <;> assumption
/-- the shape of a `do`-block's early `throw` -/
theorem Only.guard {c : Prop} [Decidable c] {e : Fault} {k : Unit → Except Fault α} (he : P e) (hk : Only P (k ())) :
    Only P (if c then throw e >>= k else k ()) := by
  split
  · exact Only.raise he
  · exact hk
end

section
variable {P : Fault → Prop} (hoob : ∀ w, P (.oob w)) (hdz : P .divZero)
include hoob

theorem sym_only (m : Model) (i : Nat) : Only P (m.sym i) := by
  unfold Model.sym; split
  · exact .ok _
  · exact .raise (hoob _)
theorem setCumfreq_only (m : Model) (i v : Nat) : Only P (m.setCumfreq i v) := by
  unfold Model.setCumfreq; split
  · exact .ok _
  · exact .raise (hoob _)
theorem setSym_only (m : Model) (i : Nat) (s : ModelSym) : Only P (m.setSym i s) := by
  unfold Model.setSym; split
  · exact .ok _
  · exact .raise (hoob _)

theorem halveLoop_only : ∀ (k : Nat) (m : Model), Only P (halveLoop k m)
  | 0, m => .ok m
  | k + 1, m => by
    rw [halveLoop]
    exact (sym_only hoob _ _).bind fun _ => (sym_only hoob _ _).bind fun _ => (setCumfreq_only hoob _ _ _).bind fun _ =>
      halveLoop_only k _

theorem toFreqLoop_only : ∀ (k i : Nat) (m : Model), Only P (toFreqLoop k i m)
  | 0, _, m => .ok m
  | k + 1, i, m => by
    rw [toFreqLoop]
    exact (sym_only hoob _ _).bind fun _ => (sym_only hoob _ _).bind fun _ => (setCumfreq_only hoob _ _ _).bind fun _ =>
      toFreqLoop_only k _ _

theorem sortInner_only : ∀ (k i j : Nat) (m : Model), Only P (sortInner k i j m)
  | 0, _, _, m => .ok m
  | k + 1, i, j, m => by
    rw [sortInner]
    exact (sym_only hoob _ _).bind fun _ => (sym_only hoob _ _).bind fun _ =>
      .ite ((setSym_only hoob _ _ _).bind fun _ => (setSym_only hoob _ _ _).bind fun _ => sortInner_only k _ _ _)
        ((Only.pure _).bind fun _ => sortInner_only k _ _ _)

theorem sortOuter_only : ∀ (k i : Nat) (m : Model), Only P (sortOuter k i m)
  | 0, _, m => .ok m
  | k + 1, i, m => by
    rw [sortOuter]
    exact (sortInner_only hoob _ _ _ _).bind fun _ => sortOuter_only k _ _

theorem resumLoop_only : ∀ (k : Nat) (m : Model), Only P (resumLoop k m)
  | 0, m => .ok m
  | k + 1, m => by
    rw [resumLoop]
    exact (sym_only hoob _ _).bind fun _ => (sym_only hoob _ _).bind fun _ => (setCumfreq_only hoob _ _ _).bind fun _ =>
      resumLoop_only k _

theorem updateModel_only (m : Model) : Only P (updateModel m) := by
  unfold updateModel
  exact .ite (halveLoop_only hoob _ _)
    ((toFreqLoop_only hoob _ _ _).bind fun _ => (sortOuter_only hoob _ _ _).bind fun _ => resumLoop_only hoob _ _)

theorem scanSym_only (m : Model) (symf : Nat) : ∀ (k i : Nat), Only P (scanSym m symf k i)
  | 0, i => .ok i
  | k + 1, i => by
    rw [scanSym]
    exact (sym_only hoob _ _).bind fun _ => .ite (.ok _) (scanSym_only m symf k _)

theorem bumpLoop_only : ∀ (k : Nat) (m : Model), Only P (bumpLoop k m)
  | 0, m => .ok m
  | k + 1, m => by
    rw [bumpLoop]
    exact (sym_only hoob _ _).bind fun _ => (setCumfreq_only hoob _ _ _).bind fun _ => bumpLoop_only k _

include hdz in
theorem decodeSym_only (m : Model) (H L C : Nat) : Only P (decodeSym m H L C) := by
  unfold decodeSym
  refine (sym_only hoob m 0).bind fun s0 => .guard hdz ?_
  refine (scanSym_only hoob m _ _ _).bind fun i => .guard (hoob _) ?_
  refine (sym_only hoob _ _).bind fun sPrev => (sym_only hoob _ _).bind fun sCur => .guard hdz ?_
  refine (bumpLoop_only hoob _ _).bind fun m1 => (sym_only hoob _ _).bind fun s => ?_
  exact .ite ((updateModel_only hoob _).bind fun _ => .pure _) ((Only.pure _).bind fun _ => .pure _)
end

end MsPack.Qtm
