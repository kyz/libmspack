import Proofs.Lemmas.LoopTerm
import Proofs.Lemmas.LoopTermLzh
import Proofs.Lemmas.LoopTermZip
import MsPack.Driver.Kwaj
/-!
`kwajd_extract` / `kwajd_decompress` (pure model): all five methods together, with the fuel the
driver passes (`16 × file length + 100000`).
-/
namespace MsPack.Kwaj
open MsPack.Generated

/-- `kwajd_extract` reports `hang` only if the decoder of the file's method does.  Stated for a variable fuel:
    with the literal `16 * n + 100000` in its place the kernel, reducing the `match` on the MSZIP state, would
    start to evaluate the decoder on that number. -/
theorem extract_no_hang_of (fill : UInt8) (fuel : Nat) (h : Handle)
    (hleft : (h.rd.seekStart h.hdr.dataOffset).left + 1 ≤ fuel)
    (hlzh : Lzh.decompress Rd.src fuel (Lzh.init (h.rd.seekStart h.hdr.dataOffset) fill) ≠ .error .hang)
    (hzip : ∀ z, Zip.init (h.rd.seekStart h.hdr.dataOffset) kwajINPUT_SIZE false fill = some z →
      Zip.decompressKwaj Rd.src fuel z ≠ .error .hang) :
    extract fill fuel h ≠ .error .hang := by
  unfold extract
  simp only
  split
  · have := copyLoop_no_hang (decide (h.hdr.compType = compXOR)) fuel _ #[] hleft
    split
    · rename_i f heq
      rw [heq] at this
      simpa using this
    · simp
  split
  · have := Lzss.decompress_no_hang Rd.src Rd.left Rd.src_finite fuel _ kwajINPUT_SIZE lzssMODE_QBASIC hleft
    split
    · rename_i f heq
      rw [heq] at this
      simpa using this
    · simp
  split
  · split
    · rename_i f heq
      rw [heq] at hlzh
      simpa using hlzh
    · simp
  split
  · split
    · simp
    · rename_i z hz
      have := hzip z hz
      split
      · rename_i f heq
        rw [heq] at this
        simpa using this
      · simp
  · simp

theorem extract_no_hang (fill : UInt8) (h : Handle) :
    extract fill (Driver.Kwaj.fuelFor h.rd.file.length) h ≠ .error .hang :=
  extract_no_hang_of fill _ h (by unfold Driver.Kwaj.fuelFor Rd.left Rd.seekStart; simp only; omega)
    (Lzh.C04_lzh_extract_fuel_no_hang h.rd h.hdr.dataOffset fill)
    (Zip.C04_zip_decompressKwaj_driver_no_hang (h.rd.seekStart h.hdr.dataOffset) fill)

theorem decompress_no_hang (fill : UInt8) (err : Err) (file : Option Bytes) :
    decompress fill (Driver.Kwaj.fuelFor (file.getD []).length) err file ≠ .error .hang := by
  unfold decompress
  split
  · next f h => exact absurd h (open_no_fault fill err file f)
  · exact nofun
  · next h _ ho =>
    have := extract_no_hang fill h
    rw [open_file ho] at this
    split
    · next f heq => rw [heq] at this; simpa using this
    · exact nofun

end MsPack.Kwaj
