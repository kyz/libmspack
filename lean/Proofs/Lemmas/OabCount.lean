import Proofs.Lemmas.OabWalk
/-
C07 for OAB: the bytes written never exceed the header's target size, and OK means exactly that
many — for every input file.  Stored blocks and the loops are proved; an LZX block enters through
its counting law (`LzxCount`: `lzxd_decompress(lzx, n)` hands at most `n` bytes to `write`, exactly
`n` when it returns OK), the same hypothesis the CAB theorems make about the stream decoders.
Read off the walks of `OabWalk.lean`.
-/
namespace MsPack.Oab
open MsPack.Generated

theorem copyFh_count (rd : Rd) (n bufSize : Nat) (c : CopyOut) (h : copyFh true rd n bufSize = .ok c) :
    c.written.length ≤ n ∧ (c.err = .ok → c.written.length = n) := by
  have := copyFh_good true rd n bufSize
  rw [h] at this
  simpa using this.2

/-- counting law of the LZX decoder as oabd.c uses it (hypothesis) -/
def LzxCount (fuel bufSize : Nat) : Prop :=
  ∀ (lzx : Lzx.St InFile) (n crc : Nat) (b : BlockOut), lzxBlockTail fuel bufSize lzx n crc = .ok b →
    b.written.length ≤ n ∧ (b.err = .ok → b.written.length = n)

def CountS (_ : Rd) (d : Nat) (x : Except Fault BlockOut) : Prop :=
  ∀ b, x = .ok b → b.written.length ≤ d ∧ (b.err = .ok → b.written.length = d)

theorem producers_count (fuel bufSize : Nat) (hL : LzxCount fuel bufSize) : Producers fuel bufSize CountS where
  copy := fun infh d b h => by
    unfold CopyOut.toBlock at h
    split at h
    · cases h
    · rename_i c hc; cases h; exact copyFh_count _ _ _ _ hc
  tail := fun lzx d crc _ _ b h => hL _ _ _ _ h

def RoundOk (w : Bytes) (t : Nat) : Round → Prop
  | .done (e, w') => w'.length ≤ w.length + t ∧ e ≠ .ok
  | .next _ _ t' w' => ∃ d, d ≤ t ∧ t' = t - d ∧ w'.length = w.length + d

theorem RoundOf.count {rd : Rd} {t : Nat} {w : Bytes} {x : Except Fault Round} (h : RoundOf CountS rd t w x)
    (r : Round) (hr : x = .ok r) : RoundOk w t r := by
  cases h with
  | done e he => cases hr; exact ⟨Nat.le_add_right _ _, he⟩
  | fin buf infh hre d bp hd x hx =>
    cases x with
    | error f => cases hr
    | ok b =>
      obtain ⟨h1, h2⟩ := hx b rfl
      simp only [Round.finish] at hr
      split at hr
      · rename_i he
        cases hr
        exact ⟨by rw [List.length_append]; omega, he⟩
      · rename_i he
        cases hr
        exact ⟨d, hd, rfl, by rw [List.length_append, h2 (Decidable.of_not_not he)]⟩

theorem WhileTarget.count {fuel bufSize L B} (hL : WhileTarget fuel bufSize L B) (hC : LzxCount fuel bufSize) :
    ∀ (n : Nat) (rd : Rd) (bp t : Nat) (w : Bytes) (e : Err) (w' : Bytes), L n rd bp t w = .ok (e, w') →
      w'.length ≤ w.length + t ∧ (e = .ok → w'.length = w.length + t) := by
  have hexit : ∀ (t : Nat) (w : Bytes) (e : Err) (w' : Bytes), t = 0 → (.ok (.ok, w) : Except Fault (Err × Bytes)) = .ok (e, w') →
      w'.length ≤ w.length + t ∧ (e = .ok → w'.length = w.length + t) :=
    fun _ _ _ _ h0 h => by cases h; subst h0; exact ⟨Nat.le_refl _, fun _ => rfl⟩
  intro n
  induction n with
  | zero =>
    intro rd bp t w e w' h
    rw [hL.zero] at h
    split at h
    · exact hexit _ _ _ _ ‹_› h
    · cases h
  | succ n ih =>
    intro rd bp t w e w' h
    rw [hL.succ] at h
    split at h
    · exact hexit _ _ _ _ ‹_› h
    · have hB := (hL.round (producers_count fuel bufSize hC) rd bp t w).count
      split at h
      · cases h
      · rename_i r hr
        cases h
        exact ⟨(hB _ hr).1, fun he => absurd he (hB _ hr).2⟩
      · rename_i rd' bp' t' w1 hr
        obtain ⟨d, hd, rfl, hw1⟩ := hB _ hr
        obtain ⟨a, b⟩ := ih _ _ _ _ _ _ h
        exact ⟨by omega, fun he => by have := b he; omega⟩

theorem wrapLoop_ok (res : Except Fault (Err × Bytes)) (e : Err) (w : Bytes)
    (h : wrapLoop res = .ok ⟨e, some w⟩) : res = .ok (e, w) := by
  cases res with
  | error f => cases h
  | ok p =>
    obtain ⟨e', w'⟩ := p
    simp only [wrapLoop, Except.ok.injEq, Out.mk.injEq, Option.some.injEq] at h
    obtain ⟨rfl, rfl⟩ := h
    rfl

theorem count_of_loop {res : Except Fault (Err × Bytes)} {ts : Nat}
    (h : ∀ e w', res = .ok (e, w') → w'.length ≤ ([] : Bytes).length + ts ∧ (e = .ok → w'.length = ([] : Bytes).length + ts))
    (e : Err) (w : Bytes) (hw : wrapLoop res = .ok ⟨e, some w⟩) : w.length ≤ ts ∧ (e = .ok → w.length = ts) := by
  have := h e w (wrapLoop_ok _ e w hw)
  simpa using this

theorem decompress_count (fuel bufSize : Nat) (hL : LzxCount fuel bufSize) (fill : UInt8) (file : Bytes) (outIsIn : Bool)
    (e : Err) (w : Bytes) (h : decompress fuel bufSize fill (some file) outIsIn = .ok ⟨e, some w⟩) :
    ∃ hdr infh, (⟨file, 0⟩ : Rd).readExact oabheadSIZEOF = some (hdr, infh) ∧
      w.length ≤ u32At hdr oabhead_TargetSize ∧ (e = .ok → w.length = u32At hdr oabhead_TargetSize) :=
  decompress_walk (P := fun r => r = _ → _) fuel bufSize fill (some file) outIsIn (fun _ h => by cases h)
    (fun file' hdr infh hf hre bm ts hts hw => by
      cases hf
      exact ⟨hdr, infh, hre, hts ▸ count_of_loop ((whileTarget_full fuel bufSize fill _).count hL _ _ 0 _ _) e w hw⟩) h

theorem decompressIncremental_count (fuel bufSize : Nat) (hL : LzxCount fuel bufSize) (fill : UInt8) (file : Bytes)
    (base : Option Bytes) (outIsIn outIsBase : Bool) (e : Err) (w : Bytes)
    (h : decompressIncremental fuel bufSize fill (some file) base outIsIn outIsBase = .ok ⟨e, some w⟩) :
    ∃ hdr infh, (⟨file, 0⟩ : Rd).readExact patchheadSIZEOF = some (hdr, infh) ∧
      w.length ≤ u32At hdr patchhead_TargetSize ∧ (e = .ok → w.length = u32At hdr patchhead_TargetSize) :=
  decompressIncremental_walk (P := fun r => r = _ → _) fuel bufSize fill (some file) base outIsIn outIsBase
    (fun _ h => by cases h)
    (fun file' hdr infh b hf hre bm ts hts hw => by
      cases hf
      exact ⟨hdr, infh, hre, hts ▸ count_of_loop ((whileTarget_patch fuel bufSize 4096 fill _ _ _).count hL _ _ _ _ _) e w hw⟩) h

end MsPack.Oab
