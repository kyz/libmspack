import Lean.Elab.Tactic
import Proofs.Lemmas.WalkKit
/-!
# Two runs of an action from related states

`Sim2 lock P Q E X m₁ m₂`: from `P`-related states, whenever `m₁` returns normally, `m₂` returns the same value and
the states are `Q`-related; whenever `m₁` ends with an exception `e` in a state `t`, `E e t` holds, and, if `lock`,
`m₂` ends with `e` as well, in a state `X e`-related to `t`.  `Sim lock R E` is the case of one invariant relation and
equal exceptional ends.  One set of rules and one structural tactic (`sim_auto`) serve every two-run argument about
the decoders, all of which consult their source only in `readInput`:
* `R a b = (a = b ∧ J a)`, `m₂ = m₁`: the unary triples `Tri J E` and `Thr J E` (`Sim.of_tri`, `Sim.tri`; `CabLift.Sim.of_thr` at the end of the file, with
  `Thr` and the fault class `Mild`, whose full names keep the namespaces `MsPack.CabLift`, `MsPack.CabLift.LzxMild`);
* the same `R`, `lock`, two sources that agree on the states satisfying `J`: the two runs coincide;
* `lock = False`: the second run repeats every normal return of the first (strict against relaxed flags); `E` then
  only records what the first run's exceptional ends leave;
* `m₂ = m₁`, `lock`, no unary condition (`FillSim.InStep`): the two runs start from states that differ in cells
  never read.
`sim_get`/`sim_put` are given their rules by `local macro_rules` in each decoder's file.
-/
namespace MsPack.CountLaws

section kit
variable {ε s α β : Type}

structure Sim2 (lock : Prop) (P Q : s → s → Prop) (E : ε → s → Prop) (X : ε → s → s → Prop)
    (m1 m2 : ExceptT ε (StateM s) α) : Prop where
  ok : ∀ s1 s2, P s1 s2 → ∀ a t1, m1.run.run s1 = (.ok a, t1) → ∃ t2, m2.run.run s2 = (.ok a, t2) ∧ Q t1 t2
  err : ∀ s1 s2, P s1 s2 → ∀ e t1, m1.run.run s1 = (.error e, t1) →
    E e t1 ∧ (lock → ∃ t2, m2.run.run s2 = (.error e, t2) ∧ X e t1 t2)

variable {lock : Prop} {P Q R : s → s → Prop} {E : ε → s → Prop} {X : ε → s → s → Prop}

theorem Sim2.pure (a : α) : Sim2 lock P P E X (pure a : ExceptT ε (StateM s) α) (pure a) :=
  ⟨fun _ s2 hr _ _ h => by cases h; exact ⟨s2, rfl, hr⟩, fun _ _ _ _ _ h => by cases h⟩

theorem Sim2.throw {e : ε} (h : ∀ s1 s2, P s1 s2 → E e s1 ∧ (lock → X e s1 s2)) :
    Sim2 lock P Q E X (throw e : ExceptT ε (StateM s) α) (throw e) :=
  ⟨fun _ _ _ _ _ h' => (by cases h'),
   fun s1 s2 hr _ _ h' => by cases h'; exact ⟨(h s1 s2 hr).1, fun hl => ⟨s2, rfl, (h s1 s2 hr).2 hl⟩⟩⟩

theorem Sim2.set {x1 x2 : s} (h : Q x1 x2) : Sim2 lock P Q E X (set x1 : ExceptT ε (StateM s) PUnit) (set x2) :=
  ⟨fun _ _ _ _ _ h' => by cases h'; exact ⟨x2, rfl, h⟩, fun _ _ _ _ _ h' => by cases h'⟩

theorem Sim2.modify {g1 g2 : s → s} (h : ∀ a b, P a b → Q (g1 a) (g2 b)) :
    Sim2 lock P Q E X (modify g1 : ExceptT ε (StateM s) PUnit) (modify g2) :=
  ⟨fun s1 s2 hr _ _ h' => by cases h'; exact ⟨g2 s2, rfl, h _ _ hr⟩, fun _ _ _ _ _ h' => by cases h'⟩

theorem Sim2.bind {x1 x2 : ExceptT ε (StateM s) α} {f1 f2 : α → ExceptT ε (StateM s) β}
    (hx : Sim2 lock P Q E X x1 x2) (hf : ∀ a, Sim2 lock Q R E X (f1 a) (f2 a)) :
    Sim2 lock P R E X (x1 >>= f1) (x2 >>= f2) := by
  constructor
  · intro s1 s2 hr b t1 h
    rw [wp.run_bind] at h
    cases hx1 : x1.run.run s1 with
    | mk r u1 =>
      rw [hx1] at h
      cases r with
      | error e => cases h
      | ok a =>
        obtain ⟨u2, h2, hr2⟩ := hx.ok s1 s2 hr a u1 hx1
        obtain ⟨t2, h3, hr3⟩ := (hf a).ok u1 u2 hr2 b t1 h
        exact ⟨t2, by rw [wp.run_bind, h2]; exact h3, hr3⟩
  · intro s1 s2 hr e t1 h
    rw [wp.run_bind] at h
    cases hx1 : x1.run.run s1 with
    | mk r u1 =>
      rw [hx1] at h
      cases r with
      | error e1 =>
        cases h
        have := hx.err s1 s2 hr _ _ hx1
        exact ⟨this.1, fun hl => by obtain ⟨t2, h2, hx2⟩ := this.2 hl; exact ⟨t2, by rw [wp.run_bind, h2], hx2⟩⟩
      | ok a =>
        obtain ⟨u2, h2, hr2⟩ := hx.ok s1 s2 hr a u1 hx1
        have := (hf a).err u1 u2 hr2 e t1 h
        exact ⟨this.1, fun hl => by
          obtain ⟨t2, h3, hx3⟩ := this.2 hl; exact ⟨t2, by rw [wp.run_bind, h2]; exact h3, hx3⟩⟩

/-- `bind` under an invariant relation: the form `sim_step` applies, which leaves no relation to be guessed -/
theorem Sim2.bindI {x1 x2 : ExceptT ε (StateM s) α} {f1 f2 : α → ExceptT ε (StateM s) β}
    (hx : Sim2 lock P P E X x1 x2) (hf : ∀ a, Sim2 lock P Q E X (f1 a) (f2 a)) :
    Sim2 lock P Q E X (x1 >>= f1) (x2 >>= f2) :=
  hx.bind hf

theorem Sim2.get_bind {f1 f2 : s → ExceptT ε (StateM s) β} (hf : ∀ r1 r2, P r1 r2 → Sim2 lock P Q E X (f1 r1) (f2 r2)) :
    Sim2 lock P Q E X (MonadState.get >>= f1) (MonadState.get >>= f2) := by
  constructor
  · intro s1 s2 hr b t1 h
    rw [wp.run_bind] at h
    obtain ⟨t2, h2, hr2⟩ := (hf s1 s2 hr).ok s1 s2 hr b t1 h
    exact ⟨t2, by rw [wp.run_bind]; exact h2, hr2⟩
  · intro s1 s2 hr e t1 h
    rw [wp.run_bind] at h
    have := (hf s1 s2 hr).err s1 s2 hr e t1 h
    exact ⟨this.1, fun hl => by obtain ⟨t2, h2, hx⟩ := this.2 hl; exact ⟨t2, by rw [wp.run_bind]; exact h2, hx⟩⟩

theorem Sim2.ite {c : Prop} [Decidable c] {a1 b1 a2 b2 : ExceptT ε (StateM s) α}
    (ht : c → Sim2 lock P Q E X a1 a2) (hf : ¬ c → Sim2 lock P Q E X b1 b2) :
    Sim2 lock P Q E X (if c then a1 else b1) (if c then a2 else b2) := by
  by_cases h : c
  · rw [if_pos h, if_pos h]; exact ht h
  · rw [if_neg h, if_neg h]; exact hf h

theorem Sim2.dite {c : Prop} [Decidable c] {a1 a2 : c → ExceptT ε (StateM s) α} {b1 b2 : ¬ c → ExceptT ε (StateM s) α}
    (ht : ∀ h, Sim2 lock P Q E X (a1 h) (a2 h)) (hf : ∀ h, Sim2 lock P Q E X (b1 h) (b2 h)) :
    Sim2 lock P Q E X (if h : c then a1 h else b1 h) (if h : c then a2 h else b2 h) := by
  by_cases h : c
  · rw [dif_pos h, dif_pos h]; exact ht h
  · rw [dif_neg h, dif_neg h]; exact hf h

theorem Sim2.modifyGet_bind {g1 g2 : s → α × s} {f1 f2 : α → ExceptT ε (StateM s) β} (T : α → Prop)
    (hg : ∀ a b, P a b → (g2 b).1 = (g1 a).1 ∧ P (g1 a).2 (g2 b).2 ∧ T (g1 a).1)
    (hf : ∀ a, T a → Sim2 lock P Q E X (f1 a) (f2 a)) : Sim2 lock P Q E X (modifyGet g1 >>= f1) (modifyGet g2 >>= f2) := by
  have run (g : s → α × s) (f : α → ExceptT ε (StateM s) β) (st : s) :
      (modifyGet g >>= f).run.run st = (f (g st).1).run.run (g st).2 := by rw [wp.run_bind]; rfl
  constructor
  · intro s1 s2 hr b t1 h
    rw [run] at h
    obtain ⟨t2, h2, hr2⟩ := (hf _ (hg s1 s2 hr).2.2).ok _ _ (hg s1 s2 hr).2.1 b t1 h
    exact ⟨t2, by rw [run, (hg s1 s2 hr).1]; exact h2, hr2⟩
  · intro s1 s2 hr e t1 h
    rw [run] at h
    have := (hf _ (hg s1 s2 hr).2.2).err _ _ (hg s1 s2 hr).2.1 e t1 h
    exact ⟨this.1, fun hl => by obtain ⟨t2, h2, hx⟩ := this.2 hl; exact ⟨t2, by rw [run, (hg s1 s2 hr).1]; exact h2, hx⟩⟩

theorem Sim2.get {f1 f2 : s → ExceptT ε (StateM s) β} (hf : ∀ t, Sim2 lock P Q E X (f1 t) (f2 t))
    (hi : ∀ s1 s2, P s1 s2 → f2 s2 = f2 s1) : Sim2 lock P Q E X (MonadState.get >>= f1) (MonadState.get >>= f2) :=
  .get_bind fun r1 r2 hr => by rw [hi r1 r2 hr]; exact hf r1

/-- `tryCatch`: the second body has to throw whenever the first does (`True` for `lock`); the handlers start from
    the states the bodies threw in, `X' e`-related -/
theorem Sim2.tryCatch {E' : ε → s → Prop} {X' : ε → s → s → Prop} {m1 m2 : ExceptT ε (StateM s) α}
    {h1 h2 : ε → ExceptT ε (StateM s) α} (hm : Sim2 True P Q E' X' m1 m2)
    (hh : ∀ e, Sim2 lock (X' e) Q E X (h1 e) (h2 e)) : Sim2 lock P Q E X (tryCatch m1 h1) (tryCatch m2 h2) := by
  constructor
  · intro s1 s2 hp a t1 h
    rw [wp.run_tryCatch] at h
    cases hx1 : m1.run.run s1 with
    | mk r u1 =>
      rw [hx1] at h
      cases r with
      | ok a' =>
        cases h
        obtain ⟨t2, h2, hq⟩ := hm.ok s1 s2 hp _ _ hx1
        exact ⟨t2, by rw [wp.run_tryCatch, h2], hq⟩
      | error e =>
        obtain ⟨u2, h2, hx⟩ := (hm.err s1 s2 hp e u1 hx1).2 trivial
        obtain ⟨t2, h3, hq⟩ := (hh e).ok u1 u2 hx a t1 h
        exact ⟨t2, by rw [wp.run_tryCatch, h2]; exact h3, hq⟩
  · intro s1 s2 hp e t1 h
    rw [wp.run_tryCatch] at h
    cases hx1 : m1.run.run s1 with
    | mk r u1 =>
      rw [hx1] at h
      cases r with
      | ok a' => cases h
      | error e' =>
        obtain ⟨u2, h2, hx⟩ := (hm.err s1 s2 hp e' u1 hx1).2 trivial
        have := (hh e').err u1 u2 hx e t1 h
        exact ⟨this.1, fun hl => by
          obtain ⟨t2, h3, hx3⟩ := this.2 hl; exact ⟨t2, by rw [wp.run_tryCatch, h2]; exact h3, hx3⟩⟩

theorem Sim2.pre {P' : s → s → Prop} {m1 m2 : ExceptT ε (StateM s) α} (hm : Sim2 lock P Q E X m1 m2)
    (h : ∀ s1 s2, P' s1 s2 → P s1 s2) : Sim2 lock P' Q E X m1 m2 :=
  ⟨fun s1 s2 hp => hm.ok s1 s2 (h _ _ hp), fun s1 s2 hp => hm.err s1 s2 (h _ _ hp)⟩

theorem Sim2.post {Q' : s → s → Prop} {m1 m2 : ExceptT ε (StateM s) α} (hm : Sim2 lock P Q E X m1 m2)
    (h : ∀ s1 s2, Q s1 s2 → Q' s1 s2) : Sim2 lock P Q' E X m1 m2 :=
  ⟨fun s1 s2 hp a t1 h1 => by obtain ⟨t2, h2, hq⟩ := hm.ok s1 s2 hp a t1 h1; exact ⟨t2, h2, h _ _ hq⟩, hm.err⟩

abbrev Sim (lock : Prop) (R : s → s → Prop) (E : ε → s → Prop) (m1 m2 : ExceptT ε (StateM s) α) : Prop :=
  Sim2 lock R R E (fun _ a b => b = a) m1 m2

theorem Sim.err {m1 m2 : ExceptT ε (StateM s) α} (h : Sim lock R E m1 m2) (s1 s2 : s) (hr : R s1 s2) (e : ε) (t1 : s)
    (hm : m1.run.run s1 = (.error e, t1)) : E e t1 ∧ (lock → m2.run.run s2 = (.error e, t1)) :=
  ⟨(Sim2.err h s1 s2 hr e t1 hm).1, fun hl => by obtain ⟨_, h2, rfl⟩ := (Sim2.err h s1 s2 hr e t1 hm).2 hl; exact h2⟩

theorem Sim.of_tri {m : ExceptT ε (StateM s) α} (hR : ∀ a b, R a b → b = a) (h : Tri (fun t => R t t) E m) :
    Sim lock R E m m := by
  refine ⟨fun s1 s2 hr a t1 hm => ?_, fun s1 s2 hr e t1 hm => ?_⟩ <;> cases hR _ _ hr
  · exact ⟨t1, hm, h.out s1 hr _ _ hm⟩
  · exact ⟨h.out s1 hr _ _ hm, fun _ => ⟨t1, hm, rfl⟩⟩

theorem Sim.tri {m1 m2 : ExceptT ε (StateM s) α} (hR : ∀ a b, R a b → b = a) (h : Sim lock R E m1 m2) :
    Tri (fun t => R t t) E m1 := by
  refine ⟨fun st hj r s' hm => ?_⟩
  cases r with
  | ok a =>
    obtain ⟨t2, _, hr⟩ := h.ok st st hj a s' hm
    cases hR _ _ hr
    exact hr
  | error e => exact (h.err st st hj e s' hm).1

end kit

section tactics
open Lean Elab Tactic Meta

/-- decoder-specific: `get >>= f` on both sides, with the second state written in terms of the first -/
syntax "sim_get" : tactic
macro_rules | `(tactic| sim_get) => `(tactic| fail "no rule")

/-- one step of the walk, chosen by the shape of the first action: a binder is introduced; a `have` is inlined and
    a join point (a `have` of function type, which the do-notation makes at every `if … then fail` of the C) is
    proved once and then kept abstract, on both sides (inlining it would copy the continuation at every use);
    `>>=`, `pure`, `if`, `match` get their rule (the scrutinee of a `match` is made a variable first, so that both
    sides are split at once).  Anything else (a callee, `set`, `throw`) is left to the caller. -/
elab "sim_step" : tactic => withMainContext do
  let g ← getMainGoal
  let t ← instantiateMVars (← g.getType)
  if t.isForall then evalTactic (← `(tactic| intro _)); return
  unless t.isAppOf ``Sim2 || t.isAppOf ``Sim do throwError "not a Sim goal"
  let m2 := t.appArg!.consumeMData
  let m1 := t.appFn!.appArg!.consumeMData
  let pre := t.appFn!.appFn!
  if let .letE n ty v1 b1 _ := m1 then
    let .letE _ ty2 v2 b2 _ := m2 | throwError "no join point"
    let .forallE rn rty _ _ ← whnfR ty
      | do let g' ← g.replaceTargetDefEq (mkApp2 pre (b1.instantiate1 v1) (b2.instantiate1 v2))
           replaceMainGoal [g']
           return
    let t2 ← withLocalDeclD rn rty fun r => do
      mkForallFVars #[r] (mkApp2 pre (mkApp v1 r).headBeta (mkApp v2 r).headBeta)
    let t1 ← withLocalDeclD n ty fun jp1 => withLocalDeclD (n.appendAfter "'") ty2 fun jp2 => do
      let hty ← withLocalDeclD rn rty fun r => do
        mkForallFVars #[r] (mkApp2 pre (mkApp jp1 r) (mkApp jp2 r))
      withLocalDeclD `hjp hty fun hjp => do
        mkForallFVars #[jp1, jp2, hjp] (mkApp2 pre (b1.instantiate1 jp1) (b2.instantiate1 jp2))
    let g1 ← mkFreshExprSyntheticOpaqueMVar t1
    let g2 ← mkFreshExprSyntheticOpaqueMVar t2
    g.assign (mkApp3 g1 v1 v2 g2)
    replaceMainGoal [g2.mvarId!, g1.mvarId!]
  else if m1.isAppOfArity ``Bind.bind 6 then
    if m1.appFn!.appArg!.isAppOf ``MonadState.get then evalTactic (← `(tactic| sim_get))
    else if m1.appFn!.appArg!.isAppOf ``modifyGet then throwError "no structural step"
    else evalTactic (← `(tactic| with_reducible refine Sim2.bindI ?_ ?_))
  else if m1.isAppOf ``Pure.pure then evalTactic (← `(tactic| with_reducible exact Sim2.pure _))
  else if m1.isAppOf ``ite then evalTactic (← `(tactic| with_reducible refine Sim2.ite ?_ ?_))
  else if m1.isAppOf ``dite then evalTactic (← `(tactic| with_reducible refine Sim2.dite ?_ ?_))
  else if let some app ← matchMatcherApp? m1 then
    for d in app.discrs do
      unless d.isFVar do
        let d ← Term.exprToSyntax d
        evalTactic (← `(tactic| generalize _h : $d = x))
    evalTactic (← `(tactic| split))
  else throwError "no structural step"

elab "sim_hyp" : tactic => withMainContext do
  let g ← getMainGoal
  for d in (← getLCtx) do
    if d.isImplementationDetail then continue
    let ty ← instantiateMVars d.type
    if ty.getForallBody.isAppOf ``Sim2 || ty.getForallBody.isAppOf ``Sim then
      let s ← saveState
      try
        let gs ← withReducible (g.apply d.toExpr)
        replaceMainGoal gs
        return
      catch _ => s.restore
  throwError "no hypothesis applies"

end tactics

/-- decoder-specific: `set`, `modify` -/
syntax "sim_put" : tactic
macro_rules | `(tactic| sim_put) => `(tactic| fail "no rule")

syntax "sim_auto" (" [" term,* "]")? : tactic
macro_rules
  | `(tactic| sim_auto [$ts,*]) => do
    let alts ← ts.getElems.mapM fun t => `(tacticSeq| with_reducible apply $t)
    `(tactic| repeat' first
      | sim_step
      | sim_hyp
      $[| $alts]*
      | sim_put)
  | `(tactic| sim_auto) => `(tactic| sim_auto [Sim2.pure _])

end MsPack.CountLaws

namespace MsPack.CabLift
open MsPack.CountLaws

section kit
variable {ε s α β : Type}

def ThrPost (J : s → Prop) (E : ε → s → Prop) : Except ε α → s → Prop
  | .ok _, s' => J s'
  | .error e, s' => E e s'

structure Thr (J : s → Prop) (E : ε → s → Prop) (m : ExceptT ε (StateM s) α) : Prop where
  out : ∀ st, J st → ∀ r s', m.run.run st = (r, s') → ThrPost J E r s'

theorem Thr.of_tri {J : s → Prop} {E : ε → s → Prop} {m : ExceptT ε (StateM s) α} (h : Tri J E m) : Thr J E m :=
  ⟨fun st hj r s' hr => by have := h.out st hj r s' hr; cases r <;> exact this⟩

theorem Thr.get (J : s → Prop) (E : ε → s → Prop) : Thr J E (get : ExceptT ε (StateM s) s) :=
  .of_tri (.get J E)

def ThrFrom (J : s → Prop) (E : ε → s → Prop) (st : s) (m : ExceptT ε (StateM s) α) : Prop :=
  ∀ r s', m.run.run st = (r, s') → ThrPost J E r s'

theorem Thr.get_bind_from {J : s → Prop} {E : ε → s → Prop} {f : s → ExceptT ε (StateM s) β}
    (hf : ∀ r, J r → ThrFrom J E r (f r)) : Thr J E (MonadState.get >>= f) := by
  constructor
  intro st hj r s' h
  rw [wp.run_bind] at h
  exact hf st hj _ _ h

theorem thrFrom_throw {J : s → Prop} {E : ε → s → Prop} {e : ε} {st : s} (h : E e st) :
    ThrFrom J E st (throw e : ExceptT ε (StateM s) α) := by
  intro r s' h'; cases h'; exact h

theorem thrFrom_set {J : s → Prop} {E : ε → s → Prop} {x st : s} (hx : J x) :
    ThrFrom J E st (set x : ExceptT ε (StateM s) PUnit) := by
  intro r s' h; cases h; exact hx

theorem thrFrom_set_throw {J : s → Prop} {E : ε → s → Prop} {x st : s} {e : ε} (hx : E e x) :
    ThrFrom J E st ((do set x; throw e) : ExceptT ε (StateM s) α) := by
  intro r s' h
  rw [wp.run_bind] at h
  cases h; exact hx

theorem Sim.of_thr {lock : Prop} {R : s → s → Prop} {E : ε → s → Prop} {m1 m2 : ExceptT ε (StateM s) α}
    (hR : ∀ a b, R a b → b = a) (h : Thr (fun t => R t t) E m1)
    (heq : ∀ st, R st st → m2.run.run st = m1.run.run st) : Sim lock R E m1 m2 := by
  refine ⟨fun s1 s2 hr a t1 hm => ?_, fun s1 s2 hr e t1 hm => ?_⟩ <;> cases hR _ _ hr
  · exact ⟨t1, (heq s1 hr).trans hm, h.out s1 hr _ _ hm⟩
  · exact ⟨h.out s1 hr _ _ hm, fun _ => ⟨t1, (heq s1 hr).trans hm, rfl⟩⟩

end kit

end MsPack.CabLift

namespace MsPack.CabLift.LzxMild

/-- the three kinds of fault the LZX model (and the MSZIP model) has sites for -/
def Mild (f : Fault) : Prop := (∃ s, f = .oob s) ∨ (∃ s, f = .uninit s) ∨ f = .hang

theorem Mild.oob (s : String) : Mild (.oob s) := Or.inl ⟨s, rfl⟩
theorem Mild.uninit (s : String) : Mild (.uninit s) := Or.inr (Or.inl ⟨s, rfl⟩)
theorem Mild.hang : Mild .hang := Or.inr (Or.inr rfl)

theorem Mild.not_nullDeref {f : Fault} (h : Mild f) (w : String) : f ≠ .nullDeref w := by
  rcases h with ⟨_, h⟩ | ⟨_, h⟩ | h <;> (subst h; intro h'; cases h')
theorem Mild.not_divZero {f : Fault} (h : Mild f) : f ≠ .divZero := by
  rcases h with ⟨_, h⟩ | ⟨_, h⟩ | h <;> (subst h; intro h'; cases h')
theorem Mild.not_shiftWidth {f : Fault} (h : Mild f) : f ≠ .shiftWidth := by
  rcases h with ⟨_, h⟩ | ⟨_, h⟩ | h <;> (subst h; intro h'; cases h')

end MsPack.CabLift.LzxMild
