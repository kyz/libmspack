import MsPack.Spec.LzxEncode
import Proofs.Lemmas.LzxFrame
import Proofs.Lemmas.DeflateRound
/-!
# LZX round trip (streams of uncompressed blocks), lemmas

Total correctness is `wp m Q (fun _ _ => False) st`: every exceptional outcome is excluded.  The unread input of a
state as one byte stream (`remBytes`, as in `DeflateRound.lean`), and what each piece of the decoder model does when
that stream starts with what the specification writer (`MsPack/Spec/LzxEncode.lean`) produces.

The source contract is `Zip.Feeds` plus `hN : ∀ s, S.lzxLength s = none`: the source never announces a length
(only the CAB feeder does).
-/
namespace MsPack.Lzx
variable {σ : Type}

/-- everything of a state but the input side (`src`, `inbuf`, `bits`, `inputEnd`), the window, the
    match registers, the Huffman side (code lengths and tables), `numOffsets` and `e8Buf`.  `SameB` of
    `LzxBounds.lean` is not used for this: it lets `length` change to the announced length and fixes `r0`..`r2`,
    which a block header sets; here a chain of steps is a chain of equations between records (`Eq.trans`), a
    single field comes out by `congrArg`. -/
structure Core where
  offset : Nat
  length : Nat
  windowSize : Nat
  refDataSize : Nat
  windowPosn : Nat
  framePosn : Nat
  frame : Nat
  resetInterval : Nat
  blockLength : Nat
  blockRemaining : Nat
  intelFilesize : Int
  intelStarted : Bool
  blockType : Nat
  headerRead : Bool
  isDelta : Bool
  error : Err
  inbufSize : Nat
  oInE8 : Bool
  oPtr : Nat
  oEnd : Nat

def core (st : St σ) : Core :=
  { offset := st.offset, length := st.length, windowSize := st.windowSize, refDataSize := st.refDataSize,
    windowPosn := st.windowPosn, framePosn := st.framePosn, frame := st.frame,
    resetInterval := st.resetInterval, blockLength := st.blockLength, blockRemaining := st.blockRemaining,
    intelFilesize := st.intelFilesize, intelStarted := st.intelStarted, blockType := st.blockType,
    headerRead := st.headerRead, isDelta := st.isDelta, error := st.error, inbufSize := st.inbufSize,
    oInE8 := st.oInE8, oPtr := st.oPtr, oEnd := st.oEnd }

def Kp (st s : St σ) : Prop := core s = core st ∧ s.window = st.window

theorem Kp.refl (st : St σ) : Kp st st := ⟨rfl, rfl⟩
theorem Kp.trans {a b c : St σ} (h1 : Kp a b) (h2 : Kp b c) : Kp a c := ⟨h2.1.trans h1.1, h2.2.trans h1.2⟩

theorem Kp.offset {st s : St σ} (h : Kp st s) : s.offset = st.offset := congrArg Core.offset h.1
theorem Kp.length {st s : St σ} (h : Kp st s) : s.length = st.length := congrArg Core.length h.1
theorem Kp.windowSize {st s : St σ} (h : Kp st s) : s.windowSize = st.windowSize := congrArg Core.windowSize h.1
theorem Kp.refDataSize {st s : St σ} (h : Kp st s) : s.refDataSize = st.refDataSize := congrArg Core.refDataSize h.1
theorem Kp.windowPosn {st s : St σ} (h : Kp st s) : s.windowPosn = st.windowPosn := congrArg Core.windowPosn h.1
theorem Kp.framePosn {st s : St σ} (h : Kp st s) : s.framePosn = st.framePosn := congrArg Core.framePosn h.1
theorem Kp.frame {st s : St σ} (h : Kp st s) : s.frame = st.frame := congrArg Core.frame h.1
theorem Kp.resetInterval {st s : St σ} (h : Kp st s) : s.resetInterval = st.resetInterval := congrArg Core.resetInterval h.1
theorem Kp.blockLength {st s : St σ} (h : Kp st s) : s.blockLength = st.blockLength := congrArg Core.blockLength h.1
theorem Kp.blockRemaining {st s : St σ} (h : Kp st s) : s.blockRemaining = st.blockRemaining := congrArg Core.blockRemaining h.1
theorem Kp.intelFilesize {st s : St σ} (h : Kp st s) : s.intelFilesize = st.intelFilesize := congrArg Core.intelFilesize h.1
theorem Kp.intelStarted {st s : St σ} (h : Kp st s) : s.intelStarted = st.intelStarted := congrArg Core.intelStarted h.1
theorem Kp.blockType {st s : St σ} (h : Kp st s) : s.blockType = st.blockType := congrArg Core.blockType h.1
theorem Kp.headerRead {st s : St σ} (h : Kp st s) : s.headerRead = st.headerRead := congrArg Core.headerRead h.1
theorem Kp.isDelta {st s : St σ} (h : Kp st s) : s.isDelta = st.isDelta := congrArg Core.isDelta h.1
theorem Kp.error {st s : St σ} (h : Kp st s) : s.error = st.error := congrArg Core.error h.1
theorem Kp.inbufSize {st s : St σ} (h : Kp st s) : s.inbufSize = st.inbufSize := congrArg Core.inbufSize h.1
theorem Kp.oInE8 {st s : St σ} (h : Kp st s) : s.oInE8 = st.oInE8 := congrArg Core.oInE8 h.1
theorem Kp.oPtr {st s : St σ} (h : Kp st s) : s.oPtr = st.oPtr := congrArg Core.oPtr h.1
theorem Kp.oEnd {st s : St σ} (h : Kp st s) : s.oEnd = st.oEnd := congrArg Core.oEnd h.1

section
variable (S : Src σ) (content : σ → Bytes)

/-- the bytes the decoder will still see (two zero bytes are invented at the first end of input) -/
def remBytes (st : St σ) : Bytes := st.inbuf ++ content st.src ++ (if st.inputEnd then [] else [0, 0])

variable {S content}

theorem remBytes_congr (a b : St σ) (h1 : a.inbuf = b.inbuf) (h2 : a.src = b.src) (h3 : a.inputEnd = b.inputEnd) :
    remBytes content a = remBytes content b := by
  unfold remBytes; rw [h1, h2, h3]

theorem readInput_tot (hF : Zip.Feeds S content) (hN : ∀ s, S.lzxLength s = none) (st : St σ)
    (hb : 1 ≤ st.inbufSize) (he : st.inbuf = []) (hne : remBytes content st ≠ []) :
    wp (readInput S) (fun _ s => Kp st s ∧ s.bits = st.bits ∧ s.inbuf ≠ [] ∧
      remBytes content s = remBytes content st) (fun _ _ => False) st := by
  obtain ⟨c, s', hr, hc, hz⟩ := hF.read st.src st.inbufSize hb
  unfold readInput
  simp only [wp_bind, wp_get]
  rw [hr]
  simp only [hN]
  cases c with
  | nil =>
    have hcs : content st.src = [] := hz rfl
    have hcs' : content s' = [] := by simpa [hcs] using hc
    cases hie : st.inputEnd with
    | true => simp [remBytes, he, hcs, hie] at hne
    | false =>
      simp only [Bool.false_eq_true, ↓reduceIte, wp_set]
      refine ⟨⟨rfl, rfl⟩, trivial, by simp, ?_⟩
      simp [remBytes, he, hcs, hcs', hie]
  | cons x xs =>
    simp only [wp_set]
    refine ⟨⟨rfl, rfl⟩, trivial, by simp, ?_⟩
    simp only [remBytes, he, List.nil_append]
    rw [← hc]

theorem nextByte_tot (hF : Zip.Feeds S content) (hN : ∀ s, S.lzxLength s = none) (st : St σ)
    (hb : 1 ≤ st.inbufSize) (b : UInt8) (rest : Bytes) (h : remBytes content st = b :: rest) :
    wp (nextByte S) (fun a s => a = b ∧ Kp st s ∧ s.bits = st.bits ∧ remBytes content s = rest) (fun _ _ => False) st := by
  unfold nextByte
  simp only [wp_bind, wp_get, wp_ite]
  refine ⟨fun he => ?_, fun hne => ?_⟩
  · have he' : st.inbuf = [] := by simpa using he
    refine wp.post (readInput_tot hF hN st hb he' (by rw [h]; simp)) ?_
    intro _ s ⟨hk, hbits, hne, hrem⟩
    have hrem' := hrem.trans h
    split
    · rename_i x xs hi
      simp only [wp_bind, wp_set, wp_pure]
      simp only [remBytes, hi, List.cons_append, List.cons.injEq] at hrem'
      exact ⟨hrem'.1, hk.trans ⟨rfl, rfl⟩, hbits, hrem'.2⟩
    · rename_i hi; exact absurd hi hne
  · split
    · rename_i x xs hi
      simp only [wp_bind, wp_set, wp_pure]
      simp only [remBytes, hi, List.cons_append, List.cons.injEq] at h
      exact ⟨h.1, ⟨rfl, rfl⟩, trivial, h.2⟩
    · rename_i hi; rw [hi] at hne; simp at hne

def wordsBits : Bytes → List Bool
  | b0 :: b1 :: rest => wordBits b0 b1 ++ wordsBits rest
  | _ => []

theorem wordsBits_length : ∀ (W : Bytes), W.length % 2 = 0 → (wordsBits W).length = 8 * W.length
  | [], _ => rfl
  | [_], h => by simp at h
  | b0 :: b1 :: rest, h => by
    rw [wordsBits, List.length_append, wordBits_length, wordsBits_length rest (by simp at h; omega)]
    simp only [List.length_cons]; omega

def BitsAt (content : σ → Bytes) (st : St σ) (H : List Bool) (rest : Bytes) : Prop :=
  ∃ W, W.length % 2 = 0 ∧ remBytes content st = W ++ rest ∧ st.bits ++ wordsBits W = H

theorem BitsAt.short {st : St σ} {H : List Bool} {rest : Bytes} (h : BitsAt content st H rest) (hl : H.length ≤ 15) :
    st.bits = H ∧ remBytes content st = rest := by
  obtain ⟨W, hW, hrem, hbits⟩ := h
  have hlen := congrArg List.length hbits
  rw [List.length_append, wordsBits_length W hW] at hlen
  match W, hW, hrem, hbits, hlen with
  | [], _, hrem, hbits, _ => exact ⟨by simpa [wordsBits] using hbits, by simpa using hrem⟩
  | [_], hW, _, _, _ => simp at hW
  | _ :: _ :: _, _, _, _, hlen => simp only [List.length_cons] at hlen; omega

theorem ensureBits_tot (hF : Zip.Feeds S content) (hN : ∀ s, S.lzxLength s = none) (n : Nat) (H : List Bool)
    (rest : Bytes) : ∀ (fuel : Nat) (st : St σ), 1 ≤ st.inbufSize → BitsAt content st H rest → n ≤ H.length →
    n ≤ st.bits.length + 16 * fuel →
    wp (ensureBits S n fuel) (fun _ s => Kp st s ∧ BitsAt content s H rest ∧ n ≤ s.bits.length)
      (fun _ _ => False) st := by
  intro fuel
  induction fuel with
  | zero =>
    intro st hb hH hn hf
    rw [ensureBits.eq_1]
    simp only [wp_bind, wp_get, wp_ite, wp_pure, wp_throw]
    exact ⟨fun h => by omega, fun _ => ⟨Kp.refl _, hH, by omega⟩⟩
  | succ fuel ih =>
    intro st hb hH hn hf
    rw [ensureBits.eq_2]
    simp only [wp_bind, wp_get, wp_ite, wp_pure]
    refine ⟨fun hlt => ?_, fun hge => ⟨Kp.refl _, hH, by omega⟩⟩
    obtain ⟨W, hW, hrem, hbits⟩ := hH
    have hlen := congrArg List.length hbits
    rw [List.length_append, wordsBits_length W hW] at hlen
    match W, hW, hrem, hbits, hlen with
    | [], _, _, _, hlen => simp at hlen; omega
    | [_], hW, _, _, _ => simp at hW
    | b0 :: b1 :: W', hW, hrem, hbits, _ =>
      refine wp.post (nextByte_tot hF hN st hb b0 (b1 :: (W' ++ rest)) (by simpa using hrem)) ?_
      intro a s1 ⟨ha, hk1, hb1, hr1⟩
      subst ha
      refine wp.post (nextByte_tot hF hN s1 (by rw [hk1.inbufSize]; exact hb) b1 (W' ++ rest) hr1) ?_
      intro a' s2 ⟨ha', hk2, hb2, hr2⟩
      subst ha'
      simp only [wp_modify]
      have hl2 : ({ s2 with bits := s2.bits ++ wordBits a a' } : St σ).bits.length = st.bits.length + 16 := by
        show (s2.bits ++ wordBits a a').length = _
        rw [List.length_append, wordBits_length, hb2, hb1]
      have hk : Kp st { s2 with bits := s2.bits ++ wordBits a a' } := (hk1.trans hk2).trans ⟨rfl, rfl⟩
      refine wp.post (ih { s2 with bits := s2.bits ++ wordBits a a' }
        (by show 1 ≤ s2.inbufSize; rw [(hk1.trans hk2).inbufSize]; exact hb)
        ⟨W', by simp at hW; omega, hr2, ?_⟩ hn (by rw [hl2]; omega)) ?_
      · show (s2.bits ++ wordBits a a') ++ wordsBits W' = H
        rw [hb2, hb1, ← hbits, wordsBits, List.append_assoc]
      · intro _ s3 ⟨hk3, hH3, hn3⟩
        exact ⟨hk.trans hk3, hH3, hn3⟩

theorem readBits_tot (hF : Zip.Feeds S content) (hN : ∀ s, S.lzxLength s = none) (n : Nat) (hn : n ≤ 16)
    (st : St σ) (hb : 1 ≤ st.inbufSize) (bs H : List Bool) (rest : Bytes)
    (hH : BitsAt content st (bs ++ H) rest) (hl : bs.length = n) :
    wp (readBits S n) (fun v s => v = bitsVal bs ∧ Kp st s ∧ BitsAt content s H rest) (fun _ _ => False) st := by
  unfold readBits peekBits removeBits
  simp only [wp_bind, wp_get, wp_pure, wp_modify]
  refine wp.post (ensureBits_tot hF hN n (bs ++ H) rest 3 st hb hH (by rw [List.length_append]; omega) (by omega)) ?_
  intro _ s ⟨hk, ⟨W, hW, hrem, hbits⟩, hns⟩
  obtain ⟨h1, h2⟩ := Zip.prefix_split hbits hl hns
  exact ⟨by rw [h1], hk.trans ⟨rfl, rfl⟩, ⟨W, hW, hrem, h2⟩⟩

theorem readRaw_tot (hF : Zip.Feeds S content) (hN : ∀ s, S.lzxLength s = none) : ∀ (k : Nat) (acc : Bytes)
    (st : St σ) (bs rest : Bytes), 1 ≤ st.inbufSize → remBytes content st = bs ++ rest → bs.length = k →
    wp (readRaw S k acc) (fun r s => r = acc ++ bs ∧ Kp st s ∧ s.bits = st.bits ∧ remBytes content s = rest)
      (fun _ _ => False) st := by
  intro k
  induction k with
  | zero =>
    intro acc st bs rest hb hrem hl
    have : bs = [] := List.eq_nil_of_length_eq_zero hl
    subst this
    rw [readRaw.eq_1, wp_pure]
    exact ⟨by simp, Kp.refl _, rfl, by simpa using hrem⟩
  | succ k ih =>
    intro acc st bs rest hb hrem hl
    cases bs with
    | nil => simp at hl
    | cons b bs =>
      rw [readRaw.eq_2, wp_bind]
      refine wp.post (nextByte_tot hF hN st hb b (bs ++ rest) (by simpa using hrem)) ?_
      intro a s ⟨ha, hk, hbits, hr⟩
      subst ha
      refine wp.post (ih (acc ++ [a]) s bs rest (by rw [hk.inbufSize]; exact hb) hr (by simpa using hl)) ?_
      intro r s' ⟨h1, h2, h3, h4⟩
      exact ⟨by rw [h1]; simp, hk.trans h2, h3.trans hbits, h4⟩

theorem writeBytes_list : ∀ (bs : Bytes) (dst : Nat) (w : Array UInt8), dst + bs.length ≤ w.size →
    ∃ w', writeBytes bs dst w = .ok w' ∧ w'.size = w.size ∧
      w'.toList = w.toList.take dst ++ bs ++ w.toList.drop (dst + bs.length)
  | [], dst, w, _ => ⟨w, rfl, rfl, by simp⟩
  | b :: rest, dst, w, hd => by
    have h2 : dst < w.size := by simp only [List.length_cons] at hd; omega
    rw [writeBytes, dif_pos h2]
    obtain ⟨w', h, hsz, hl⟩ := writeBytes_list rest (dst + 1) (w.set dst b)
      (by simp only [Array.size_set, List.length_cons] at hd ⊢; omega)
    refine ⟨w', h, by rw [hsz, Array.size_set], ?_⟩
    rw [hl, Array.toList_set, take_set_succ _ _ _ (by simpa using h2), List.drop_set_of_lt (by omega)]
    simp only [List.length_cons, List.append_assoc, List.cons_append, List.nil_append]
    rw [show dst + 1 + rest.length = dst + (rest.length + 1) by omega]

theorem splice_splice {α : Type} (L : List α) (dest n t : Nat) (data : List α) (h1 : dest + t ≤ L.length)
    (hn : n ≤ t) (hd : data.length = t) :
    List.take (dest + n) (List.take dest L ++ List.take n data ++ List.drop (dest + n) L) ++ List.drop n data ++
      List.drop (dest + t) (List.take dest L ++ List.take n data ++ List.drop (dest + n) L) =
    List.take dest L ++ data ++ List.drop (dest + t) L := by
  have hAB : (List.take dest L ++ List.take n data).length = dest + n := by
    rw [List.length_append, List.length_take, List.length_take]; omega
  generalize hX : List.take dest L ++ List.take n data = X at hAB
  have e1 : List.take (dest + n) (X ++ List.drop (dest + n) L) = X := List.take_left' hAB
  have e2 : List.drop (dest + t) (X ++ List.drop (dest + n) L) = List.drop (dest + t) L := by
    rw [List.drop_append, List.drop_eq_nil_of_le (by omega), hAB, List.drop_drop, List.nil_append]
    congr 1; omega
  rw [e1, e2, ← hX, List.append_assoc (List.take dest L), List.take_append_drop]

theorem copyRaw_tot (hF : Zip.Feeds S content) (hN : ∀ s, S.lzxLength s = none) : ∀ (fuel thisRun dest : Nat)
    (st : St σ) (data rest : Bytes), 1 ≤ st.inbufSize → remBytes content st = data ++ rest →
    data.length = thisRun → dest + thisRun ≤ st.window.size →
    2 * thisRun + (if st.inbuf = [] then 1 else 0) + 1 ≤ fuel →
    wp (copyRaw S fuel dest thisRun) (fun _ s => core s = core st ∧ s.bits = st.bits ∧
      remBytes content s = rest ∧ s.window.size = st.window.size ∧
      s.window.toList = st.window.toList.take dest ++ data ++ st.window.toList.drop (dest + thisRun))
        (fun _ _ => False) st := by
  intro fuel
  induction fuel with
  | zero => intro thisRun dest st data rest _ _ _ _ hf; omega
  | succ fuel ih =>
    intro thisRun dest st data rest hb hrem hl hfit hf
    rw [copyRaw.eq_2]
    simp only [wp_ite, wp_pure, wp_bind, wp_get]
    refine ⟨fun h0 => ?_, fun hpos => ⟨fun he => ?_, fun hne => ?_⟩⟩
    · have : data = [] := List.eq_nil_of_length_eq_zero (hl.trans h0)
      subst this
      subst h0
      exact ⟨by first | rfl | trivial, by first | rfl | trivial, by simpa using hrem, by first | rfl | trivial, by simp⟩
    · have he' : st.inbuf = [] := by simpa using he
      have hdne : data ≠ [] := by intro e; rw [e] at hl; exact hpos hl.symm
      refine wp.post (readInput_tot hF hN st hb he' (by rw [hrem]; simp [hdne])) ?_
      intro _ s ⟨hk, hbits, hne, hrem'⟩
      refine wp.post (ih thisRun dest s data rest (by rw [hk.inbufSize]; exact hb) (hrem'.trans hrem) hl
        (by rw [hk.2]; exact hfit) (by rw [if_neg hne]; rw [if_pos he'] at hf; omega)) ?_
      intro _ s' ⟨a, b, c, d, e⟩
      exact ⟨a.trans hk.1, b.trans hbits, c, d.trans (by rw [hk.2]), by rw [e, hk.2]⟩
    · have hne' : st.inbuf ≠ [] := by simpa using hne
      have hil : 0 < st.inbuf.length := List.length_pos_iff.mpr hne'
      simp only [wp_modifyGet]
      generalize hn : min st.inbuf.length thisRun = n
      have hn1 : 1 ≤ n := by omega
      have hn2 : n ≤ st.inbuf.length := by omega
      have hn3 : n ≤ data.length := by omega
      have hchunk : st.inbuf.take n = data.take n := by
        have := congrArg (List.take n) hrem
        rwa [remBytes, List.append_assoc, List.take_append_of_le_length hn2, List.take_append_of_le_length hn3] at this
      have hdrop : st.inbuf.drop n ++ content st.src ++ (if st.inputEnd then [] else [0, 0]) = data.drop n ++ rest := by
        have := congrArg (List.drop n) hrem
        rwa [remBytes, List.append_assoc, List.drop_append_of_le_length hn2, List.drop_append_of_le_length hn3,
          ← List.append_assoc] at this
      obtain ⟨w', hw, hsz, hwl⟩ := writeBytes_list (data.take n) dest st.window
        (by rw [List.length_take]; omega)
      rw [hchunk, hw]
      dsimp only
      refine wp.post (ih (thisRun - n) (dest + n) _ (data.drop n) rest hb hdrop (by rw [List.length_drop, hl])
        (by show dest + n + (thisRun - n) ≤ w'.size; rw [hsz]; omega) (by split <;> omega)) ?_
      intro _ s' ⟨a, b, c, d, e⟩
      refine ⟨a, b, c, d.trans hsz, ?_⟩
      rw [e]
      show w'.toList.take (dest + n) ++ _ ++ w'.toList.drop (dest + n + (thisRun - n)) = _
      rw [hwl, List.length_take, Nat.min_eq_left hn3]
      have e1 : dest + n + (thisRun - n) = dest + thisRun := by omega
      rw [e1]
      exact splice_splice _ dest n thisRun data (by rw [Array.length_toList]; exact hfit) (by omega) hl

/-- block type 3 (uncompressed), then the 24-bit length -/
def hdrBits (len : Nat) : List Bool := [false, true, true] ++ LzxEnc.msbBits 24 len

def coreHdr (c : Core) (len : Nat) : Core :=
  { c with blockType := 3, blockLength := len, blockRemaining := len, intelStarted := true }

/-- Setting the match registers changes neither `core`, the window nor the input side.  The registers are variables
    here, not the `le32 ..` that `hdrRaw` stores: on `{ s with r0 := le32 .. }` the kernel, checking these four
    equations by unfolding, runs into deep recursion. -/
theorem st_regs (s : St σ) (a b d : Nat) {c : Core} {w : Array UInt8} {T : Bytes} (h1 : core s = c) (h2 : s.window = w)
    (h3 : s.bits = []) (h4 : remBytes content s = T) :
    core { s with r0 := a, r1 := b, r2 := d } = c ∧ ({ s with r0 := a, r1 := b, r2 := d } : St σ).window = w ∧
      ({ s with r0 := a, r1 := b, r2 := d } : St σ).bits = [] ∧
      remBytes content { s with r0 := a, r1 := b, r2 := d } = T := ⟨h1, h2, h3, h4⟩

theorem hdrBody_tot (hF : Zip.Feeds S content) (hN : ∀ s, S.lzxLength s = none) (fuel len : Nat)
    (hlen : len < 16777216) (P : List Bool) (hP1 : 1 ≤ P.length) (hP2 : P.length ≤ 15) (r0 r1 r2 : Nat)
    (T : Bytes) (st : St σ) (hb : 1 ≤ st.inbufSize)
    (hH : BitsAt content st (hdrBits len ++ P) (putLE32 r0 ++ putLE32 r1 ++ putLE32 r2 ++ T)) :
    wp (hdrBody S fuel) (fun _ s => core s = coreHdr (core st) len ∧ s.window = st.window ∧ s.bits = [] ∧
      remBytes content s = T) (fun _ _ => False) st := by
  have hsplit : LzxEnc.msbBits 24 len = (LzxEnc.msbBits 24 len).take 16 ++ (LzxEnc.msbBits 24 len).drop 16 :=
    (List.take_append_drop ..).symm
  have hval : bitsVal ((LzxEnc.msbBits 24 len).take 16) * 256 + bitsVal ((LzxEnc.msbBits 24 len).drop 16) = len := by
    have h := bitsVal_append ((LzxEnc.msbBits 24 len).take 16) ((LzxEnc.msbBits 24 len).drop 16)
    rw [List.take_append_drop, bitsVal_msbBits, List.length_drop, msbBits_length] at h
    have : len % 2 ^ 24 = len := Nat.mod_eq_of_lt (by omega)
    rw [this] at h
    simpa using h.symm
  have hl16 : ((LzxEnc.msbBits 24 len).take 16).length = 16 := by rw [List.length_take, msbBits_length]; rfl
  have hl8 : ((LzxEnc.msbBits 24 len).drop 16).length = 8 := by rw [List.length_drop, msbBits_length]
  generalize (LzxEnc.msbBits 24 len).take 16 = b16 at hsplit hval hl16
  generalize (LzxEnc.msbBits 24 len).drop 16 = b8 at hsplit hval hl8
  unfold hdrBits at hH
  rw [hsplit, List.append_assoc, List.append_assoc] at hH
  unfold hdrBody
  rw [wp_bind]
  refine wp.post (readBits_tot hF hN 3 (by omega) st hb [false, true, true] _ _ hH rfl) ?_
  intro bt s1 ⟨hbt, hk1, hH1⟩
  have hbt3 : bt = 3 := hbt
  subst hbt3
  simp only [wp_bind, wp_modify]
  refine wp.post (readBits_tot hF hN 16 (by omega) { s1 with blockType := 3 } (by show 1 ≤ s1.inbufSize; rw [hk1.inbufSize]; exact hb)
    b16 _ _ hH1 hl16) ?_
  intro i s2 ⟨hi, hk2, hH2⟩
  refine wp.post (readBits_tot hF hN 8 (by omega) s2 (by rw [hk2.inbufSize]; show 1 ≤ s1.inbufSize; rw [hk1.inbufSize]; exact hb)
    b8 _ _ hH2 hl8) ?_
  intro j s3 ⟨hj, hk3, hH3⟩
  subst hi hj
  rw [hval]
  simp only [show ¬ ((3 : Nat) = 1 ∨ (3 : Nat) = 2) by omega, if_false, if_true, wp_bind, wp_modify, wp_get]
  obtain ⟨hb3, hrem3⟩ := hH3.short hP2
  have hne : s3.bits.isEmpty = false := by
    rw [hb3]; cases P with
    | nil => simp at hP1
    | cons _ _ => rfl
  simp only [hne, Bool.false_eq_true, if_false]
  unfold hdrRaw
  simp only [wp_bind, wp_modify]
  refine wp.post (readRaw_tot hF hN 12 [] _ (putLE32 r0 ++ putLE32 r1 ++ putLE32 r2) T
    (by show 1 ≤ s3.inbufSize; rw [hk3.inbufSize, hk2.inbufSize]; show 1 ≤ s1.inbufSize; rw [hk1.inbufSize]; exact hb)
    hrem3 rfl) ?_
  intro buf s4 ⟨hbuf, hk4, hb4, hrem4⟩
  subst hbuf
  simp only [putLE32, List.nil_append, List.cons_append, wp_modify]
  have e3 := congrArg (fun c : Core => { c with blockLength := len, blockRemaining := len, intelStarted := true })
    (hk3.1.trans hk2.1)
  exact st_regs _ _ _ _ ((hk4.1.trans e3).trans (show coreHdr (core s1) len = _ from congrArg (coreHdr · len) hk1.1))
    (hk4.2.trans (hk3.2.trans (hk2.2.trans hk1.2))) hb4 hrem4

def regs (r0 r1 r2 : Nat) : Bytes := putLE32 r0 ++ putLE32 r1 ++ putLE32 r2

/-- what a block header needs: (A) no realignment byte is due and the header bits are next, or
    (B) the block before was an odd-sized uncompressed one, the bit buffer is empty, and the header
    words follow the pad byte.  `bt bl` = `block_type`, `block_length`; `X` = the unread bytes. -/
def HdrPreX (bt bl : Nat) (bits : List Bool) (X : Bytes) (len : Nat) (T : Bytes) : Prop :=
  ∃ (P : List Bool) (r0 r1 r2 : Nat), 1 ≤ P.length ∧ P.length ≤ 15 ∧
    ((¬ (bt = 3 ∧ bl % 2 = 1) ∧ ∃ W, W.length % 2 = 0 ∧ X = W ++ (regs r0 r1 r2 ++ T) ∧
        bits ++ wordsBits W = hdrBits len ++ P) ∨
     ((bt = 3 ∧ bl % 2 = 1) ∧ bits = [] ∧ ∃ x W, W.length % 2 = 0 ∧ X = x :: (W ++ (regs r0 r1 r2 ++ T)) ∧
        wordsBits W = hdrBits len ++ P))

theorem readBlockHeader_tot (hF : Zip.Feeds S content) (hN : ∀ s, S.lzxLength s = none) (fuel len : Nat)
    (hlen : len < 16777216) (T : Bytes) (st : St σ) (hb : 1 ≤ st.inbufSize)
    (hH : HdrPreX st.blockType st.blockLength st.bits (remBytes content st) len T) :
    wp (readBlockHeader S fuel) (fun _ s => core s = coreHdr (core st) len ∧ s.window = st.window ∧ s.bits = [] ∧
      remBytes content s = T) (fun _ _ => False) st := by
  obtain ⟨P, r0, r1, r2, hP1, hP2, hc⟩ := hH
  rw [readBlockHeader_eq]
  simp only [wp_bind, wp_get, wp_ite]
  rcases hc with ⟨hno, W, hW, hX, hbits⟩ | ⟨hyes, hb0, x, W, hW, hX, hbits⟩
  · refine ⟨fun h => absurd h hno, fun _ => ?_⟩
    exact hdrBody_tot hF hN fuel len hlen P hP1 hP2 r0 r1 r2 T st hb ⟨W, hW, by rw [hX]; rfl, hbits⟩
  · refine ⟨fun _ => ?_, fun h => absurd hyes h⟩
    refine wp.post (nextByte_tot hF hN st hb x _ hX) ?_
    intro _ s1 ⟨_, hk1, hb1, hr1⟩
    refine wp.post (hdrBody_tot hF hN fuel len hlen P hP1 hP2 r0 r1 r2 T s1 (by rw [hk1.inbufSize]; exact hb)
      ⟨W, hW, by rw [hr1]; rfl, by rw [hb1, hb0]; exact hbits⟩) ?_
    intro _ s ⟨h1, h2, h3, h4⟩
    exact ⟨by rw [h1, hk1.1], h2.trans hk1.2, h3, h4⟩

theorem encBitsVal_eq (bs : List Bool) : LzxEnc.bitsVal bs = bitsVal bs := rfl

theorem wordBits_eq (b0 b1 : UInt8) : wordBits b0 b1 = LzxEnc.msbBits 16 (b1.toNat * 256 + b0.toNat) := rfl

theorem wordBits_pack (c : List Bool) (hc : c.length = 16) :
    wordBits (UInt8.ofNat (bitsVal c % 256)) (UInt8.ofNat (bitsVal c / 256)) = c := by
  have hlt : bitsVal c < 65536 := by have := bitsVal_lt c; rw [hc] at this; exact this
  rw [wordBits_eq, UInt8.toNat_ofNat', UInt8.toNat_ofNat']
  have : bitsVal c / 256 % 2 ^ 8 * 256 + bitsVal c % 256 % 2 ^ 8 = bitsVal c := by omega
  rw [this]
  exact msbBits_bitsVal 16 c hc

theorem wordsBits_packWords : ∀ (k : Nat) (H : List Bool), H.length % 16 = 0 → H.length ≤ 16 * k →
    wordsBits (LzxEnc.packWords k H) = H ∧ (LzxEnc.packWords k H).length % 2 = 0
  | 0, H, _, h => by
    have : H = [] := List.eq_nil_of_length_eq_zero (by omega)
    subst this; exact ⟨rfl, rfl⟩
  | k + 1, H, hm, h => by
    rw [LzxEnc.packWords]
    cases hH : H with
    | nil => exact ⟨rfl, rfl⟩
    | cons x xs =>
      rw [← hH]
      have hne : H.isEmpty = false := by rw [hH]; rfl
      have hpos : 0 < H.length := by rw [hH]; simp
      have ht : (H.take 16).length = 16 := by rw [List.length_take]; omega
      rw [hne]
      simp only [Bool.false_eq_true, ↓reduceIte, ht, Nat.sub_self, List.replicate_zero, List.append_nil,
        encBitsVal_eq]
      obtain ⟨ih1, ih2⟩ := wordsBits_packWords k (H.drop 16) (by rw [List.length_drop]; omega)
        (by rw [List.length_drop]; omega)
      refine ⟨?_, by simp only [List.length_cons]; omega⟩
      rw [wordsBits, wordBits_pack _ ht, ih1, List.take_append_drop]

theorem hdrBits_length (len : Nat) : (hdrBits len).length = 27 := by
  unfold hdrBits; rw [List.length_append, msbBits_length]; rfl

theorem blockHeader_words (pre : List Bool) (hp : pre.length ≤ 4) (len r0 r1 r2 : Nat) : ∃ W, W.length % 2 = 0 ∧
    LzxEnc.blockHeader pre len r0 r1 r2 = W ++ regs r0 r1 r2 ∧
    wordsBits W = pre ++ (hdrBits len ++ List.replicate (5 - pre.length) false) := by
  have hl : (pre ++ [false, true, true] ++ LzxEnc.msbBits 24 len).length = pre.length + 27 := by
    simp only [List.length_append, msbBits_length, List.length_cons, List.length_nil]
  have hpad : LzxEnc.padBits (pre.length + 27) = List.replicate (5 - pre.length) false := by
    unfold LzxEnc.padBits
    rw [show pre.length + 27 = pre.length + 11 + 16 from rfl, Nat.add_mod_right, Nat.mod_eq_of_lt (by omega)]
    exact congrArg (List.replicate · false) (Nat.add_sub_add_right 5 11 pre.length)
  have hl2 : (pre ++ (hdrBits len ++ List.replicate (5 - pre.length) false)).length = 32 := by
    simp only [List.length_append, hdrBits_length, List.length_replicate]; omega
  obtain ⟨h1, h2⟩ := wordsBits_packWords 3 _ (by rw [hl2]) (by rw [hl2]; decide)
  refine ⟨_, h2, ?_, h1⟩
  unfold LzxEnc.blockHeader
  simp only [regs, hdrBits, List.append_assoc] at hl ⊢
  rw [hl, hpad]

def padB (len : Nat) : Bytes := if len % 2 = 1 then [0] else []

/-- what follows the last byte of a block of `bl` bytes when `room'` is left in the frame -/
def post (mark : Bytes) (room' bl : Nat) (bs : List Bytes) : Bytes :=
  padB bl ++ (if room' = LzxEnc.frameSize ∧ ¬ bs.isEmpty then mark else []) ++ LzxEnc.encBlocks mark [] room' bs

/-- the stream from a point in a block of `bl` bytes of which `cur` is left; `f` is the fuel of the writer's
    recursion `rawFrom` (at least `cur.length` wherever it occurs) -/
def tl (mark : Bytes) (f room : Nat) (cur : Bytes) (bl : Nat) (bs : List Bytes) : Bytes :=
  LzxEnc.rawFrom mark f room cur ++ post mark (LzxEnc.roomAfter room cur.length) bl bs

theorem encBlocks_cons (mark : Bytes) (pre : List Bool) (room : Nat) (b : Bytes) (bs : List Bytes) :
    LzxEnc.encBlocks mark pre room (b :: bs) =
      LzxEnc.blockHeader pre b.length 1 1 1 ++ tl mark b.length room b b.length bs := by
  simp only [LzxEnc.encBlocks, tl, post, padB, List.append_assoc]

theorem roomAfter_lt {room L : Nat} (h : L < room) : LzxEnc.roomAfter room L = room - L := by
  unfold LzxEnc.roomAfter; rw [if_pos h]

theorem roomAfter_eq (room : Nat) : LzxEnc.roomAfter room room = 32768 := by
  unfold LzxEnc.roomAfter LzxEnc.frameSize; rw [if_neg (Nat.lt_irrefl _)]; omega

theorem roomAfter_gt {room L : Nat} (h : room < L) :
    LzxEnc.roomAfter room L = LzxEnc.roomAfter 32768 (L - room) := by
  unfold LzxEnc.roomAfter LzxEnc.frameSize
  rw [if_neg (by omega)]
  split <;> omega

theorem rawFrom_le (mark : Bytes) (f room : Nat) (data : Bytes) (h : data.length ≤ room) :
    LzxEnc.rawFrom mark f room data = data := by
  cases f with
  | zero => rfl
  | succ f => rw [LzxEnc.rawFrom, if_pos h]

theorem rawFrom_gt (mark : Bytes) (f room : Nat) (data : Bytes) (h : room < data.length) (hf : data.length ≤ f)
    (hr : 1 ≤ room) : ∃ f', (data.drop room).length ≤ f' ∧
      LzxEnc.rawFrom mark f room data = data.take room ++ (mark ++ LzxEnc.rawFrom mark f' 32768 (data.drop room)) := by
  cases f with
  | zero => omega
  | succ f =>
    refine ⟨f, by rw [List.length_drop]; omega, ?_⟩
    rw [LzxEnc.rawFrom, if_neg (by omega), List.append_assoc]
    rfl

theorem pad_mark_comm (delta : Bool) (bl : Nat) (Z : Bytes) :
    padB bl ++ (LzxEnc.chunkMark delta ++ Z) = LzxEnc.chunkMark delta ++ (padB bl ++ Z) := by
  unfold padB LzxEnc.chunkMark
  cases delta <;> by_cases h : bl % 2 = 1 <;> simp [h]

/-- the decoder's view at the top of a block-loop iteration: `cur` is left of the current block,
    the blocks `bs` follow, `room` output bytes are left in the frame -/
def TopX (mark extra : Bytes) (brem bt bl : Nat) (bits : List Bool) (X : Bytes) (room : Nat) (cur : Bytes)
    (bs : List Bytes) : Prop :=
  brem = cur.length ∧
  (cur ≠ [] → bits = [] ∧ bt = 3 ∧ ∃ f, cur.length ≤ f ∧ X = tl mark f room cur bl bs ++ extra) ∧
  (cur = [] → ∀ b bs', bs = b :: bs' →
    ∃ f, b.length ≤ f ∧ HdrPreX bt bl bits X b.length (tl mark f room b b.length bs' ++ extra))

theorem topX_next (mark extra : Bytes) (bl room : Nat) (bs : List Bytes) :
    TopX mark extra 0 3 bl [] (padB bl ++ (LzxEnc.encBlocks mark [] room bs ++ extra)) room [] bs := by
  refine ⟨rfl, fun h => absurd rfl h, ?_⟩
  intro _ b bs' hbs
  subst hbs
  obtain ⟨W, hW, hhdr, hbits⟩ := blockHeader_words [] (by decide) b.length 1 1 1
  refine ⟨b.length, Nat.le_refl _, [false, false, false, false, false], 1, 1, 1, by decide, by decide, ?_⟩
  rw [encBlocks_cons, hhdr]
  by_cases hodd : bl % 2 = 1
  · right
    refine ⟨⟨rfl, hodd⟩, rfl, 0, W, hW, ?_, hbits⟩
    simp only [padB, hodd, if_true, List.append_assoc, List.cons_append, List.nil_append]
  · left
    refine ⟨fun h => hodd h.2, W, hW, ?_, by simpa using hbits⟩
    simp only [padB, hodd, if_false, List.append_assoc, List.nil_append]

/-- the fields of a state that a frame's block loop leaves alone (`Fix` of `LzxBounds.lean` says nothing about
    `error`, `headerRead`, `intelFilesize`, and `length` only up to the announced length) -/
structure FCore where
  offset : Nat
  length : Nat
  windowSize : Nat
  refDataSize : Nat
  framePosn : Nat
  frame : Nat
  resetInterval : Nat
  intelFilesize : Int
  headerRead : Bool
  isDelta : Bool
  error : Err
  inbufSize : Nat
  oInE8 : Bool
  oPtr : Nat
  oEnd : Nat

def fc (c : Core) : FCore :=
  { offset := c.offset, length := c.length, windowSize := c.windowSize, refDataSize := c.refDataSize,
    framePosn := c.framePosn, frame := c.frame, resetInterval := c.resetInterval,
    intelFilesize := c.intelFilesize, headerRead := c.headerRead, isDelta := c.isDelta, error := c.error,
    inbufSize := c.inbufSize, oInE8 := c.oInE8, oPtr := c.oPtr, oEnd := c.oEnd }

theorem fc_coreHdr (c : Core) (len : Nat) : fc (coreHdr c len) = fc c := rfl

/-- block sizes the 24-bit length field can carry -/
def BOk (bs : List Bytes) : Prop := ∀ b ∈ bs, 1 ≤ b.length ∧ b.length < 16777216

def cnt (cur : Bytes) (bs : List Bytes) : Nat := bs.length + (if cur = [] then 0 else 1)

def BlkOut (st s : St σ) (todo : Nat) (data : Bytes) : Prop :=
  fc (core s) = fc (core st) ∧ s.windowPosn = st.windowPosn + todo ∧ s.window.size = st.window.size ∧
  s.window.toList = st.window.toList.take st.windowPosn ++ data ++ st.window.toList.drop (st.windowPosn + todo)

/-- `k` bounds the blocks and part blocks to come: the loop fuel is measured against it -/
def NextFrame (content : σ → Bytes) (mark extra : Bytes) (s : St σ) (D' : Bytes) (k : Nat) : Prop :=
  ∃ cur' bs', cur' ++ bs'.flatten = D' ∧ BOk bs' ∧ cur'.length < 16777216 ∧ cnt cur' bs' ≤ k ∧ s.bits = [] ∧
    ∃ X, remBytes content s = mark ++ X ∧
      TopX mark extra s.blockRemaining s.blockType s.blockLength [] X 32768 cur' bs'

/-- The block loop decoding `todo` bytes from the top of an iteration (`TopX`), as a statement about one amount of
    fuel (the induction in `blockLoop_tot` is on it).  Fuel: one iteration per block to come and at most
    `2 * 32768 + 2` for `copyRaw` in a frame (two iterations per byte: a refill, a copy).  The last conjunct: the bit
    buffer is empty afterwards unless nothing was decoded and it was not empty before. -/
def BLStmt (S : Src σ) (content : σ → Bytes) (mark extra : Bytes) (fuel : Nat) : Prop :=
  ∀ (todo : Nat) (st : St σ) (room : Nat) (cur : Bytes) (bs : List Bytes),
    TopX mark extra st.blockRemaining st.blockType st.blockLength st.bits (remBytes content st) room cur bs →
    BOk bs → cur.length < 16777216 → 1 ≤ room → room ≤ 32768 →
    todo = min room (cur.length + bs.flatten.length) → 1 ≤ st.inbufSize →
    st.windowPosn + todo ≤ st.window.size → cnt cur bs + 65538 ≤ fuel →
    wp (blockLoop S fuel (todo : Int)) (fun _ s => BlkOut st s todo ((cur ++ bs.flatten).take todo) ∧
      (todo = room → todo < cur.length + bs.flatten.length →
        NextFrame content mark extra s ((cur ++ bs.flatten).drop todo) (cnt cur bs)) ∧
      ((st.bits = [] ∨ 0 < todo) → s.bits = [])) (fun _ _ => False) st

theorem blkOut_refl (st : St σ) : BlkOut st st 0 [] :=
  ⟨rfl, rfl, rfl, by simp⟩

theorem blockLoop_zero (fuel : Nat) (Q : Unit → St σ → Prop) (st : St σ) (h : Q () st) :
    wp (blockLoop S (fuel + 1) ((0 : Nat) : Int)) Q (fun _ _ => False) st := by
  rw [blockLoop_eq, if_pos (by simp)]
  exact (wp_pure ..).mpr h

theorem win_compose (L0 L1 L2 : List UInt8) (wp n t' : Nat) (d1 d2 : Bytes)
    (h1 : L1 = L0.take wp ++ d1 ++ L0.drop (wp + n)) (h2 : L2 = L1.take (wp + n) ++ d2 ++ L1.drop (wp + n + t'))
    (hd1 : d1.length = n) (hd2 : d2.length = t') (hfit : wp + n + t' ≤ L0.length) :
    L2 = L0.take wp ++ (d1 ++ d2) ++ L0.drop (wp + (n + t')) := by
  have := splice_splice L0 wp n (n + t') (d1 ++ d2) (by omega) (by omega) (by rw [List.length_append]; omega)
  rw [List.take_left' hd1, List.drop_left' hd1] at this
  rw [h2, h1, ← this, Nat.add_assoc]

theorem BlkOut.trans {st s1 s : St σ} {n t : Nat} {d1 d2 : Bytes} (h1 : BlkOut st s1 n d1) (h2 : BlkOut s1 s t d2)
    (hd1 : d1.length = n) (hd2 : d2.length = t) (hfit : st.windowPosn + n + t ≤ st.window.size) :
    BlkOut st s (n + t) (d1 ++ d2) := by
  obtain ⟨a1, a2, a3, a4⟩ := h1
  obtain ⟨b1, b2, b3, b4⟩ := h2
  rw [a2] at b4
  exact ⟨b1.trans a1, by rw [b2, a2, Nat.add_assoc], b3.trans a3,
    win_compose _ _ _ _ n t d1 d2 a4 b4 hd1 hd2 (by rw [Array.length_toList]; exact hfit)⟩

/-- The postcondition is left to the caller because `blockRest` ends in the recursive call of `blockLoop`, which
    only the caller's induction hypothesis speaks about. -/
theorem blockRest_copy (hF : Zip.Feeds S content) (hN : ∀ s, S.lzxLength s = none) (fuel todo r : Nat) (st : St σ)
    (data Z : Bytes) (Q : Unit → St σ → Prop) (hbt : st.blockType = 3) (hbits : st.bits = [])
    (hr : min st.blockRemaining todo = r) (hrem : remBytes content st = data ++ Z) (hd : data.length = r)
    (hb : 1 ≤ st.inbufSize) (hfit : st.windowPosn + r ≤ st.window.size) (hfuel : 2 * r + 2 ≤ fuel)
    (h : ∀ s, BlkOut st s r data → s.blockRemaining = st.blockRemaining - r → s.blockType = 3 →
      s.blockLength = st.blockLength → s.bits = [] → remBytes content s = Z →
      wp (blockLoop S fuel ((todo - r : Nat) : Int)) Q (fun _ _ => False) s) :
    wp (blockRest S fuel (todo : Int)) Q (fun _ _ => False) st := by
  have hthis : (if (st.blockRemaining : Int) > (todo : Int) then (todo : Int) else (st.blockRemaining : Int)) =
      (r : Int) := by split <;> omega
  have hsub : (todo : Int) - (r : Int) = ((todo - r : Nat) : Int) := by omega
  unfold blockRest
  simp only [wp_bind, wp_get, wp_set]
  rw [hthis, hbt]
  simp only [show ¬ ((3 : Nat) = 1 ∨ (3 : Nat) = 2) by omega, if_false, if_true, wp_bind, wp_modify, wp_pure,
    Int.toNat_natCast, hsub]
  unfold blockAfter
  simp only [show ¬ ((0 : Int) < 0) by omega, if_false]
  refine wp.post (copyRaw_tot hF hN fuel r st.windowPosn _ data Z hb ((remBytes_congr _ _ rfl rfl rfl).trans hrem)
    hd hfit (by split <;> omega)) ?_
  intro _ s1 ⟨hc1, hb1, hrem1, hsz1, hw1⟩
  exact h s1 ⟨by rw [hc1]; rfl, congrArg Core.windowPosn hc1, hsz1, hw1⟩ (congrArg Core.blockRemaining hc1)
    (congrArg Core.blockType hc1) (congrArg Core.blockLength hc1) (hb1.trans hbits) hrem1

theorem blk_arith {n room todo F : Nat} (htodo : todo = min room (n + F)) :
    (n ≤ room → n ≤ todo) ∧ (n < room → todo - n = min (room - n) F) ∧ (n = room → todo = n + 0) ∧
      (room < n → todo = room) := by omega

theorem blockRest_tot (hF : Zip.Feeds S content) (hN : ∀ s, S.lzxLength s = none) (delta : Bool) (extra : Bytes)
    (fuel : Nat) (ih : BLStmt S content (LzxEnc.chunkMark delta) extra fuel)
    (todo : Nat) (st : St σ) (room : Nat) (cur : Bytes) (bs : List Bytes) (hcur : cur ≠ [])
    (hT : TopX (LzxEnc.chunkMark delta) extra st.blockRemaining st.blockType st.blockLength st.bits
      (remBytes content st) room cur bs)
    (hB : BOk bs) (hcl : cur.length < 16777216) (hr1 : 1 ≤ room) (hr2 : room ≤ 32768)
    (htodo : todo = min room (cur.length + bs.flatten.length)) (hb : 1 ≤ st.inbufSize)
    (hfit : st.windowPosn + todo ≤ st.window.size) (hfuel : cnt cur bs + 65538 ≤ fuel + 1) :
    wp (blockRest S fuel (todo : Int)) (fun _ s => BlkOut st s todo ((cur ++ bs.flatten).take todo) ∧
      (todo = room → todo < cur.length + bs.flatten.length →
        NextFrame content (LzxEnc.chunkMark delta) extra s ((cur ++ bs.flatten).drop todo) (cnt cur bs)) ∧
      s.bits = []) (fun _ _ => False) st := by
  obtain ⟨hbrem, hne, _⟩ := hT
  obtain ⟨hbits, hbt, f, hf, hX⟩ := hne hcur
  have hcpos : 0 < cur.length := List.length_pos_iff.mpr hcur
  have hcnt : cnt cur bs = bs.length + 1 := by unfold cnt; rw [if_neg hcur]
  have hcnt0 : cnt [] bs = bs.length := by unfold cnt; rw [if_pos rfl]; rfl
  rw [hcnt] at hfuel ⊢
  obtain ⟨fk, rfl⟩ : ∃ k, fuel = k + 1 := ⟨fuel - 1, by omega⟩
  have hfu : 2 * room + 2 ≤ fk + 1 := by omega
  obtain ⟨a1, a2, a3, a4⟩ := blk_arith htodo
  by_cases hL : cur.length ≤ room
  · -- the rest of the block fits into the frame
    obtain ⟨t, rfl⟩ := Nat.exists_eq_add_of_le (a1 hL)
    rw [Nat.add_sub_cancel_left] at a2
    have hXA : remBytes content st = cur ++ (post (LzxEnc.chunkMark delta) (LzxEnc.roomAfter room cur.length)
        st.blockLength bs ++ extra) := by
      rw [hX, tl, rawFrom_le _ _ _ _ hL, List.append_assoc]
    refine blockRest_copy hF hN _ _ cur.length st cur _ _ hbt hbits
      (by rw [hbrem]; exact Nat.min_eq_left (Nat.le_add_right _ _)) hXA rfl hb
      (Nat.le_trans (Nat.add_le_add_left (Nat.le_add_right _ _) _) hfit)
      (Nat.le_trans (Nat.add_le_add_right (Nat.mul_le_mul_left 2 hL) 2) hfu) ?_
    intro s1 hO e1 e2 e3 hb1 hrem1
    rw [hbrem, Nat.sub_self] at e1
    rw [Nat.add_sub_cancel_left]
    by_cases hLr : cur.length < room
    · -- more of the frame is left: the next block's header follows
      have hrem1' : remBytes content s1 = padB st.blockLength ++
          (LzxEnc.encBlocks (LzxEnc.chunkMark delta) [] (room - cur.length) bs ++ extra) := by
        rw [hrem1, post, roomAfter_lt hLr, if_neg (by unfold LzxEnc.frameSize; omega)]
        simp only [List.append_nil, List.append_assoc]
      have hT1 : TopX (LzxEnc.chunkMark delta) extra s1.blockRemaining s1.blockType s1.blockLength s1.bits
          (remBytes content s1) (room - cur.length) [] bs := by
        rw [e1, e2, e3, hb1, hrem1']; exact topX_next _ _ _ _ _
      have ht := a2 hLr
      refine wp.post (ih t s1 (room - cur.length) [] bs hT1 hB (by simp) (Nat.sub_pos_of_lt hLr)
        (Nat.le_trans (Nat.sub_le _ _) hr2) (by rw [List.length_nil, Nat.zero_add]; exact ht)
        (Nat.le_trans hb (Nat.le_of_eq (congrArg FCore.inbufSize hO.1).symm))
        (by rw [hO.2.1, hO.2.2.1, Nat.add_assoc]; exact hfit) (by rw [hcnt0]; omega)) ?_
      intro _ s ⟨g, hnext, hbs⟩
      rw [List.nil_append] at g hnext
      refine ⟨?_, fun ht1 ht2 => ?_, hbs (Or.inl hb1)⟩
      · rw [List.take_length_add_append]
        exact hO.trans g rfl (by rw [List.length_take]; exact Nat.min_eq_left (ht ▸ Nat.min_le_right _ _))
          (by rw [Nat.add_assoc]; exact hfit)
      · obtain ⟨cur', bs', q1, q2, q3, q4, q5, q6⟩ := hnext (Nat.eq_sub_of_add_eq' ht1)
          (by rw [List.length_nil, Nat.zero_add]; exact Nat.lt_of_add_lt_add_left ht2)
        exact ⟨cur', bs', by rw [List.drop_length_add_append]; exact q1, q2, q3,
          Nat.le_succ_of_le (hcnt0 ▸ q4), q5, q6⟩
    · -- the block ends where the frame ends
      have hLe : cur.length = room := Nat.le_antisymm hL (Nat.not_lt.mp hLr)
      have ht0 : t = 0 := Nat.add_left_cancel (a3 hLe)
      subst ht0
      rw [Nat.add_zero cur.length]
      apply blockLoop_zero
      refine ⟨by rw [List.take_left' rfl]; exact hO, fun _ ht2 => ?_, hb1⟩
      have hbs : bs ≠ [] := by intro e; rw [e] at ht2; simp at ht2
      refine ⟨[], bs, by rw [List.drop_left' rfl]; rfl, hB, by simp, hcnt0 ▸ Nat.le_succ _, hb1,
        padB st.blockLength ++ (LzxEnc.encBlocks (LzxEnc.chunkMark delta) [] 32768 bs ++ extra), ?_, ?_⟩
      · rw [hrem1, post, hLe, roomAfter_eq, if_pos ⟨rfl, by simpa using hbs⟩]
        simp only [List.append_assoc]
        exact pad_mark_comm _ _ _
      · rw [e1, e2, e3]; exact topX_next _ _ _ _ _
  · -- the frame is full before the block ends
    have hLgt : room < cur.length := Nat.not_le.mp hL
    have htr : todo = room := a4 hLgt
    subst htr
    obtain ⟨f', hf', hraw⟩ := rawFrom_gt (LzxEnc.chunkMark delta) f todo cur hLgt hf hr1
    have hcl' : (cur.drop todo).length = cur.length - todo := List.length_drop
    have hXB : remBytes content st = cur.take todo ++ (LzxEnc.chunkMark delta ++
        (tl (LzxEnc.chunkMark delta) f' 32768 (cur.drop todo) st.blockLength bs ++ extra)) := by
      rw [hX, tl, tl, hraw, roomAfter_gt hLgt, hcl']
      simp only [List.append_assoc]
    refine blockRest_copy hF hN _ _ todo st _ _ _ hbt hbits (by rw [hbrem]; exact Nat.min_eq_right (Nat.le_of_lt hLgt)) hXB
      (by rw [List.length_take]; exact Nat.min_eq_left (Nat.le_of_lt hLgt)) hb hfit hfu ?_
    intro s1 hO e1 e2 e3 hb1 hrem1
    rw [Nat.sub_self]
    apply blockLoop_zero
    refine ⟨by rw [List.take_append_of_le_length (Nat.le_of_lt hLgt)]; exact hO, fun _ _ => ?_, hb1⟩
    have hne' : cur.drop todo ≠ [] := fun e => by
      rw [e] at hcl'; exact Nat.sub_ne_zero_of_lt hLgt hcl'.symm
    refine ⟨cur.drop todo, bs, by rw [List.drop_append_of_le_length (Nat.le_of_lt hLgt)], hB,
      by rw [hcl']; exact Nat.lt_of_le_of_lt (Nat.sub_le _ _) hcl,
      by unfold cnt; rw [if_neg hne']; exact Nat.le_refl _, hb1, _, hrem1, ?_⟩
    exact ⟨by rw [e1, hbrem, hcl'], fun _ => ⟨rfl, e2, f', hf', by rw [e3]⟩, fun h => absurd h hne'⟩

theorem blockLoop_tot (hF : Zip.Feeds S content) (hN : ∀ s, S.lzxLength s = none) (delta : Bool) (extra : Bytes) :
    ∀ fuel, BLStmt S content (LzxEnc.chunkMark delta) extra fuel := by
  intro fuel
  induction fuel with
  | zero => intro todo st room cur bs _ _ _ _ _ _ _ _ hfuel; omega
  | succ fuel ih =>
    intro todo st room cur bs hT hB hcl hr1 hr2 htodo hb hfit hfuel
    by_cases ht0 : todo = 0
    · subst ht0
      apply blockLoop_zero
      exact ⟨by simpa using blkOut_refl st, fun h => by omega, fun h => h.elim id (fun h => absurd h (by omega))⟩
    · rw [blockLoop_eq, if_neg (by omega)]
      simp only [wp_bind, wp_get, wp_ite]
      refine ⟨fun h0 => ?_, fun hn0 => ?_⟩
      · have hcur : cur = [] := List.eq_nil_of_length_eq_zero (hT.1.symm.trans h0)
        subst hcur
        cases bs with
        | nil => simp at htodo; omega
        | cons b bs' =>
          obtain ⟨fh, hfh, hH⟩ := hT.2.2 rfl b bs' rfl
          have hbb := hB b (List.mem_cons_self ..)
          have hbne : b ≠ [] := by intro e; rw [e] at hbb; simp at hbb
          refine wp.post (readBlockHeader_tot hF hN fuel b.length hbb.2 _ st hb hH) ?_
          intro _ s1 ⟨hc1, hw1, hb1, hrem1⟩
          have e1 : s1.blockRemaining = b.length := congrArg Core.blockRemaining hc1
          have e2 : s1.blockType = 3 := congrArg Core.blockType hc1
          have e3 : s1.blockLength = b.length := congrArg Core.blockLength hc1
          have e4 : s1.windowPosn = st.windowPosn := congrArg Core.windowPosn hc1
          have e5 : s1.inbufSize = st.inbufSize := congrArg Core.inbufSize hc1
          have e6 : fc (core s1) = fc (core st) := by rw [hc1, fc_coreHdr]
          have hfl : (b :: bs').flatten = b ++ bs'.flatten := rfl
          have hT1 : TopX (LzxEnc.chunkMark delta) extra s1.blockRemaining s1.blockType s1.blockLength s1.bits
              (remBytes content s1) room b bs' :=
            ⟨e1, fun _ => ⟨hb1, e2, fh, hfh, by rw [hrem1, e3]⟩, fun h => absurd h hbne⟩
          refine wp.post (blockRest_tot hF hN delta extra fuel ih todo s1 room b bs' hbne hT1
            (fun x hx => hB x (List.mem_cons_of_mem _ hx)) hbb.2 hr1 hr2
            (by rw [htodo, hfl, List.length_append]; simp) (by rw [e5]; exact hb) (by rw [e4, hw1]; exact hfit)
            (by unfold cnt at hfuel ⊢; rw [if_neg hbne]; rw [if_pos rfl, List.length_cons] at hfuel; omega)) ?_
          intro _ s ⟨⟨g1, g2, g3, g4⟩, hnext, hbs⟩
          have hcc : cnt b bs' = cnt [] (b :: bs') := by unfold cnt; rw [if_neg hbne, if_pos rfl]; simp
          rw [List.nil_append, hfl]
          refine ⟨⟨g1.trans e6, by rw [g2, e4], by rw [g3, hw1], by rw [g4, hw1, e4]⟩, ?_, fun _ => hbs⟩
          intro a1 a2
          rw [← hcc]
          exact hnext a1 (by rw [List.length_append] at a2; simpa using a2)
      · have hcur : cur ≠ [] := by intro e; rw [e] at hT; exact hn0 hT.1
        refine wp.post (blockRest_tot hF hN delta extra fuel ih todo st room cur bs hcur hT hB hcl hr1 hr2 htodo hb
          hfit hfuel) ?_
        intro _ s ⟨a, b, c⟩
        exact ⟨a, b, fun _ => c⟩

end
end MsPack.Lzx
