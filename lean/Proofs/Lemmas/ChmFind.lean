import MsPack.Chm.Find
import Proofs.Lemmas.ChmEncode
import Proofs.Props.C15
/-
`chmd_fast_find` on the directories `encodeChm` writes.  The linear scan of `search_chunk` is set against a
specification-level scan (`scanFrom`); the quick-reference area of a writer's chunk holds no offsets, the C then counts
no group or one, and `search_chunk` is that scan (`searchChunk_linear`).  Then `read_chunk` with a consistent chunk cache,
and the PMGL chain walk.
-/
namespace MsPack.Chm
open MsPack.Oab (enc32)
open MsPack.Cab (enc32_length u32At_skip u32At_enc32)

/-- what the linear scan of `search_chunk` does on a PMGL chunk, in terms of the entries written at `p` -/
def scanFrom (fname : Bytes) : Nat → List EntrySpec → Option Nat
  | _, [] => none
  | p, en :: es =>
    if compare fname en.name = 0 then some (p + (putEncint en.name.length).length + en.name.length)
    else if compare fname en.name < 0 then none
    else scanFrom fname (p + (encEntry en).length) es

def toSearch (e : Nat) : Option Nat → Search
  | none => .notFound
  | some q => .found q e

theorem scanFrom_none (fname : Bytes) : ∀ (es : List EntrySpec) (p : Nat),
    (∀ en ∈ es, compare fname en.name ≠ 0) → scanFrom fname p es = none
  | [], _, _ => rfl
  | en :: es, p, h => by
    rw [scanFrom, if_neg (h en (List.mem_cons_self ..))]
    split
    · rfl
    · exact scanFrom_none fname es _ (fun g hg => h g (List.mem_cons_of_mem _ hg))

theorem encEntries_append (a b : List EntrySpec) : encEntries (a ++ b) = encEntries a ++ encEntries b := by
  simp [encEntries]

theorem scanFrom_found (fname : Bytes) (en : EntrySpec) (post : List EntrySpec) (heq : compare fname en.name = 0) :
    ∀ (pre : List EntrySpec) (p : Nat), (∀ x ∈ pre, compare fname x.name > 0) →
    scanFrom fname p (pre ++ en :: post) =
      some (p + (encEntries pre).length + (putEncint en.name.length).length + en.name.length)
  | [], p, _ => by simp [scanFrom, heq, encEntries]
  | x :: pre, p, h => by
    have hx := h x (List.mem_cons_self ..)
    rw [List.cons_append, scanFrom, if_neg (by omega), if_neg (by omega),
      scanFrom_found fname en post heq pre _ (fun g hg => h g (List.mem_cons_of_mem _ hg)), encEntries_cons,
      List.length_append]
    congr 1; omega

theorem linear_entry {chunk : Bytes} {e p p1 p' : Nat} {en : EntrySpec} (h : EntryAt chunk e p en p1 p')
    (fname : Bytes) (n : Nat) (res : Option Nat) :
    linear chunk e fname true (n + 1) p res =
      if compare fname en.name = 0 then .ok (.found (p1 + en.name.length) e)
      else if compare fname en.name < 0 then .ok .notFound
      else linear chunk e fname true n p' res := by
  obtain ⟨p3, p4, a, b, c⟩ := h.tail
  cases res <;>
  · rw [linear, h.len]
    simp only [Bool.false_eq_true, false_or, h.mod, h.fits, ↓reduceIte, h.name, a.skip, b.skip, c.skip]

theorem linear_spec (chunk : Bytes) (e : Nat) (he : e < 4294967296) (fname : Bytes) :
    ∀ (es : List EntrySpec) (p : Nat) (res : Option Nat) (rest : Bytes),
    chunk.drop p = encEntries es ++ rest → p + (encEntries es).length ≤ e →
    linear chunk e fname true es.length p res = .ok (toSearch e (scanFrom fname p es))
  | [], p, res, rest, _, _ => by cases res <;> simp [linear, scanFrom, toSearch]
  | en :: es, p, res, rest, hd, hfit => by
    rw [encEntries_cons, List.length_append] at hfit
    rw [encEntries_cons, List.append_assoc] at hd
    obtain ⟨h, hd'⟩ := EntryAt.enc he hd (by omega)
    rw [List.length_cons, linear_entry h, scanFrom, linear_spec chunk e he fname es _ res rest hd' (by omega)]
    split
    · rfl
    · split <;> rfl

def qrDensity (density : Nat) : Nat := 1 + 2 ^ (if density < 16 then density else 16)

theorem qrDensity_bounds (density : Nat) : 2 ≤ qrDensity density ∧ qrDensity density ≤ 65537 := by
  unfold qrDensity
  have h1 : 1 ≤ 2 ^ (if density < 16 then density else 16) := Nat.one_le_two_pow
  have h2 : 2 ^ (if density < 16 then density else 16) ≤ 2 ^ 16 := Nat.pow_le_pow_right (by decide) (by split <;> omega)
  omega

/-- The writer's quick-reference area holds the entry count and no offsets.  That is a complete quick-reference
    area exactly when the chunk has a single quick-reference group (at most `qr_density` entries).  `search_chunk`
    also copes when the free space is too small for the offsets its arithmetic expects (it then ignores the
    area).  In every other case it would read offsets out of the zero padding and skip entries. -/
def noQuickref (cs density : Nat) (es : List EntrySpec) : Prop :=
  es.length ≤ qrDensity density ∨
  cs - 22 - (encEntries es).length < 2 * ((es.length + qrDensity density - 1) / qrDensity density)

/-- the first (and only) round of the binary search when there is one quick-reference group, on the first entry
    of the chunk -/
theorem bsearch_entry {chunk : Bytes} {e p1 p' : Nat} {en : EntrySpec} (h : EntryAt chunk e 20 en p1 p')
    (cs : Nat) (fname : Bytes) (fuel : Nat) :
    bsearch chunk cs 20 e fname (fuel + 1) 0 0 =
      .ok (if compare fname en.name = 0 then .done (compare fname en.name) p1 en.name.length 0 0
           else if compare fname en.name < 0 then .ret0
           else .done (compare fname en.name) p1 en.name.length 1 0) := by
  rw [bsearch]
  simp only [Nat.add_zero, Nat.zero_div, qrTarget, ↓reduceIte, h.len, Bool.false_eq_true, false_or, h.mod, h.fits,
    h.name]
  by_cases h0 : compare fname en.name = 0
  · simp only [h0, ↓reduceIte]
  · rw [if_neg h0, if_neg h0]
    by_cases h1 : compare fname en.name < 0
    · simp only [h1, ↓reduceIte, ne_eq, not_true_eq_false]
    · rw [if_neg h1, if_neg h1]
      simp

/-- `search_chunk`'s count of quick-reference groups for `n` entries, density `D` and an area of `qs` bytes (entry
    count included): `⌈n / D⌉`, or 0 when the area has no room for that many 16-bit offsets -/
def qrEntriesOf (n D qs : Nat) : Nat :=
  if Int.ofNat ((n + D - 1) % 4294967296 / D * 2) > Int.ofNat qs - 2 then 0 else (n + D - 1) % 4294967296 / D

/-- why `noQuickref` suffices: on a chunk whose area is the entry count alone (`free` bytes of padding before it)
    `search_chunk` counts no group (area ignored), or one group that holds all `n` entries -/
theorem qrEntries_writer (n D qs free : Nat) (hn : 0 < n) (hn' : n < 65536) (hD : 2 ≤ D) (hD' : D ≤ 65537)
    (hqs : qs = free + 2) (hq : n ≤ D ∨ free < 2 * ((n + D - 1) / D)) :
    qrEntriesOf n D qs = 0 ∨ qrEntriesOf n D qs = 1 ∧ n ≤ D := by
  unfold qrEntriesOf
  rw [Nat.mod_eq_of_lt (by omega)]
  have hQ : n ≤ D → (n + D - 1) / D = 1 := fun hle => Nat.div_eq_of_lt_le (by omega) (by omega)
  generalize (n + D - 1) / D = Q at *
  split
  · exact .inl rfl
  · rename_i hc
    simp only [Int.ofNat_eq_natCast] at hc
    rcases hq with hle | ht
    · exact .inr ⟨hQ hle, hle⟩
    · omega

/-- **`search_chunk` degenerates to the linear scan** on a PMGL chunk whose quick-reference area is the entry
    count alone (stated for any chunk with the writer's fields, so that no concrete bytes are in the way) -/
theorem searchChunk_generic (h : Header) (chunk fname : Bytes) (es : List EntrySpec) (tail : Bytes)
    (hsig : byteAt chunk 3 = 0x4C)
    (hqr : u32At chunk pmgl_QuickRefSize = h.chunkSize - 20 - (encEntries es).length)
    (hnum : u16At chunk (h.chunkSize - 2) = es.length)
    (hbody : chunk.drop 20 = encEntries es ++ tail)
    (hfit : chunkFits h.chunkSize es) (hcs : h.chunkSize ≤ 8192) (hne : es ≠ [])
    (hq : noQuickref h.chunkSize h.density es) :
    searchChunk h chunk fname = .ok (toSearch (20 + (encEntries es).length) (scanFrom fname 20 es)) := by
  obtain ⟨hf1, hf2⟩ := hfit
  have hn0 : es.length ≠ 0 := fun h0 => hne (List.length_eq_zero_iff.mp h0)
  have he : h.chunkSize - (h.chunkSize - 20 - (encEntries es).length) = 20 + (encEntries es).length := by omega
  have hlin := linear_spec chunk (20 + (encEntries es).length) (by omega) fname es 20 none tail hbody (Nat.le_refl _)
  have hqe := qrEntries_writer es.length (qrDensity h.density) (h.chunkSize - 20 - (encEntries es).length)
    (h.chunkSize - 22 - (encEntries es).length) (by omega) hf2 (qrDensity_bounds _).1 (qrDensity_bounds _).2 (by omega) hq
  unfold searchChunk
  zeta_arg
  rw [hsig, hqr, hnum]
  have hDdef : 1 + 2 ^ (if h.density < 16 then h.density else 16) = qrDensity h.density := rfl
  simp only [hDdef, hn0, ↓reduceIte, pmgl_Entries, he,
    if_neg (show ¬ (h.chunkSize - 20 - (encEntries es).length > h.chunkSize) by omega)]
  rw [← qrEntriesOf]
  rcases hqe with hqe | ⟨hqe, hle⟩ <;> rw [hqe]
  · exact hlin
  · cases es with
    | nil => exact absurd rfl hne
    | cons en es' =>
      have hd1 : chunk.drop 20 = encEntry en ++ (encEntries es' ++ tail) := by
        rw [hbody, encEntries_cons, List.append_assoc]
      rw [if_pos (by decide), bsearch_entry (EntryAt.enc (e := 20 + (encEntries (en :: es')).length) (by omega) hd1
        (by rw [encEntries_cons, List.length_append]; omega)).1 h.chunkSize fname 1]
      rw [scanFrom] at hlin ⊢
      by_cases h0 : compare fname en.name = 0
      · simp only [h0, ↓reduceIte, toSearch, Nat.add_assoc]
      · rw [if_neg h0] at hlin ⊢
        rw [if_neg h0]
        by_cases h1 : compare fname en.name < 0
        · simp only [h1, ↓reduceIte, toSearch]
        · rw [if_neg h1] at hlin ⊢
          rw [if_neg h1]
          simp only [h0, ↓reduceIte, qrTarget, Nat.reduceAdd, Nat.reduceDiv, Nat.zero_mul, Nat.zero_mod, Nat.sub_zero,
            Nat.add_mod_right, Nat.mod_eq_of_lt (show (en :: es').length < 4294967296 by omega),
            if_neg (show ¬ ((en :: es').length > qrDensity h.density) by omega)]
          exact hlin

theorem encChunk_find_fields (cs total i : Nat) (es : List EntrySpec) (hfit : chunkFits cs es) (hcs : cs ≤ 8192)
    (htot : total ≤ 100000) (hi : i < total) :
    (byteAt (encChunk cs total i es) 0 = 0x50 ∧ byteAt (encChunk cs total i es) 1 = 0x4D ∧
     byteAt (encChunk cs total i es) 2 = 0x47 ∧ byteAt (encChunk cs total i es) 3 = 0x4C) ∧
    u32At (encChunk cs total i es) pmgl_QuickRefSize = cs - 20 - (encEntries es).length ∧
    u32At (encChunk cs total i es) pmgl_NextChunk = (if i + 1 = total then 0xFFFFFFFF else i + 1) := by
  refine ⟨?_, ?_, ?_⟩
  · simp only [encChunk, enc32, byteAt, List.cons_append, List.append_assoc, List.getD_cons_zero, List.getD_cons_succ]
    decide
  · simp only [encChunk, List.append_assoc, pmgl_QuickRefSize, u32At_skip, enc32_length, Nat.reduceLeDiff, Nat.reduceSub]
    exact u32At_enc32 (by omega) _
  · simp only [encChunk, List.append_assoc, pmgl_NextChunk, u32At_skip, enc32_length, Nat.reduceLeDiff, Nat.reduceSub]
    exact u32At_enc32 (by split <;> omega) _

theorem searchChunk_linear (h : Header) (total i : Nat) (es : List EntrySpec) (fname : Bytes)
    (hfit : chunkFits h.chunkSize es) (hcs : h.chunkSize ≤ 8192) (htot : total ≤ 100000) (hi : i < total) (hne : es ≠ [])
    (hq : noQuickref h.chunkSize h.density es) :
    searchChunk h (encChunk h.chunkSize total i es) fname =
      .ok (toSearch (20 + (encEntries es).length) (scanFrom fname 20 es)) := by
  obtain ⟨⟨_, _, _, hsig⟩, hqr, _⟩ := encChunk_find_fields h.chunkSize total i es hfit hcs htot hi
  obtain ⟨_, hnum, tail, hbody⟩ := encChunk_fields h.chunkSize total i es hfit
  exact searchChunk_generic h _ fname es tail hsig hqr hnum hbody hfit hcs hne hq

/-- a chunk without entries is refused (`num_entries == 0`) -/
theorem searchChunk_empty (h : Header) (total i : Nat) (fname : Bytes) (hcs : 22 ≤ h.chunkSize) :
    searchChunk h (encChunk h.chunkSize total i []) fname = .ok .bad := by
  have hnum := (encChunk_fields h.chunkSize total i [] ⟨by simp [encEntries]; omega, by simp⟩).2.1
  generalize encChunk h.chunkSize total i [] = chunk at hnum
  unfold searchChunk
  zeta_arg
  rw [hnum]
  rfl

theorem readFound_tail {chunk : Bytes} {e q p' : Nat} {en : EntrySpec} (h : TailAt chunk e q en p') (hwf : en.wf)
    (st : FF) :
    readFound chunk q e st =
      .ok ⟨.ok, { st with error := .ok }, ⟨some en.sec, Int.ofNat en.offset, Int.ofNat en.length⟩⟩ := by
  obtain ⟨p3, p4, a, b, c⟩ := h
  have hs := hwf.1
  have hm3 : en.sec % 4294967296 = en.sec := Nat.mod_eq_of_lt (by omega)
  have hsec : (if en.sec = 0 then 0 else 1) = en.sec := by split <;> omega
  unfold readFound
  simp only [a.read (by omega), b.read hwf.2.1, c.read hwf.2.2.1, hm3, hsec, Bool.or_self, Bool.false_eq_true,
    ↓reduceIte]

def chunkOf (s : ChmSpec) (n : Nat) : Bytes := encChunk s.chunkSize s.numChunks n (s.chunks.getD n [])

def withCache (s : ChmSpec) (filename : String) (cc : Option (List (Nat × Bytes))) : Header :=
  { s.listed filename with chunkCache := cc }

def CacheOk (s : ChmSpec) (cc : Option (List (Nat × Bytes))) : Prop :=
  ∀ l, cc = some l → ∀ k b, l.lookup k = some b → b = chunkOf s k

theorem cacheOk_none (s : ChmSpec) : CacheOk s none := by
  intro l h; cases h

theorem encChunks_drop (cs total : Nat) : ∀ (chunks : List (List EntrySpec)) (i k : Nat),
    (∀ c ∈ chunks, chunkFits cs c) → k < chunks.length →
    ∃ rest, (encChunks cs total i chunks).drop (k * cs) = encChunk cs total (i + k) (chunks.getD k []) ++ rest
  | [], _, _, _, hk => by simp at hk
  | c :: chunks, i, 0, _, _ => ⟨encChunks cs total (i + 1) chunks, by simp [encChunks]⟩
  | c :: chunks, i, k + 1, hfit, hk => by
    obtain ⟨rest, ih⟩ := encChunks_drop cs total chunks (i + 1) k (fun g hg => hfit g (List.mem_cons_of_mem _ hg))
      (by simpa using hk)
    refine ⟨rest, ?_⟩
    have hlen := encChunk_length cs total i c (hfit c (List.mem_cons_self ..)).1
    have hmul : (k + 1) * cs = (encChunk cs total i c).length + k * cs := by rw [hlen, Nat.succ_mul]; omega
    rw [encChunks, hmul, ← List.drop_drop, List.drop_left, ih, List.getD_cons_succ]
    congr 2; omega

theorem chunk_at (s : ChmSpec) (hwf : s.wf) (n : Nat) (hn : n < s.numChunks) :
    ∃ rest, (encodeChm s).drop (s.dirOffset + n * s.chunkSize) = chunkOf s n ++ rest := by
  obtain ⟨_, _, _, _, d5⟩ := chm_layout s
  have hfit : ∀ c ∈ s.chunks, chunkFits s.chunkSize c := fun c hc => (hwf.2.2.2.2.2.2.2.2 c hc).1
  obtain ⟨rest, hd⟩ := encChunks_drop s.chunkSize s.numChunks s.chunks 0 n hfit hn
  refine ⟨rest ++ s.content, ?_⟩
  rw [← List.drop_drop, d5, List.drop_append_of_le_length, hd, Nat.zero_add, List.append_assoc]
  · rfl
  · rw [encChunks_length _ _ _ _ hfit]
    have : n * s.chunkSize = s.chunkSize * n := Nat.mul_comm ..
    rw [this]
    exact Nat.mul_le_mul_left _ (Nat.le_of_lt hn)

theorem chunkOf_fits (s : ChmSpec) (hwf : s.wf) (n : Nat) : chunkFits s.chunkSize (s.chunks.getD n []) := by
  by_cases hn : n < s.chunks.length
  · have : s.chunks.getD n [] = s.chunks[n] := by simp [List.getD_eq_getElem?_getD, hn]
    rw [this]
    exact (hwf.2.2.2.2.2.2.2.2 _ (List.getElem_mem hn)).1
  · have : s.chunks.getD n [] = [] := by simp [List.getD_eq_getElem?_getD, Nat.le_of_not_lt hn]
    rw [this]
    have := (wf_chunkSize s hwf).1
    exact ⟨by simp [encEntries]; omega, by simp⟩

theorem readChunk_spec (s : ChmSpec) (hwf : s.wf) (filename : String) (err : Err) (cc : Option (List (Nat × Bytes)))
    (hok : CacheOk s cc) (n : Nat) (hn : n < s.numChunks) :
    ∃ cc', CacheOk s cc' ∧
      readChunk ⟨err, withCache s filename cc⟩ (encodeChm s) n = (some (chunkOf s n), ⟨err, withCache s filename cc'⟩) := by
  obtain ⟨hn1, hn2⟩ := wf_numChunks s hwf
  obtain ⟨hc1, hc2⟩ := wf_chunkSize s hwf
  obtain ⟨hm, hs0, hfl⟩ := wf_sizes s hwf
  have hok' : CacheOk s (some (cc.getD [])) := by
    intro l hl k b hb
    cases hl
    cases cc with
    | none => simp at hb
    | some l' => exact hok l' rfl k b hb
  have hnum : (withCache s filename cc).numChunks = s.numChunks := rfl
  have hcache : (withCache s filename cc).chunkCache.getD [] = cc.getD [] := rfl
  have hcs : (withCache s filename cc).chunkSize = s.chunkSize := rfl
  cases hlook : (cc.getD []).lookup n with
  | some c =>
    refine ⟨some (cc.getD []), hok', ?_⟩
    unfold readChunk
    zeta_arg
    rw [hnum, if_neg (by omega)]
    have hc := hok' _ rfl n c hlook
    subst hc
    simp only [hcache, hlook]
    rfl
  | none =>
    refine ⟨some ((n, chunkOf s n) :: cc.getD []), ?_, ?_⟩
    · intro l hl k b hb
      cases hl
      rw [List.lookup_cons] at hb
      by_cases hkn : k = n
      · subst hkn; simp at hb; exact hb.symm
      · have : (k == n) = false := by simp [hkn]
        rw [this] at hb
        exact hok' _ rfl k b hb
    · obtain ⟨rest, hd⟩ := chunk_at s hwf n hn
      have hlen : (chunkOf s n).length = s.chunkSize := encChunk_length _ _ _ _ (chunkOf_fits s hwf n).1
      have hre := (Rd.readExact_at hd hlen).1
      have hle : n * s.chunkSize ≤ s.chunkSize * s.numChunks := by
        rw [Nat.mul_comm]; exact Nat.mul_le_mul_left _ (Nat.le_of_lt hn)
      have hmod : n * s.chunkSize % 4294967296 = n * s.chunkSize := Nat.mod_eq_of_lt (by omega)
      have hseek : seekAbs ⟨encodeChm s, 0⟩ ((withCache s filename cc).dirOffset +
          Int.ofNat (n * (withCache s filename cc).chunkSize % 4294967296)) =
          some ⟨encodeChm s, s.dirOffset + n * s.chunkSize⟩ := by
        have h1 : (withCache s filename cc).dirOffset = Int.ofNat s.dirOffset := rfl
        rw [h1, hcs, hmod]
        have h3 : Int.ofNat s.dirOffset + Int.ofNat (n * s.chunkSize) = Int.ofNat (s.dirOffset + n * s.chunkSize) := by
          simp
        rw [h3, seekAbs_nat]
      obtain ⟨⟨b0, b1, b2, b3⟩, _, _⟩ := encChunk_find_fields s.chunkSize s.numChunks n (s.chunks.getD n [])
        (chunkOf_fits s hwf n) hc2 hn2 hn
      unfold readChunk
      zeta_arg
      rw [hnum, if_neg (by omega)]
      simp only [hcache, hlook, hseek]
      simp only [hcs, hre]
      have hsig : byteAt (chunkOf s n) 0 = 0x50 ∧ byteAt (chunkOf s n) 1 = 0x4D ∧ byteAt (chunkOf s n) 2 = 0x47 ∧
          (byteAt (chunkOf s n) 3 = 0x4C ∨ byteAt (chunkOf s n) 3 = 0x49) := ⟨b0, b1, b2, Or.inl b3⟩
      rw [if_neg (fun hnot => hnot hsig)]
      rfl

theorem chunkOf_next (s : ChmSpec) (hwf : s.wf) (n : Nat) (hn : n < s.numChunks) :
    u32At (chunkOf s n) pmgl_NextChunk = (if n + 1 = s.numChunks then 0xFFFFFFFF else n + 1) :=
  (encChunk_find_fields s.chunkSize s.numChunks n (s.chunks.getD n []) (chunkOf_fits s hwf n) (wf_chunkSize s hwf).2
    (wf_numChunks s hwf).2 hn).2.2

theorem walk_step (s : ChmSpec) (hwf : s.wf) (filename : String) (fname : Bytes) (n : Nat) (hn : n < s.numChunks)
    (r : Search) (hr : ∀ cc, searchChunk (withCache s filename cc) (chunkOf s n) fname = .ok r)
    (hnf : r = .notFound ∨ r = .bad) (fuel : Nat) (last : Search) (err : Err) (cc : Option (List (Nat × Bytes)))
    (hok : CacheOk s cc) :
    ∃ cc', CacheOk s cc' ∧
      walk (encodeChm s) fname (fuel + 1) n last ⟨err, withCache s filename cc⟩ =
        walk (encodeChm s) fname fuel (if n + 1 = s.numChunks then 0xFFFFFFFF else n + 1) r
          ⟨err, withCache s filename cc'⟩ := by
  obtain ⟨cc', hok', hrc⟩ := readChunk_spec s hwf filename err cc hok n hn
  refine ⟨cc', hok', ?_⟩
  have hlast : (⟨err, withCache s filename cc⟩ : FF).hdr.lastPmgl = s.numChunks - 1 := rfl
  have hnext := chunkOf_next s hwf n hn
  have hne : ¬ (n = if n + 1 = s.numChunks then 0xFFFFFFFF else n + 1) := by
    have := (wf_numChunks s hwf).2
    split <;> omega
  rw [walk, hlast, if_neg (by omega), hrc]
  simp only [hr cc']
  rcases hnf with rfl | rfl
  · simp only [hnext]
    rw [if_neg hne]
  · simp only [hnext]
    rw [if_neg hne]

theorem walk_step_found (s : ChmSpec) (hwf : s.wf) (filename : String) (fname : Bytes) (n : Nat) (hn : n < s.numChunks)
    (q e : Nat) (hr : ∀ cc, searchChunk (withCache s filename cc) (chunkOf s n) fname = .ok (.found q e))
    (fuel : Nat) (last : Search) (err : Err) (cc : Option (List (Nat × Bytes))) (hok : CacheOk s cc) :
    ∃ cc', CacheOk s cc' ∧
      walk (encodeChm s) fname (fuel + 1) n last ⟨err, withCache s filename cc⟩ =
        readFound (chunkOf s n) q e ⟨err, withCache s filename cc'⟩ := by
  obtain ⟨cc', hok', hrc⟩ := readChunk_spec s hwf filename err cc hok n hn
  refine ⟨cc', hok', ?_⟩
  have hlast : (⟨err, withCache s filename cc⟩ : FF).hdr.lastPmgl = s.numChunks - 1 := rfl
  rw [walk, hlast, if_neg (by omega), hrc]
  simp only [hr cc']

theorem walk_end (file fname : Bytes) (n : Nat) (last : Search) (st : FF) (hn : ¬ n ≤ st.hdr.lastPmgl) :
    ∀ fuel, walk file fname fuel n last st =
      .ok ⟨if last = .bad then .dataformat else .ok, { st with error := if last = .bad then .dataformat else .ok }, {}⟩
  | 0 => by rw [walk]; simp only [hn, not_false_eq_true, ↓reduceIte]
  | fuel + 1 => by rw [walk]; simp only [hn, not_false_eq_true, ↓reduceIte]

theorem walk_notFound (s : ChmSpec) (hwf : s.wf) (filename : String) (fname : Bytes)
    (hall : ∀ j, j < s.numChunks → ∀ cc, searchChunk (withCache s filename cc) (chunkOf s j) fname = .ok .notFound) :
    ∀ (d n fuel : Nat), n + d + 1 = s.numChunks → d + 1 ≤ fuel → ∀ (last : Search) (err : Err)
      (cc : Option (List (Nat × Bytes))), CacheOk s cc →
      ∃ cc', CacheOk s cc' ∧ walk (encodeChm s) fname fuel n last ⟨err, withCache s filename cc⟩ =
        .ok ⟨.ok, ⟨.ok, withCache s filename cc'⟩, {}⟩ := by
  intro d
  induction d with
  | zero =>
    intro n fuel hnd hf last err cc hok
    match fuel, hf with
    | fuel + 1, _ =>
      obtain ⟨cc', hok', hw⟩ := walk_step s hwf filename fname n (by omega) .notFound (hall n (by omega)) (Or.inl rfl)
        fuel last err cc hok
      refine ⟨cc', hok', ?_⟩
      rw [hw, if_pos (by omega), walk_end]
      · rfl
      · have := (wf_numChunks s hwf).2
        show ¬ (4294967295 ≤ s.numChunks - 1)
        omega
  | succ d ih =>
    intro n fuel hnd hf last err cc hok
    match fuel, hf with
    | fuel + 1, hf =>
      obtain ⟨cc', hok', hw⟩ := walk_step s hwf filename fname n (by omega) .notFound (hall n (by omega)) (Or.inl rfl)
        fuel last err cc hok
      obtain ⟨cc'', hok'', hw'⟩ := ih (n + 1) fuel (by omega) (by omega) .notFound err cc' hok'
      refine ⟨cc'', hok'', ?_⟩
      rw [hw, if_neg (by omega), hw']

theorem walk_found (s : ChmSpec) (hwf : s.wf) (filename : String) (fname : Bytes) (k : Nat) (hk : k < s.numChunks)
    (q e : Nat) (hfound : ∀ cc, searchChunk (withCache s filename cc) (chunkOf s k) fname = .ok (.found q e))
    (hbefore : ∀ j, j < k → ∃ r, (r = .notFound ∨ r = .bad) ∧
      ∀ cc, searchChunk (withCache s filename cc) (chunkOf s j) fname = .ok r) :
    ∀ (d n fuel : Nat), n + d = k → d + 1 ≤ fuel → ∀ (last : Search) (err : Err)
      (cc : Option (List (Nat × Bytes))), CacheOk s cc →
      ∃ cc', CacheOk s cc' ∧ walk (encodeChm s) fname fuel n last ⟨err, withCache s filename cc⟩ =
        readFound (chunkOf s k) q e ⟨err, withCache s filename cc'⟩ := by
  intro d
  induction d with
  | zero =>
    intro n fuel hnd hf last err cc hok
    have : n = k := by omega
    subst this
    match fuel, hf with
    | fuel + 1, _ => exact walk_step_found s hwf filename fname n hk q e hfound fuel last err cc hok
  | succ d ih =>
    intro n fuel hnd hf last err cc hok
    match fuel, hf with
    | fuel + 1, hf =>
      obtain ⟨r, hr1, hr2⟩ := hbefore n (by omega)
      obtain ⟨cc', hok', hw⟩ := walk_step s hwf filename fname n (by omega) r hr2 hr1 fuel last err cc hok
      obtain ⟨cc'', hok'', hw'⟩ := ih (n + 1) fuel (by omega) (by omega) r err cc' hok'
      refine ⟨cc'', hok'', ?_⟩
      rw [hw, if_neg (by omega), hw']

end MsPack.Chm
