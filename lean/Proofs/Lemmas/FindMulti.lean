import Proofs.Lemmas.FindPlanted
/-
Completeness of `cabd_find` for SEVERAL planted cabinets: a file
`junk_0 ++ cab_1 ++ junk_1 ++ … ++ cab_k ++ junk_k` whose junk pieces contain no signature and whose cabinets
occupy exactly `cablen` bytes.  The restart loop produces one candidate per planted cabinet (at its offset),
restarts right behind it in state 0, and nothing else.
-/
namespace MsPack.Cab

structure Planted where
  junk   : Bytes
  cab    : Bytes
  parsed : Cabinet

def layout : List Planted → Bytes → Bytes
  | [], last => last
  | s :: rest, last => s.junk ++ (s.cab ++ layout rest last)

/-- 20: the header bytes the scanner looks at -/
def SegOk (sv : Bool) (file : Bytes) (s : Planted) (off : Nat) : Prop :=
  ¬ sig <:+: s.junk ∧ 20 ≤ s.cab.length ∧ u32At s.cab 8 = s.cab.length ∧
  readHeaders file off sv = .ok s.parsed ∧
  plausible file.length sv ⟨off, u32At s.cab 8, u32At s.cab 16⟩ = true

def PlantedAt (sv : Bool) (file : Bytes) : Nat → List Planted → Prop
  | _, [] => True
  | off, s :: rest =>
    SegOk sv file s (off + s.junk.length) ∧ PlantedAt sv file (off + s.junk.length + s.cab.length) rest

def cabOffsets : Nat → List Planted → List Nat
  | _, [] => []
  | off, s :: rest => (off + s.junk.length) :: cabOffsets (off + s.junk.length + s.cab.length) rest

theorem cabOffsets_length : ∀ (segs : List Planted) (off : Nat), (cabOffsets off segs).length = segs.length
  | [], _ => rfl
  | _ :: rest, _ => by simp only [cabOffsets, List.length_cons, cabOffsets_length rest]

theorem cabOffsets_spec : ∀ (segs : List Planted) (off i : Nat) (h : i < segs.length),
    (cabOffsets off segs)[i]'(by rw [cabOffsets_length]; exact h) =
      off + (layout (segs.take i) segs[i].junk).length
  | s :: rest, off, 0, _ => by simp [cabOffsets, layout]
  | s :: rest, off, i + 1, h => by
    simp only [cabOffsets, List.getElem_cons_succ, List.take_succ_cons, layout, List.length_append]
    rw [cabOffsets_spec rest _ i (by simpa using h)]
    omega

theorem layout_split : ∀ (segs : List Planted) (last : Bytes) (i : Nat) (h : i < segs.length),
    layout segs last = layout (segs.take i) segs[i].junk ++ (segs[i].cab ++ layout (segs.drop (i + 1)) last)
  | s :: rest, last, 0, _ => by simp [layout]
  | s :: rest, last, i + 1, h => by
    simp only [List.take_succ_cons, layout, List.getElem_cons_succ, List.drop_succ_cons, List.append_assoc]
    rw [← layout_split rest last i (by simpa using h)]

theorem plantedAt_of_forall (sv : Bool) (file : Bytes) : ∀ (segs : List Planted) (off : Nat),
    (∀ p ∈ segs.zip (cabOffsets off segs), SegOk sv file p.1 p.2) → PlantedAt sv file off segs
  | [], _, _ => trivial
  | s :: rest, off, h => by
    refine ⟨h (s, off + s.junk.length) (by simp [cabOffsets]), plantedAt_of_forall sv file rest _ ?_⟩
    intro p hp
    exact h p (by simp only [cabOffsets, List.zip_cons_cons, List.mem_cons]; exact Or.inr hp)

theorem layout_length_pos (s : Planted) (rest : List Planted) (last : Bytes) (h : 0 < s.cab.length) :
    0 < (layout (s :: rest) last).length := by
  simp only [layout, List.length_append]; omega

theorem findLoop_planted (n : Nat) (hn : 1 ≤ n) (sv : Bool) (file last : Bytes) (hlast : ¬ sig <:+: last) :
    ∀ (segs : List Planted) (pre : Bytes) (acc : List Cabinet),
      file = pre ++ layout segs last → PlantedAt sv file pre.length segs →
      (findLoop n sv file pre.length acc).1 = acc.reverse ++ segs.map (·.parsed) := by
  intro segs
  induction segs with
  | nil =>
    intro pre acc hf _
    have hscan : scanChunks n file pre.length {} = none := by
      rw [scanChunks_eq_scanAll n hn]; unfold scanAll
      have hd : file.drop pre.length = last := by rw [hf, List.drop_left]; rfl
      obtain ⟨st', h, _⟩ := scan_junk last pre.length {} (by simp) (by simpa using hlast)
      rw [hd, h]
    rw [findLoop_none n sv file _ acc hscan]; simp
  | cons s rest ih =>
    intro pre acc hf hp
    obtain ⟨⟨hj, h20, hlen, hc, hpl⟩, hrest⟩ := hp
    have hd : file.drop (pre.length + s.junk.length) = s.cab ++ layout rest last := by
      rw [hf]; simp only [layout]
      rw [← List.append_assoc, ← List.length_append, List.drop_left]
    have hd0 : file.drop pre.length = s.junk ++ (s.cab ++ layout rest last) := by
      rw [hf, List.drop_left]; rfl
    obtain ⟨_, hsig⟩ := readHeaders_sig _ _ _ _ hc
    rw [hd] at hsig
    have hscan : scanChunks n file pre.length {} =
        some ⟨pre.length + s.junk.length, u32At s.cab 8, u32At s.cab 16⟩ := by
      rw [scanChunks_eq_scanAll n hn]
      exact scanAll_seg file s.junk s.cab (layout rest last) pre.length hd0 hj h20 hsig
    -- from here on the two length fields are plain numbers
    rw [hlen] at hscan hpl
    generalize u32At s.cab 16 = fo at hscan hpl
    clear hsig hlen
    have hat : atHit sv file ⟨pre.length + s.junk.length, s.cab.length, fo⟩ acc =
        (pre.length + s.junk.length + s.cab.length, s.parsed :: acc) :=
      atHit_ok sv file ⟨pre.length + s.junk.length, s.cab.length, fo⟩ acc s.parsed hpl hc
    have hflen : file.length = pre.length + s.junk.length + s.cab.length + (layout rest last).length := by
      rw [hf]; simp only [layout, List.length_append]; omega
    rw [findLoop_step n sv file _ acc _ _ _ hscan hat]
    by_cases hge : pre.length + s.junk.length + s.cab.length ≥ file.length
    · rw [if_pos hge]
      have hnil : rest = [] := by
        cases rest with
        | nil => rfl
        | cons t r =>
          exfalso
          obtain ⟨⟨_, h20', _⟩, _⟩ := hrest
          have := layout_length_pos t r last (by omega)
          omega
      subst hnil; simp
    · rw [if_neg hge, if_pos (by omega)]
      have hih := ih (pre ++ s.junk ++ s.cab) (s.parsed :: acc)
        (by rw [hf]; simp only [layout, List.append_assoc])
        (by simpa only [List.length_append] using hrest)
      simp only [List.length_append] at hih
      rw [hih]; simp

end MsPack.Cab
