import Proofs.Lemmas.LoopTermLzx
import Proofs.Lemmas.CountLaws
/-!
# LZX: a call that returns OK does not raise the bits still obtainable

`LoopTermLzx.lean` threads `Inv_T G c B st` (`M rem st + c ≤ B`, `M` = buffered bits + 8 × (buffered bytes + bytes left in
the source) + 16 until the two made-up bytes are used) through every helper; `decompress_post` keeps it for the state a
call returns with MSPACK_ERR_OK, provided no frame ends in `return lzx->error = OK` - which is `frameBody_throws`.
So such a call returns a state with `M rem o.st ≤ M rem st` (`decompress_ok_M`).  (A status other than OK comes with the
sticky error set — `C02_cab_lzx_status_sticky` — after which `decompress` returns at once.)
-/
namespace MsPack.Lzx.Term2

variable {σ : Type} (S : Src σ)

theorem decompress_ok_M (rem : σ → Nat) (hS : Src.Finite S rem) (fuel : Nat) (st : St σ) (n : Nat)
    (hf : M rem st + 3 ≤ fuel) (o : DecodeOut (St σ)) (h : decompress S fuel st n = .ok o) (he : o.err = .ok) :
    M rem o.st ≤ M rem st := by
  have := decompress_post_M S rem hS fuel st n hf
  rw [h] at this
  exact this.2 he (fun ob st st' hr => (CountLaws.Lzx.frameBody_throws S fuel ob).out _ _ _ hr rfl) trivial

end MsPack.Lzx.Term2
