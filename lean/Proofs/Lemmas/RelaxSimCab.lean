import Proofs.Lemmas.RelaxSim
import Proofs.Props.C07Decoders
/-!
# C18: the lift through `cabd_extract` for stored and MSZIP folders (lemmas for C18Extract)
-/
namespace MsPack.CountLaws.Relax
open MsPack.Cab

variable (files : Files)

theorem noned_rel (bs : Nat) : ∀ (fuel : Nat) (fd1 fd2 : Feeder) (bytes : Nat) (w : Bytes) (o1 : DecOut),
    FR fd1 fd2 → nonedDecompress files bs fuel fd1 bytes w = .ok o1 → o1.err = .ok →
    ∃ o2, nonedDecompress files bs fuel fd2 bytes w = .ok o2 ∧ o2.err = .ok ∧ o2.written = o1.written ∧
      o2.dec = o1.dec ∧ FR o1.feeder o2.feeder ∧ ∃ e, o1.dec = .none bs e := by
  intro fuel
  induction fuel with
  | zero => intro fd1 fd2 bytes w o1 _ h; simp [nonedDecompress] at h
  | succ fuel ih =>
    intro fd1 fd2 bytes w o1 hr h he
    unfold nonedDecompress at h ⊢
    by_cases hb : bytes = 0
    · simp only [hb, ↓reduceIte, Except.ok.injEq] at h ⊢
      subst h
      exact ⟨_, rfl, rfl, rfl, rfl, hr, _, rfl⟩
    · simp only [hb, ↓reduceIte] at h ⊢
      generalize (if bytes > bs then bs else bytes) = run at h ⊢
      split at h
      · contradiction
      · simp only [Except.ok.injEq] at h; subst h; cases he
      · rename_i got fd1' hrd
        obtain ⟨fd2', h2, hf⟩ := feederSrc_rel files fd1 fd2 run got fd1' hr hrd
        have h2' : feederRead files (feederFuel fd2) fd2 run [] = .ok (some got, fd2') := h2
        rw [h2']
        dsimp only
        by_cases hlen : got.length ≠ run
        · rw [if_pos hlen] at h; simp only [Except.ok.injEq] at h; subst h; cases he
        · rw [if_neg hlen] at h ⊢
          exact ih _ _ _ _ _ hf h he

/-- decoder states of the two runs: equal up to the MSZIP repair flag (and the feeder, which `decompress` installs) -/
def DecR : Dec → Dec → Prop
  | .none bs e, .none bs' e' => bs' = bs ∧ e' = e
  | .mszip s1, .mszip s2 => ∀ fd1 fd2, FR fd1 fd2 →
      ZR ({ s1 with src := fd1 } : Zip.St Feeder) ({ s2 with src := fd2 } : Zip.St Feeder)
  | _, _ => False

theorem chainFuel_rel (fd1 fd2 : Feeder) (hf : FR fd1 fd2) : chainFuel files fd2 = chainFuel files fd1 := by
  unfold chainFuel; rw [hf.parts]

theorem decompress_rel (dec1 dec2 : Dec) (fd1 fd2 : Feeder) (n : Nat) (o1 : DecOut) (hd : DecR dec1 dec2)
    (hf : FR fd1 fd2) (h : decompress files dec1 fd1 n = .ok (some o1)) (he : o1.err = .ok) :
    ∃ o2, decompress files dec2 fd2 n = .ok (some o2) ∧ o2.err = .ok ∧ o2.written = o1.written ∧
      DecR o1.dec o2.dec ∧ FR o1.feeder o2.feeder := by
  have h := decompress_ok_iff.1 h
  cases dec1 with
  | none bs e =>
    cases dec2 with
    | none bs' e' =>
      obtain ⟨rfl, rfl⟩ := hd
      obtain ⟨hne, rfl⟩ | ⟨rfl, hn⟩ := h
      · exact absurd he hne
      · obtain ⟨o2, h2, e2, w2, d2, f2, e3, hd3⟩ := noned_rel files bs' _ _ _ _ _ _ hf hn he
        refine ⟨o2, decompress_ok_iff.2 (.inr ⟨rfl, h2⟩), e2, w2, ?_, f2⟩
        rw [d2, hd3]
        exact ⟨rfl, rfl⟩
    | _ => exact absurd hd id
  | mszip s1 =>
    cases dec2 with
    | mszip s2 =>
      obtain ⟨zo, hz, rfl⟩ := h
      obtain ⟨o2, h2, e2, w2, hr2⟩ := zip_relax files _ _ _ n zo (hd fd1 fd2 hf) hz he
      rw [← chainFuel_rel files fd1 fd2 hf] at h2
      refine ⟨_, decompress_ok_iff.2 ⟨o2, h2, rfl⟩, e2, w2, ?_, hr2.src⟩
      intro g1 g2 hg
      constructor <;> first
        | exact hg
        | exact hr2.repair
        | rfl
        | (simp only [hr2.inbufSize, hr2.inbuf, hr2.inputEnd, hr2.bits, hr2.window, hr2.windowPosn, hr2.bytesOutput,
            hr2.litLens, hr2.distLens, hr2.error, hr2.pending]; done)
    | _ => exact absurd hd id
  | qtm _ => exact absurd hd id
  | lzx _ => exact absurd hd id
  | unsupported _ => exact absurd hd id

theorem memberCheck_rel (p p' : Params) (hs : p.salvage = false) (m : Member) (r : Nat × Nat)
    (h : memberCheck p m = .ok r) : memberCheck p' m = .ok r := by
  obtain ⟨filelen, key⟩ := r
  obtain ⟨h1, h2, h3, hk, hm, h4⟩ := memberCheck_ok h
  rw [hs] at h2 h4
  have hl := Nat.le_of_not_gt fun hl => h2 ⟨hl, rfl⟩
  rw [if_neg (Nat.not_lt.2 hl)] at h3
  subst h3
  exact memberCheck_pass p' hk hm (by omega) (Nat.le_of_not_gt fun hc => h4 ⟨rfl, by omega⟩)

end MsPack.CountLaws.Relax
