import MsPack.Driver.Kwaj
import Proofs.Lemmas.ZipChunk
import Proofs.Lemmas.FeederTerm
import Proofs.Lemmas.CabCall
/-!
MSZIP (`MsPack/Zip/Inflate.lean`, `MsPack/Zip/Kwaj.lean`): the out-of-fuel outcome `Fault.hang`
is unreachable with the fuel the callers pass.

Measure: the number of bits the decoder can still obtain,
`bitsLeft rem st = |bits| + 8·|inbuf| + 8·rem(src) + (16 if the two fake EOF bytes are still to come)`,
for a source with a "bytes remaining" function `rem` (`SrcOK S rem`; `rdSrc_ok`: the file-backed source `Rd.src` with
`rem r = |file| − pos`).  The walk of `ZipBounds.lean` says how much of it each function takes (`Took`) and that a
`hang` means the fuel was no more than the measure at the start (`Cause.hang`): `read_input` never increases it; every
`inflate` round takes 3 bits off it, every `huffBlock` round at least one (`Huff.decode_len`), every `scanCK` round 8,
every KWAJ block head 16; `readLensLoop` and `copyStored` have their own fuel (`total + 1`, `length + 2`) and
lengthen `lens` / shorten `length` each round (`copyStored` needs the window position inside the
frame, which `putByte`/`flushIfNeeded`/`copyStored` maintain and the callers establish with
`windowPosn := 0`).  Here that is read off for a source with `SrcOK` and fuel above the measure.

CAB caller (`MsPack.Cab` section at the end): the cabinet-set feeder is such a source with
`rem = feederLeft files` (`feederSrc_ok`), hence `C04_zip_cab_no_hang` under the explicit hypothesis that
`chainFuel files fd` exceeds `bitsLeft`; that hypothesis is derived from an invariant of the API layer in
`Props/C04CabExtract.lean` / `C04CabSession.lean`.
-/
namespace MsPack.Zip
open MsPack.Generated

variable {σ : Type}
variable {S : Src σ} {rem : σ → Nat}

theorem runInflate_left (hS : SrcOK S rem) (fuel : Nat) (st : St σ)
    (hw : st.windowPosn < zipFRAME_SIZE) (hf : bitsLeft rem st + 1 ≤ fuel) :
    match runInflate S fuel st with
    | .error f => f ≠ .hang
    | .ok (.sys _, _) => True
    | .ok (_, st') => bitsLeft rem st' ≤ bitsLeft rem st := by
  have h := inflate_spec S (fuel0 := fuel) fuel st 0 (Reached.start hw) (Nat.le_add_right ..)
  rcases hr : (inflate S fuel).run.run st with ⟨r, st'⟩
  rw [runInflate_eq S hr]
  cases r with
  | ok a => exact (h.ok hr).2 rem hS
  | error e =>
    cases e with
    | fault f => exact (h.error hr).2.ne_hang hS hf
    | inf => exact (h.error hr).2 rem hS
    | sys e => trivial

/-- `inflate` never runs out of fuel: source with a "bytes remaining" function, window position
    inside the frame, fuel above the number of bits still obtainable -/
theorem C04_zip_inflate_no_hang (hS : SrcOK S rem) (fuel : Nat) (st : St σ)
    (hw : st.windowPosn < zipFRAME_SIZE) (hf : bitsLeft rem st + 1 ≤ fuel) :
    runInflate S fuel st ≠ .error .hang := by
  have h := runInflate_left hS fuel st hw hf
  intro he
  rw [he] at h
  exact h rfl

/-- `SrcOK` is `Src.Finite` under other field names -/
theorem _root_.MsPack.Src.Finite.zip (h : S.Finite rem) : SrcOK S rem := ⟨h.read_le, h.no_hang⟩

def rdRem (r : Rd) : Nat := r.file.length - r.pos

theorem rdSrc_ok : SrcOK Rd.src rdRem := Rd.src_finite.zip

theorem C04_zip_inflate_no_hang_rd (fuel : Nat) (st : St Rd)
    (hw : st.windowPosn < zipFRAME_SIZE)
    (hf : st.bits.length + 8 * st.inbuf.length + 8 * (st.src.file.length - st.src.pos)
            + (if st.inputEnd then 0 else 16) + 1 ≤ fuel) :
    runInflate Rd.src fuel st ≠ .error .hang :=
  C04_zip_inflate_no_hang rdSrc_ok fuel st hw hf

theorem C04_zip_scanCK_no_hang (hS : SrcOK S rem) (fuel state : Nat) (st : St σ)
    (hf : bitsLeft rem st + 1 ≤ fuel) (st' : St σ) :
    (scanCK S fuel state).run.run st ≠ (.error (.fault .hang), st') := fun he =>
  ((scanCK_spec S (fuel0 := fuel) st fuel state st 0 (Same.refl st) (Took.refl st) (Nat.le_add_right ..)).error he).2.ne_hang
    hS hf rfl

open ZipChunk in
/-- the 8: one `CK` scan step -/
theorem frameStep_left (hS : SrcOK S rem) (fuel : Nat) (st : St σ) (hf : bitsLeft rem st + 1 ≤ fuel) :
    match frameStep S fuel st with
    | .error f => f ≠ .hang
    | .ok (.frame none st') => bitsLeft rem st' + 8 ≤ bitsLeft rem st
    | .ok _ => True := by
  unfold frameStep
  dsimp only
  have h0 := bitsLeft_drop rem st (st.bits.length % 8)
  generalize ({ st with bits := st.bits.drop (st.bits.length % 8) } : St σ) = st1 at h0 ⊢
  have hs := scanCK_spec S (fuel0 := fuel) st1 fuel 0 st1 0 (Same.refl st1) (Took.refl st1) (Nat.le_add_right ..)
  cases hr : (scanCK S fuel 0).run.run st1 with
  | mk r s =>
    cases r with
    | error e =>
      cases e with
      | fault f => exact (hs.error hr).2.ne_hang hS (by omega)
      | inf => trivial
      | sys e => trivial
    | ok a =>
      have h01 := (hs.ok hr).2 rem hS
      have hr2 := runInflate_left hS fuel { s with windowPosn := 0, bytesOutput := 0 } zipFRAME_SIZE_pos
        (by show bitsLeft rem s + 1 ≤ fuel; omega)
      dsimp only
      cases hri : runInflate S fuel { s with windowPosn := 0, bytesOutput := 0 } with
      | error f => rw [hri] at hr2; exact hr2
      | ok pr =>
        obtain ⟨res, s2⟩ := pr
        rw [hri] at hr2
        dsimp only
        by_cases hstop : res ≠ .ok ∧ (!s2.repair) = true
        · rw [if_pos hstop]; trivial
        · rw [if_neg hstop]
          have hle : bitsLeft rem s2 ≤ bitsLeft rem s → bitsLeft rem s2 + 8 ≤ bitsLeft rem st := by
            intro h; omega
          cases res with
          | sys e => trivial
          | ok => exact hle hr2
          | inf => exact hle hr2

def LoopPost (rem : σ → Nat) (st : St σ) : Except Fault (Out σ) → Prop
  | .error f => f ≠ .hang
  | .ok o => o.err = .ok → bitsLeft rem o.st ≤ bitsLeft rem st

theorem LoopPost.mono {st st1 : St σ} {r : Except Fault (Out σ)} (h : LoopPost rem st1 r)
    (hle : bitsLeft rem st1 ≤ bitsLeft rem st) : LoopPost rem st r := by
  cases r with
  | error f => exact h
  | ok o => exact fun he => Nat.le_trans (h he) hle

theorem LoopPost.no_hang {st : St σ} {r : Except Fault (Out σ)} (h : LoopPost rem st r) : r ≠ .error .hang :=
  fun e => by subst e; exact h rfl

open ZipChunk in
/-- a round that goes on has consumed the 8 bits of a `CK` scan step (`frameStep_left`); a round that ends the call
    carries a status other than OK (`frameStep_status`) -/
theorem decompressLoop_left (hS : SrcOK S rem) (fuel : Nat) : ∀ (n : Nat) (st : St σ) (outBytes : Nat) (w : Bytes),
    bitsLeft rem st + 1 ≤ fuel → bitsLeft rem st + 1 ≤ n → LoopPost rem st (decompressLoop S fuel n st outBytes w) := by
  intro n
  induction n with
  | zero => intro st outBytes w hf hn; omega
  | succ n ih =>
    intro st outBytes w hf hn
    rw [loop_succ]
    split
    · exact fun _ => Nat.le_refl _
    · have hl := frameStep_left hS fuel st hf
      cases hfs : frameStep S fuel st with
      | error f => rw [hfs] at hl; exact hl
      | ok r =>
        have hst := frameStep_status S fuel st r hfs
        rw [hfs] at hl
        cases r with
        | stop e st' => exact fun he => absurd he hst.1
        | frame se st' =>
          cases se with
          | some e => dsimp only; split <;> exact fun he => absurd he (hst.2.2 e rfl).1
          | none =>
            dsimp only
            refine LoopPost.mono (ih _ _ _ ?_ ?_) ?_
            · show bitsLeft rem st' + 1 ≤ fuel; omega
            · show bitsLeft rem st' + 1 ≤ n; omega
            · show bitsLeft rem st' ≤ bitsLeft rem st; omega

theorem decompress_left (hS : SrcOK S rem) (fuel : Nat) (st : St σ) (outBytes : Nat) (hf : bitsLeft rem st + 1 ≤ fuel) :
    LoopPost rem st (decompress S fuel st outBytes) := by
  unfold decompress
  split
  · next he => exact fun h => absurd h he
  · dsimp only
    split
    · exact fun _ => Nat.le_refl _
    · exact decompressLoop_left hS fuel fuel _ _ _ hf hf

/-- the block loop of `mszipd_decompress`: `fuel` for the inner loops and `n` block rounds, both
    above the number of bits still obtainable -/
theorem C04_zip_decompressLoop_no_hang (hS : SrcOK S rem) (fuel n : Nat) (st : St σ) (outBytes : Nat)
    (w : Bytes) (hf : bitsLeft rem st + 1 ≤ fuel) (hn : bitsLeft rem st + 1 ≤ n) :
    decompressLoop S fuel n st outBytes w ≠ .error .hang :=
  (decompressLoop_left hS fuel n st outBytes w hf hn).no_hang

/-- `mszipd_decompress`: `decompressLoop fuel fuel` never runs out of fuel (each block consumes
    at least the 8 bits of one `CK` scan step, whatever `out_bytes` and the repair mode are) -/
theorem C04_zip_decompress_no_hang (hS : SrcOK S rem) (fuel : Nat) (st : St σ) (outBytes : Nat)
    (hf : bitsLeft rem st + 1 ≤ fuel) : decompress S fuel st outBytes ≠ .error .hang :=
  (decompress_left hS fuel st outBytes hf).no_hang

theorem decompress_ok_bits (hS : SrcOK S rem) (fuel : Nat) (st : St σ) (outBytes : Nat) (w : Bytes) (st1 : St σ)
    (hf : bitsLeft rem st + 1 ≤ fuel) (h : decompress S fuel st outBytes = .ok ⟨.ok, w, st1⟩) :
    bitsLeft rem st1 ≤ bitsLeft rem st := by
  have := decompress_left hS fuel st outBytes hf
  rw [h] at this
  exact this rfl

theorem C04_zip_kwajLoop_no_hang (hS : SrcOK S rem) (fuel n : Nat) (st : St σ) (w : Array UInt8)
    (hf : bitsLeft rem st + 1 ≤ fuel) (hn : bitsLeft rem st + 1 ≤ n) :
    kwajLoop S fuel n st w ≠ .error .hang := by
  induction n generalizing st w with
  | zero => omega
  | succ n ih =>
    rw [kwajLoop.eq_2]
    have hh := kwajBlockHead_spec S fuel st
    split
    · next f _ heq => intro h; cases h; exact (hh.error heq).2.ne_hang hS hf rfl
    · simp
    · simp
    · simp
    · next st1 heq =>
      have hh := hh.ok heq
      have h16 := hh.2.1 rem hS
      have hw1 : st1.windowPosn < zipFRAME_SIZE := by rw [(hh.2.2 rfl).1]; exact zipFRAME_SIZE_pos
      have hr := runInflate_left hS fuel st1 hw1 (by omega)
      split
      · next f heq => rw [heq] at hr; intro h; cases h; exact hr rfl
      · simp
      · simp
      · next st2 heq =>
        rw [heq] at hr
        dsimp only [] at hr
        split
        · simp
        · exact ih _ _ (by omega) (by omega)

/-- `mszipd_decompress_kwaj`: `kwajLoop fuel fuel` never runs out of fuel (each block consumes
    at least the 16 bits of its length field) -/
theorem C04_zip_decompressKwaj_no_hang (hS : SrcOK S rem) (fuel : Nat) (st : St σ)
    (hf : bitsLeft rem st + 1 ≤ fuel) : decompressKwaj S fuel st ≠ .error .hang :=
  C04_zip_kwajLoop_no_hang hS fuel fuel st #[] hf hf


theorem init_bitsLeft {src : σ} {sz : Nat} {repair : Bool} {fill : UInt8} {z : St σ}
    (h : init src sz repair fill = some z) : bitsLeft rem z = 8 * rem src + 16 := by
  obtain ⟨h1, h2, h3, h4, _⟩ := init_fields h
  unfold bitsLeft
  rw [h1, h2, h3, h4]
  simp

/-- KWAJ method 4 as the extractor runs it (`Kwaj.extract`: `Zip.init r kwajINPUT_SIZE false
    fill`, then `Zip.decompressKwaj Rd.src fuel z`), with the fuel the driver passes
    (`Driver.Kwaj.fuelFor r.file.length = 16 * r.file.length + 100000`): never `hang` -/
theorem C04_zip_decompressKwaj_driver_no_hang (r : Rd) (fill : UInt8) (z : St Rd)
    (h : init r kwajINPUT_SIZE false fill = some z) :
    decompressKwaj Rd.src (MsPack.Driver.Kwaj.fuelFor r.file.length) z ≠ .error .hang := by
  apply C04_zip_decompressKwaj_no_hang rdSrc_ok
  rw [init_bitsLeft (rem := rdRem) h]
  unfold MsPack.Driver.Kwaj.fuelFor rdRem
  omega

theorem C04_zip_decompressKwaj_driver_no_hang' (r : Rd) (fill : UInt8) (z : St Rd)
    (h : init r kwajINPUT_SIZE false fill = some z) :
    decompressKwaj Rd.src (16 * r.file.length + 100000) z ≠ .error .hang :=
  C04_zip_decompressKwaj_driver_no_hang r fill z h

/-- the source assumption is satisfiable: the file-backed source has it -/
example : ∃ rem : Rd → Nat, SrcOK Rd.src rem := ⟨rdRem, rdSrc_ok⟩

/-- the state `mszipd_init` produces satisfies the hypotheses of `C04_zip_inflate_no_hang` for a concrete fuel -/
example (r : Rd) (fill : UInt8) (z : St Rd) (h : init r kwajINPUT_SIZE false fill = some z) :
    z.windowPosn < zipFRAME_SIZE ∧ bitsLeft rdRem z + 1 ≤ 16 * r.file.length + 100000 := by
  refine ⟨by rw [(init_fields h).2.2.2.2.1]; exact zipFRAME_SIZE_pos, ?_⟩
  rw [init_bitsLeft (rem := rdRem) h]; unfold rdRem; omega

/-- CAB MSZIP on the file-backed source from the initial state, any `out_bytes`, either
    repair mode: the hypotheses of `C04_zip_decompress_no_hang` are met with the drivers' style of fuel -/
example (r : Rd) (sz : Nat) (repair : Bool) (fill : UInt8) (z : St Rd) (outBytes : Nat)
    (h : init r sz repair fill = some z) :
    decompress Rd.src (16 * r.file.length + 100000) z outBytes ≠ .error .hang := by
  apply C04_zip_decompress_no_hang rdSrc_ok
  rw [init_bitsLeft (rem := rdRem) h]; unfold rdRem; omega

/-- `mszipd_init` does produce a state for the KWAJ buffer size -/
example (r : Rd) (fill : UInt8) : ∃ z, init r kwajINPUT_SIZE false fill = some z := ⟨_, rfl⟩

end MsPack.Zip

namespace MsPack.Cab

theorem feederSrc_ok (files : Files) : Zip.SrcOK (feederSrc files) (feederLeft files) := (feeder_finite files).zip

/-- CAB MSZIP as `Cab.decompress` runs it (`Zip.decompress (feederSrc files) (chainFuel files fd)
    { st with src := fd } bytes`): never `hang`, provided `chainFuel files fd` is above the bits still
    obtainable from the decoder's buffers and the feeder (`feederLeft`) -/
theorem C04_zip_cab_decompress_no_hang (files : Files) (st : Zip.St Feeder) (fd : Feeder) (bytes : Nat)
    (hf : st.bits.length + 8 * st.inbuf.length + 8 * feederLeft files fd
            + (if st.inputEnd then 0 else 16) + 1 ≤ chainFuel files fd) :
    Zip.decompress (feederSrc files) (chainFuel files fd) { st with src := fd } bytes ≠ .error .hang :=
  Zip.C04_zip_decompress_no_hang (feederSrc_ok files) _ _ _ hf

theorem C04_zip_cab_no_hang (files : Files) (st : Zip.St Feeder) (fd : Feeder) (bytes : Nat)
    (hf : st.bits.length + 8 * st.inbuf.length + 8 * feederLeft files fd
            + (if st.inputEnd then 0 else 16) + 1 ≤ chainFuel files fd) :
    decompress files (.mszip st) fd bytes ≠ .error .hang :=
  mt decompress_error_iff.1 (C04_zip_cab_decompress_no_hang files st fd bytes hf)

/-- non-vacuity: a fresh decoder state on a feeder with nothing left meets the fuel hypothesis -/
example (files : Files) (sz : Nat) (repair : Bool) (fill : UInt8) (st : Zip.St Feeder)
    (h : Zip.init nullFeeder sz repair fill = some st) :
    st.bits.length + 8 * st.inbuf.length + 8 * feederLeft files nullFeeder
      + (if st.inputEnd then 0 else 16) + 1 ≤ chainFuel files nullFeeder := by
  obtain ⟨h1, h2, _, h4, _⟩ := Zip.init_fields h
  rw [h1, h2, h4]
  simp [feederLeft, chainLeft, rdLeft, restLeft, nullFeeder, decFuel, chainFuel]

end MsPack.Cab
