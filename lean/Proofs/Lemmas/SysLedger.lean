import MsPack.Sys
/-
What each primitive of the instrumented system does to the *ledger view* of the world:
live allocation ids, live handles as (id, mode) pairs, recorded misuse, next fresh id.
File contents, handle positions, call counters and the fault plan are deliberately not part of
the view: the lemmas hold whatever they are, i.e. for every file content and every fault plan.

On top of that, what the API ledger files share: Hoare triples over `Sys.M` (`Hoare`), `Frame v w` (the ledger is as in
`v`), `Plus v ex hs w` (as in `v` with the blocks `ex` and the handles `hs` pushed on top, newest first: what a function
that acquires and releases in stack order sees while it runs) with one triple per primitive, and `Stable` (what a header
reader preserves).  `Frame` is declared in `MsPack.Szdd.Api` and `Plus` in `MsPack.Oab.Api`.
-/
/-- closes a goal `l₁ ~ l₂` between lists built from the same pieces with `::` and `++` -/
macro "perm_count" : tactic =>
  `(tactic| (rw [List.perm_iff_count]; intro x;
             simp only [Option.toList_some, Option.toList_none, List.map_cons, List.map_nil,
               List.count_append, List.count_cons, List.count_nil, List.count_singleton,
               List.append_assoc, List.cons_append, List.nil_append, List.append_nil] <;> omega))

namespace MsPack.Sys

theorem flatMap_eraseIdx_perm {α β} (f : α → List β) : ∀ (l : List α) (i : Nat) (x : α), l[i]? = some x →
    (l.flatMap f).Perm (f x ++ (l.eraseIdx i).flatMap f)
  | [], i, x, h => by simp at h
  | a :: as, 0, x, h => by
    simp only [List.getElem?_cons_zero, Option.some.injEq] at h
    subst h
    simp only [List.flatMap_cons, List.eraseIdx_cons_zero]
    exact List.Perm.refl _
  | a :: as, i + 1, x, h => by
    simp only [List.getElem?_cons_succ] at h
    simp only [List.flatMap_cons, List.eraseIdx_cons_succ]
    exact (List.Perm.append_left (f a) (flatMap_eraseIdx_perm f as i x h)).trans (List.perm_append_comm_assoc _ _ _)

theorem flatMap_set_perm {α β} (f : α → List β) (y : α) : ∀ (l : List α) (i : Nat) (x : α), l[i]? = some x →
    ((l.set i y).flatMap f).Perm (f y ++ (l.eraseIdx i).flatMap f)
  | [], i, x, h => by simp at h
  | a :: as, 0, x, h => by
    simp only [List.set_cons_zero, List.flatMap_cons, List.eraseIdx_cons_zero]
    exact List.Perm.refl _
  | a :: as, i + 1, x, h => by
    simp only [List.getElem?_cons_succ] at h
    simp only [List.set_cons_succ, List.flatMap_cons, List.eraseIdx_cons_succ]
    exact (List.Perm.append_left (f a) (flatMap_set_perm f y as i x h)).trans (List.perm_append_comm_assoc _ _ _)

/-! ## `M` is a plain state-passing function -/
theorem bind_apply {α β} (x : M α) (f : α → M β) (w : World) : (x >>= f) w = f (x w).1 (x w).2 := rfl
theorem pure_apply {α} (a : α) (w : World) : (pure a : M α) w = (a, w) := rfl

structure View where
  allocs  : List Nat
  handles : List (Nat × Mode)
  misuse  : List Misuse
  nextId  : Nat

def World.view (w : World) : View :=
  ⟨w.liveAllocs, w.liveHandles.map (fun h => (h.id, h.mode)), w.misuse, w.nextId⟩

structure View.ok (v : View) : Prop where
  allocs_lt  : ∀ a ∈ v.allocs, a < v.nextId
  handles_lt : ∀ h ∈ v.handles, h.1 < v.nextId
  handles_nd : (v.handles.map (·.1)).Nodup

theorem tick_view (k : Kind) (w : World) : (tick k w).2.view = w.view := rfl

theorem alloc_spec (w : World) :
    ((alloc w).1 = none ∧ (alloc w).2.view = w.view) ∨
    ((alloc w).1 = some w.nextId ∧
      (alloc w).2.view = { w.view with allocs := w.nextId :: w.view.allocs, nextId := w.nextId + 1 }) := by
  unfold alloc
  simp only [tick]
  split
  · left; exact ⟨rfl, rfl⟩
  · right; exact ⟨rfl, rfl⟩

theorem free_none_view (w : World) : (free none w).2.view = w.view := rfl

theorem free_live_view (w : World) (a : Nat) (h : a ∈ w.view.allocs) :
    (free (some a) w).2.view = { w.view with allocs := w.view.allocs.erase a } := by
  have h' : a ∈ w.liveAllocs := by simpa [World.view] using h
  simp only [free, List.contains_iff_mem, h', ↓reduceIte, World.view]

theorem open_spec (name : String) (mode : Mode) (w : World) :
    ((open_ name mode w).1 = none ∧ (open_ name mode w).2.view = w.view) ∨
    ((open_ name mode w).1 = some w.nextId ∧
      (open_ name mode w).2.view =
        { w.view with handles := (w.nextId, mode) :: w.view.handles, nextId := w.nextId + 1 }) := by
  unfold open_
  simp only [tick]
  split
  · left; exact ⟨rfl, rfl⟩
  · split
    · left; exact ⟨rfl, rfl⟩
    · right; exact ⟨rfl, rfl⟩

theorem eq_of_id_eq : ∀ (l : List Handle), (l.map (·.id)).Nodup → ∀ x ∈ l, ∀ y ∈ l, x.id = y.id → x = y := by
  intro l
  induction l with
  | nil => intro _ x hx; cases hx
  | cons a as ih =>
    intro hnd x hx y hy hxy
    simp only [List.map_cons, List.nodup_cons] at hnd
    simp only [List.mem_cons] at hx hy
    rcases hx with rfl | hx <;> rcases hy with rfl | hy
    · rfl
    · exact absurd (List.mem_map.mpr ⟨y, hy, hxy.symm⟩) hnd.1
    · exact absurd (List.mem_map.mpr ⟨x, hx, hxy⟩) hnd.1
    · exact ih hnd.2 x hx y hy hxy

theorem ids_nodup (w : World) (hok : w.view.ok) : (w.liveHandles.map (·.id)).Nodup := by
  have := hok.handles_nd
  simp only [World.view, List.map_map] at this
  exact this

theorem findHandle_of_view (w : World) (hok : w.view.ok) (id : Nat) (m : Mode)
    (h : (id, m) ∈ w.view.handles) :
    ∃ hd, findHandle w id = some hd ∧ hd ∈ w.liveHandles ∧ hd.id = id ∧ hd.mode = m := by
  simp only [World.view, List.mem_map, Prod.mk.injEq] at h
  obtain ⟨y, hy, hyid, hym⟩ := h
  unfold findHandle
  cases hf : w.liveHandles.find? (fun x => decide (x.id = id)) with
  | none =>
    have := List.find?_eq_none.mp hf y hy
    simp [hyid] at this
  | some hd =>
    have hmem := List.mem_of_find?_eq_some hf
    have hid : hd.id = id := by simpa using List.find?_some hf
    have : hd = y := eq_of_id_eq _ (ids_nodup w hok) hd hmem y hy (by rw [hid, hyid])
    exact ⟨hd, rfl, hmem, hid, by rw [this]; exact hym⟩

theorem setHandle_view (w : World) (hok : w.view.ok) (h h' : Handle) (hmem : h ∈ w.liveHandles)
    (hid : h'.id = h.id) (hm : h'.mode = h.mode) : (setHandle h' w).view = w.view := by
  unfold setHandle World.view
  simp only [List.map_map]
  congr 1
  apply List.map_congr_left
  intro x hx
  simp only [Function.comp]
  split
  · rename_i hxe
    have : x = h := eq_of_id_eq _ (ids_nodup w hok) x hx h hmem (by rw [hxe, hid])
    rw [this, hid, hm]
  · rfl

theorem close_live_view (w : World) (hok : w.view.ok) (id : Nat) (m : Mode) (h : (id, m) ∈ w.view.handles) :
    (close id w).2.view = { w.view with handles := w.view.handles.filter (·.1 ≠ id) } := by
  obtain ⟨hd, hf, _, _, _⟩ := findHandle_of_view w hok id m h
  unfold close
  rw [hf]
  simp only [World.view, List.filter_map, View.mk.injEq, true_and, and_true]
  congr 1

/-- what `read`, `write` and the seeks have in common -/
theorem tick_find (w : World) (hok : w.view.ok) (id : Nat) (m : Mode) (h : (id, m) ∈ w.view.handles) (k : Kind) :
    ∃ hd, findHandle { w with counts := w.counts.bump k } id = some hd ∧ hd.mode = m ∧
      ∀ hd', hd'.id = hd.id → hd'.mode = hd.mode → (setHandle hd' { w with counts := w.counts.bump k }).view = w.view := by
  obtain ⟨hd, hf, hmem, _, hmode⟩ := findHandle_of_view w hok id m h
  exact ⟨hd, hf, hmode, fun hd' hid hm => setHandle_view _ hok hd hd' hmem hid hm⟩

theorem read_live_view (w : World) (hok : w.view.ok) (id n : Nat) (h : (id, Mode.read) ∈ w.view.handles) :
    (read id n w).2.view = w.view := by
  obtain ⟨hd, hf, hmode, hset⟩ := tick_find w hok id .read h .read
  unfold read
  simp only [tick, hf, hmode, ne_eq, not_true_eq_false, ↓reduceIte]
  split
  · rfl
  · exact hset _ rfl hmode.symm

theorem write_live_view (w : World) (hok : w.view.ok) (id : Nat) (bs : Bytes) (h : (id, Mode.write) ∈ w.view.handles) :
    (write id bs w).2.view = w.view := by
  obtain ⟨hd, hf, hmode, hset⟩ := tick_find w hok id .write h .write
  unfold write
  simp only [tick, hf, hmode, ne_eq, not_true_eq_false, ↓reduceIte]
  split
  · rfl
  · exact hset _ rfl hmode.symm

theorem seekStart_live_view (w : World) (hok : w.view.ok) (id off : Nat) (m : Mode) (h : (id, m) ∈ w.view.handles) :
    (seekStart id off w).2.view = w.view := by
  obtain ⟨hd, hf, _, hset⟩ := tick_find w hok id m h .seek
  unfold seekStart
  simp only [tick, hf]
  split
  · rfl
  · exact hset _ rfl rfl

theorem seekCur_live_view (w : World) (hok : w.view.ok) (id : Nat) (off : Int) (m : Mode) (h : (id, m) ∈ w.view.handles) :
    (seekCur id off w).2.view = w.view := by
  obtain ⟨hd, hf, _, hset⟩ := tick_find w hok id m h .seek
  unfold seekCur
  simp only [tick, hf]
  split
  · rfl
  · split
    · rfl
    · exact hset _ rfl rfl

/-- `sys->seek(fh, 0, MSPACK_SYS_SEEK_END)`, which the CAB and the CHM model each define for themselves -/
theorem seekEnd_live_view {seekEnd : Nat → M Bool}
    (hdef : ∀ id w, seekEnd id w =
      match findHandle (tick .seek w).2 id with
      | none => (true, (note (.useClosed id) (tick .seek w).2).2)
      | some h =>
        if (tick .seek w).1 then (true, (tick .seek w).2)
        else (false, setHandle { h with pos := (((tick .seek w).2.files.lookup h.name).getD []).length } (tick .seek w).2))
    (w : World) (hok : w.view.ok) (id : Nat) (m : Mode) (h : (id, m) ∈ w.view.handles) :
    (seekEnd id w).2.view = w.view := by
  obtain ⟨hd, hf, _, hset⟩ := tick_find w hok id m h .seek
  have hf' : findHandle (tick .seek w).2 id = some hd := hf
  rw [hdef]
  simp only [hf']
  split
  · rfl
  · exact hset _ rfl rfl

theorem ok_add_handle {v : View} (hv : v.ok) (m : Mode) :
    View.ok { v with handles := (v.nextId, m) :: v.handles, nextId := v.nextId + 1 } := by
  constructor
  · intro a ha; have := hv.allocs_lt a ha; simp only; omega
  · intro h hh
    simp only [List.mem_cons] at hh
    rcases hh with rfl | hh
    · simp
    · have := hv.handles_lt h hh; simp only; omega
  · simp only [List.map_cons, List.nodup_cons]
    refine ⟨?_, hv.handles_nd⟩
    intro hmem
    obtain ⟨h, hh, heq⟩ := List.mem_map.mp hmem
    have := hv.handles_lt h hh
    omega

theorem ok_add_alloc {v : View} (hv : v.ok) :
    View.ok { v with allocs := v.nextId :: v.allocs, nextId := v.nextId + 1 } := by
  constructor
  · intro a ha
    simp only [List.mem_cons] at ha
    rcases ha with rfl | ha
    · simp
    · have := hv.allocs_lt a ha; simp only; omega
  · intro h hh; have := hv.handles_lt h hh; simp only; omega
  · exact hv.handles_nd

theorem ok_erase_alloc {v : View} (hv : v.ok) (a : Nat) : View.ok { v with allocs := v.allocs.erase a } :=
  ⟨fun x hx => hv.allocs_lt x (List.mem_of_mem_erase hx), hv.handles_lt, hv.handles_nd⟩

theorem ok_filter_handles {v : View} (hv : v.ok) (p : Nat × Mode → Bool) :
    View.ok { v with handles := v.handles.filter p } :=
  ⟨hv.allocs_lt, fun h hh => hv.handles_lt h (List.mem_filter.mp hh).1,
   List.Nodup.sublist (List.Sublist.map _ List.filter_sublist) hv.handles_nd⟩

def Hoare {α} (P : World → Prop) (x : M α) (Q : α → World → Prop) : Prop := ∀ w, P w → Q (x w).1 (x w).2

theorem Hoare.pure {α} {P : World → Prop} {a : α} {Q : α → World → Prop} (h : ∀ w, P w → Q a w) :
    Hoare P (Pure.pure a : M α) Q := h

theorem Hoare.bind {α β} {P : World → Prop} {x : M α} {R : α → World → Prop} {f : α → M β}
    {Q : β → World → Prop} (hx : Hoare P x R) (hf : ∀ a, Hoare (R a) (f a) Q) : Hoare P (x >>= f) Q :=
  fun w hw => hf _ _ (hx w hw)

theorem Hoare.pre {α} {P P' : World → Prop} {x : M α} {Q : α → World → Prop} (h : Hoare P x Q)
    (hp : ∀ w, P' w → P w) : Hoare P' x Q := fun w hw => h w (hp w hw)

theorem Hoare.post {α} {P : World → Prop} {x : M α} {Q Q' : α → World → Prop} (h : Hoare P x Q)
    (hq : ∀ a w, Q a w → Q' a w) : Hoare P x Q' := fun w hw => hq _ _ (h w hw)

theorem Hoare.trivial {α} (P : World → Prop) (x : M α) : Hoare P x fun _ _ => True := fun _ _ => True.intro

theorem Hoare.assume {α} {p : Prop} {P : World → Prop} {x : M α} {Q : α → World → Prop} (h : p → Hoare P x Q) :
    Hoare (fun w => p ∧ P w) x Q := fun w hw => h hw.1 w hw.2

theorem Hoare.ite {α} {P : World → Prop} {Q : α → World → Prop} {c : Prop} [Decidable c] {x y : M α}
    (hx : c → Hoare P x Q) (hy : ¬c → Hoare P y Q) : Hoare P (if c then x else y) Q := by
  split
  · exact hx ‹_›
  · exact hy ‹_›

abbrev Pres (P : World → Prop) {α} (x : M α) : Prop := Hoare P x fun _ => P

/-- the family `P` (indexed by the blocks held) is kept by what a header reader does with the system:
    reads and relative seeks on `fh`, allocations -/
structure Stable (fh : Nat) (P : List Nat → World → Prop) : Prop where
  read    : ∀ bl n, Pres (P bl) (read fh n)
  seekCur : ∀ bl off, Pres (P bl) (seekCur fh off)
  alloc   : ∀ bl, Hoare (P bl) alloc fun r => P (r.toList ++ bl)

/-- from a world with nothing live and nothing recorded (a fresh process; such a world is `ok`): a ledger
    that is back where it started is empty -/
theorem nothing_left {w w' : World}
    (h : w.view.ok → w'.liveAllocs = w.liveAllocs ∧
      w'.liveHandles.map (fun h => (h.id, h.mode)) = w.liveHandles.map (fun h => (h.id, h.mode)) ∧ w'.misuse = w.misuse)
    (ha : w.liveAllocs = []) (hh : w.liveHandles = []) (hm : w.misuse = []) :
    w'.liveAllocs = [] ∧ w'.liveHandles = [] ∧ w'.misuse = [] := by
  have hok : w.view.ok := by
    unfold World.view; rw [ha, hh]
    exact ⟨fun _ h => (nomatch h), fun _ h => (nomatch h), List.nodup_nil⟩
  obtain ⟨h1, h2, h3⟩ := h hok
  rw [hh] at h2
  exact ⟨h1.trans ha, List.map_eq_nil_iff.mp h2, h3.trans hm⟩

end MsPack.Sys

namespace MsPack.Szdd.Api
open MsPack.Sys

structure Frame (v : View) (w' : World) : Prop where
  allocs  : w'.view.allocs = v.allocs
  handles : w'.view.handles = v.handles
  misuse  : w'.view.misuse = v.misuse
  nextId  : v.nextId ≤ w'.view.nextId

theorem Frame.refl (w : World) : Frame w.view w := ⟨rfl, rfl, rfl, Nat.le_refl _⟩

theorem Frame.ok {v : View} {w' : World} (f : Frame v w') (hv : v.ok) : w'.view.ok := by
  constructor
  · intro a ha; rw [f.allocs] at ha; exact Nat.lt_of_lt_of_le (hv.allocs_lt a ha) f.nextId
  · intro h hh; rw [f.handles] at hh; exact Nat.lt_of_lt_of_le (hv.handles_lt h hh) f.nextId
  · rw [f.handles]; exact hv.handles_nd

theorem Frame.trans {v : View} {w1 w2 : World} (f1 : Frame v w1) (f2 : Frame w1.view w2) : Frame v w2 :=
  ⟨f2.allocs.trans f1.allocs, f2.handles.trans f1.handles, f2.misuse.trans f1.misuse,
   Nat.le_trans f1.nextId f2.nextId⟩

end MsPack.Szdd.Api

namespace MsPack.Oab.Api
open MsPack.Sys
open MsPack.Szdd.Api (Frame)

structure Plus (v : View) (ex : List Nat) (hs : List (Nat × Mode)) (w' : World) : Prop where
  allocs  : w'.view.allocs = ex ++ v.allocs
  handles : w'.view.handles = hs ++ v.handles
  misuse  : w'.view.misuse = v.misuse
  nextId  : v.nextId ≤ w'.view.nextId
  ok      : w'.view.ok

theorem filter_ne_eq_erase : ∀ (l : List (Nat × Mode)) (id : Nat) (m : Mode), (l.map (·.1)).Nodup → (id, m) ∈ l →
    l.filter (·.1 ≠ id) = l.erase (id, m) := by
  intro l id m
  induction l with
  | nil => intro _ h; cases h
  | cons x xs ih =>
    intro hnd h
    simp only [List.map_cons, List.nodup_cons] at hnd
    by_cases hx : x = (id, m)
    · subst hx
      have : xs.filter (·.1 ≠ id) = xs := by
        apply List.filter_eq_self.mpr
        intro y hy
        have : y.1 ≠ id := fun e => hnd.1 (List.mem_map.mpr ⟨y, hy, e⟩)
        simpa using this
      have e1 : ((id, m) :: xs).erase (id, m) = xs := List.erase_cons_head ..
      rw [e1, List.filter_cons]
      simp only [ne_eq, not_true_eq_false, decide_false, Bool.false_eq_true, ↓reduceIte]
      exact this
    · have hin : (id, m) ∈ xs := by
        rcases List.mem_cons.mp h with e | e
        · exact absurd e.symm hx
        · exact e
      have h1 : x.1 ≠ id := fun e => hnd.1 (List.mem_map.mpr ⟨(id, m), hin, e.symm⟩)
      have hbeq : (x == (id, m)) = false := by simpa using hx
      rw [List.erase_cons, hbeq]
      simp only [List.filter_cons, ne_eq, h1, not_false_eq_true, decide_true, ↓reduceIte, Bool.false_eq_true]
      rw [← ih hnd.2 hin]

section kit
variable {v : View} {ex : List Nat} {hs : List (Nat × Mode)} {w : World}

theorem Plus.of_view_eq (hv : v.ok) (h : w.view = v) : Plus v [] [] w :=
  ⟨by rw [h]; rfl, by rw [h]; rfl, by rw [h], by rw [h]; exact Nat.le_refl _, by rw [h]; exact hv⟩

theorem Plus.frame (p : Plus v [] [] w) : Frame v w := ⟨p.allocs, p.handles, p.misuse, p.nextId⟩

theorem Plus.keep (p : Plus v ex hs w) {w' : World} (h : w'.view = w.view) : Plus v ex hs w' :=
  ⟨by rw [h]; exact p.allocs, by rw [h]; exact p.handles, by rw [h]; exact p.misuse,
   by rw [h]; exact p.nextId, by rw [h]; exact p.ok⟩

theorem Plus.step (p : Plus v ex hs w) {w' : World} (f : Frame w.view w') : Plus v ex hs w' :=
  ⟨f.allocs.trans p.allocs, f.handles.trans p.handles, f.misuse.trans p.misuse,
   Nat.le_trans p.nextId f.nextId, f.ok p.ok⟩

theorem Plus.mem_handles (p : Plus v ex hs w) {x : Nat × Mode} (h : x ∈ hs ++ v.handles) : x ∈ w.view.handles := by
  rw [p.handles]; exact h

theorem Plus.alloc_none (p : Plus v ex hs w) (h : (alloc w).1 = none) : Plus v ex hs (alloc w).2 := by
  rcases alloc_spec w with ⟨_, a2⟩ | ⟨a1, _⟩
  · exact p.keep a2
  · rw [a1] at h; cases h

theorem Plus.alloc_some (p : Plus v ex hs w) {a : Nat} (h : (alloc w).1 = some a) :
    Plus v (a :: ex) hs (alloc w).2 := by
  rcases alloc_spec w with ⟨a1, _⟩ | ⟨a1, a2⟩
  · rw [a1] at h; cases h
  · rw [a1] at h; cases h
    have h0 : w.view.nextId = w.nextId := rfl
    refine ⟨?_, ?_, ?_, ?_, ?_⟩
    · rw [a2]; dsimp only; rw [p.allocs]; rfl
    · rw [a2]; exact p.handles
    · rw [a2]; exact p.misuse
    · rw [a2]; have := p.nextId; dsimp only; omega
    · rw [a2]; exact ok_add_alloc p.ok

theorem Plus.free_mem {a : Nat} (p : Plus v ex hs w) (h : a ∈ ex) : Plus v (ex.erase a) hs (free (some a) w).2 := by
  have hmem : a ∈ w.view.allocs := by rw [p.allocs]; exact List.mem_append_left _ h
  have hf := free_live_view w a hmem
  refine ⟨?_, ?_, ?_, ?_, ?_⟩
  · rw [hf]; dsimp only; rw [p.allocs, List.erase_append_left _ h]
  · rw [hf]; exact p.handles
  · rw [hf]; exact p.misuse
  · rw [hf]; exact p.nextId
  · rw [hf]; exact ok_erase_alloc p.ok a

theorem Plus.free_opt {o : Option Nat} (p : Plus v (o.toList ++ ex) hs w) : Plus v ex hs (free o w).2 := by
  cases o with
  | none => exact p.keep (free_none_view w)
  | some a =>
    have := (show Plus v (a :: ex) hs w from p).free_mem (List.mem_cons_self ..)
    rwa [List.erase_cons_head] at this

theorem Plus.open_none {name : String} {m : Mode} (p : Plus v ex hs w) (h : (open_ name m w).1 = none) :
    Plus v ex hs (open_ name m w).2 := by
  rcases open_spec name m w with ⟨_, o2⟩ | ⟨o1, _⟩
  · exact p.keep o2
  · rw [o1] at h; cases h

theorem Plus.open_some {name : String} {m : Mode} (p : Plus v ex hs w) {id : Nat}
    (h : (open_ name m w).1 = some id) : Plus v ex ((id, m) :: hs) (open_ name m w).2 := by
  rcases open_spec name m w with ⟨o1, _⟩ | ⟨o1, o2⟩
  · rw [o1] at h; cases h
  · rw [o1] at h; cases h
    have h0 : w.view.nextId = w.nextId := rfl
    refine ⟨?_, ?_, ?_, ?_, ?_⟩
    · rw [o2]; exact p.allocs
    · rw [o2]; dsimp only; rw [p.handles]; rfl
    · rw [o2]; exact p.misuse
    · rw [o2]; have := p.nextId; dsimp only; omega
    · rw [o2]; exact ok_add_handle p.ok m

theorem Plus.close_mem {id : Nat} {m : Mode} (p : Plus v ex hs w) (h : (id, m) ∈ hs) :
    Plus v ex (hs.erase (id, m)) (close id w).2 := by
  have hmem : (id, m) ∈ w.view.handles := by rw [p.handles]; exact List.mem_append_left _ h
  have hc := close_live_view w p.ok id m hmem
  have hnd := p.ok.handles_nd
  have hfil : w.view.handles.filter (·.1 ≠ id) = hs.erase (id, m) ++ v.handles := by
    rw [filter_ne_eq_erase _ id m hnd hmem, p.handles, List.erase_append_left _ h]
  refine ⟨?_, ?_, ?_, ?_, ?_⟩
  · rw [hc]; exact p.allocs
  · rw [hc]; exact hfil
  · rw [hc]; exact p.misuse
  · rw [hc]; exact p.nextId
  · rw [hc]; exact ok_filter_handles p.ok _

theorem Plus.alloc : Hoare (Plus v ex hs) Sys.alloc (fun r => Plus v (r.toList ++ ex) hs) := fun w p => by
  cases h : (Sys.alloc w).1 with
  | none => exact p.alloc_none h
  | some a => exact p.alloc_some h

theorem Plus.free (o : Option Nat) : Hoare (Plus v (o.toList ++ ex) hs) (Sys.free o) (fun _ => Plus v ex hs) :=
  fun _ p => p.free_opt

theorem Plus.free1 (a : Nat) : Hoare (Plus v (a :: ex) hs) (Sys.free (some a)) (fun _ => Plus v ex hs) :=
  Plus.free (some a)

theorem Plus.free_under (x o : Option Nat) :
    Hoare (Plus v (x.toList ++ (o.toList ++ ex)) hs) (Sys.free o) (fun _ => Plus v (x.toList ++ ex) hs) := by
  cases o with
  | none => exact fun w p => p.keep (free_none_view w)
  | some a =>
    cases x with
    | none => exact Plus.free1 a
    | some b =>
      intro w p
      have := p.free_mem (a := a) (List.mem_cons_of_mem _ (List.mem_cons_self ..))
      have e : (b :: a :: ex).erase a = b :: ex := by
        by_cases h : b = a
        · subst h; simp
        · have : (b == a) = false := by simpa using h
          simp [this]
      rwa [show (some b).toList ++ ((some a).toList ++ ex) = b :: a :: ex from rfl, e] at this

theorem Plus.open_ (name : String) (m : Mode) :
    Hoare (Plus v ex hs) (Sys.open_ name m) (fun r => Plus v ex (r.toList.map (·, m) ++ hs)) := fun w p => by
  cases h : (Sys.open_ name m w).1 with
  | none => exact p.open_none h
  | some a => exact p.open_some h

theorem Plus.open_fresh (name : String) (m : Mode) :
    Hoare (Plus v ex hs) (Sys.open_ name m)
      (fun r w' => (∀ a, r = some a → v.nextId ≤ a) ∧ Plus v ex (r.toList.map (·, m) ++ hs) w') := fun w p => by
  refine ⟨fun a ha => ?_, Plus.open_ name m w p⟩
  rcases open_spec name m w with ⟨o1, _⟩ | ⟨o1, _⟩
  · rw [o1] at ha; cases ha
  · rw [o1] at ha; cases ha; exact p.nextId

theorem Plus.close (id : Nat) (m : Mode) : Hoare (Plus v ex ((id, m) :: hs)) (Sys.close id) (fun _ => Plus v ex hs) :=
  fun _ p => by have := p.close_mem (List.mem_cons_self ..); rwa [List.erase_cons_head] at this

theorem Plus.read {fh : Nat} (n : Nat) (h : (fh, Mode.read) ∈ hs ++ v.handles) :
    Hoare (Plus v ex hs) (Sys.read fh n) (fun _ => Plus v ex hs) :=
  fun w p => p.keep (read_live_view w p.ok fh n (p.mem_handles h))

theorem Plus.write {fh : Nat} (bs : Bytes) (h : (fh, Mode.write) ∈ hs ++ v.handles) :
    Hoare (Plus v ex hs) (Sys.write fh bs) (fun _ => Plus v ex hs) :=
  fun w p => p.keep (write_live_view w p.ok fh bs (p.mem_handles h))

theorem Plus.seekStart {fh : Nat} {m : Mode} (off : Nat) (h : (fh, m) ∈ hs ++ v.handles) :
    Hoare (Plus v ex hs) (Sys.seekStart fh off) (fun _ => Plus v ex hs) :=
  fun w p => p.keep (seekStart_live_view w p.ok fh off m (p.mem_handles h))

theorem Plus.seekCur {fh : Nat} {m : Mode} (off : Int) (h : (fh, m) ∈ hs ++ v.handles) :
    Hoare (Plus v ex hs) (Sys.seekCur fh off) (fun _ => Plus v ex hs) :=
  fun w p => p.keep (seekCur_live_view w p.ok fh off m (p.mem_handles h))

theorem Plus.stable {fh : Nat} (h : (fh, Mode.read) ∈ hs ++ v.handles) : Stable fh fun bl => Plus v bl hs :=
  ⟨fun _ n => Plus.read n h, fun _ off => Plus.seekCur off h, fun _ => Plus.alloc⟩

end kit

end MsPack.Oab.Api
