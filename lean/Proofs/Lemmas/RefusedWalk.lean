import Proofs.Lemmas.ZipBounds
import Proofs.Lemmas.QtmBounds
import Proofs.Lemmas.Count
import Proofs.Lemmas.CountLaws
import Proofs.Lemmas.FeederStep
/-!
# "A block refused by the block reader makes the call fail" — the walks (lemmas for C12Decoders)

`NR fd` ("not refused"): the feeder's last event was not a block refused by `readBlock` — its `readError` is OK, or it
has run past the folder's last block and recorded DATAFORMAT for that (`numBlocks < block`; that is what `cabd_sys_read`
does when a decoder reads ahead at the end of the folder, which is normal and harmless).  A feeder read that delivers bytes
(`some`) keeps `NR` (`feederRead_nr`); the read that meets a refused block returns `none`.

Each decoder's walk of `CountLaws.lean` (`Zip.Walk`, `Lzx.Walk`, `Qtm.Walk`) with the invariant "the source is `NR`": it holds
at every normal return (and at MSZIP's `inf` exits, which repair mode continues from); a status exception carries a non-OK
status.  Hence: a `decompress` call that starts with an `NR` feeder and returns OK ends with an `NR` feeder.
-/
namespace MsPack.RefusedWalk
open MsPack.Cab MsPack.CountLaws

def NR (fd : Feeder) : Prop := fd.readError = .ok ∨ (fd.numBlocks < fd.block ∧ fd.readError = .dataformat)

theorem feederRead_nr (files : Files) : ∀ (fuel : Nat) (fd : Feeder) (todo : Nat) (got g : Bytes) (fd' : Feeder),
    feederRead files fuel fd todo got = .ok (some g, fd') → NR fd → NR fd' := by
  refine feederRead_induct files
    (hang := fun _ _ h => nomatch h) (done := fun _ _ h hn => by cases h; exact hn) (serve := fun _ _ ih => ih)
    (pastEnd := fun {_ fd _ _} _ _ hge _ _ h hn => ?_) (fault := fun _ _ _ _ _ _ h => nomatch h)
    (refuse := fun _ _ _ _ _ _ h => nomatch h) (take := fun _ _ _ _ ih g fd' h _ => ih g fd' h (.inl rfl))
  cases h
  unfold NR Feeder.pastEnd
  dsimp only
  split
  · exact hn.imp_right fun h => ⟨by omega, h.2⟩
  · exact .inr ⟨by omega, rfl⟩

theorem feederSrc_nr (files : Files) (fd : Feeder) (n : Nat) (g : Bytes) (fd' : Feeder)
    (h : (feederSrc files).read fd n = .ok (some g, fd')) (hn : NR fd) : NR fd' :=
  feederRead_nr files _ fd n [] g fd' h hn

section zip
variable (files : Files)

def ZI (st : Zip.St Feeder) : Prop := NR st.src

def ZE : Zip.Halt → Zip.St Feeder → Prop
  | .sys e, _ => e ≠ .ok
  | .inf, st => ZI st
  | .fault _, _ => True

theorem nr_walk : CountLaws.Zip.Walk (feederSrc files) ZI ZE where
  frame := fun h h2 _ _ _ => by unfold ZI at *; rw [h2]; exact h
  fault := fun _ _ _ => trivial
  inf := fun _ hi => hi
  readNone := fun _ _ _ _ => (nofun : Err.read ≠ Err.ok)
  readEnd := fun _ _ _ _ => (nofun : Err.read ≠ Err.ok)
  readMore := fun _ _ _ _ hi hrd h2 _ _ _ => by
    unfold ZI at *; rw [h2]; exact feederSrc_nr files _ _ _ _ hrd hi

theorem zip_nr (fuel : Nat) (st : Zip.St Feeder) (n : Nat) (o : Zip.Out Feeder) (hj : ZI st)
    (h : Zip.decompress (feederSrc files) fuel st n = .ok o) : o.err = .ok → ZI o.st := by
  by_cases he : st.error = .ok
  · rcases CountLaws.Zip.decompress_outcome (nr_walk files) (fun _ h => h) (fun _ _ _ h _ _ _ _ => h) he hj h with
      ⟨_, hi⟩ | ⟨hd, _⟩ | hE
    · exact fun _ => hi
    · exact fun hc => by rw [hd] at hc; cases hc
    · exact fun hc => absurd hc hE
  · rw [Zip.decompress_dead _ fuel st n he] at h
    cases h; exact fun hc => absurd hc he

end zip

namespace LzxW
variable (files : Files)

def LI (st : Lzx.St Feeder) : Prop := NR st.src

def LE : Lzx.Halt → Lzx.St Feeder → Prop
  | .sys e, _ => e ≠ .ok
  | .fault _, _ => True

theorem nr_walk : CountLaws.Lzx.Walk (feederSrc files) LI LE where
  frame := fun h h2 _ _ => by unfold LI at *; rw [h2]; exact h
  fault := fun _ _ _ => trivial
  fail := fun _ _ _ _ _ _ => (nofun : Err.decrunch ≠ Err.ok)
  readNone := fun _ _ _ _ _ _ _ _ => (nofun : Err.read ≠ Err.ok)
  readEnd := fun _ _ _ _ _ _ _ _ => (nofun : Err.read ≠ Err.ok)
  readMore := fun _ _ _ _ hi hrd h2 _ _ => by
    unfold LI at *; rw [h2]; exact feederSrc_nr files _ _ _ _ hrd hi

theorem lzx_nr (fuel : Nat) (st : Lzx.St Feeder) (n : Nat) (o : DecodeOut (Lzx.St Feeder)) (hi : LI st)
    (h : Lzx.decompress (feederSrc files) fuel st n = .ok o) : o.err = .ok → LI o.st := by
  by_cases he : st.error = .ok
  · rcases CountLaws.Lzx.decompress_outcome (nr_walk files) he hi h with ⟨_, hi'⟩ | hE
    · exact fun _ => hi'
    · exact fun hc => absurd hc hE
  · rw [Lzx.decompress_dead _ fuel st n he] at h
    cases h; exact fun hc => absurd hc he

end LzxW

namespace QtmW
open MsPack.Qtm
open MsPack.CountLaws.Qtm (Walk body_walk)
variable (files : Files)

def QI (r : Run Feeder) : Prop := NR r.st.src

def QE : Qtm.Halt → Run Feeder → Prop
  | .sys e, _ => e ≠ .ok
  | .fault _, _ => True

theorem nr_walk : Walk (feederSrc files) QI QE where
  frame := fun h h2 _ _ => by unfold QI at *; rw [h2]; exact h
  fault := fun _ _ _ _ => trivial
  readFault := fun _ _ _ _ => trivial
  symFault := fun _ _ _ _ _ _ _ _ => trivial
  fail := fun _ _ => (nofun : Err.decrunch ≠ Err.ok)
  readNone := fun _ _ _ _ => (nofun : Err.read ≠ Err.ok)
  readEnd := fun _ _ _ _ => (nofun : Err.read ≠ Err.ok)
  readMore := fun _ _ _ _ hi hrd h2 _ _ => by
    unfold QI at *; rw [h2]; exact feederSrc_nr files _ _ _ _ hrd hi

theorem body_tri (fuel : Nat) : Tri QI QE (body (feederSrc files) fuel) := body_walk (nr_walk files) fuel

theorem qtm_nr (fuel : Nat) (st : Qtm.St Feeder) (n : Nat) (o : DecodeOut (Qtm.St Feeder)) (hj : NR st.src)
    (h : Qtm.decompress (feederSrc files) fuel st n = .ok o) : o.err = .ok → NR o.st.src := by
  have := Qtm.decompress_cases (feederSrc files) fuel st n (P := fun | .ok o => o.err = .ok → NR o.st.src | .error _ => True)
    (fun he hc => absurd hc he) fun _ i _ _ => ⟨fun _ => trivial, fun _ _ _ => hj, fun _ _ =>
      ((body_tri files fuel).wp (by exact hj)).mono (fun _ _ hr _ => hr) fun
        | .sys _, _, he => fun hc => absurd hc he
        | .fault _, _, _ => trivial⟩
  rw [h] at this
  exact this

end QtmW

theorem noned_nr (files : Files) (bs : Nat) (fuel : Nat) (fd : Feeder) (bytes : Nat) (w : Bytes) (o : DecOut)
    (h : nonedDecompress files bs fuel fd bytes w = .ok o) (hn : NR fd) (he : o.err = .ok) : NR o.feeder := by
  have := nonedDecompress_walk (F := fun _ => True) ⟨fun _ _ => trivial, fun _ _ => trivial, fun _ _ _ => trivial,
    fun hn hr _ => feederSrc_nr files _ _ _ _ hr hn⟩ bs fuel fd bytes w hn
  rw [h] at this
  obtain ⟨_, ⟨_, hn', _⟩ | ⟨hr, _⟩⟩ := this
  · exact hn'
  · rw [hr] at he; cases he

theorem decompress_nr (files : Files) (dec : Dec) (fd : Feeder) (n : Nat) (o : DecOut) (hn : NR fd)
    (h : decompress files dec fd n = .ok (some o)) (he : o.err = .ok) : NR o.feeder := by
  have h := decompress_ok_iff.1 h
  cases dec with
  | none bs e =>
    obtain ⟨hne, rfl⟩ | ⟨_, hr⟩ := h
    · exact absurd he hne
    · exact noned_nr files bs _ _ _ _ _ hr hn he
  | mszip st => obtain ⟨oz, hz, rfl⟩ := h; exact zip_nr files _ _ _ _ (by exact hn) hz he
  | qtm st => obtain ⟨oz, hz, rfl⟩ := h; exact QtmW.qtm_nr files _ _ _ _ (by exact hn) hz he
  | lzx st => obtain ⟨oz, hz, rfl⟩ := h; exact LzxW.lzx_nr files _ _ _ _ (by exact hn) hz he
  | unsupported m => exact h.elim

end MsPack.RefusedWalk
