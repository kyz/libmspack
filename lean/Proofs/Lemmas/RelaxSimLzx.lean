import Proofs.Lemmas.RelaxSim
import Proofs.Lemmas.LzxSim
/-!
# C18: the LZX decoder over a strict and a relaxed feeder (lemmas for C18Lzx)

The LZX decoder never looks at the relaxation flags; the two runs differ only in the feeder inside the state.
`LR a b`: `b` is `a` with its feeder replaced by an `FR`-related one (`LzxSim.SR FR` with no invariant).  This is the
walk of `LzxSim.lean` with the feeder source on both sides and `FR` between the feeders: whenever the strict run
returns, so does the relaxed one.
-/
namespace MsPack.CountLaws.Relax
open MsPack.Cab MsPack.Lzx MsPack.CabLift.LzxSim
open MsPack.CountLaws.ReadErr (run_set_bind run_set run_throw)
open MsPack.CountLaws.Qtm (run_get_bind)

variable (files : Files)

def LR (a b : Lzx.St Feeder) : Prop := ∃ fd, FR a.src fd ∧ b = { a with src := fd }

theorem lzx_outSlice_src (st : Lzx.St Feeder) (fd : Feeder) (n : Nat) :
    outSlice ({ st with src := fd } : Lzx.St Feeder) n = outSlice st n := rfl

theorem lzx_readInput_rel : Sim False (SR FR fun _ => True) (HE fun _ => True)
    (Lzx.readInput (feederSrc files)) (Lzx.readInput (feederSrc files)) := by
  constructor
  · intro s1 s2 hr a s1' h
    obtain ⟨_, fd, hf, rfl⟩ := hr
    unfold Lzx.readInput at h ⊢
    rw [run_get_bind] at h ⊢
    dsimp -zeta only at h ⊢
    split at h
    · rw [run_throw] at h; cases h
    · rename_i got src hrd
      dsimp only at h
      split at h
      · rw [run_set_bind, run_throw] at h; cases h
      · obtain ⟨fd2', h2, hf'⟩ := feederSrc_rel files _ _ _ _ _ hf hrd
        rw [h2]
        dsimp only
        have hl : (feederSrc files).lzxLength fd2' = (feederSrc files).lzxLength src := hf'.lzxLen
        rw [hl]
        split at h
        · rw [run_set_bind, run_throw] at h; cases h
        · rename_i hie
          rw [run_set] at h; cases h
          rw [if_neg hie, run_set]
          exact ⟨_, rfl, trivial, fd2', hf', rfl⟩
      · rename_i g hne
        obtain ⟨fd2', h2, hf'⟩ := feederSrc_rel files _ _ _ _ _ hf hrd
        rw [h2]
        dsimp only
        have hl : (feederSrc files).lzxLength fd2' = (feederSrc files).lzxLength src := hf'.lzxLen
        rw [hl]
        rw [run_set] at h; cases h
        cases g with
        | nil => exact absurd rfl hne
        | cons b rest =>
          dsimp only
          rw [run_set]
          exact ⟨_, rfl, trivial, fd2', hf', rfl⟩
  · intro s1 _ _ e t1 h
    refine ⟨?_, False.elim⟩
    unfold Lzx.readInput at h
    rw [run_get_bind] at h
    split at h
    · rw [run_throw] at h; cases h; exact Or.inr trivial
    · dsimp only at h
      split at h
      · rw [run_set_bind, run_throw] at h; cases h; exact fun he => nomatch he
      · split at h
        · rw [run_set_bind, run_throw] at h; cases h; exact fun he => nomatch he
        · rw [run_set] at h; cases h
      · rw [run_set] at h; cases h

end MsPack.CountLaws.Relax
