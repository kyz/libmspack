import Proofs.Lemmas.Headers
import Proofs.Lemmas.CabCall
import Proofs.Lemmas.NonedWalk
/-
`cabd_extract` and its phases.  `runPhases_post` is the one walk through `runPhases`; it is read for an invariant of the
cached decoder state (`CabInv`) and for C07 (`extract_counts`: never more than the member's length, OK means complete).
`Slices` is the forward rule for folders whose decoder calls all succeed.
-/
namespace MsPack.Cab
open MsPack.Generated

theorem noned_count (files : Files) (bs : Nat) (fuel : Nat) (fd : Feeder) (bytes : Nat) (w : Bytes) (o : DecOut)
    (h : nonedDecompress files bs fuel fd bytes w = .ok o) :
    o.dec = .none bs o.err ∧ o.written.length ≤ w.length + bytes ∧ (o.err = .ok → o.written.length = w.length + bytes) := by
  have := nonedDecompress_walk (.any files) bs fuel fd bytes w trivial
  rw [h] at this
  obtain ⟨hd, ⟨_, _, hw⟩ | ⟨he, _, hw⟩⟩ := this
  · exact ⟨hd, Nat.le_of_eq hw, fun _ => hw⟩
  · exact ⟨hd, hw, fun e => by rw [he] at e; cases e⟩

def CountLaw (files : Files) (dec : Dec) : Prop :=
  ∀ fd n o, decompress files dec fd n = .ok (some o) →
    o.written.length ≤ n ∧ (o.err = .ok → o.written.length = n)

theorem countLaw_none (files : Files) (bs : Nat) (e : Err) : CountLaw files (.none bs e) := by
  intro fd n o h
  obtain ⟨he, rfl⟩ | ⟨_, hd⟩ := decompress_ok_iff.1 h
  · exact ⟨Nat.zero_le _, fun hc => absurd hc he⟩
  · simpa using (noned_count files bs _ _ _ _ _ hd).2

theorem runPhase_fault {files : Files} {ds : DState} {dec : Dec} {n : Nat} {f : Fault}
    (h : runPhase files ds dec n = .fault f) : decompress files dec ds.feeder n = .error f := by
  unfold runPhase at h
  split at h
  · cases h; assumption
  · cases h
  · cases h

theorem runPhase_ran {files : Files} {ds : DState} {dec : Dec} {n : Nat} {e : Err} {w : Bytes} {ds' : DState}
    (h : runPhase files ds dec n = .ran e w ds') : ∃ o, decompress files dec ds.feeder n = .ok (some o) ∧
      e = (if o.err = .read then o.feeder.readError else o.err) ∧ w = o.written ∧
      ds' = { ds with offset := ds.offset + o.written.length, feeder := o.feeder, dec := some o.dec } := by
  unfold runPhase at h
  split at h
  · cases h
  · cases h
  · cases h; exact ⟨_, ‹_›, rfl, rfl, rfl⟩

theorem runPhase_of_ok {files : Files} {ds : DState} {dec : Dec} {n : Nat} {o : DecOut}
    (h : decompress files dec ds.feeder n = .ok (some o)) :
    runPhase files ds dec n = .ran (if o.err = .read then o.feeder.readError else o.err) o.written
      { ds with offset := ds.offset + o.written.length, feeder := o.feeder, dec := some o.dec } := by
  unfold runPhase; rw [h]

theorem runPhase_count (files : Files) (ds : DState) (dec : Dec) (n : Nat) (hL : CountLaw files dec)
    (e : Err) (w : Bytes) (ds' : DState) (h : runPhase files ds dec n = .ran e w ds') :
    w.length ≤ n := by
  obtain ⟨o, ho, _, rfl, _⟩ := runPhase_ran h
  exact (hL _ _ _ ho).1

theorem memberCheck_ok {p : Params} {m : Member} {filelen key : Nat} (h : memberCheck p m = .ok (filelen, key)) :
    m.offset ≤ cabLENGTHMAX ∧ ¬(m.length > cabLENGTHMAX - m.offset ∧ (!p.salvage) = true) ∧
    filelen = (if m.length > cabLENGTHMAX - m.offset then cabLENGTHMAX - m.offset else m.length) ∧
    m.folderKey = some key ∧ m.mergePrev = false ∧
    ¬((!p.salvage) = true ∧
      (m.offset > m.numBlocks * cabBLOCKMAX ∨ filelen > m.numBlocks * cabBLOCKMAX - m.offset)) := by
  unfold memberCheck at h
  simp only at h
  obtain ⟨h1, h⟩ := of_ite_error_eq_ok h
  obtain ⟨h2, h⟩ := of_ite_error_eq_ok h
  split at h
  · cases h
  obtain ⟨h3, h⟩ := of_ite_error_eq_ok h
  obtain ⟨h4, h⟩ := of_ite_error_eq_ok h
  cases h
  exact ⟨Nat.le_of_not_lt h1, h2, rfl, ‹_›, Bool.eq_false_iff.2 h3, h4⟩

theorem memberCheck_pass (p : Params) {m : Member} {key : Nat} (hk : m.folderKey = some key) (hm : m.mergePrev = false)
    (hmax : m.offset + m.length ≤ cabLENGTHMAX) (hblk : m.offset + m.length ≤ m.numBlocks * cabBLOCKMAX) :
    memberCheck p m = .ok (m.length, key) := by
  have a1 : ¬(m.offset > cabLENGTHMAX) := by omega
  have a2 : ¬(m.length > cabLENGTHMAX - m.offset) := by omega
  have a3 : ¬(m.offset > m.numBlocks * cabBLOCKMAX) := by omega
  have a4 : ¬(m.length > m.numBlocks * cabBLOCKMAX - m.offset) := by omega
  simp only [memberCheck, hk, hm, a1, a2, a3, a4, ↓reduceIte, Bool.false_eq_true, false_and, or_self, and_false]

theorem memberCheck_le (p : Params) (m : Member) (filelen key : Nat)
    (h : memberCheck p m = .ok (filelen, key)) : filelen ≤ m.length := by
  rw [(memberCheck_ok h).2.2.1]
  split <;> omega

def ResInv (J : Err → DState → Prop) (F : Fault → Prop) : ExtractResult → Prop
  | .fault f => F f
  | .done e _ d => ∀ ds, d = some ds → J e ds
  | .unsupported => True

/-- `capped`: the call may assume that it stays under the length cap (LZX needs that) and must then show that it has
    not passed the offset asked for. -/
def PhaseInv (files : Files) (capped : Prop) (I : DState → Prop) (J : Err → DState → Prop) (F : Fault → Prop) : Prop :=
  (∀ ds e, I ds → J e ds) ∧ (∀ ds, J .ok ds → I ds) ∧
  ∀ ds dec n, I ds → ds.dec = some dec → (capped → ds.offset + n ≤ cabLENGTHMAX) →
    (∀ f, runPhase files ds dec n = .fault f → F f) ∧
    ∀ e w ds', runPhase files ds dec n = .ran e w ds' → J e ds' ∧ (capped → ds'.offset ≤ ds.offset + n)

def ResOut (Q : Err → Bytes → Prop) : ExtractResult → Prop
  | .done e (some w) _ => Q e w
  | _ => True

/-- What is handed to the output is nothing because nothing was asked for, nothing because the skip phase failed, or
    what the output phase wrote. -/
theorem runPhases_post {files : Files} {capped : Prop} {I : DState → Prop} {J : Err → DState → Prop} {F : Fault → Prop}
    {Q : Nat → Err → Bytes → Prop} (hp : PhaseInv files capped I J F)
    (hq : ∀ ds dec n e w ds', I ds → ds.dec = some dec → runPhase files ds dec n = .ran e w ds' → Q n e w)
    (ds : DState) (hds : I ds) (m : Member) (filelen : Nat)
    (ho : capped → ds.offset ≤ m.offset) (hm : capped → m.offset + filelen ≤ cabLENGTHMAX) :
    ResInv J F (runPhases files ds m filelen) ∧
    ResOut (fun e w => (filelen = 0 ∧ e = .ok ∧ w = []) ∨ (e ≠ .ok ∧ w = []) ∨ Q filelen e w)
      (runPhases files ds m filelen) := by
  obtain ⟨hIJ, hJI, hp⟩ := hp
  have keep : ∀ {e w} {ds' : DState}, J e ds' → ResInv J F (.done e w (some ds')) := fun h _ e => by cases e; exact h
  unfold runPhases
  split
  · exact ⟨keep (hIJ _ _ hds), trivial⟩
  rename_i dec hdec
  split
  · exact ⟨keep (hIJ _ _ hds), .inl ⟨‹_›, rfl, rfl⟩⟩
  dsimp only
  split
  · have h1 := hp ds dec filelen hds hdec (fun c => by have := ho c; have := hm c; omega)
    split
    · exact ⟨h1.1 _ ‹_›, trivial⟩
    · exact ⟨trivial, trivial⟩
    · rename_i hr
      exact ⟨keep (h1.2 _ _ _ hr).1, .inr (.inr (hq _ _ _ _ _ _ hds hdec hr))⟩
  · have h1 := hp ds dec (m.offset - ds.offset) hds hdec (fun c => by have := ho c; have := hm c; omega)
    split
    · exact ⟨h1.1 _ ‹_›, trivial⟩
    · exact ⟨trivial, trivial⟩
    · rename_i e1 w1 ds1 hr1
      obtain ⟨hk1, ho1⟩ := h1.2 _ _ _ hr1
      split
      · exact ⟨keep hk1, .inr (.inl ⟨‹_›, rfl⟩)⟩
      obtain rfl : e1 = .ok := Decidable.not_not.1 ‹_›
      have hk1 := hJI _ hk1
      split
      · exact ⟨keep (hIJ _ _ hk1), trivial⟩
      rename_i dec1 hdec1
      have h2 := hp ds1 dec1 filelen hk1 hdec1 (fun c => by have := ho1 c; have := ho c; have := hm c; omega)
      split
      · exact ⟨h2.1 _ ‹_›, trivial⟩
      · exact ⟨trivial, trivial⟩
      · rename_i hr
        exact ⟨keep (h2.2 _ _ _ hr).1, .inr (.inr (hq _ _ _ _ _ _ hk1 hdec1 hr))⟩

section
variable {files : Files} {ds ds1 ds2 : DState} {dec dec1 : Dec} {m : Member} {filelen : Nat} {e : Err} {w w1 : Bytes}

theorem runPhases_zero (hd : ds.dec = some dec) : runPhases files ds m 0 = .done .ok (some []) (some ds) := by
  unfold runPhases; simp only [hd, if_pos]

theorem runPhases_out (hd : ds.dec = some dec) (h0 : filelen ≠ 0) (hs : m.offset - ds.offset = 0)
    (hr : runPhase files ds dec filelen = .ran e w ds1) :
    runPhases files ds m filelen = .done e (some w) (some ds1) := by
  unfold runPhases; simp only [hd, if_neg h0, if_pos hs, hr]

theorem runPhases_skip_failed (hd : ds.dec = some dec) (h0 : filelen ≠ 0) (hs : m.offset - ds.offset ≠ 0)
    (hr : runPhase files ds dec (m.offset - ds.offset) = .ran e w ds1) (he : e ≠ .ok) :
    runPhases files ds m filelen = .done e (some []) (some ds1) := by
  unfold runPhases; simp only [hd, if_neg h0, if_neg hs, hr, if_pos he]

theorem runPhases_skipped (hd : ds.dec = some dec) (h0 : filelen ≠ 0) (hs : m.offset - ds.offset ≠ 0)
    (hr1 : runPhase files ds dec (m.offset - ds.offset) = .ran .ok w1 ds1) (hd1 : ds1.dec = some dec1)
    (hr : runPhase files ds1 dec1 filelen = .ran e w ds2) :
    runPhases files ds m filelen = .done e (some w) (some ds2) := by
  unfold runPhases; simp only [hd, if_neg h0, if_neg hs, hr1, ne_eq, not_true_eq_false, if_false, hd1, hr]

end

theorem initDec_some {p : Params} {ct : Nat} {dec : Dec} (h : initDec p ct = some dec) :
    match dec with
    | .none bs e => compMask ct = 0 ∧ bs = p.bufSize ∧ e = .ok
    | .mszip st => compMask ct = 1 ∧ Zip.init nullFeeder p.bufSize p.fixMszip p.fill = some st
    | .qtm st => compMask ct = 2 ∧ Qtm.init nullFeeder ((ct >>> 8) &&& 0x1f) p.bufSize p.fill = some st
    | .lzx st => compMask ct = 3 ∧ Lzx.init nullFeeder ((ct >>> 8) &&& 0x1f) 0 p.bufSize 0 false p.fill = some st
    | .unsupported k => compMask ct = k ∧ 2 ≤ k := by
  unfold initDec at h
  split at h
  · cases h; exact ⟨‹_›, rfl, rfl⟩
  · cases hz : Zip.init nullFeeder p.bufSize p.fixMszip p.fill with
    | none => rw [hz] at h; cases h
    | some z => rw [hz] at h; cases h; exact ⟨‹_›, rfl⟩
  · split at h
    · cases hz : Qtm.init nullFeeder ((ct >>> 8) &&& 0x1f) p.bufSize p.fill with
      | none => rw [hz] at h; cases h
      | some z => rw [hz] at h; cases h; exact ⟨‹_›, rfl⟩
    · cases h; exact ⟨‹_›, by decide⟩
  · split at h
    · cases hz : Lzx.init nullFeeder ((ct >>> 8) &&& 0x1f) 0 p.bufSize 0 false p.fill with
      | none => rw [hz] at h; cases h
      | some z => rw [hz] at h; cases h; exact ⟨‹_›, rfl⟩
    · cases h; exact ⟨‹_›, by decide⟩
  · cases h

theorem freshDState_ok {files : Files} {p : Params} {m : Member} {key : Nat} {ds : DState}
    (h : freshDState files p m key = .ok ds) :
    ∃ part rest bytes dec, m.parts = part :: rest ∧ files.lookup part.fname = some bytes ∧
      initDec p m.compType = some dec ∧
      ds = { folder := key, offset := 0, dec := some dec,
             feeder := { rd := some ⟨bytes, part.offset⟩, parts := m.parts, block := 0, numBlocks := m.numBlocks,
                         outlen := 0, buf := [], compType := m.compType, readError := .ok, lzxLen := none,
                         salvage := p.salvage, fixMszip := p.fixMszip } } := by
  unfold freshDState at h
  split at h
  · cases h
  rename_i part rest hp
  cases hl : files.lookup part.fname with
  | none => rw [hl] at h; cases h
  | some bytes =>
    rw [hl] at h
    simp only [Option.map_some] at h
    split at h
    · cases h
    · cases h; exact ⟨part, rest, bytes, _, hp, hl, ‹_›, rfl⟩

theorem freshDState_eq {files : Files} {p : Params} {m : Member} {part : Part} {rest : List Part} {bytes : Bytes} {dec : Dec}
    (hp : m.parts = part :: rest) (hl : files.lookup part.fname = some bytes) (hi : initDec p m.compType = some dec)
    (key : Nat) :
    freshDState files p m key =
      .ok { folder := key, offset := 0, dec := some dec,
            feeder := { rd := some ⟨bytes, part.offset⟩, parts := m.parts, block := 0, numBlocks := m.numBlocks,
                        outlen := 0, buf := [], compType := m.compType, readError := .ok, lzxLen := none,
                        salvage := p.salvage, fixMszip := p.fixMszip } } := by
  unfold freshDState
  simp only [hp, hl, Option.map_some, hi]

theorem freshDState_offset (files : Files) (p : Params) (m : Member) (key : Nat) (ds : DState)
    (h : freshDState files p m key = .ok ds) : ds.offset = 0 := by
  obtain ⟨_, _, _, _, _, _, _, rfl⟩ := freshDState_ok h
  rfl

theorem _root_.MsPack.CabFuel.fresh_initDec {files : Files} (p : Params) (m : Member) (key : Nat) (ds : DState) (dec : Dec)
    (h : freshDState files p m key = .ok ds) (hd : ds.dec = some dec) : initDec p m.compType = some dec := by
  obtain ⟨_, _, _, _, _, _, hi, rfl⟩ := freshDState_ok h
  cases hd; exact hi

/-- a decoder that has read nothing yet (its bit count `b`, input buffer and end flag as `init` leaves them) can obtain
    the `L` bytes of the feeder and the two bytes faked at the end of the input; `k` is the decoder's own margin -/
theorem _root_.MsPack.CabFuel.fresh_bits {α : Type} {b L D k : Nat} {inbuf : List α} {e : Bool}
    (hb : b = 0) (hi : inbuf = []) (he : e = false) (hs : 8 * L + 16 + k ≤ D) :
    b + 8 * inbuf.length + 8 * L + (if e then 0 else 16) + k ≤ D := by
  subst hb hi he
  simpa only [List.length_nil, Nat.mul_zero, Nat.zero_add, Bool.false_eq_true, if_false] using hs

def reusable (ds : DState) (m : Member) (key : Nat) : Prop :=
  ds.folder = key ∧ ¬ ds.offset > m.offset ∧ ds.dec.isSome

section
variable {files : Files} {p : Params} {d : Option DState} {m : Member} {filelen key : Nat} {ds : DState} {e : Err}

theorem obtainDState_eq (files : Files) (p : Params) (d : Option DState) (m : Member) (key : Nat) :
    (∃ ds, d = some ds ∧ reusable ds m key ∧ obtainDState files p d m key = .ok ds) ∨
    (∀ ds, d = some ds → ¬ reusable ds m key) ∧ obtainDState files p d m key = freshDState files p m key := by
  unfold obtainDState
  split
  · split
    · exact .inl ⟨_, rfl, ‹_›, rfl⟩
    · exact .inr ⟨fun _ h => by cases h; assumption, rfl⟩
  · exact .inr ⟨fun _ h => (nomatch h), rfl⟩

theorem obtainDState_fresh (h : ∀ ds, d = some ds → ¬ reusable ds m key) :
    obtainDState files p d m key = freshDState files p m key :=
  (obtainDState_eq files p d m key).elim (fun ⟨ds, hd, hr, _⟩ => absurd hr (h ds hd)) (·.2)

def Origin (files : Files) (p : Params) (d : Option DState) (m : Member) (key : Nat) (ds : DState) : Prop :=
  (d = some ds ∧ reusable ds m key) ∨ freshDState files p m key = .ok ds

theorem obtainDState_ok (h : obtainDState files p d m key = .ok ds) : Origin files p d m key ds := by
  obtain ⟨ds0, hd, hr, h0⟩ | ⟨_, h0⟩ := obtainDState_eq files p d m key <;> rw [h0] at h
  · cases h; exact .inl ⟨hd, hr⟩
  · exact .inr h

theorem obtainDState_total {ds0 : DState} (hf : freshDState files p m key = .ok ds0) :
    ∃ ds, obtainDState files p d m key = .ok ds ∧ ((d = some ds ∧ reusable ds m key) ∨ ds = ds0) := by
  obtain ⟨ds, hd, hr, h0⟩ | ⟨_, h0⟩ := obtainDState_eq files p d m key
  · exact ⟨ds, h0, .inl ⟨hd, hr⟩⟩
  · exact ⟨ds0, h0.trans hf, .inr rfl⟩

theorem Origin.inv {I : DState → Prop} (ho : Origin files p d m key ds) (hd : ∀ ds, d = some ds → I ds)
    (hfresh : ∀ key ds, freshDState files p m key = .ok ds → I ds) : I ds :=
  ho.elim (fun h => hd _ h.1) (hfresh _ _)

theorem Origin.offset_le (ho : Origin files p d m key ds) : ds.offset ≤ m.offset :=
  ho.elim (fun h => Nat.le_of_not_lt h.2.2.1) fun h => freshDState_offset files p m key ds h ▸ Nat.zero_le _

theorem extract_refused (hc : memberCheck p m = .error e) : extract files p d m = .done e none d := by
  unfold extract; rw [hc]

theorem extract_checked (hc : memberCheck p m = .ok (filelen, key)) :
    extract files p d m = match obtainDState files p d m key with
      | .error e => .done e none none
      | .ok ds => runPhases files ds m filelen := by
  unfold extract; rw [hc]; rfl

theorem extract_run (hc : memberCheck p m = .ok (filelen, key)) (ho : obtainDState files p d m key = .ok ds) :
    extract files p d m = runPhases files ds m filelen := by
  rw [extract_checked hc, ho]

theorem extract_cases (files : Files) (p : Params) (d : Option DState) (m : Member) :
    (∃ e d', extract files p d m = .done e none d' ∧ (d' = d ∨ d' = none)) ∨
    ∃ filelen key ds, memberCheck p m = .ok (filelen, key) ∧ Origin files p d m key ds ∧
      extract files p d m = runPhases files ds m filelen := by
  cases hc : memberCheck p m with
  | error e => exact .inl ⟨e, d, extract_refused hc, .inl rfl⟩
  | ok fk =>
    rw [extract_checked hc]
    cases ho : obtainDState files p d m fk.2 with
    | error e => exact .inl ⟨e, none, rfl, .inr rfl⟩
    | ok ds => exact .inr ⟨fk.1, fk.2, ds, rfl, obtainDState_ok ho, rfl⟩

theorem extract_done {w : Option Bytes} {d' : Option DState} (h : extract files p d m = .done e w d') :
    (w = none ∧ (d' = d ∨ d' = none)) ∨
    ∃ filelen key ds, memberCheck p m = .ok (filelen, key) ∧ Origin files p d m key ds ∧
      runPhases files ds m filelen = .done e w d' := by
  obtain ⟨e0, d0, h0, hd0⟩ | ⟨filelen, key, ds, hc, ho, heq⟩ := extract_cases files p d m
  · rw [h0] at h; cases h; exact .inl ⟨rfl, hd0⟩
  · exact .inr ⟨filelen, key, ds, hc, ho, heq ▸ h⟩

theorem memberCheck_cap (h : memberCheck p m = .ok (filelen, key)) : m.offset + filelen ≤ cabLENGTHMAX := by
  obtain ⟨h1, _, h3, _⟩ := memberCheck_ok h
  rw [h3]; split <;> omega

end

/-- random access as slices of one decoded stream `D` -/
structure Slices (files : Files) (T : DState → Prop) (N : Nat) (D : Bytes) : Prop where
  dec : ∀ {ds}, T ds → ∃ dec, ds.dec = some dec
  phase : ∀ {ds dec} (k : Nat), T ds → ds.dec = some dec → ds.offset + k ≤ N →
    ∃ ds', runPhase files ds dec k = .ran .ok ((D.drop ds.offset).take k) ds' ∧ T ds' ∧ ds'.offset = ds.offset + k

section
variable {files : Files} {T : DState → Prop} {N : Nat} {D : Bytes}

theorem runPhases_slices (W : Slices files T N D) {ds : DState} (ht : T ds) (m : Member) (l : Nat)
    (hoff : ds.offset ≤ m.offset) (hfit : m.offset + l ≤ N) :
    ∃ ds', runPhases files ds m l = .done .ok (some ((D.drop m.offset).take l)) (some ds') ∧ T ds' ∧ ds'.offset ≤ N := by
  obtain ⟨dec, hdec⟩ := W.dec ht
  by_cases hl0 : l = 0
  · subst hl0
    exact ⟨ds, by rw [runPhases_zero hdec, List.take_zero], ht, by omega⟩
  by_cases hsk : m.offset - ds.offset = 0
  · obtain ⟨ds', e, ht', hoff'⟩ := W.phase l ht hdec (by omega)
    exact ⟨ds', by rw [runPhases_out hdec hl0 hsk e, show m.offset = ds.offset by omega], ht', by omega⟩
  · obtain ⟨ds1, e1, ht1, hoff1⟩ := W.phase (m.offset - ds.offset) ht hdec (by omega)
    obtain ⟨dec1, hdec1⟩ := W.dec ht1
    obtain ⟨ds2, e2, ht2, hoff2⟩ := W.phase l ht1 hdec1 (by omega)
    exact ⟨ds2, by rw [runPhases_skipped hdec hl0 hsk e1 hdec1 e2, show ds1.offset = m.offset by omega], ht2, by omega⟩

theorem extract_slices (W : Slices files T N D) {p : Params} {d : Option DState} {m : Member} {l key : Nat} {ds0 : DState}
    (hc : memberCheck p m = .ok (l, key)) (hf : freshDState files p m key = .ok ds0) (h0 : T ds0)
    (hcache : ∀ ds, d = some ds → T ds) (hfit : m.offset + l ≤ N) :
    ∃ d', extract files p d m = .done .ok (some ((D.drop m.offset).take l)) d' ∧
      ∀ ds, d' = some ds → T ds ∧ ds.offset ≤ N := by
  obtain ⟨ds, ho, h⟩ := obtainDState_total (d := d) hf
  have ht : T ds := h.elim (fun h => hcache _ h.1) (fun h => h ▸ h0)
  obtain ⟨ds', e, ht', hle⟩ := runPhases_slices W ht m l (obtainDState_ok ho).offset_le hfit
  exact ⟨some ds', by rw [extract_run hc ho, e], fun _ h => by cases h; exact ⟨ht', hle⟩⟩

end

theorem extract_keeps {files : Files} {capped : Prop} {I : DState → Prop} {J : Err → DState → Prop} {F : Fault → Prop}
    (hp : PhaseInv files capped I J F) (p : Params) (d : Option DState) (m : Member) (hd : ∀ ds, d = some ds → I ds)
    (hfresh : ∀ key ds, freshDState files p m key = .ok ds → I ds) : ResInv J F (extract files p d m) := by
  obtain ⟨e0, d0, h0, hd0⟩ | ⟨filelen, key, ds, hc, ho, heq⟩ := extract_cases files p d m
  · rw [h0]
    rintro ds rfl
    exact hp.1 _ _ (hd ds (hd0.elim Eq.symm fun h => nomatch h))
  · rw [heq]
    exact (runPhases_post (Q := fun _ _ _ => True) hp (fun _ _ _ _ _ _ _ _ _ => trivial) ds (ho.inv hd hfresh) m filelen
      (fun _ => ho.offset_le) fun _ => memberCheck_cap hc).1

/-- the substitution `READ → read_error` never turns a decoder's READ into OK: a decoder that
    reports a read failure has seen the feeder fail.  A hypothesis of the theorems below; for every feeder it does not
    hold of a decoder alone, and `C07Decoders.lean` has an invariant of decoder and feeder together (`CabJAll`) in its place. -/
def ReadErrLaw (files : Files) (dec : Dec) : Prop :=
  ∀ fd n o, decompress files dec fd n = .ok (some o) → o.err = .read → o.feeder.readError ≠ .ok

theorem memberCheck_strict (p : Params) (m : Member) (filelen key : Nat) (hs : p.salvage = false)
    (h : memberCheck p m = .ok (filelen, key)) : filelen = m.length := by
  obtain ⟨_, h2, h3, _⟩ := memberCheck_ok h
  rw [h3, if_neg fun hl => h2 ⟨hl, by rw [hs]; rfl⟩]

theorem runPhase_ok (files : Files) (ds : DState) (dec : Dec) (n : Nat) (hL : CountLaw files dec)
    (hR : ReadErrLaw files dec) (w : Bytes) (ds' : DState)
    (h : runPhase files ds dec n = .ran .ok w ds') : w.length = n := by
  obtain ⟨o, ho, he, rfl, _⟩ := runPhase_ran h
  by_cases hr : o.err = .read
  · rw [if_pos hr] at he; exact absurd he.symm (hR _ _ _ ho hr)
  · rw [if_neg hr] at he; exact (hL _ _ _ ho).2 he.symm

end MsPack.Cab

namespace MsPack.CountLaws.CabInv
open MsPack.Cab

def Kept (files : Files) (P : Dec → Prop) : Prop :=
  ∀ dec fd n o, P dec → decompress files dec fd n = .ok (some o) → P o.dec

/-- the decoder a (cached or absent) `self->d` carries satisfies `P` -/
def CacheOk (P : Dec → Prop) (d : Option DState) : Prop :=
  ∀ ds dec, d = some ds → ds.dec = some dec → P dec

/-- `G`: the statuses under which a `runPhase` keeps `I` (`fun _ => True`: always; `(· = .ok)`: on success) -/
theorem runPhases_reach {files : Files} {I : DState → Prop} {G : Err → Prop} (hG : G .ok)
    (hI : ∀ ds dec n e w ds', I ds → ds.dec = some dec → runPhase files ds dec n = .ran e w ds' → G e → I ds')
    {ds : DState} (hds : I ds) {m : Member} {filelen : Nat} {e : Err} {w : Option Bytes} {d' : Option DState}
    (h : runPhases files ds m filelen = .done e w d') :
    (G e → ∀ ds', d' = some ds' → I ds') ∧
    ∀ w', w = some w' → (filelen = 0 ∧ e = .ok ∧ w' = []) ∨ (e ≠ .ok ∧ w' = []) ∨
      ∃ ds0 dec0 ds1, I ds0 ∧ ds0.dec = some dec0 ∧ runPhase files ds0 dec0 filelen = .ran e w' ds1 := by
  have := runPhases_post (capped := False) (J := fun e ds => G e → I ds) (F := fun _ => True)
    (Q := fun n e w => ∃ ds0 dec0 ds1, I ds0 ∧ ds0.dec = some dec0 ∧ runPhase files ds0 dec0 n = .ran e w ds1)
    ⟨fun _ _ h _ => h, fun _ h => h hG, fun _ _ _ h1 h2 _ =>
      ⟨fun _ _ => trivial, fun _ _ _ hr => ⟨hI _ _ _ _ _ _ h1 h2 hr, False.elim⟩⟩⟩
    (fun _ _ _ _ _ _ h1 h2 hr => ⟨_, _, _, h1, h2, hr⟩) ds hds m filelen False.elim False.elim
  rw [h] at this
  exact ⟨fun hg ds' hd => this.1 ds' hd hg, fun w' hw => by subst hw; exact this.2⟩

theorem runPhase_kept (files : Files) (P : Dec → Prop) (hK : Kept files P) (ds : DState) (dec : Dec) (n : Nat)
    (hp : P dec) (e : Err) (w : Bytes) (ds' : DState) (h : runPhase files ds dec n = .ran e w ds') :
    ∀ dec', ds'.dec = some dec' → P dec' := by
  obtain ⟨o, ho, _, _, rfl⟩ := runPhase_ran h
  intro dec' hd
  cases hd
  exact hK _ _ _ _ hp ho

theorem extract_reach {files : Files} {I : DState → Prop} {G : Err → Prop} (hG : G .ok)
    (hI : ∀ ds dec n e w ds', I ds → ds.dec = some dec → runPhase files ds dec n = .ran e w ds' → G e → I ds')
    {p : Params} {d : Option DState} {m : Member} (hd : ∀ ds, d = some ds → I ds)
    (hfresh : ∀ key ds, freshDState files p m key = .ok ds → I ds) {e : Err} {w : Option Bytes} {d' : Option DState}
    (h : extract files p d m = .done e w d') :
    (G e → ∀ ds', d' = some ds' → I ds') ∧
    ∀ w', w = some w' → ∃ filelen key, memberCheck p m = .ok (filelen, key) ∧
      ((filelen = 0 ∧ e = .ok ∧ w' = []) ∨ (e ≠ .ok ∧ w' = []) ∨
        ∃ ds0 dec0 ds1, I ds0 ∧ ds0.dec = some dec0 ∧ runPhase files ds0 dec0 filelen = .ran e w' ds1) := by
  obtain ⟨rfl, h0⟩ | ⟨filelen, key, ds, hc, ho, hr⟩ := extract_done h
  · exact ⟨fun _ ds' hd' => hd ds' (h0.elim (· ▸ hd') fun h => nomatch h ▸ hd'), fun _ hw => nomatch hw⟩
  · have := runPhases_reach hG hI (ho.inv hd hfresh) hr
    exact ⟨this.1, fun w' hw => ⟨filelen, key, hc, this.2 w' hw⟩⟩

/-- C07 with a decoder invariant: the counting law is only needed for the decoder states `P` that `extract` can meet —
    those of the cache handed in, of `initDec`, and what `decompress` makes of them. -/
theorem extract_counts (files : Files) (P : Dec → Prop) (hL : ∀ dec, P dec → CountLaw files dec)
    (hK : Kept files P) (p : Params) (d : Option DState) (m : Member) (hd : CacheOk P d)
    (hinit : ∀ dec, initDec p m.compType = some dec → P dec)
    (e : Err) (w : Bytes) (d' : Option DState) (h : extract files p d m = .done e (some w) d') :
    CacheOk P d' ∧ ∃ filelen key, memberCheck p m = .ok (filelen, key) ∧ w.length ≤ filelen ∧
      ((∀ dec, P dec → ReadErrLaw files dec) → e = .ok → w.length = filelen) := by
  obtain ⟨hc, hw⟩ := extract_reach (I := fun ds => ∀ dec, ds.dec = some dec → P dec) (G := fun _ => True) trivial
    (fun ds dec n e w ds' hp hd hr _ => runPhase_kept files P hK ds dec n (hp _ hd) e w ds' hr)
    (fun ds h dec => hd ds dec h) (fun key ds hf dec hdec => hinit _ (CabFuel.fresh_initDec p m key ds dec hf hdec)) h
  obtain ⟨filelen, key, hm, ho⟩ := hw w rfl
  refine ⟨fun ds' dec' h1 h2 => hc trivial ds' h1 dec' h2, filelen, key, hm, ?_⟩
  obtain ⟨h0, _, rfl⟩ | ⟨hne, rfl⟩ | ⟨ds0, dec0, ds1, hp, hd0, hr⟩ := ho
  · exact ⟨Nat.zero_le _, fun _ _ => h0.symm⟩
  · exact ⟨Nat.zero_le _, fun _ he => absurd he hne⟩
  · exact ⟨runPhase_count _ _ _ _ (hL _ (hp _ hd0)) _ _ _ hr, fun hR he => by
      subst he; exact runPhase_ok _ _ _ _ (hL _ (hp _ hd0)) (hR _ (hp _ hd0)) _ _ hr⟩

theorem extract_written_le (files : Files) (P : Dec → Prop) (hL : ∀ dec, P dec → CountLaw files dec)
    (hK : Kept files P) (p : Params) (d : Option DState) (m : Member) (hd : CacheOk P d)
    (hinit : ∀ dec, initDec p m.compType = some dec → P dec)
    (e : Err) (w : Bytes) (d' : Option DState)
    (h : extract files p d m = .done e (some w) d') : w.length ≤ m.length ∧ CacheOk P d' :=
  let ⟨hc, _, _, hm, hle, _⟩ := extract_counts files P hL hK p d m hd hinit e w d' h
  ⟨Nat.le_trans hle (memberCheck_le _ _ _ _ hm), hc⟩

theorem extract_ok_complete (files : Files) (P : Dec → Prop) (hL : ∀ dec, P dec → CountLaw files dec)
    (hR : ∀ dec, P dec → ReadErrLaw files dec) (hK : Kept files P)
    (p : Params) (hs : p.salvage = false) (d : Option DState) (m : Member) (hd : CacheOk P d)
    (hinit : ∀ dec, initDec p m.compType = some dec → P dec) (w : Bytes) (d' : Option DState)
    (h : extract files p d m = .done .ok (some w) d') : w.length = m.length :=
  let ⟨_, _, _, hm, _, heq⟩ := extract_counts files P hL hK p d m hd hinit .ok w d' h
  (heq hR rfl).trans (memberCheck_strict _ _ _ _ hs hm)

end MsPack.CountLaws.CabInv
