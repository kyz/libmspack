import Proofs.Lemmas.ZipBounds
import Proofs.Lemmas.CountLaws
import Proofs.Lemmas.FeederFaults
/-!
# Threading the feeder-liveness invariant through the MSZIP decoder model

The walk of `ZipSim.lean` for the CAB feeder against itself, from the states with a live feeder (`ZJ st = FeederLive
st.src`) and the repair flag at a fixed value; `ZE` says "a fault is not a null dereference; after a format error
(`inf`) the feeder is still live; after a status return it is live unless the sticky error is set".  The only helper
that touches `src` is `readInput`; there the feeder lemmas of `FeederFaults.lean` apply (`live_walk`).
`ZipSim.decompress_sim` (`CountLaws.lean`) carries the walk through `mszipd_decompress`: `decompress_thr`.
-/
namespace MsPack.CabLift
open MsPack.Cab

namespace ZipThread
open MsPack.Zip ZipSim

def ZJ (st : Zip.St Feeder) : Prop := FeederLive st.src

def ZI (c : Bool) (st : Zip.St Feeder) : Prop := ZJ st ∧ st.repair = c

def ZE (c : Bool) : Zip.Halt → Zip.St Feeder → Prop
  | .fault f, _ => ∀ w, f ≠ .nullDeref w
  | .inf, st => ZI c st
  | .sys _, st => st.error = .ok → ZJ st

variable (files : Files)

theorem live_walk (c : Bool) : Walk True Eq (ZI c) c (ZE c) (feederSrc files) (feederSrc files) where
  frame := fun h h1 _ _ h4 => ⟨by unfold ZJ at *; rw [h1]; exact h.1, h4.trans h.2⟩
  lock_eq := fun _ _ _ h hx => ⟨hx.symm, h.2.symm⟩
  fault := fun _ _ _ hm => hm.not_nullDeref
  inf := fun _ h => h
  read := by
    refine Sim.of_thr (CountLaws.Zip.sr_eq fun _ h => h.2) ?_ fun _ _ => rfl
    unfold readInput
    refine Thr.get_bind_from fun st ⟨⟨hj, hc⟩, _⟩ => ?_
    split
    · rename_i f hr
      exact absurd hr (feederSrc_read_no_fault files st.src _ f hj)
    · exact thrFrom_set_throw nofun
    · rename_i src hr
      have hl : FeederLive src := feederSrc_read_live files st.src _ [] src hj hr
      split
      · exact thrFrom_set_throw nofun
      · exact thrFrom_set ⟨⟨hl, hc⟩, _, rfl, by rw [← hc]⟩
    · rename_i got src _ hr
      exact thrFrom_set ⟨⟨feederSrc_read_live files st.src _ got src hj hr, hc⟩, _, rfl, by rw [← hc]⟩

def ZOut : Except Fault (Zip.Out Feeder) → Prop
  | .error f => ∀ w, f ≠ .nullDeref w
  | .ok o => o.st.error = .ok → ZJ o.st

theorem decompress_thr (fuel : Nat) (st : Zip.St Feeder) (n : Nat) (hj : st.error = .ok → ZJ st) :
    ZOut (Zip.decompress (feederSrc files) fuel st n) := by
  by_cases he : st.error = .ok
  · have h := decompress_sim (live_walk files st.repair) (fun _ h => h)
      (fun a h _ => ⟨trivial, h, _, rfl, by rw [← h.2]⟩)
      (fun e a b hne h hs _ _ herr hb => by
        rcases herr with h1 | h1
        · exact (show ZJ a → ZJ b by unfold ZJ; rw [hs]; exact id) (h (h1 ▸ hb))
        · exact absurd (h1.symm.trans hb) hne)
      fuel n (s1 := st) ⟨⟨hj he, rfl⟩, _, rfl, rfl⟩ he
    generalize Zip.decompress (feederSrc files) fuel st n = r at h ⊢
    cases r with
    | error f => obtain ⟨_, _, hf⟩ := h; exact hf
    | ok o =>
      intro h0
      by_cases ho : o.err = .ok
      · obtain ⟨_, _, _, _, hr⟩ := h.2.1 ho
        exact hr.1.1
      · rcases h.2.2 ho with ⟨_, s, _, hs⟩ | hE
        · rw [hs] at h0; cases h0
        · exact hE h0
  · rw [Zip.decompress_dead _ fuel st n he]
    exact hj

end ZipThread

end MsPack.CabLift
