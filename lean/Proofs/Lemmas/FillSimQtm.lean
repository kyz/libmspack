import MsPack.Qtm.Decoder
import Proofs.Lemmas.FillSim
import Proofs.Lemmas.QtmSim
/-!
# Quantum decoder: fill independence (C11)

Two runs of `Qtm.decompress` from `init … f1` and `init … f2` (two allocator fill bytes) deliver the
same statuses and the same bytes.

The fill byte enters the state in `H`, `L`, `C` (overwritten by the frame header before the first
use) and in the cells `syms[i]`, `i > entries`, of the nine model arrays (never indexed).

`MAgree n a b`: two models equal up to cell `n`; the pure model functions send agreeing models to agreeing models and
equal results.  `StSim` (stream structs) and `RS hl c` (running states): everything equal except `H`, `L`, `C` and the
models, which agree; `hl`/`c` say whether the locals `H`, `L` / `C` are known to be equal.  The walk of `QtmSim.lean`
holds for `RS` (`walk2`); what it leaves out (the arithmetic decoder, `blockLoop`, `body`) is walked with the relational
triple `InStep` of `FillSim.lean`.  Between calls (`TS`): `H`, `L`, `C` equal once a frame header has been read, or both
streams dead with the same error.
-/
namespace MsPack.Qtm
open MsPack.FillSim

structure MAgree (n : Nat) (a b : Model) : Prop where
  ea : a.entries = n
  eb : b.entries = n
  pos : 1 ≤ n
  sl : a.shiftsleft = b.shiftsleft
  ag : Agree (n + 1) a.syms b.syms

def ExR {α : Type} (R : α → α → Prop) : Except Fault α → Except Fault α → Prop
  | .ok a, .ok b => R a b
  | .error e, .error f => e = f
  | _, _ => False

/-- `Qtm.ExR` is `RelX` under another name -/
theorem ExR.relX {α : Type} {R : α → α → Prop} {x y : Except Fault α} (h : ExR R x y) :
    FillSim.RelX R x y := by
  cases x <;> cases y <;> exact h

theorem ExR.bind {α β : Type} {R : α → α → Prop} {Q : β → β → Prop} {x y : Except Fault α}
    {f g : α → Except Fault β} (h : ExR R x y) (hf : ∀ a b, R a b → ExR Q (f a) (g b)) :
    ExR Q (x >>= f) (y >>= g) := by
  cases x <;> cases y <;> simp only [ExR] at h
  · exact h
  · exact hf _ _ h

theorem ExR.bind_eq {α β : Type} {Q : β → β → Prop} (x : Except Fault α)
    {f g : α → Except Fault β} (hf : ∀ a, ExR Q (f a) (g a)) :
    ExR Q (x >>= f) (x >>= g) := by
  cases x
  · exact rfl
  · exact hf _

theorem ExR.mono {α : Type} {R Q : α → α → Prop} {x y : Except Fault α} (h : ExR R x y)
    (hq : ∀ a b, R a b → Q a b) : ExR Q x y := by
  cases x <;> cases y <;> simp only [ExR] at h ⊢
  · exact h
  · exact hq _ _ h

theorem ExR.eq_of {α : Type} {x y : Except Fault α} (h : ExR Eq x y) : x = y := by
  cases x <;> cases y <;> simp only [ExR] at h
  · rw [h]
  · rw [h]

theorem ExR.pure {α : Type} {R : α → α → Prop} {a b : α} (h : R a b) :
    ExR R (Pure.pure a : Except Fault α) (Pure.pure b) := h

section model
variable {n : Nat} {a b : Model}

theorem MAgree.sym (h : MAgree n a b) {i : Nat} (hi : i ≤ n) : a.sym i = b.sym i := by
  simp only [Model.sym, h.ag.get? (Nat.lt_succ_of_le hi)]

theorem MAgree.setCumfreq (h : MAgree n a b) {i : Nat} (hi : i ≤ n) (v : Nat) :
    ExR (MAgree n) (a.setCumfreq i v) (b.setCumfreq i v) := by
  unfold Model.setCumfreq
  have hs := h.ag.size
  by_cases hia : i < a.syms.size
  · have hib : i < b.syms.size := hs ▸ hia
    rw [dif_pos hia, dif_pos hib]
    have : a.syms[i] = b.syms[i] := h.ag.get (Nat.lt_succ_of_le hi) hia hib
    rw [this]
    exact ⟨h.ea, h.eb, h.pos, h.sl, h.ag.set _ _ hia hib⟩
  · have hib : ¬ i < b.syms.size := hs ▸ hia
    rw [dif_neg hia, dif_neg hib]
    exact rfl

theorem MAgree.setSym (h : MAgree n a b) (i : Nat) (s : ModelSym) :
    ExR (MAgree n) (a.setSym i s) (b.setSym i s) := by
  unfold Model.setSym
  have hs := h.ag.size
  by_cases hia : i < a.syms.size
  · have hib : i < b.syms.size := hs ▸ hia
    rw [dif_pos hia, dif_pos hib]
    exact ⟨h.ea, h.eb, h.pos, h.sl, h.ag.set _ _ hia hib⟩
  · have hib : ¬ i < b.syms.size := hs ▸ hia
    rw [dif_neg hia, dif_neg hib]
    exact rfl

theorem halveLoop_agree : ∀ (k : Nat) (a b : Model), MAgree n a b → k ≤ n →
    ExR (MAgree n) (halveLoop k a) (halveLoop k b)
  | 0, a, b, h, _ => h
  | i + 1, a, b, h, hk => by
    rw [halveLoop, halveLoop, ← h.sym (i := i) (by omega), ← h.sym (i := i + 1) hk]
    refine ExR.bind_eq _ fun s => ExR.bind_eq _ fun nx => ?_
    exact ExR.bind (h.setCumfreq (by omega) _) fun a' b' h' => halveLoop_agree i a' b' h' (by omega)

theorem toFreqLoop_agree : ∀ (k i : Nat) (a b : Model), MAgree n a b → i + k ≤ n →
    ExR (MAgree n) (toFreqLoop k i a) (toFreqLoop k i b)
  | 0, _, a, b, h, _ => h
  | k + 1, i, a, b, h, hk => by
    rw [toFreqLoop, toFreqLoop, ← h.sym (i := i) (by omega), ← h.sym (i := i + 1) (by omega)]
    refine ExR.bind_eq _ fun s => ExR.bind_eq _ fun nx => ?_
    exact ExR.bind (h.setCumfreq (by omega) _) fun a' b' h' =>
      toFreqLoop_agree k (i + 1) a' b' h' (by omega)

theorem resumLoop_agree : ∀ (k : Nat) (a b : Model), MAgree n a b → k ≤ n →
    ExR (MAgree n) (resumLoop k a) (resumLoop k b)
  | 0, a, b, h, _ => h
  | i + 1, a, b, h, hk => by
    rw [resumLoop, resumLoop, ← h.sym (i := i) (by omega), ← h.sym (i := i + 1) hk]
    refine ExR.bind_eq _ fun s => ExR.bind_eq _ fun nx => ?_
    exact ExR.bind (h.setCumfreq (by omega) _) fun a' b' h' => resumLoop_agree i a' b' h' (by omega)

theorem bumpLoop_agree : ∀ (k : Nat) (a b : Model), MAgree n a b → k ≤ n + 1 →
    ExR (MAgree n) (bumpLoop k a) (bumpLoop k b)
  | 0, a, b, h, _ => h
  | i + 1, a, b, h, hk => by
    rw [bumpLoop, bumpLoop, ← h.sym (i := i) (by omega)]
    refine ExR.bind_eq _ fun s => ?_
    exact ExR.bind (h.setCumfreq (by omega) _) fun a' b' h' => bumpLoop_agree i a' b' h' (by omega)

theorem sortInner_agree : ∀ (k i j : Nat) (a b : Model), MAgree n a b → i ≤ n → j + k ≤ n + 1 →
    ExR (MAgree n) (sortInner k i j a) (sortInner k i j b)
  | 0, _, _, a, b, h, _, _ => h
  | k + 1, i, j, a, b, h, hi, hk => by
    rw [sortInner, sortInner, ← h.sym hi, ← h.sym (i := j) (by omega)]
    refine ExR.bind_eq _ fun s => ExR.bind_eq _ fun t => ?_
    simp only
    split
    · refine ExR.bind (h.setSym _ _) fun a1 b1 h1 => ExR.bind (h1.setSym _ _) fun a' b' h' => ?_
      exact sortInner_agree k i (j + 1) a' b' h' hi (by omega)
    · exact sortInner_agree k i (j + 1) a b h hi (by omega)

theorem sortOuter_agree : ∀ (k i : Nat) (a b : Model), MAgree n a b → (i + k ≤ n ∨ k = 0) →
    ExR (MAgree n) (sortOuter k i a) (sortOuter k i b)
  | 0, _, a, b, h, _ => h
  | k + 1, i, a, b, h, hk => by
    rw [sortOuter, sortOuter, h.ea, h.eb]
    refine ExR.bind (sortInner_agree _ _ _ a b h (by omega) (by omega)) fun a' b' h' => ?_
    exact sortOuter_agree k (i + 1) a' b' h' (by omega)

theorem updateModel_agree (h : MAgree n a b) : ExR (MAgree n) (updateModel a) (updateModel b) := by
  unfold updateModel
  simp only [h.ea, h.eb, ← h.sl]
  split
  · exact halveLoop_agree _ _ _ ⟨rfl, rfl, h.pos, rfl, h.ag⟩ (Nat.le_refl _)
  · refine ExR.bind (toFreqLoop_agree (n := n) n 0 _ _ ⟨rfl, rfl, h.pos, rfl, h.ag⟩ (by omega)) fun a1 b1 h1 => ?_
    rw [h1.ea, h1.eb]
    refine ExR.bind (sortOuter_agree (n - 1) 0 _ _ h1 (by omega)) fun a2 b2 h2 => ?_
    rw [h2.ea, h2.eb]
    exact resumLoop_agree n _ _ h2 (Nat.le_refl _)

theorem scanSym_agree (h : MAgree n a b) (symf : Nat) : ∀ (k i : Nat), i + k ≤ n + 1 →
    scanSym a symf k i = scanSym b symf k i
  | 0, _, _ => rfl
  | k + 1, i, hk => by
    rw [scanSym, scanSym, ← h.sym (i := i) (by omega)]
    congr 1
    funext s
    split
    · rfl
    · exact scanSym_agree h symf k (i + 1) (by omega)

theorem scanSym_bound (m : Model) (symf : Nat) : ∀ (k i j : Nat), scanSym m symf k i = .ok j → j ≤ i + k
  | 0, i, j, h => by
    simp only [scanSym] at h
    cases h
    omega
  | k + 1, i, j, h => by
    rw [scanSym] at h
    cases hs : m.sym i with
    | error e => rw [hs] at h; cases h
    | ok s =>
      rw [hs] at h
      simp only [bind, Except.bind] at h
      split at h
      · cases h; omega
      · have := scanSym_bound m symf k (i + 1) j h
        omega

def SymOutR (n : Nat) (o1 o2 : SymOut) : Prop :=
  o1.sym = o2.sym ∧ o1.H = o2.H ∧ o1.L = o2.L ∧ MAgree n o1.model o2.model

theorem ExR.bind_eq' {α β : Type} {Q : β → β → Prop} (x : Except Fault α)
    {f g : α → Except Fault β} (hf : ∀ a, x = .ok a → ExR Q (f a) (g a)) :
    ExR Q (x >>= f) (x >>= g) := by
  cases x
  · exact rfl
  · exact hf _ rfl

theorem decodeSym_agree (h : MAgree n a b) (H L C : Nat) :
    ExR (SymOutR n) (decodeSym a H L C) (decodeSym b H L C) := by
  unfold decodeSym
  rw [← h.sym (i := 0) (by omega), h.ea, h.eb]
  refine ExR.bind_eq _ fun s0 => rel_ite _ (fun _ => rfl) fun _ => ?_
  simp only []
  rw [← scanSym_agree h _ _ _ (by have := h.pos; omega)]
  refine ExR.bind_eq' _ fun i hsc => rel_ite _ (fun _ => rfl) fun _ => ?_
  have hi := scanSym_bound _ _ _ _ _ hsc
  have hpos := h.pos
  rw [← h.sym (i := i - 1) (by omega), ← h.sym (i := i) (by omega)]
  refine ExR.bind_eq _ fun sPrev => ExR.bind_eq _ fun sCur => rel_ite _ (fun _ => rfl) fun _ =>
    ExR.bind (bumpLoop_agree i a b h (by omega)) fun a1 b1 hb => ?_
  rw [← hb.sym (i := 0) (by omega)]
  refine ExR.bind_eq _ fun s => ?_
  split
  · exact ExR.bind (updateModel_agree hb) fun a2 b2 h2 => ⟨rfl, rfl, rfl, h2⟩
  · exact ⟨rfl, rfl, rfl, hb⟩

end model

section state
variable {σ : Type}

def MA (a b : Model) : Prop := MAgree a.entries a b

structure StSim (a b : St σ) : Prop where
  eq : b = { a with H := b.H, L := b.L, C := b.C, model0 := b.model0, model1 := b.model1,
                    model2 := b.model2, model3 := b.model3, model4 := b.model4, model5 := b.model5,
                    model6 := b.model6, model6len := b.model6len, model7 := b.model7 }
  ms : ∀ id, MA (a.model id) (b.model id)

theorem StSim.split {a b : St σ} (h : StSim a b) : ∃ y, b = a.put y := ⟨b.loose, h.eq⟩

theorem model_put (a : St σ) (y : LooseSt) (id : MId) : (a.put y).model id = y.model id := by
  cases id <;> rfl

theorem setModel_eq (a : St σ) (id : MId) (m : Model) :
    a.setModel id m = a.put ⟨a.H, a.L, a.C, fun j => if j = id then m else a.model j⟩ := by
  cases id <;> rfl

theorem StSim.setModel {a b : St σ} (h : StSim a b) (id : MId) {ma mb : Model} (hm : MA ma mb) :
    StSim (a.setModel id ma) (b.setModel id mb) := by
  obtain ⟨y, rfl⟩ := h.split
  have e : (a.put y).setModel id mb =
      (a.setModel id ma).put ⟨y.H, y.L, y.C, fun j => if j = id then mb else y.model j⟩ := by
    cases id <;> rfl
  rw [e]
  refine ⟨rfl, fun j => ?_⟩
  rw [model_put, setModel_eq, model_put]
  have := h.ms j
  rw [model_put] at this
  exact rel_ite _ (fun _ => hm) fun _ => this

structure RS (hl c : Bool) (r1 r2 : Run σ) : Prop where
  eq : r2 = r1.put r2.loose
  ms : ∀ id, MA (r1.st.model id) (r2.st.model id)
  hl : hl = true ∨ r1.st.headerRead = true → r1.H = r2.H ∧ r1.L = r2.L
  c : c = true ∨ r1.st.headerRead = true → r1.C = r2.C

variable {hl c : Bool} {r1 r2 : Run σ}

theorem RS.split (h : RS hl c r1 r2) : ∃ x, r2 = r1.put x := ⟨_, h.eq⟩

theorem RS.st (h : RS hl c r1 r2) : StSim r1.st r2.st := ⟨congrArg Run.st h.eq, h.ms⟩

theorem RS.weaken (h : RS hl c r1 r2) : RS false false r1 r2 :=
  { h with hl := fun x => h.hl (.inr (x.resolve_left nofun)), c := fun x => h.c (.inr (x.resolve_left nofun)) }

theorem RS.strong (h : RS hl c r1 r2) (hr : r1.st.headerRead = true) : RS true true r1 r2 :=
  { h with hl := fun _ => h.hl (.inr hr), c := fun _ => h.c (.inr hr) }

theorem RS.same {a b a' b' : Run σ} (h : RS hl c a b) (e : b' = a'.put b.loose) (hv : a'.view = a.view) :
    RS hl c a' b' := by
  subst e
  have hm : a'.st.model = a.st.model := congrArg (·.1.st.model) hv
  have hH : a'.H = a.H := congrArg (·.1.H) hv
  have hL : a'.L = a.L := congrArg (·.1.L) hv
  have hC : a'.C = a.C := congrArg (·.1.C) hv
  have hr : a'.st.headerRead = a.st.headerRead := congrArg (·.2) hv
  refine ⟨rfl, fun id => ?_, fun x => ?_, fun x => ?_⟩
  · rw [hm]; exact model_put _ _ id ▸ h.ms id
  · rw [hH, hL]; exact h.hl (hr ▸ x)
  · rw [hC]; exact h.c (hr ▸ x)

/-- `.sys` is only thrown with the sticky error set -/
def okHalt : Halt → Err → Prop
  | .fault _, _ => True
  | .sys _, e => e ≠ .ok

/-- exceptions: the same one, thrown in related states (the locals do not matter any more) -/
def EE : Halt → Run σ → Run σ → Prop :=
  fun e t1 t2 => RS false false t1 t2 ∧ okHalt e t1.st.error

variable (S : Src σ) {α : Type} {Q : Run σ → Run σ → Prop}

theorem fault_sim (f : Fault) : InStep EE (RS hl c) Q (throw (.fault f) : QM σ α) :=
  .throw fun _ _ h => ⟨trivial, fun _ => ⟨h.weaken, trivial⟩⟩

theorem get_sim {f : Run σ → QM σ α} (hf : ∀ t, InStep EE (RS hl c) Q (f t)) (hi : ∀ t x, f (t.put x) = f t) :
    InStep EE (RS hl c) Q (get >>= f) :=
  .get hf fun _ _ h => by obtain ⟨x, rfl⟩ := h.split; exact hi _ _

theorem modify_sim {f : Run σ → Run σ} (hf : ∀ t x, f (t.put x) = (f t).put x) (hv : ∀ t, (f t).view = t.view) :
    InStep EE (RS hl c) (RS hl c) (modify f : QM σ PUnit) :=
  .modify fun _ _ h => by obtain ⟨x, rfl⟩ := h.split; exact h.same (hf _ _) (hv _)

theorem fail_sim (e : Err) (he : e ≠ .ok) : InStep EE (RS hl c) Q (fail e : QM σ α) := by
  refine inStep_iff.mpr fun s1 s2 h => ?_
  obtain ⟨x, rfl⟩ := h.split
  unfold wp2
  rw [fail_run, fail_run]
  exact ⟨rfl, h.weaken.same rfl rfl, he⟩

theorem fail_bind_sim {β : Type} (e : Err) (he : e ≠ .ok) (k : α → QM σ β) :
    InStep EE (RS hl c) Q (fail e >>= k) :=
  inStep_iff.mpr fun _ _ h => wp2_bind (inStep_iff.mp (fail_sim (Q := fun _ _ => False) e he) h) fun _ _ _ _ hq => hq.2.elim

theorem readInput_sim : InStep EE (RS hl c) (RS hl c) (readInput S) := by
  refine inStep_iff.mpr fun s1 s2 h => ?_
  obtain ⟨x, rfl⟩ := h.split
  unfold readInput
  rw [wp2_get_bind]
  simp only []
  split
  · exact ⟨rfl, h.weaken, trivial⟩
  · wsimp
    exact ⟨rfl, h.weaken.same rfl rfl, by simp [okHalt]⟩
  · refine wp2_ite (fun _ => ?_) fun _ => ⟨rfl, h.same rfl rfl⟩
    wsimp
    exact ⟨rfl, h.weaken.same rfl rfl, by simp [okHalt]⟩
  · exact ⟨rfl, h.same rfl rfl⟩

theorem writeOut_sim (p n : Nat) : InStep EE (RS (σ := σ) hl c) (RS hl c) (writeOut p n) := by
  refine inStep_iff.mpr fun s1 s2 h => ?_
  obtain ⟨x, rfl⟩ := h.split
  unfold wp2
  rw [writeOut_run, writeOut_run]
  show Post2 _ _ _ (if n > 0 ∧ p + n > s1.st.window.size then _ else _)
  split
  · exact ⟨rfl, h.weaken, trivial⟩
  · exact ⟨rfl, h.same rfl rfl⟩

theorem walk2 (hl c : Bool) : Walk2 True (RS (σ := σ) hl c) (fun _ _ => True) EE S S where
  split := fun {a b} h => ⟨a.st.src, b.loose, h.eq⟩
  same := fun {a a' x l} h hv => by
    have hx : x = a'.st.src := (congrArg (·.st.src) h.eq).trans (congrArg (fun v => v.2.1) hv).symm
    subst hx
    exact h.same rfl (congrArg (fun v => v.1) hv)
  oob := fun _ => fault_sim _
  shiftWidth := fault_sim _
  hang := fault_sim _
  fail := fail_sim _ (by decide)
  read := readInput_sim S
  flush := fun _ _ hk => get_sim (fun _ => .ite (fun _ => fail_bind_sim _ (by decide) _) fun _ =>
    .bind (writeOut_sim _ _) fun _ => .bind (modify_sim (fun _ _ => rfl) fun _ => rfl) fun _ => hk) fun _ _ => rfl

/-! ### the arithmetic decoder: `H`, `L`, `C` are equal in both runs -/

theorem RS.splitS (h : RS true true r1 r2) : ∃ y, r2 = { r1 with st := r1.st.put y } := by
  obtain ⟨⟨y, H, L, C⟩, rfl⟩ := h.split
  have e1 : r1.H = H := (h.hl (.inl rfl)).1
  have e2 : r1.L = L := (h.hl (.inl rfl)).2
  have e3 : r1.C = C := h.c (.inl rfl)
  subst e1 e2 e3
  exact ⟨y, rfl⟩

theorem RS.of_st {a b : Run σ} (e : b = { a with st := b.st, H := b.H, L := b.L, C := b.C })
    (hs : StSim a.st b.st) (h1 : hl = true ∨ a.st.headerRead = true → a.H = b.H ∧ a.L = b.L)
    (h2 : c = true ∨ a.st.headerRead = true → a.C = b.C) : RS hl c a b :=
  ⟨e.trans (congrArg (fun s => ({ a with st := s, H := b.H, L := b.L, C := b.C } : Run σ)) hs.eq), hs.ms, h1, h2⟩

theorem renorm_sim : ∀ fuel : Nat, InStep EE (RS true true) (RS true true) (renorm S fuel)
  | 0 => fault_sim _
  | fuel + 1 => by
    refine inStep_iff.mpr fun s1 s2 h => ?_
    obtain ⟨y, rfl⟩ := h.splitS
    rw [renorm, wp2_get_bind]
    simp only []
    split
    · exact ⟨rfl, h⟩
    · rw [wp2_set_bind]
      refine inStep_iff.mp (.bind ((walk2 S true true).ensureBits 1 3) fun _ => .bind ((walk2 S _ _).peekBits 1) fun _ =>
        .bind ((walk2 S _ _).removeBits 1) fun _ => .bind (.modify fun _ _ h' => ?_) fun _ => renorm_sim fuel) ?_
      · obtain ⟨y', rfl⟩ := h'.splitS
        exact { h' with eq := rfl, c := fun _ => rfl }
      · exact { h with eq := rfl, hl := fun _ => ⟨rfl, rfl⟩, c := fun _ => rfl }

theorem getSymbol_sim (fuel : Nat) (id : MId) : InStep EE (RS true true) (RS true true) (getSymbol S fuel id) := by
  refine inStep_iff.mpr fun s1 s2 h => ?_
  obtain ⟨y, rfl⟩ := h.splitS
  unfold getSymbol
  rw [wp2_get_bind]
  have hd := decodeSym_agree (h.ms id) s1.H s1.L s1.C
  simp only [] at hd ⊢
  generalize decodeSym (s1.st.model id) s1.H s1.L s1.C = x1 at hd ⊢
  generalize decodeSym _ s1.H s1.L s1.C = x2 at hd ⊢
  cases x1 <;> cases x2 <;> simp only [ExR] at hd
  · subst hd
    exact ⟨rfl, h.weaken, trivial⟩
  · obtain ⟨hs, hH, hL, hm⟩ := hd
    simp only [liftF]
    rw [wp2_pure_bind, wp2_set_bind, hs]
    refine inStep_iff.mp (.bind (renorm_sim S fuel) fun _ => .pure _) (.of_st rfl (h.st.setModel id ?_) (fun _ => ⟨hH, hL⟩) fun _ => rfl)
    unfold MA
    rw [hm.ea]
    exact hm

/-- between the blocks of `blockLoop`: the locals `H`, `L`, `C` have to be equal only while a frame
    header has been read -/
abbrev RSW (r1 r2 : Run σ) : Prop := RS false false r1 r2

theorem wrapThen_sim {k : QM σ Unit} (hk : InStep EE RSW RSW k) : InStep EE RSW RSW (wrapThen k) :=
  get_sim (fun _ => .ite (fun _ => .ite (fun _ => .pure _) fun _ => .bind (writeOut_sim _ _) fun _ =>
    .bind (modify_sim (fun _ _ => rfl) fun _ => rfl) fun _ => hk) fun _ => hk) fun _ _ => rfl

theorem blockLoop_sim (fuel : Nat) : ∀ n : Nat, InStep EE RSW RSW (blockLoop S fuel n)
  | 0 => get_sim (fun _ => .ite (fun _ => fault_sim _) fun _ => .pure _) fun _ _ => rfl
  | n + 1 => by
    refine inStep_iff.mpr fun s1 s2 h => ?_
    obtain ⟨x, rfl⟩ := h.split
    rw [blockLoop_succ, wp2_get_bind]
    refine wp2_ite (fun _ => ?_) fun _ => ⟨rfl, h⟩
    extract_lets jpW jpT jpF jpS
    have hW (u : Unit) : InStep EE RSW RSW (jpW u) := wrapThen_sim (blockLoop_sim fuel n)
    clear_value jpW
    have hT (u : Unit) : InStep EE (RS true true) RSW (jpT u) :=
      .bind ((walk2 S _ _).trailerScan fuel) fun _ => .bind (.modify fun _ _ h' => by
        obtain ⟨y, rfl⟩ := h'.split
        exact { h' with eq := rfl, hl := fun _ => h'.hl (.inl rfl), c := fun _ => h'.c (.inl rfl) }) hW
    clear_value jpT
    have hF (u : Unit) : InStep EE (RS true true) RSW (jpF u) :=
      get_sim (fun _ => .ite (fun _ => get_sim (fun _ => .ite (fun _ => .bind ((walk2 S _ _).removeBits _) hT) fun _ => hT ())
        fun _ _ => rfl) fun _ => (hW ()).pre fun _ _ h' => h'.weaken) fun _ _ => rfl
    clear_value jpF
    have hS (u : Unit) : InStep EE (RS true true) RSW (jpS u) :=
      get_sim (fun _ => .bind ((walk2 S _ _).symbolLoop (getSymbol_sim S) fuel _ _) fun _ => .bind (modify_sim (fun _ _ => rfl) fun _ => rfl)
        fun _ => get_sim (fun _ => .ite (fun _ => fail_bind_sim _ (by decide) _) fun _ => hF ()) fun _ _ => rfl)
        fun _ _ => rfl
    clear_value jpS
    refine wp2_ite (fun _ => ?_) fun hh => inStep_iff.mp (hS ()) (h.strong (by simpa using hh))
    rw [wp2_modify_bind]
    refine inStep_iff.mp (.bind ((walk2 S true false).readBits 16) fun _ => .bind (.modify fun _ _ h' => ?_) hS) ?_
    · obtain ⟨y, rfl⟩ := h'.split
      exact { h' with eq := rfl, hl := fun _ => h'.hl (.inl rfl), c := fun _ => rfl }
    · exact { h with eq := rfl, hl := fun _ => ⟨rfl, rfl⟩ }

theorem body_sim (fuel : Nat) : InStep EE RSW RSW (body S fuel) :=
  get_sim (fun _ => .bind (blockLoop_sim S fuel _) fun _ => get_sim (fun _ => .ite (fun _ =>
    .bind (writeOut_sim _ _) fun _ => modify_sim (fun _ _ => rfl) fun _ => rfl) fun _ => .pure _) fun _ _ => rfl)
    fun _ _ => rfl

end state

section top
variable {σ : Type}

def StSimH (a b : St σ) : Prop :=
  StSim a b ∧ (a.headerRead = true → a.H = b.H ∧ a.L = b.L ∧ a.C = b.C)

def TS (a b : St σ) : Prop := StSimH a b ∨ (a.error = b.error ∧ a.error ≠ .ok)

def OutRel (T : St σ → St σ → Prop) : Except Fault (DecodeOut (St σ)) → Except Fault (DecodeOut (St σ)) → Prop :=
  ExR fun o1 o2 => o1.err = o2.err ∧ o1.written = o2.written ∧ T o1.st o2.st

abbrev OutR : Except Fault (DecodeOut (St σ)) → Except Fault (DecodeOut (St σ)) → Prop := OutRel TS

/-- after a call on live streams: still in step, or both dead with the structs still related (so
    that the input handles are still equal) -/
def TSd (a b : St σ) : Prop := StSimH a b ∨ (StSim a b ∧ a.error ≠ .ok)

theorem finish_sim {x1 x2 : Except Halt Unit × Run σ} (h : Post2 (EqR RSW) (EqX EE) x1 x2) :
    OutRel TSd
      (match (generalizing := false) x1 with
        | (.error (.fault f), _) => .error f
        | (.error (.sys e), r) => .ok ⟨e, r.written.toList, r.st⟩
        | (.ok (), r) =>
          .ok ⟨.ok, r.written.toList,
               { r.st with inbuf := r.inbuf, bitBuffer := r.bitBuffer, bitsLeft := r.bitsLeft % 256,
                           windowPosn := r.windowPosn, frameTodo := r.frameTodo,
                           H := r.H, L := r.L, C := r.C }⟩)
      (match (generalizing := false) x2 with
        | (.error (.fault f), _) => .error f
        | (.error (.sys e), r) => .ok ⟨e, r.written.toList, r.st⟩
        | (.ok (), r) =>
          .ok ⟨.ok, r.written.toList,
               { r.st with inbuf := r.inbuf, bitBuffer := r.bitBuffer, bitsLeft := r.bitsLeft % 256,
                           windowPosn := r.windowPosn, frameTodo := r.frameTodo,
                           H := r.H, L := r.L, C := r.C }⟩) := by
  obtain ⟨r1, t1⟩ := x1
  obtain ⟨r2, t2⟩ := x2
  cases r1 <;> cases r2
  · obtain ⟨rfl, ht, hok⟩ := h
    obtain ⟨x, rfl⟩ := ht.split
    rename_i e
    cases e with
    | fault f => exact rfl
    | sys e => exact ⟨rfl, rfl, .inr ⟨ht.st, hok⟩⟩
  · exact h.elim
  · exact h.elim
  · obtain ⟨_, ht⟩ := h
    obtain ⟨x, rfl⟩ := ht.split
    refine ⟨rfl, rfl, .inl ⟨⟨rfl, ht.ms⟩, fun hh => ?_⟩⟩
    exact ⟨(ht.hl (.inr hh)).1, (ht.hl (.inr hh)).2, ht.c (.inr hh)⟩

theorem decompress_live (S : Src σ) (fuel : Nat) {a b : St σ} (h : StSimH a b) (n : Nat) :
    OutRel TSd (decompress S fuel a n) (decompress S fuel b n) := by
  obtain ⟨y, rfl⟩ := h.1.split
  unfold decompress
  refine rel_ite _ (fun _ => ⟨rfl, rfl, .inl h⟩) fun _ => rel_ite _ (fun _ => rfl) fun _ =>
    rel_ite _ (fun _ => ⟨rfl, rfl, .inl ⟨⟨rfl, h.1.ms⟩, h.2⟩⟩) fun _ => ?_
  refine finish_sim (x1 := (body S fuel).run.run _) (x2 := (body S fuel).run.run _) (inStep_iff.mp (body_sim S fuel) ?_)
  exact .of_st rfl ⟨rfl, h.1.ms⟩ (fun x => ⟨(h.2 (x.resolve_left nofun)).1, (h.2 (x.resolve_left nofun)).2.1⟩)
    fun x => (h.2 (x.resolve_left nofun)).2.2

theorem StSim.error_eq {a b : St σ} (h : StSim a b) : a.error = b.error := by
  obtain ⟨y, rfl⟩ := h.split; rfl

theorem decompress_sim (S : Src σ) (fuel : Nat) {a b : St σ} (h : TS a b) (n : Nat) :
    OutR (decompress S fuel a n) (decompress S fuel b n) := by
  rcases h with h | ⟨he, hne⟩
  · exact (decompress_live S fuel h n).mono fun _ _ ⟨e1, e2, e3⟩ =>
      ⟨e1, e2, e3.imp id fun ⟨hs, hne⟩ => ⟨hs.error_eq, hne⟩⟩
  · unfold decompress
    rw [if_pos hne, if_pos (he ▸ hne)]
    exact ⟨he, rfl, .inr ⟨he, hne⟩⟩

theorem initModel_MA (dim start len : Nat) (f1 f2 : UInt8) (hl : 1 ≤ len) :
    MA (initModel dim start len f1) (initModel dim start len f2) := by
  refine ⟨rfl, rfl, hl, rfl, ?_, ?_⟩
  · simp [initModel]
  · intro i hi
    have hi' : i ≤ len := Nat.lt_succ_iff.mp hi
    simp only [initModel, List.getElem?_toArray, List.getElem?_map]
    by_cases hd : i < dim
    · simp [hd, hi']
    · simp [hd]

def InitR : Option (St σ) → Option (St σ) → Prop
  | some a, some b => StSimH a b
  | none, none => True
  | _, _ => False

theorem init_sim (src : σ) (wb ibs : Nat) (f1 f2 : UInt8) :
    InitR (init src wb ibs f1) (init src wb ibs f2) := by
  unfold init
  refine rel_ite _ (fun _ => trivial) fun hwb => rel_ite _ (fun _ => trivial) fun _ => ?_
  refine ⟨⟨rfl, fun id => ?_⟩, fun hh => nomatch hh⟩
  cases id <;> apply initModel_MA <;> (try split) <;> omega

def trace (S : Src σ) (fuel : Nat) : St σ → List Nat → List (Except Fault (Err × Bytes))
  | _, [] => []
  | st, n :: ns => match decompress S fuel st n with
    | .error f => [.error f]
    | .ok o => .ok (o.err, o.written) :: trace S fuel o.st ns

theorem trace_sim (S : Src σ) (fuel : Nat) : ∀ (calls : List Nat) (a b : St σ), TS a b →
    trace S fuel a calls = trace S fuel b calls
  | [], _, _, _ => rfl
  | n :: ns, a, b, h => by
    have hd := decompress_sim S fuel h n
    rw [trace, trace]
    revert hd
    cases decompress S fuel a n <;> cases decompress S fuel b n <;> intro hd <;> simp only [OutR, OutRel, ExR] at hd
    · rw [hd]
    · obtain ⟨e1, e2, e3⟩ := hd
      simp only
      rw [e1, e2, trace_sim S fuel ns _ _ e3]

/-- **C11 (Quantum)**: the statuses and bytes delivered by any sequence of `decompress` calls do
    not depend on the byte the allocator filled the stream object with -/
theorem C11_qtm_fill_independent (S : Src σ) (fuel : Nat) (src : σ) (wb ibs : Nat) (f1 f2 : UInt8)
    (calls : List Nat) :
    (init src wb ibs f1).map (fun st => trace S fuel st calls) =
    (init src wb ibs f2).map (fun st => trace S fuel st calls) := by
  have hi := init_sim src wb ibs f1 f2
  revert hi
  cases init src wb ibs f1 <;> cases init src wb ibs f2 <;> intro hi <;> simp only [InitR] at hi
  · rfl
  · exact congrArg some (trace_sim S fuel calls _ _ (.inl hi))

/-- non-vacuity: the two initial states really differ -/
example : (init () 10 2 0).map (·.H) ≠ (init () 10 2 1).map (·.H) := by decide

example : (init () 10 2 0).map (fun st => st.model6.syms[42]?) ≠
    (init () 10 2 1).map (fun st => st.model6.syms[42]?) := by decide

end top
end MsPack.Qtm
