import MsPack.Lzss.Decoder
/-!
# The source contract that all stream decoders share

Every decoder reads through a `Src` (a parameter of its model).  What the bounds results ask of it (`Src.Bounded`), what
the termination results ask of it (`Src.Finite`), the faults it may hand out (`SrcFault`) and those a decoder may pass
on (`FaultOK`); the file-backed source `Rd.src` meets all of it.  `Cause` is the form in which a walk over a decoder
states where a fault came from, with its two readings.
-/
namespace MsPack

def SrcFault {σ : Type} (S : Src σ) (f : Fault) : Prop := ∃ s n, S.read s n = .error f

/-- the faults a decoder may pass on: fuel exhaustion of the model, or a fault of the source -/
def FaultOK {σ : Type} (S : Src σ) (f : Fault) : Prop := f = .hang ∨ SrcFault S f

/-- the `read` contract: never more than `n` bytes are delivered into an `n`-byte buffer -/
def Src.Bounded {σ : Type} (S : Src σ) : Prop :=
  ∀ s n got s', S.read s n = .ok (some got, s') → got.length ≤ n

/-- a source that eventually returns 0 bytes: `rem s` bounds the bytes it can still deliver -/
structure Src.Finite {σ : Type} (S : Src σ) (rem : σ → Nat) : Prop where
  read_le : ∀ s n c s', S.read s n = .ok (some c, s') → c.length + rem s' ≤ rem s
  no_hang : ∀ s n, S.read s n ≠ .error .hang

/-- a source that raises no fault of its own (every source the models use is of this kind) -/
def Src.FaultFree {σ : Type} (S : Src σ) : Prop := ∀ s n f, S.read s n ≠ .error f

theorem Rd.src_faultFree : Rd.src.FaultFree := by
  intro s n f h; simp [Rd.src] at h

theorem Rd.src_bounded : Rd.src.Bounded := by
  intro s n got s' h
  simp only [Rd.src, Rd.read, Except.ok.injEq, Prod.mk.injEq, Option.some.injEq] at h
  rw [← h.1]; simp only [List.length_take]; omega

def Rd.left (r : Rd) : Nat := r.file.length - r.pos

theorem Rd.read_left (r : Rd) (n : Nat) : (r.read n).1.length + (r.read n).2.left = r.left := by
  simp only [Rd.read, Rd.left, List.length_take, List.length_drop]
  omega

theorem Rd.src_finite : Src.Finite Rd.src Rd.left where
  read_le := by
    intro s n c s' h
    simp only [Rd.src, Except.ok.injEq, Prod.mk.injEq, Option.some.injEq] at h
    have := Rd.read_left s n
    rw [← h.1, ← h.2]; omega
  no_hang := by intro s n h; simp [Rd.src] at h

theorem FaultOK.of_faultFree {σ : Type} {S : Src σ} (hS : S.FaultFree) {f : Fault} (h : FaultOK S f) :
    f = .hang := by
  rcases h with h | ⟨s, n, h⟩
  · exact h
  · exact absurd h (hS s n f)

section cause
variable {σ : Type} {S : Src σ} {G G' : Prop} {X X' : Fault → Prop} {f : Fault}

/-- why a run may end in the fault `f`: the source returned it, or it is `hang` and `G` (a condition on the fuel) holds, or
    it is one of the decoder's own (`X`) -/
def Cause (S : Src σ) (G : Prop) (X : Fault → Prop) (f : Fault) : Prop := SrcFault S f ∨ (f = .hang ∧ G) ∨ X f

theorem Cause.src {s : σ} {n : Nat} (h : S.read s n = .error f) : Cause S G X f := .inl ⟨s, n, h⟩
theorem Cause.hang (h : G) : Cause S G X .hang := .inr (.inl ⟨rfl, h⟩)
theorem Cause.own (h : X f) : Cause S G X f := .inr (.inr h)
theorem Cause.imp (h : Cause S G X f) (hg : G → G') (hx : ∀ f, X f → X' f) : Cause S G' X' f :=
  Or.imp id (Or.imp (And.imp_right hg) (hx f)) h
/-- the bounds reading: nothing of the decoder's own -/
theorem Cause.ok (h : Cause S G X f) (hx : ¬ X f) : FaultOK S f :=
  Or.elim h .inr fun h => h.elim (fun h => .inl h.1) fun h => (hx h).elim
/-- the termination reading: the source does not hang, the fuel condition fails -/
theorem Cause.ne_hang (h : Cause S G X f) (hS : ∀ s n, S.read s n ≠ .error .hang) (hg : ¬ G) (hx : ¬ X .hang) :
    f ≠ .hang := by
  rintro rfl
  rcases h with ⟨s, n, h⟩ | h | h
  · exact hS s n h
  · exact hg h.2
  · exact hx h
end cause

end MsPack
