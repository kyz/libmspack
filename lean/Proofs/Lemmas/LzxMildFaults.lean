import Proofs.Lemmas.CountLaws
/-!
# The LZX decoder model raises only its own three kinds of fault

For every source whose `read` raises no fault (plain file handles: `Chm.rdSrc`, `Rd.src`, in-memory
sources), every decoder state — reachable or not — every fuel and every request size, a fault of
`Lzx.decompress` is `oob`, `uninit` or `hang`: never a null dereference, a division by zero or an
over-wide shift (the model has no such site).  This is the walk of `LzxSim.lean` for the source against
itself, with no fault allowed of the source, carried through `decompress` by `LzxSim.decompress_sim` (`CountLaws.lean`).
-/
namespace MsPack.CabLift.LzxMild
open MsPack.CountLaws MsPack.Lzx MsPack.CabLift.LzxSim

variable {σ : Type} (S : Src σ) (hS : ∀ x n f, S.read x n ≠ .error f)

include hS in
theorem readInput_mild : Sim True (SR Eq fun _ => True) (HE fun _ => False) (readInput S) (readInput S) := by
  refine Sim.of_thr CountLaws.Lzx.sr_eq ?_ fun _ _ => rfl
  unfold readInput
  refine Thr.get_bind_from fun st hj => ?_
  split
  · rename_i f hr
    exact absurd hr (hS _ _ _)
  · dsimp only
    split
    · exact thrFrom_set_throw fun he => nomatch he
    · split
      · exact thrFrom_set_throw fun he => nomatch he
      · exact thrFrom_set ⟨trivial, _, rfl, rfl⟩
    · exact thrFrom_set ⟨trivial, _, rfl, rfl⟩

include hS in
theorem decompress_mild (fuel : Nat) (st : Lzx.St σ) (n : Nat) (f : Fault)
    (h : Lzx.decompress S fuel st n = .error f) : Mild f := by
  by_cases he : st.error = .ok
  · have := decompress_sim (walk_HE (fun _ _ _ h => h.symm) (readInput_mild S hS)) fuel n
      (s1 := st) ⟨trivial, _, rfl, rfl⟩ he
    rw [h] at this
    obtain ⟨⟨_, hf⟩, _⟩ := this
    exact hf.resolve_right id
  · rw [Lzx.decompress_dead S fuel st n he] at h
    cases h

end MsPack.CabLift.LzxMild
