import Lean.Elab.Tactic
import MsPack.Chm.Headers
import Proofs.Lemmas.RdFacts
/-!
# `chmd_read_headers`: its loops for every input, and the function itself one syntactic step at a time

`Faults B res` / `Post B Q res` say of a result that a fault in it is not `hang` and refutes `B`, and that under `B` a
value in it satisfies `Q`; `read_encint`, the entry loop and the chunk loop are each walked once with such a conclusion.

`readHeaders` tests 32-bit fields of buffers (`u32At buf i` = `… + d * 16777216`) and 64-bit ones (`i64At`,
`… % 18446744073709551616`) inside `if`s and `match`es.  When the kernel (or the unifier) has to compare two such terms
that are not syntactically equal it unfolds the matcher / `ite`, evaluates the discriminant and peels those literals
one `succ` at a time, ending in "deep recursion"; `split`, `simp`, `dsimp` and `conv => zeta` all produce such
comparisons on this function.  So it is walked with one lemma per `match`/`if` of its body and a head-only zeta step
(`zeta_arg`), once, for an arbitrary postcondition on the result (`readHeaders_rule`): the discriminant of a
`seekAbs`/`readChunks` match and the header fields are *generalized* before the lemma of a match/`if` that mentions them
is applied, and each leaf gets the header as a variable with equations, so no header field is ever compared.  Where the
result of every read is known (`C03_headers_roundtrip`) equations like `matchRead_some` rewrite instead; the motive makes
both sides syntactically equal.
-/
namespace MsPack.Chm
open MsPack.Generated

open Lean Elab Tactic in
/-- zeta-reduce the `have`/`let` bindings at the head of every argument of the goal (`Q e`, `a = b`, `a ≠ b`); nothing
    below the head is touched, so the kernel re-checks the step by a head reduction and never compares two header
    fields (`u32At buf i` = `… + d * 16777216`) through a matcher -/
elab "zeta_arg" : tactic => do
  let g ← getMainGoal
  let t := (← instantiateMVars (← g.getType)).consumeMData
  let rec go (fuel : Nat) (e : Expr) : Expr :=
    match fuel with
    | 0 => e
    | fuel + 1 =>
      match e with
      | .letE _ _ v b _ => go fuel (b.instantiate1 v)
      | .mdata _ e' => go fuel e'
      | _ => e
  let g' ← g.replaceTargetDefEq (mkAppN t.getAppFn (t.getAppArgs.map (go 64)))
  replaceMainGoal [g']


/-- case split on an `if` inside a goal `Q (if c then a else b)` without touching the rest of the term (`split` simplifies
    the whole goal); `iteInduction` with the instance implicit, so that `refine of_ite …` finds `Q` by unification -/
theorem of_ite {α : Sort _} {Q : α → Prop} {c : Prop} {inst : Decidable c} {a b : α} (ha : c → Q a) (hb : ¬ c → Q b) :
    Q (@ite α c inst a b) :=
  iteInduction ha hb

def Faults {α : Type} (B : Prop) (r : Except Fault α) : Prop := ∀ f, r = .error f → f ≠ .hang ∧ ¬ B

theorem Faults.ok {α : Type} {B : Prop} (v : α) : Faults B (.ok v) := fun _ hr => by cases hr

theorem Faults.oob {α : Type} {B : Prop} (s : String) (h : ¬ B) : Faults B (.error (.oob s) : Except Fault α) :=
  fun _ hr => by cases hr; exact ⟨fun hc => (by cases hc), h⟩

theorem Faults.null {α : Type} {B : Prop} (s : String) (h : ¬ B) : Faults B (.error (.nullDeref s) : Except Fault α) :=
  fun _ hr => by cases hr; exact ⟨fun hc => (by cases hc), h⟩

theorem Faults.pass {α β : Type} {B B' : Prop} {x : Except Fault α} {f : Fault} (h : Faults B x) (hx : x = .error f)
    (hb : B' → B) : Faults B' (.error f : Except Fault β) :=
  fun _ hr => by cases hr; exact ⟨(h f hx).1, fun b => (h f hx).2 (hb b)⟩

theorem Faults.no_hang {α : Type} {B : Prop} {r : Except Fault α} (h : Faults B r) : r ≠ .error .hang :=
  fun hr => (h _ hr).1 rfl

theorem Faults.no_fault {α : Type} {B : Prop} {r : Except Fault α} (h : Faults B r) (b : B) (f : Fault) :
    r ≠ .error f :=
  fun hr => (h _ hr).2 b

theorem Faults.mono {α : Type} {B B' : Prop} {r : Except Fault α} (h : Faults B r) (hb : B' → B) : Faults B' r :=
  fun f hr => ⟨(h f hr).1, fun b => (h f hr).2 (hb b)⟩

def Post {α : Type} (B : Prop) (Q : α → Prop) (res : Except Fault α) : Prop :=
  Faults B res ∧ (B → ∀ v, res = .ok v → Q v)

theorem Post.fault {α : Type} {B : Prop} {Q : α → Prop} {f : Fault} (h : Faults B (.error f : Except Fault α)) :
    Post B Q (.error f) :=
  ⟨h, fun _ _ hr => by cases hr⟩

theorem Post.ret {α : Type} {B : Prop} {Q : α → Prop} (v : α) (hv : B → Q v) : Post B Q (.ok v) :=
  ⟨.ok _, fun b _ hr => by cases hr; exact hv b⟩

theorem Post.mono {α : Type} {B B' : Prop} {Q Q' : α → Prop} {res : Except Fault α} (h : Post B Q res) (hb : B' → B)
    (hq : B' → ∀ v, Q v → Q' v) : Post B' Q' res :=
  ⟨h.1.mono hb, fun b v hr => hq b v (h.2 (hb b) v hr)⟩

theorem Post.no_hang {α : Type} {B : Prop} {Q : α → Prop} {res : Except Fault α} (h : Post B Q res) :
    res ≠ .error .hang := h.1.no_hang

/-- at most `9 - i` more bytes are accepted: `9 - i + 1` rounds suffice -/
theorem encLoop_fault (bs : Bytes) (e : Nat) : ∀ (fuel i p result : Nat) (c : UInt8),
    9 - i + 1 ≤ fuel → Faults (e ≤ bs.length) (encLoop bs e fuel i p result c) := by
  intro fuel
  induction fuel with
  | zero => intro i p result c h; omega
  | succ fuel ih =>
    intro i p result c h
    rw [encLoop]
    have hmb : encintMaxBytes = 9 := rfl
    refine of_ite (fun _ => .ok _) fun _ => of_ite (fun _ => .ok _) fun hi => of_ite (fun _ => .ok _) fun hp => ?_
    split
    · rename_i hn
      exact .oob _ fun he => by rw [List.getElem?_eq_none_iff] at hn; omega
    · exact ih _ _ _ _ (by omega)

theorem readEncint_fault (bs : Bytes) (p e : Nat) : Faults (e ≤ bs.length) (readEncint bs p e) := by
  unfold readEncint
  split
  · rename_i f hf
    exact (encLoop_fault bs e _ 0 p 0 0x80 (by decide)).pass hf id
  · exact of_ite (fun _ => .ok _) fun _ => of_ite (fun _ => .ok _) fun _ => .ok _

/-- what `open()` guarantees of every file it lists -/
def FilesNonneg (l : List CFile) : Prop := ∀ f ∈ l, 0 ≤ f.offset ∧ 0 ≤ f.length ∧ f.sec ≤ 1

/-- the list of files is left alone (blank name, directory, bad section, system file) or gets the one entry in front -/
def AddEntryPost (w : Walk) (name : Bytes) (offset length : Int) (r : Walk) : Prop :=
  r.filesRev = w.filesRev ∨ ∃ s, s ≤ 1 ∧ r.filesRev = ⟨name, s, offset, length⟩ :: w.filesRev

theorem addEntry_post (w : Walk) (name : Bytes) (nameLen sec : Nat) (offset length : Int) :
    AddEntryPost w name offset length (addEntry w name nameLen sec offset length) := by
  unfold addEntry
  refine of_ite (fun _ => .inl rfl) fun _ => of_ite (fun _ => .inl rfl) fun _ => of_ite (fun _ => .inl rfl) fun _ => ?_
  refine of_ite (fun _ => .inl ?_) (fun _ => .inr ⟨_, ?_, rfl⟩)
  · exact of_ite (Q := fun r : Walk => r.filesRev = w.filesRev) (fun _ => rfl) fun _ =>
      of_ite (Q := fun r : Walk => r.filesRev = w.filesRev) (fun _ => rfl) fun _ =>
      of_ite (Q := fun r : Walk => r.filesRev = w.filesRev) (fun _ => rfl) fun _ =>
      of_ite (Q := fun r : Walk => r.filesRev = w.filesRev) (fun _ => rfl) fun _ => rfl
  · split <;> omega

theorem addEntry_nonneg (w : Walk) (name : Bytes) (nameLen sec : Nat) (offset length : Int)
    (ho : 0 ≤ offset) (hl : 0 ≤ length) (hw : FilesNonneg w.filesRev) :
    FilesNonneg (addEntry w name nameLen sec offset length).filesRev := by
  rcases addEntry_post w name nameLen sec offset length with h | ⟨s, hs, h⟩ <;> rw [h]
  · exact hw
  · intro f hf
    rcases List.mem_cons.mp hf with rfl | hf
    · exact ⟨ho, hl, hs⟩
    · exact hw f hf

theorem readEntries_fault (chunk : Bytes) (e : Nat) : ∀ (n p : Nat) (w : Walk),
    Post (e ≤ chunk.length) (fun r => FilesNonneg w.filesRev → FilesNonneg r.1.filesRev) (readEntries chunk e n p w) := by
  intro n
  induction n with
  | zero => intro p w; rw [readEntries]; exact .ret _ fun _ hw => hw
  | succ n ih =>
    intro p w
    rw [readEntries]
    split
    · rename_i f hq; exact .fault ((readEncint_fault _ _ _).pass hq id)
    simp only
    refine of_ite (fun _ => .ret _ fun _ hw => hw) fun _ => ?_
    split
    · rename_i f hq; exact .fault ((readEncint_fault _ _ _).pass hq id)
    split
    · rename_i f hq; exact .fault ((readEncint_fault _ _ _).pass hq id)
    split
    · rename_i f hq; exact .fault ((readEncint_fault _ _ _).pass hq id)
    refine of_ite (fun _ => .ret _ fun _ hw => hw) fun _ => ?_
    exact (ih _ _).mono id fun _ _ hr hw => hr (addEntry_nonneg _ _ _ _ _ _ (by simp) (by simp) hw)

/-- `chunk_size - 2`, the `end` the chunk loop passes to the entry loop, lies inside the chunk just read, so there is no
    fault at all -/
theorem readChunks_fault (cs : Nat) : ∀ (n : Nat) (r : Rd) (w : Walk),
    Post True (fun o => (∀ e, o = .error e → e = .read) ∧
        ∀ w', o = .ok w' → FilesNonneg w.filesRev → FilesNonneg w'.filesRev) (readChunks cs n r w) := by
  intro n
  induction n with
  | zero => intro r w; rw [readChunks]; exact .ret _ fun _ => ⟨fun _ h => (nomatch h), fun _ h hw => by cases h; exact hw⟩
  | succ n ih =>
    intro r w
    rw [readChunks]
    split
    · exact .ret _ fun _ => ⟨fun _ h => by cases h; rfl, fun _ h => nomatch h⟩
    rename_i chunk r' hre
    have hl := Rd.readExact_length hre
    refine of_ite (fun _ => ih _ _) fun _ => ?_
    simp only
    have he := readEntries_fault chunk (cs - 2) (u16At chunk (cs - 2)) pmgl_Entries w
    split
    · rename_i f hq; exact .fault (he.1.pass hq fun _ => by omega)
    · rename_i w1 bad hq
      refine (ih _ _).mono id fun _ _ ho => ⟨ho.1, fun w' hw' hw => ho.2 w' hw' ?_⟩
      have := he.2 (by omega) _ hq hw
      split <;> exact this

/-! `readChunks.match_3` is the matcher of every `match r.readExact n with | none | some (b, r)` (`readHeaders` shares it
with `readChunks`), `readHeaders.match_3` that of `match seekAbs r off with | none | some r`, `readHeaders.match_1` that of
`match readChunks … with | .error f | .ok (.error e) | .ok (.ok w)`. -/

section
variable {α : Type} {Q : α → Prop}
theorem post_read (x : Option (Bytes × Rd)) (n : Unit → α) (k : Bytes → Rd → α)
    (hn : Q (n ())) (hk : ∀ b r, Q (k b r)) : Q (readChunks.match_3 (fun _ => α) x n k) := by
  cases x with
  | none => exact hn
  | some v => exact hk v.1 v.2
theorem post_seek (x : Option Rd) (n : Unit → α) (k : Rd → α)
    (hn : Q (n ())) (hk : ∀ r, Q (k r)) : Q (readHeaders.match_3 (fun _ => α) x n k) := by
  cases x with
  | none => exact hn
  | some v => exact hk v
theorem post_ite (c : Prop) {inst : Decidable c} (a b : α) (ha : Q a) (hb : Q b) : Q (@ite _ c inst a b) :=
  of_ite (fun _ => ha) (fun _ => hb)
theorem post_chunks (x : Except Fault (Except Err Walk)) (h1 : Fault → α) (h2 : Err → α) (h3 : Walk → α)
    (p1 : ∀ f, x = .error f → Q (h1 f)) (p2 : ∀ e, x = .ok (.error e) → Q (h2 e)) (p3 : ∀ w, x = .ok (.ok w) → Q (h3 w)) :
    Q (readHeaders.match_1 (fun _ => α) x h1 h2 h3) := by
  match x with
  | .error f => exact p1 f rfl
  | .ok (.error e) => exact p2 e rfl
  | .ok (.ok w) => exact p3 w rfl
end

theorem matchRead_some {α : Type} (x : Option (Bytes × Rd)) (b : Bytes) (r : Rd) (h : x = some (b, r))
    (n : Unit → α) (k : Bytes → Rd → α) : readChunks.match_3 (fun _ => α) x n k = k b r := by subst h; rfl
theorem matchSeek_some {α : Type} (x : Option Rd) (r : Rd) (h : x = some r)
    (n : Unit → α) (k : Rd → α) : readHeaders.match_3 (fun _ => α) x n k = k r := by subst h; rfl
theorem mChunks_fault {α : Type} (x : Except Fault (Except Err Walk)) (f : Fault) (h : x = .error f)
    (h1 : Fault → α) (h2 : Err → α) (h3 : Walk → α) : readHeaders.match_1 (fun _ => α) x h1 h2 h3 = h1 f := by
  subst h; rfl
theorem matchChunks_ok {α : Type} (x : Except Fault (Except Err Walk)) (w : Walk) (h : x = .ok (.ok w))
    (h1 : Fault → α) (h2 : Err → α) (h3 : Walk → α) : readHeaders.match_1 (fun _ => α) x h1 h2 h3 = h3 w := by subst h; rfl

theorem readHeaders_rule {Q : Except Fault (Except Err Parsed) → Prop} (filename : String) (file : Bytes) (entire : Bool)
    (hshort : (⟨file, 0⟩ : Rd).readExact chmheadSIZEOF = none → Q (.ok (.error .read)))
    (hsig : ∀ buf r, (⟨file, 0⟩ : Rd).readExact chmheadSIZEOF = some (buf, r) →
      u32At buf chmhead_Signature ≠ 0x46535449 ∨ ((buf.drop chmhead_GUID1).take 32).map UInt8.toNat ≠ chmGuids →
      Q (.ok (.error .signature)))
    (herr : ∀ e, e ≠ .signature → Q (.ok (.error e)))
    (hfast : ∀ hdr : Header, hdr.filename = filename → 22 ≤ hdr.chunkSize → hdr.chunkCache = none → hdr.files = [] →
      Q (.ok (.ok ⟨.ok, hdr⟩)))
    (hfault : ∀ cs n r f, readChunks cs n r {} = .error f → Q (.error f))
    (hfull : ∀ (hdr : Header) n r w, readChunks hdr.chunkSize n r {} = .ok (.ok w) → hdr.filename = filename →
      22 ≤ hdr.chunkSize → hdr.chunkCache = none → hdr.files = w.filesRev.reverse →
      Q (.ok (.ok ⟨if w.errors > 0 then .dataformat else .ok, hdr⟩))) :
    Q (readHeaders filename file entire) := by
  unfold readHeaders
  generalize hrd : (⟨file, 0⟩ : Rd).readExact chmheadSIZEOF = x
  rcases x with _ | ⟨b1, r1⟩
  · exact hshort hrd
  apply of_ite (Q := Q) (fun h => hsig _ _ hrd (.inl h)); intro _
  apply of_ite (Q := Q) (fun h => hsig _ _ hrd (.inr h)); intro _
  zeta_arg
  apply post_read (Q := Q) _ _ _ (herr _ (by decide)); intro b2 r2
  zeta_arg
  generalize seekAbs r2 (i64At b2 chmhst_OffsetHS0) = sk1
  apply post_seek (Q := Q) _ _ _ (herr _ (by decide)); intro r3
  apply post_read (Q := Q) _ _ _ (herr _ (by decide)); intro b3 r4
  zeta_arg
  generalize seekAbs r4 (i64At b2 chmhst_OffsetHS1) = sk2
  apply post_seek (Q := Q) _ _ _ (herr _ (by decide)); intro r5
  apply post_read (Q := Q) _ _ _ (herr _ (by decide)); intro b4 r6
  zeta_arg
  generalize u32At b1 chmhead_Version = version
  generalize u32BEAt b1 chmhead_Timestamp = timestamp
  generalize u32At b1 chmhead_LanguageID = language
  generalize i64At b2 chmhst3_OffsetCS0 = sec0Offset0
  generalize i64At b3 chmhs0_FileLen = length
  generalize u32At b4 chmhs1_ChunkSize = chunkSize
  generalize u32At b4 chmhs1_Density = density
  generalize u32At b4 chmhs1_Depth = depth
  generalize u32At b4 chmhs1_IndexRoot = indexRoot
  generalize u32At b4 chmhs1_NumChunks = numChunks
  generalize u32At b4 chmhs1_FirstPMGL = firstPmgl
  generalize u32At b4 chmhs1_LastPMGL = lastPmgl
  apply post_ite (Q := Q) _ _ _ (herr _ (by decide))
  apply of_ite (Q := Q) (fun _ => herr _ (by decide)); intro hcs
  apply post_ite (Q := Q) _ _ _ (herr _ (by decide))
  apply post_ite (Q := Q) _ _ _ (herr _ (by decide))
  apply post_ite (Q := Q) _ _ _ (herr _ (by decide))
  apply post_ite (Q := Q) _ _ _ (herr _ (by decide))
  apply post_ite (Q := Q) _ _ _ (herr _ (by decide))
  apply post_ite (Q := Q) _ _ _ (herr _ (by decide))
  zeta_arg
  apply post_ite (Q := Q) _ _ _ (hfast _ rfl (Nat.le_of_not_lt hcs) rfl rfl)
  zeta_arg
  generalize hrc : readChunks _ _ _ _ = rc
  apply post_chunks (Q := Q)
  · intro f hf; exact hfault _ _ _ f (hrc.trans hf)
  · intro e he
    subst he
    rw [((readChunks_fault _ _ _ _).2 trivial _ hrc).1 e rfl]
    exact herr _ (by decide)
  · intro w hw
    subst hw
    zeta_arg
    exact hfull _ _ _ w hrc rfl (Nat.le_of_not_lt hcs) rfl rfl

theorem realOpen_cases {filename : String} {file : Bytes} {entire : Bool} {r : Except Fault (Err × Option Header)}
    (h : realOpen filename file entire = r) :
    match (generalizing := false) r with
    | .error f => readHeaders filename file entire = .error f
    | .ok (e, none) => readHeaders filename file entire = .ok (.error e) ∨
        ∃ p, readHeaders filename file entire = .ok (.ok p) ∧ p.err = e
    | .ok (e, some hdr) => e = .ok ∧ ∃ p, readHeaders filename file entire = .ok (.ok p) ∧ p.hdr = hdr := by
  unfold realOpen at h
  generalize readHeaders filename file entire = res at h ⊢
  split at h
  · subst h; rfl
  · subst h; exact Or.inl rfl
  · rename_i p
    split at h
    · subst h; exact ⟨rfl, p, rfl, rfl⟩
    · split at h
      · subst h; exact ⟨rfl, p, rfl, rfl⟩
      · subst h; exact Or.inr ⟨p, rfl, rfl⟩

end MsPack.Chm
