import MsPack.Chm.Headers
import MsPack.Chm.Find
import MsPack.Spec.ChmEncode
import Proofs.Lemmas.CabEncode
import Proofs.Props.C03
import Proofs.Lemmas.ChmPost
/-
CHM directory round trip, lemmas: the ENCINT writer against `read_encint` and `search_chunk`'s skip loop, one
directory entry (`EntryAt`), the entry loop of a PMGL chunk, the chunk loop, and the field-extraction lemmas for the
four fixed-size headers.
-/
namespace MsPack.Chm
open MsPack.Generated
open MsPack.Oab (enc32)
open MsPack.Cab (enc16 enc32_length u16At_skip u32At_skip u32At_enc32 u16At_enc16_nil)

theorem encintGroups_eq (k n : Nat) : encintGroups k n = encintDigits k n := by
  induction k generalizing n with
  | zero => rfl
  | succ k ih => simp [encintGroups, encintDigits, ih]

theorem putEncintN_eq (j n : Nat) : putEncintN j n = encodeEncint j n := by
  simp [putEncintN, encodeEncint, encintGroups_eq]

theorem putEncintN_length (j n : Nat) : (putEncintN j n).length = j + 1 := by
  simp [putEncintN, encintGroups_eq, digits_length]

theorem encintExtra_spec : ∀ (fuel n : Nat), n < 128 ^ (fuel + 1) →
    encintExtra fuel n ≤ fuel ∧ n < 128 ^ (encintExtra fuel n + 1)
  | 0, n, h => by simpa [encintExtra] using h
  | fuel + 1, n, h => by
    rw [encintExtra]
    by_cases hn : n < 128
    · simp [hn]
    · rw [if_neg hn]
      have h' : n / 128 < 128 ^ (fuel + 1) := by
        rw [Nat.pow_succ] at h; exact Nat.div_lt_of_lt_mul (by rw [Nat.mul_comm]; exact h)
      obtain ⟨h1, h2⟩ := encintExtra_spec fuel (n / 128) h'
      refine ⟨by omega, ?_⟩
      rw [Nat.pow_succ]
      omega

theorem readEncint_put (chunk : Bytes) (p e n : Nat) (rest : Bytes) (hn : n < 9223372036854775808)
    (hd : chunk.drop p = putEncint n ++ rest) (he : p + (putEncint n).length ≤ e) :
    readEncint chunk p e = .ok ⟨n, p + (putEncint n).length, false⟩ := by
  obtain ⟨hj, hnj⟩ := encintExtra_spec 8 n (by omega)
  have hlen : (putEncint n).length = encintExtra 8 n + 1 := putEncintN_length _ _
  rw [hlen] at he ⊢
  have hpl : p ≤ chunk.length := by
    have h1 := congrArg List.length hd
    rw [List.length_drop, List.length_append, hlen] at h1
    omega
  have htl : (chunk.take p).length = p := by rw [List.length_take]; omega
  have hsplit : chunk = chunk.take p ++ encodeEncint (encintExtra 8 n) n ++ rest := by
    rw [List.append_assoc, ← putEncintN_eq, ← putEncint, ← hd, List.take_append_drop]
  have := C03_encint_roundtrip (chunk.take p) rest (encintExtra 8 n) n e (by omega) hnj (by rw [htl]; omega)
  rw [← hsplit, htl] at this
  rw [this]
  rfl

theorem skipEncint_run (chunk : Bytes) (e : Nat) : ∀ (cont : Bytes) (last : UInt8) (rest : Bytes) (fuel p : Nat),
    chunk.drop p = cont ++ last :: rest → (∀ x ∈ cont, x &&& 0x80 ≠ 0) → last &&& 0x80 = 0 →
    p + cont.length < e → cont.length + 1 ≤ fuel →
    skipEncint chunk e fuel p = .ok (p + cont.length + 1) := by
  intro cont
  induction cont with
  | nil =>
    intro last rest fuel p hd _ hl hp hf
    simp only [List.nil_append, List.length_nil, Nat.add_zero] at *
    match fuel, hf with
    | fuel + 1, _ =>
      have hget := getElem?_of_drop hd
      rw [skipEncint, if_pos hp]
      simp only [hget, hl, ne_eq, not_true_eq_false, ↓reduceIte]
  | cons x xs ih =>
    intro last rest fuel p hd hall hl hp hf
    simp only [List.cons_append, List.length_cons] at *
    match fuel, hf with
    | fuel + 1, hf =>
      have hget := getElem?_of_drop hd
      have hx : x &&& 0x80 ≠ 0 := hall x (by simp)
      rw [skipEncint, if_pos (by omega)]
      simp only [hget, hx, ne_eq, not_false_eq_true, ↓reduceIte]
      rw [ih last rest fuel (p + 1) (drop_succ_of_drop hd) (fun y hy => hall y (by simp [hy])) hl (by omega) (by omega)]
      congr 1; omega

theorem skipEncint_put (chunk : Bytes) (p e n fuel : Nat) (rest : Bytes)
    (hd : chunk.drop p = putEncint n ++ rest) (he : p + (putEncint n).length ≤ e)
    (hf : (putEncint n).length ≤ fuel) :
    skipEncint chunk e fuel p = .ok (p + (putEncint n).length) := by
  have hlen : (putEncint n).length = encintExtra 8 n + 1 := putEncintN_length _ _
  have hdl := digits_length (encintExtra 8 n) (n / 128)
  have hdlt := digits_lt (encintExtra 8 n) (n / 128)
  have hmod : n % 128 < 128 := Nat.mod_lt _ (by decide)
  have hd' : chunk.drop p = (encintDigits (encintExtra 8 n) (n / 128)).map (fun d => UInt8.ofNat (d + 128)) ++
      UInt8.ofNat (n % 128) :: rest := by
    rw [hd, putEncint, putEncintN_eq, encodeEncint, List.append_assoc]; rfl
  have := skipEncint_run chunk e _ _ rest fuel p hd'
    (by intro x hx; simp only [List.mem_map] at hx; obtain ⟨d, hd, rfl⟩ := hx; exact (cont_byte d (hdlt d hd)).1)
    (last_byte _ hmod).1 (by simp [hdl]; omega) (by simp [hdl]; omega)
  rw [this, hlen]
  simp [hdl]; omega

theorem putEncint_pos (n : Nat) : 0 < (putEncint n).length := by
  rw [putEncint, putEncintN_length]; omega

theorem addEntry_spec (w : Walk) (en : EntrySpec) (hwf : en.wf) :
    addEntry w en.name en.name.length en.sec (Int.ofNat en.offset) (Int.ofNat en.length) =
      if en.isFile then { w with filesRev := en.listed :: w.filesRev } else w := by
  obtain ⟨hs, _, _, hsys⟩ := hwf
  unfold addEntry EntrySpec.isFile
  by_cases h1 : en.name.length < 2 ∨ byteAt en.name 0 = 0 ∨ byteAt en.name 1 = 0
  · simp [h1]
  · rw [if_neg h1]
    have hoff : (Int.ofNat en.offset = 0) = (en.offset = 0) := by simp
    have hlen : (Int.ofNat en.length = 0) = (en.length = 0) := by simp
    have hpos : en.name.length > 0 := by omega
    simp only [hoff, hlen]
    by_cases h2 : en.offset = 0 ∧ en.length = 0 ∧ byteAt en.name (en.name.length - 1) = 0x2F
    · have h2' : en.offset = 0 ∧ en.length = 0 ∧ en.name.length > 0 ∧ byteAt en.name (en.name.length - 1) = 0x2F :=
        ⟨h2.1, h2.2.1, hpos, h2.2.2⟩
      rw [if_pos h2']
      simp [h1, h2]
    · have h2' : ¬ (en.offset = 0 ∧ en.length = 0 ∧ en.name.length > 0 ∧ byteAt en.name (en.name.length - 1) = 0x2F) :=
        fun h => h2 ⟨h.1, h.2.1, h.2.2.2⟩
      rw [if_neg h2', if_neg (by omega), if_neg hsys]
      have hsec : (if en.sec = 0 then 0 else 1) = en.sec := by split <;> omega
      simp only [h1, h2, not_false_eq_true, decide_true, Bool.and_self, ↓reduceIte, hsec]
      rfl

theorem encEntry_length (en : EntrySpec) :
    (encEntry en).length = (putEncint en.name.length).length + (en.name.length + ((putEncint en.sec).length +
      ((putEncint en.offset).length + (putEncint en.length).length))) := by
  simp [encEntry]

def Walk.add (w : Walk) (es : List EntrySpec) : Walk :=
  { w with filesRev := ((es.filter EntrySpec.isFile).map EntrySpec.listed).reverse ++ w.filesRev }

theorem Walk.add_nil (w : Walk) : w.add [] = w := rfl

theorem Walk.add_cons (w : Walk) (en : EntrySpec) (es : List EntrySpec) :
    w.add (en :: es) = (if en.isFile then { w with filesRev := en.listed :: w.filesRev } else w).add es := by
  unfold Walk.add
  by_cases h : en.isFile <;> simp [h]

theorem Walk.add_append (w : Walk) (a b : List EntrySpec) : w.add (a ++ b) = (w.add a).add b := by
  simp [Walk.add, List.filter_append]

theorem Walk.add_err (w : Walk) (es : List EntrySpec) : (w.add es).err = w.err := rfl

theorem encEntries_cons (en : EntrySpec) (es : List EntrySpec) : encEntries (en :: es) = encEntry en ++ encEntries es := by
  simp [encEntries]

/-!
What the C does with an entry (`chmd_read_headers`' entry loop, the linear scan and the binary search of
`search_chunk`, `chmd_fast_find`'s read of a found entry) is said in terms of `EntryAt`, which knows nothing of how
the bytes were written; `EntryAt.enc` is the one place where the writer's `encEntry` is walked. -/

/-- an ENCINT for `n` occupies `p .. p'`: `search_chunk`'s skip loop passes it, and `read_encint` decodes it when
    `n` fits an `off_t` -/
structure EncAt (chunk : Bytes) (e p n p' : Nat) : Prop where
  skip : skipEncint chunk e (e - p + 1) p = .ok p'
  read : n < 9223372036854775808 → readEncint chunk p e = .ok ⟨n, p', false⟩

theorem EncAt.put {chunk : Bytes} {p e n : Nat} {rest : Bytes} (hd : chunk.drop p = putEncint n ++ rest)
    (he : p + (putEncint n).length ≤ e) : EncAt chunk e p n (p + (putEncint n).length) :=
  ⟨skipEncint_put chunk p e n _ rest hd he (by omega), fun hn => readEncint_put chunk p e n rest hn hd he⟩

def TailAt (chunk : Bytes) (e q : Nat) (en : EntrySpec) (p' : Nat) : Prop :=
  ∃ p3 p4, EncAt chunk e q en.sec p3 ∧ EncAt chunk e p3 en.offset p4 ∧ EncAt chunk e p4 en.length p'

/-- the entry `en` occupies `p .. p'` and its name starts at `p1`; `mod` and `fits` are the C's
    `name_len > (unsigned int)(end - p)` test as the model spells it -/
structure EntryAt (chunk : Bytes) (e p : Nat) (en : EntrySpec) (p1 p' : Nat) : Prop where
  len  : readEncint chunk p e = .ok ⟨en.name.length, p1, false⟩
  mod  : en.name.length % 4294967296 = en.name.length
  fits : ¬ (en.name.length > (e - p1) % 4294967296)
  name : (chunk.drop p1).take en.name.length = en.name
  tail : TailAt chunk e (p1 + en.name.length) en p'

theorem EntryAt.enc {chunk : Bytes} {p e : Nat} (he : e < 4294967296) {en : EntrySpec} {rest : Bytes}
    (hd : chunk.drop p = encEntry en ++ rest) (hfit : p + (encEntry en).length ≤ e) :
    EntryAt chunk e p en (p + (putEncint en.name.length).length) (p + (encEntry en).length) ∧
    chunk.drop (p + (encEntry en).length) = rest := by
  have hel := encEntry_length en
  rw [hel] at hfit ⊢
  have hd1 : chunk.drop p = putEncint en.name.length ++ (en.name ++ (putEncint en.sec ++ (putEncint en.offset ++
      (putEncint en.length ++ rest)))) := by
    rw [hd]; simp [encEntry, List.append_assoc]
  have hd2 := (Rd.readExact_at hd1 rfl).2
  have hd3 := (Rd.readExact_at hd2 rfl).2
  have hd4 := (Rd.readExact_at hd3 rfl).2
  have hd5 := (Rd.readExact_at hd4 rfl).2
  have hd6 := (Rd.readExact_at hd5 rfl).2
  have a := EncAt.put (e := e) hd3 (by omega)
  have b := EncAt.put (e := e) hd4 (by omega)
  have c := EncAt.put (e := e) hd5 (by omega)
  simp only [← Nat.add_assoc] at hd6 ⊢
  exact ⟨⟨readEncint_put chunk p e _ _ (by omega) hd1 (by omega), Nat.mod_eq_of_lt (by omega),
    by rw [Nat.mod_eq_of_lt (by omega)]; omega, by rw [hd2, List.take_left']; rfl, _, _, a, b, c⟩, hd6⟩

theorem readEntries_entry {chunk : Bytes} {e p p1 p' : Nat} {en : EntrySpec} (h : EntryAt chunk e p en p1 p')
    (hwf : en.wf) (w : Walk) (herr : w.err = false) (n : Nat) :
    readEntries chunk e (n + 1) p w =
      readEntries chunk e n p' (if en.isFile then { w with filesRev := en.listed :: w.filesRev } else w) := by
  obtain ⟨p3, p4, a, b, c⟩ := h.tail
  have hm3 : en.sec % 4294967296 = en.sec := Nat.mod_eq_of_lt (by have := hwf.1; omega)
  rw [readEntries, h.len]
  simp only [herr, Bool.false_eq_true, false_or, h.mod, h.fits, ↓reduceIte, a.read (by have := hwf.1; omega),
    b.read hwf.2.1, c.read hwf.2.2.1, h.name, hm3, Bool.or_self]
  rw [addEntry_spec w en hwf]
  simp only [herr]

theorem readEntries_spec (chunk : Bytes) (e : Nat) (he : e < 4294967296) :
    ∀ (es : List EntrySpec) (p : Nat) (w : Walk) (rest : Bytes),
    (∀ en ∈ es, en.wf) → w.err = false → chunk.drop p = encEntries es ++ rest → p + (encEntries es).length ≤ e →
    readEntries chunk e es.length p w = .ok (w.add es, false)
  | [], p, w, rest, _, _, _, _ => by simp [readEntries, Walk.add_nil]
  | en :: es, p, w, rest, hwf, herr, hd, hfit => by
    rw [encEntries_cons, List.length_append] at hfit
    rw [encEntries_cons, List.append_assoc] at hd
    obtain ⟨h, hd'⟩ := EntryAt.enc he hd (by omega)
    rw [List.length_cons, readEntries_entry h (hwf en (List.mem_cons_self ..)) w herr, Walk.add_cons]
    exact readEntries_spec chunk e he es _ _ rest (fun g hg => hwf g (List.mem_cons_of_mem _ hg))
      (by split <;> simp [herr]) hd' (by omega)

theorem encChunk_length (cs total i : Nat) (es : List EntrySpec) (h : 22 + (encEntries es).length ≤ cs) :
    (encChunk cs total i es).length = cs := by
  simp [encChunk, enc32, enc16]; omega

theorem encChunk_fields (cs total i : Nat) (es : List EntrySpec) (h : chunkFits cs es) :
    u32At (encChunk cs total i es) 0 = 0x4C474D50 ∧ u16At (encChunk cs total i es) (cs - 2) = es.length ∧
    ∃ tail, (encChunk cs total i es).drop 20 = encEntries es ++ tail := by
  obtain ⟨h1, h2⟩ := h
  refine ⟨?_, ?_, ⟨_, List.drop_left' rfl⟩⟩
  · simp only [encChunk, List.append_assoc, u32At_enc32, Nat.reduceLT]
  · rw [encChunk, u16At_skip (n := 20) _ (by simp only [List.length_append, enc32_length]) (by omega),
      u16At_skip _ rfl (by omega), u16At_skip _ List.length_replicate (by omega),
      show cs - 2 - 20 - (encEntries es).length - (cs - 22 - (encEntries es).length) = 0 by omega, u16At_enc16_nil h2]

theorem readChunks_spec (cs total : Nat) (hcs : cs ≤ 8192) (file : Bytes) :
    ∀ (chunks : List (List EntrySpec)) (i pos : Nat) (w : Walk) (rest : Bytes),
    (∀ c ∈ chunks, chunkFits cs c ∧ ∀ en ∈ c, en.wf) → w.err = false →
    file.drop pos = encChunks cs total i chunks ++ rest →
    readChunks cs chunks.length ⟨file, pos⟩ w = .ok (.ok (w.add chunks.flatten))
  | [], i, pos, w, rest, _, _, _ => by simp [readChunks, Walk.add_nil]
  | c :: chunks, i, pos, w, rest, hwf, herr, hd => by
    obtain ⟨hfit, hens⟩ := hwf c (List.mem_cons_self ..)
    obtain ⟨fsig, fnum, tail, hbody⟩ := encChunk_fields cs total i c hfit
    have hlen := encChunk_length cs total i c hfit.1
    obtain ⟨hre, hd2⟩ := Rd.readExact_at
      (show file.drop pos = encChunk cs total i c ++ (encChunks cs total (i + 1) chunks ++ rest) by
        rw [hd, encChunks, List.append_assoc]) hlen
    have hent := readEntries_spec (encChunk cs total i c) (cs - 2) (by omega) c 20 w tail hens herr hbody
      (by have := hfit.1; omega)
    have ih := readChunks_spec cs total hcs file chunks (i + 1) (pos + cs) (w.add c) rest
      (fun g hg => hwf g (List.mem_cons_of_mem _ hg)) (by rw [Walk.add_err]; exact herr) hd2
    rw [List.length_cons, readChunks, hre]
    generalize encChunk cs total i c = chunk at fsig fnum hent
    simp only [pmgl_Signature, pmgl_Entries, fsig, fnum, ne_eq, not_true_eq_false, ↓reduceIte, hent,
      Bool.false_eq_true]
    rw [ih, List.flatten_cons, Walk.add_append]

theorem encChunks_length (cs total : Nat) : ∀ (chunks : List (List EntrySpec)) (i : Nat),
    (∀ c ∈ chunks, chunkFits cs c) → (encChunks cs total i chunks).length = cs * chunks.length
  | [], _, _ => by simp [encChunks]
  | c :: chunks, i, h => by
    rw [encChunks, List.length_append, encChunk_length cs total i c (h c (List.mem_cons_self ..)).1,
      encChunks_length cs total chunks (i + 1) (fun g hg => h g (List.mem_cons_of_mem _ hg)), List.length_cons,
      Nat.mul_succ, Nat.add_comm]

theorem wf_numChunks (s : ChmSpec) (h : s.wf) : 0 < s.numChunks ∧ s.numChunks ≤ 100000 := by
  obtain ⟨_, _, _, _, _, hne, hn, _, _⟩ := h
  unfold ChmSpec.numChunks
  exact ⟨List.length_pos_iff.mpr hne, hn⟩

theorem wf_chunkSize (s : ChmSpec) (h : s.wf) : 22 ≤ s.chunkSize ∧ s.chunkSize ≤ 8192 := by
  obtain ⟨_, _, _, _, hcs, hne, _, _, hch⟩ := h
  refine ⟨?_, hcs⟩
  cases hc : s.chunks with
  | nil => exact absurd hc hne
  | cons c cs =>
    have := (hch c (by rw [hc]; exact List.mem_cons_self ..)).1.1
    omega

theorem wf_hs0Offset (s : ChmSpec) : s.hs0Offset = 88 ∨ s.hs0Offset = 96 := by
  unfold ChmSpec.hs0Offset; split <;> simp

theorem wf_sizes (s : ChmSpec) (h : s.wf) :
    s.chunkSize * s.numChunks ≤ 819200000 ∧ s.sec0Offset < 4294967296 ∧ s.fileLength < 9223372036854775808 := by
  obtain ⟨h1, h2⟩ := wf_numChunks s h
  obtain ⟨h3, h4⟩ := wf_chunkSize s h
  have h5 := wf_hs0Offset s
  have hc := h.2.2.2.2.2.2.2.1
  have : s.chunkSize * s.numChunks ≤ 8192 * 100000 := Nat.mul_le_mul h4 h2
  unfold ChmSpec.fileLength ChmSpec.sec0Offset ChmSpec.dirOffset ChmSpec.hs1Offset
  omega

theorem header_lengths (s : ChmSpec) :
    (encItsf s).length = 56 ∧ (encHst s).length = 32 ∧ (encHs0 s).length = 24 ∧ (encItsp s).length = 84 := by
  unfold encItsf encHst encHs0 encItsp
  simp only [List.length_append, enc32_length, enc64_length, enc32BE_length,
    show guidBytes.length = 32 from rfl, show itspGuid.length = 16 from rfl]
  exact ⟨trivial, trivial, trivial, trivial⟩

theorem itsf_fields (s : ChmSpec) (h : s.wf) :
    (encItsf s).length = 56 ∧ u32At (encItsf s) 0 = 0x46535449 ∧ u32At (encItsf s) 4 = s.version ∧
    u32BEAt (encItsf s) 16 = s.timestamp ∧ u32At (encItsf s) 20 = s.language ∧
    (((encItsf s).drop 24).take 32).map UInt8.toNat = chmGuids := by
  obtain ⟨hv, ht, hl, _⟩ := h
  have hv' : s.version < 4294967296 := by omega
  refine ⟨(header_lengths s).1, ?_, ?_, ?_, ?_, by rw [show (encItsf s).drop 24 = guidBytes from List.drop_left' rfl]; decide⟩ <;>
  simp only [encItsf, List.append_assoc, u32At_skip, u32BEAt_skip, enc32_length, enc32BE_length, Nat.reduceLeDiff,
    Nat.reduceSub, u32At_enc32, u32BEAt_enc32BE, Nat.reduceLT, hv', ht, hl]

/-- the 40 bytes `chmd_read_headers` reads as the header section table: for version 2 the last 8 of them
    are already the start of header section 0 -/
def hstBuf (s : ChmSpec) : Bytes :=
  encHst s ++ (if s.version = 3 then enc64 s.sec0Offset else enc32 0x1FE ++ enc32 0)

theorem hst_fields (s : ChmSpec) (h : s.wf) :
    (hstBuf s).length = 40 ∧ i64At (hstBuf s) 0 = Int.ofNat s.hs0Offset ∧
    i64At (hstBuf s) 16 = Int.ofNat s.hs1Offset ∧ (s.version = 3 → i64At (hstBuf s) 32 = Int.ofNat s.sec0Offset) := by
  have h0 := wf_hs0Offset s
  obtain ⟨_, hs0, _⟩ := wf_sizes s h
  have h1 : s.hs0Offset < 9223372036854775808 := by omega
  have h2 : s.hs1Offset < 9223372036854775808 := by unfold ChmSpec.hs1Offset; omega
  have h3 : s.sec0Offset < 9223372036854775808 := by omega
  refine ⟨by unfold hstBuf; split <;> rfl, ?_, ?_, fun hv => ?_⟩ <;>
  simp only [hstBuf, encHst, List.append_assoc, i64At_skip, enc64_length, Nat.reduceLeDiff, Nat.reduceSub, i64At_enc64,
    i64At_enc64_nil, if_pos, *]

theorem hs0_fields (s : ChmSpec) (h : s.wf) :
    (encHs0 s).length = 24 ∧ i64At (encHs0 s) 8 = Int.ofNat s.fileLength := by
  obtain ⟨_, _, hfl⟩ := wf_sizes s h
  refine ⟨(header_lengths s).2.2.1, ?_⟩
  simp only [encHs0, List.append_assoc, i64At_skip, enc32_length, Nat.reduceLeDiff, Nat.reduceSub, i64At_enc64, hfl]

theorem itsp_fields (s : ChmSpec) (h : s.wf) :
    (encItsp s).length = 84 ∧ u32At (encItsp s) 0x10 = s.chunkSize ∧ u32At (encItsp s) 0x14 = s.density ∧
    u32At (encItsp s) 0x18 = 1 ∧ u32At (encItsp s) 0x1C = 0xFFFFFFFF ∧ u32At (encItsp s) 0x20 = 0 ∧
    u32At (encItsp s) 0x24 = s.numChunks - 1 ∧ u32At (encItsp s) 0x2C = s.numChunks := by
  obtain ⟨hn1, hn2⟩ := wf_numChunks s h
  obtain ⟨hc1, hc2⟩ := wf_chunkSize s h
  have hd := h.2.2.2.1
  have hc : s.chunkSize < 4294967296 := by omega
  have hn : s.numChunks < 4294967296 := by omega
  have hn' : s.numChunks - 1 < 4294967296 := by omega
  refine ⟨(header_lengths s).2.2.2, ?_⟩
  simp only [encItsp, List.append_assoc, u32At_skip, enc32_length, Nat.reduceLeDiff, Nat.reduceSub, u32At_enc32, Nat.reduceLT,
    hc, hd, hn, hn', and_self]

theorem sec0_value (s : ChmSpec) (hwf : s.wf) (x : Int) (hx : s.version = 3 → x = Int.ofNat s.sec0Offset) :
    (if s.version < 3 then wrapI64 (Int.ofNat s.dirOffset + Int.ofNat (s.chunkSize * s.numChunks % 4294967296)) else x) =
      Int.ofNat s.sec0Offset := by
  obtain ⟨hm, hs0, _⟩ := wf_sizes s hwf
  rcases hwf.1 with hv | hv
  · rw [if_pos (by omega)]
    have h1 : s.chunkSize * s.numChunks % 4294967296 = s.chunkSize * s.numChunks := Nat.mod_eq_of_lt (by omega)
    rw [h1]
    unfold wrapI64
    unfold ChmSpec.sec0Offset at hs0 ⊢
    simp only [Int.ofNat_eq_natCast]
    omega
  · rw [if_neg (by omega)]
    exact hx hv

theorem seekAbs_nat (file : Bytes) (p n : Nat) : seekAbs ⟨file, p⟩ (Int.ofNat n) = some ⟨file, n⟩ := by
  unfold seekAbs
  have : ¬ (Int.ofNat n < 0) := by simp only [Int.ofNat_eq_natCast]; omega
  rw [if_neg this]
  rfl

theorem chm_layout (s : ChmSpec) :
    (∃ r, (encodeChm s).drop 0 = encItsf s ++ r) ∧ (∃ r, (encodeChm s).drop 56 = hstBuf s ++ r) ∧
    (∃ r, (encodeChm s).drop s.hs0Offset = encHs0 s ++ r) ∧ (∃ r, (encodeChm s).drop s.hs1Offset = encItsp s ++ r) ∧
    (encodeChm s).drop s.dirOffset = encChunks s.chunkSize s.numChunks 0 s.chunks ++ s.content := by
  obtain ⟨l1, l2, l4, l5⟩ := header_lengths s
  have d0 : (encodeChm s).drop 0 = encItsf s ++ (encHst s ++ (encHst3 s ++ (encHs0 s ++ (encItsp s ++
      (encChunks s.chunkSize s.numChunks 0 s.chunks ++ s.content))))) := rfl
  have d1 := (Rd.readExact_at d0 l1).2
  have d2 := (Rd.readExact_at d1 l2).2
  have d3 := (Rd.readExact_at d2 rfl).2
  have l3 : 0 + 56 + 32 + (encHst3 s).length = s.hs0Offset := by
    unfold encHst3 ChmSpec.hs0Offset; split <;> rfl
  rw [l3] at d3
  have d4 := (Rd.readExact_at d3 l4).2
  have d5 := (Rd.readExact_at d4 l5).2
  refine ⟨⟨_, d0⟩, ?_, ⟨_, d3⟩, ⟨_, d4⟩, d5⟩
  rw [Nat.zero_add] at d1
  rw [d1]
  by_cases hv : s.version = 3
  · exact ⟨encHs0 s ++ (encItsp s ++ (encChunks s.chunkSize s.numChunks 0 s.chunks ++ s.content)), by
      simp [hstBuf, encHst3, hv, List.append_assoc]⟩
  · exact ⟨enc64 s.fileLength ++ enc32 0 ++ enc32 0 ++ (encItsp s ++ (encChunks s.chunkSize s.numChunks 0 s.chunks ++ s.content)), by
      simp [hstBuf, encHst3, hv, encHs0, List.append_assoc]⟩


theorem encodeChm_length (s : ChmSpec) (h : s.wf) : (encodeChm s).length = s.fileLength := by
  obtain ⟨l1, l2, l4, l5⟩ := header_lengths s
  have l3 : (encHst3 s).length + 88 = s.hs0Offset := by
    unfold encHst3 ChmSpec.hs0Offset; split <;> rfl
  have l6 := encChunks_length s.chunkSize s.numChunks s.chunks 0 (fun c hc => (h.2.2.2.2.2.2.2.2 c hc).1)
  unfold encodeChm ChmSpec.fileLength ChmSpec.sec0Offset ChmSpec.dirOffset ChmSpec.hs1Offset
  simp only [List.length_append, l1, l2, l4, l5, l6]
  unfold ChmSpec.numChunks
  omega

end MsPack.Chm
