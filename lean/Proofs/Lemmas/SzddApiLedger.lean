import Proofs.Lemmas.SysLedger
import MsPack.Szdd.Api
/-
Ledger effect of the SZDD API (model `MsPack/Szdd/Api.lean`), for every world: any files, any fault plan, any call
counters.

First `lzss_decompress`: `copyMatch_walk` and `tokens_walk` hold for any invariant that `nextByte` and `emit` keep
(postcondition `Step`); the ledger is one instance, the fuel bound of `LoopTermSys.lean` another.  `Sys.Ret` is the
postcondition of every API function whose `none` stands for a loop out of fuel.

Then every path of the API functions (`destroy` is walked inside `program_spec`).
-/
namespace MsPack.Sys

/-- the claim about a function whose `none` stands for a loop out of fuel (not a return of the C
    function): nothing is claimed then -/
def Ret {α} (Q : World → Prop) : Option α → World → Prop
  | none, _ => True
  | some _, w => Q w

def RetV {α} (R : α → World → Prop) : Option α → World → Prop
  | none, _ => True
  | some a, w => R a w

/-- a call whose out-of-fuel outcome is passed on: only the other outcomes are walked -/
theorem Hoare.bindRet {α β} {P : World → Prop} {R : α → World → Prop} {Q : World → Prop} {x : M (Option α)}
    {f : Option α → M (Option β)} (hx : Hoare P x (RetV R)) (hf : ∀ a, Hoare (R a) (f (some a)) (Ret Q))
    (hnone : f none = (Pure.pure none : M (Option β)) := by rfl) : Hoare P (x >>= f) (Ret Q) := fun w hw => by
  have h := hx w hw
  rw [bind_apply]
  cases hr : (x w).1 with
  | none => rw [hnone]; trivial
  | some a => rw [hr] at h; exact hf a _ h

theorem Hoare.retV {α} {P : World → Prop} {Q : World → Prop} {x : M (Option α)} (h : Hoare P x (Ret Q)) :
    Hoare P x (RetV fun _ => Q) := fun w hw => by
  have := h w hw
  cases hr : (x w).1 with
  | none => trivial
  | some _ => rw [hr] at this; exact this

theorem Hoare.retV_of_pres {α} {P : World → Prop} {Q : World → Prop} {x : M (Option α)} (h : Hoare P x fun _ => Q) :
    Hoare P x (RetV fun _ => Q) := fun w hw => by
  have := h w hw
  cases (x w).1 with
  | none => trivial
  | some _ => exact this

theorem Ret.restored {α} {m : M (Option α)} {w : World}
    (hm : Hoare (Oab.Api.Plus w.view [] []) m (Ret (Oab.Api.Plus w.view [] []))) (hok : w.view.ok) {a : α}
    (hret : (m w).1 = some a) :
    (m w).2.liveAllocs = w.liveAllocs ∧
    (m w).2.liveHandles.map (fun h => (h.id, h.mode)) = w.liveHandles.map (fun h => (h.id, h.mode)) ∧
    (m w).2.misuse = w.misuse := by
  have h := hm w (.of_view_eq hok rfl)
  rw [hret] at h
  exact ⟨h.allocs, h.handles, h.misuse⟩

end MsPack.Sys

namespace MsPack.Szdd.Api
open MsPack.Sys
open MsPack.Oab.Api (Plus)

/-- a loop function of `lzss_decompress` has either returned from it (`B`) or goes on (`I`) -/
def Step {β} (B : World → Prop) (I : β → World → Prop) : Err ⊕ β → World → Prop
  | .inl _, w => B w
  | .inr b, w => I b w

theorem Step.imp {β} {B B' : World → Prop} {I I' : β → World → Prop} (hB : ∀ w, B w → B' w)
    (hI : ∀ b w, I b w → I' b w) : ∀ r w, Step B I r w → Step B' I' r w
  | .inl _, w => hB w
  | .inr b, w => hI b w

section walk
variable {I : LSt → World → Prop} {B : World → Prop} {win inFh outFh bufsize : Nat}

theorem copyMatch_walk (hE : ∀ s b, Hoare (I s) (emit win outFh s b) (Step B I)) :
    ∀ len mpos s, Hoare (I s) (copyMatch win outFh len mpos s) (Step B I)
  | 0, _, _ => .pure fun _ h => h
  | len + 1, _, s => .bind (hE s _) fun
    | .inl _ => .pure fun _ h => h
    | .inr s1 => copyMatch_walk hE len _ s1

theorem tokens_walk (hN : ∀ s, Hoare (I s) (nextByte win inFh bufsize s) (Step B fun p => I p.2))
    (hE : ∀ s b, Hoare (I s) (emit win outFh s b) (Step B I)) (cb : Nat) :
    ∀ k mask s, Hoare (I s) (tokens win inFh outFh bufsize cb k mask s) (Step B I)
  | 0, _, _ => .pure fun _ h => h
  | k + 1, _, s => .ite
    (fun _ => .bind (hN s) fun
      | .inl _ => .pure fun _ h => h
      | .inr p => .bind (hE p.2 p.1) fun
        | .inl _ => .pure fun _ h => h
        | .inr s2 => tokens_walk hN hE cb k _ s2)
    fun _ => .bind (hN s) fun
      | .inl _ => .pure fun _ h => h
      | .inr p0 => .bind (hN p0.2) fun
        | .inl _ => .pure fun _ h => h
        | .inr p1 => .bind (copyMatch_walk hE _ _ p1.2) fun
          | .inl _ => .pure fun _ h => h
          | .inr s3 => tokens_walk hN hE cb k _ s3

end walk

section ledger
variable {v : View} {ex : List Nat} {hs : List (Nat × Mode)} {win inFh outFh : Nat}

/-! The ledger while `lzss_decompress` runs: its window on top; gone once it has returned. -/

theorem nextByte_spec (bufsize : Nat) (s : LSt) (hin : (inFh, Mode.read) ∈ hs ++ v.handles) :
    Hoare (Plus v (win :: ex) hs) (nextByte win inFh bufsize s)
      (Step (Plus v ex hs) fun _ => Plus v (win :: ex) hs) := by
  unfold nextByte
  split
  · exact .pure fun _ h => h
  · refine .bind (Plus.read bufsize hin) fun r => ?_
    match r with
    | none => exact .bind (Plus.free1 win) fun _ => .pure fun _ h => h
    | some [] => exact .bind (Plus.free1 win) fun _ => .pure fun _ h => h
    | some (b :: rest) => exact .pure fun _ h => h

theorem emit_spec (s : LSt) (b : UInt8) (hout : (outFh, Mode.write) ∈ hs ++ v.handles) :
    Hoare (Plus v (win :: ex) hs) (emit win outFh s b) (Step (Plus v ex hs) fun _ => Plus v (win :: ex) hs) := by
  unfold emit
  refine .bind (Plus.write [b] hout) fun r => ?_
  split
  · exact .pure fun _ h => h
  · exact .bind (Plus.free1 win) fun _ => .pure fun _ h => h

theorem mainLoop_spec (bufsize invert : Nat) (hin : (inFh, Mode.read) ∈ hs ++ v.handles)
    (hout : (outFh, Mode.write) ∈ hs ++ v.handles) :
    ∀ fuel s, Hoare (Plus v (win :: ex) hs) (mainLoop win inFh outFh bufsize invert fuel s) (Ret (Plus v ex hs))
  | 0, _ => .pure fun _ _ => trivial
  | fuel + 1, s => .bind (nextByte_spec bufsize s hin) fun
    | .inl _ => .pure fun _ h => h
    | .inr p => .bind (tokens_walk (fun s => nextByte_spec bufsize s hin) (fun s b => emit_spec s b hout) _ 8 1 p.2) fun
      | .inl _ => .pure fun _ h => h
      | .inr s2 => mainLoop_spec bufsize invert hin hout fuel s2

theorem lzss_spec (bufsize : Nat) (qb : Bool) (fuel : Nat) (hin : (inFh, Mode.read) ∈ hs ++ v.handles)
    (hout : (outFh, Mode.write) ∈ hs ++ v.handles) :
    Hoare (Plus v ex hs) (lzss inFh outFh bufsize qb fuel) (Ret (Plus v ex hs)) :=
  .bind Plus.alloc fun
    | none => .pure fun _ h => h
    | some _ => mainLoop_spec bufsize 0 hin hout fuel _

end ledger

/-- what `open` leaves behind when it returns a header: one block and one read handle, the handle's id fresh -/
structure Opened (v : View) (hd : Hdr) (w' : World) : Prop where
  fresh   : v.nextId ≤ hd.fh
  allocs  : w'.view.allocs = hd.mem :: v.allocs
  handles : w'.view.handles = (hd.fh, Mode.read) :: v.handles
  misuse  : w'.view.misuse = v.misuse
  ok      : w'.view.ok

theorem readHeaders_walk {P : List Nat → World → Prop} {bl : List Nat} {fh : Nat} (hP : Stable fh P) :
    Pres (P bl) (readHeaders fh) :=
  .bind (hP.read _ 8) fun
    | none => .pure fun _ p => p
    | some _ => .ite (fun _ => .pure fun _ p => p) fun _ => .ite
      (fun _ => .bind (hP.read _ 6) fun
        | none => .pure fun _ p => p
        | some _ => .ite (fun _ => .pure fun _ p => p) fun _ => .ite (fun _ => .pure fun _ p => p) fun _ =>
            .pure fun _ p => p)
      fun _ => .ite
        (fun _ => .bind (hP.read _ 4) fun
          | none => .pure fun _ p => p
          | some _ => .ite (fun _ => .pure fun _ p => p) fun _ => .pure fun _ p => p)
        fun _ => .pure fun _ p => p

section
variable {v : View} {ex : List Nat} {hs : List (Nat × Mode)}

theorem open_spec (i : Inst) (name : String) :
    Hoare (Plus v ex hs) (open_ i name) fun r w' =>
      match r.2 with
      | none => Plus v ex hs w'
      | some hd => v.nextId ≤ hd.fh ∧ Plus v (hd.mem :: ex) ((hd.fh, Mode.read) :: hs) w' := by
  unfold open_
  refine .bind (Plus.open_fresh name .read) fun fh => .assume fun hf => .bind Plus.alloc fun hdr => ?_
  match fh, hdr with
  | some f, some h =>
    refine .bind (readHeaders_walk (Plus.stable (List.mem_cons_self ..))) fun r => ?_
    match r with
    | .ok (fmt, miss, len) => exact .pure fun _ p => ⟨hf f rfl, p⟩
    | .error e => exact .bind (Plus.close f .read) fun _ => .bind (Plus.free1 h) fun _ => .pure fun _ p => p
  | some f, none => exact .bind (Plus.close f .read) fun _ => .bind (Plus.free none) fun _ => .pure fun _ p => p
  | none, hdr => exact .bind (Plus.free hdr) fun _ => .pure fun _ p => p

theorem close_spec (i : Inst) (hd : Hdr) :
    Hoare (Plus v (hd.mem :: ex) ((hd.fh, Mode.read) :: hs)) (close_ i hd) (fun _ => Plus v ex hs) :=
  .bind (Plus.close hd.fh .read) fun _ => .bind (Plus.free1 hd.mem) fun _ => .pure fun _ p => p

theorem extract_spec (i : Inst) (hd : Hdr) (out : String) (fuel : Nat) (h : (hd.fh, Mode.read) ∈ hs ++ v.handles) :
    Hoare (Plus v ex hs) (extract i hd out fuel) (Ret (Plus v ex hs)) :=
  .bind (Plus.seekStart _ h) fun _ => .ite (fun _ => .pure fun _ p => p) fun _ =>
  .bind (Plus.open_ out .write) fun
    | none => .pure fun _ p => p
    | some o => .bindRet (lzss_spec _ _ fuel (List.mem_cons_of_mem _ h) (List.mem_cons_self ..)).retV fun _ =>
        .bind (Plus.close o .write) fun _ => .pure fun _ p => p

theorem decompress_spec (i : Inst) (input output : String) (fuel : Nat) :
    Hoare (Plus v ex hs) (decompress i input output fuel) (Ret (Plus v ex hs)) :=
  .bind (open_spec i input) fun
    | (_, none) => .pure fun _ p => p
    | (i1, some hd) =>
      .bindRet ((extract_spec i1 hd output fuel (List.mem_cons_self ..)).pre fun _ p => p.2).retV fun r2 =>
        .bind (close_spec r2.1 hd) fun _ => .pure fun _ p => p

theorem extracts_spec (hd : Hdr) (fuel : Nat) (h : (hd.fh, Mode.read) ∈ hs ++ v.handles) :
    ∀ (outs : List String) (i : Inst), Hoare (Plus v ex hs) (extracts hd fuel outs i) (Ret (Plus v ex hs))
  | [], _ => .pure fun _ p => p
  | o :: os, i => .bindRet (extract_spec i hd o fuel h).retV fun r => extracts_spec hd fuel h os r.1

theorem runOp_spec (fuel : Nat) (i : Inst) (op : Op) : Hoare (Plus v ex hs) (runOp fuel i op) (Ret (Plus v ex hs)) :=
  match op with
  | .decompress a b => .bindRet (decompress_spec i a b fuel).retV fun _ => .pure fun _ p => p
  | .session a outs => .bind (open_spec i a) fun
    | (_, none) => .pure fun _ p => p
    | (i1, some hd) =>
      .bindRet ((extracts_spec hd fuel (List.mem_cons_self ..) outs i1).pre fun _ p => p.2).retV fun i2 =>
        .bind (close_spec i2 hd) fun _ => .pure fun _ p => p

theorem runOps_spec (fuel : Nat) : ∀ (ops : List Op) (i : Inst),
    Hoare (Plus v ex hs) (runOps fuel ops i) (Ret (Plus v ex hs))
  | [], _ => .pure fun _ p => p
  | op :: ops, i => .bindRet (runOp_spec fuel i op).retV fun i1 => runOps_spec fuel ops i1

theorem create_spec : Hoare (Plus v ex hs) create (fun r => Plus v ((r.map (·.self)).toList ++ ex) hs) :=
  .bind Plus.alloc fun | none => .pure fun _ p => p | some _ => .pure fun _ p => p

theorem program_spec (fuel : Nat) (ops : List Op) : Hoare (Plus v ex hs) (program fuel ops) (Ret (Plus v ex hs)) :=
  .bind create_spec fun
    | none => .pure fun _ p => p
    | some i0 => .bindRet (runOps_spec fuel ops i0).retV fun _ =>
        .bind (Plus.free1 i0.self) fun _ => .pure fun _ p => p

end

theorem open_opened {v : View} (hv : v.ok) (i : Inst) (name : String) :
    Hoare (·.view = v) (open_ i name) fun r w' =>
      match r.2 with
      | none => Frame v w'
      | some hd => Opened v hd w' := by
  refine ((open_spec i name).pre fun _ hw => Plus.of_view_eq hv hw).post fun r w' => ?_
  cases r.2 with
  | none => exact fun p => p.frame
  | some hd => exact fun p => ⟨p.1, p.2.allocs, p.2.handles, p.2.misuse, p.2.ok⟩

end MsPack.Szdd.Api
