import MsPack.Oab.Decompress
import Proofs.Lemmas.LzxTermDef
import Proofs.Lemmas.LzxPieces
/-!
# The pure OAB model (`MsPack/Oab/Decompress.lean`), each function walked once, for every input

What holds of `oabd_decompress` / `oabd_decompress_incremental` on every input (no hang, the byte count, which faults)
is read off the same paths.  A block is a 16-byte header, checks, a *producer* (`copy_fh` to the output, or the LZX
tail on a decoder `lzxd_init` has just set up) and one ending (`if (ret) goto out; target_size -= blk_dsize`).  So a
property of a round is a law `S`
about what the two producers return (`Producers`) and what the ending makes of it (`Round.finish`):
`fullBlock_walk`, `patchBlock_walk`.  The two `while (target_size)` loops are the same loop over their round
(`WhileTarget`); `WhileTarget.run` is that loop on files laid out as a list of blocks (the round trips of `OabBlocks.lean`).
-/
namespace MsPack.Oab
open MsPack.Generated

theorem Adv.refl (r : Rd) : Adv r r := ⟨rfl, Nat.le_refl _⟩

theorem Adv.trans {a b c : Rd} (h1 : Adv a b) (h2 : Adv b c) : Adv a c :=
  ⟨h2.1.trans h1.1, Nat.le_trans h1.2 h2.2⟩

theorem Adv.read (r : Rd) (n : Nat) : Adv r (r.read n).2 := ⟨rfl, Nat.le_add_right _ _⟩

/-- all that `copy_fh` does on any input; `hang` only when it was given fewer than `todo` rounds or has no buffer -/
def CopyGood (toOut : Bool) (bufSize fuel : Nat) (rd : Rd) (todo : Nat) (racc : Bytes) : Except Fault CopyOut → Prop
  | .error f => f = .hang ∧ (1 ≤ bufSize → fuel < todo)
  | .ok c => Adv rd c.rd ∧ c.written.length ≤ racc.length + todo ∧
      (c.err = .ok → toOut = true → c.written.length = racc.length + todo)

theorem copyFhLoop_good (toOut : Bool) (bufSize : Nat) : ∀ (fuel : Nat) (rd : Rd) (todo : Nat) (racc : Bytes),
    CopyGood toOut bufSize fuel rd todo racc (copyFhLoop toOut bufSize fuel rd todo racc) := by
  have hexit : ∀ fuel rd (racc : Bytes), CopyGood toOut bufSize fuel rd 0 racc (.ok ⟨.ok, racc.reverse, rd⟩) :=
    fun _ rd racc => ⟨.refl rd, by simp, fun _ _ => by simp⟩
  intro fuel
  induction fuel with
  | zero =>
    intro rd todo racc
    rw [copyFhLoop.eq_1]
    split
    · rename_i h0; subst h0; exact hexit _ _ _
    · exact ⟨rfl, fun _ => by omega⟩
  | succ fuel ih =>
    intro rd todo racc
    rw [copyFhLoop.eq_2]
    split
    · rename_i h0; subst h0; exact hexit _ _ _
    · dsimp only
      -- a round moves `run = min(buf_size, todo)` bytes: at most `todo`, at least one if the buffer has one
      have hrl : (if bufSize > todo then todo else bufSize) ≤ todo ∧
          (1 ≤ bufSize → 1 ≤ if bufSize > todo then todo else bufSize) := by split <;> omega
      generalize (if bufSize > todo then todo else bufSize) = run at hrl
      have hadv := Adv.read rd run
      generalize rd.read run = p at hadv
      obtain ⟨got, rd'⟩ := p
      dsimp only at hadv ⊢
      split
      · exact ⟨hadv, by simp only [List.length_reverse]; omega, nofun⟩
      · have := ih rd' (todo - run) (if toOut then got.reverse ++ racc else racc)
        generalize copyFhLoop toOut bufSize fuel rd' _ _ = res at this ⊢
        cases res with
        | error f => exact ⟨this.1, fun hb => by have := this.2 hb; have := hrl.2 hb; omega⟩
        | ok c =>
          obtain ⟨a, b, c'⟩ := this
          refine ⟨hadv.trans a, ?_, fun he ht => ?_⟩
          · cases toOut <;> simp only [↓reduceIte, Bool.false_eq_true, List.length_append, List.length_reverse] at b <;> omega
          · have := c' he ht
            simp only [ht, ↓reduceIte, List.length_append, List.length_reverse] at this
            omega

theorem copyFh_good (toOut : Bool) (rd : Rd) (n bufSize : Nat) :
    CopyGood toOut bufSize n rd n [] (copyFh toOut rd n bufSize) := copyFhLoop_good toOut bufSize n rd n []

theorem lzxInit_fresh (inOfh : InFile) (wb ibs dsize : Nat) (fill : UInt8) (lzx : Lzx.St InFile)
    (h : lzxInit inOfh wb ibs dsize fill = some lzx) : lzx.src = inOfh ∧ lzx.inbuf = [] ∧ lzx.bits = [] := by
  unfold lzxInit at h
  split at h
  · cases h
  · exact let ⟨h1, h2, h3, _⟩ := Lzx.init_fields h; ⟨h1, h3, h2⟩

theorem setReferenceData_fresh {σ : Type} (st : Lzx.St σ) (length : Nat) (ref : Option Bytes) :
    (Lzx.setReferenceData st length ref).2.src = st.src ∧ (Lzx.setReferenceData st length ref).2.inbuf = st.inbuf ∧
    (Lzx.setReferenceData st length ref).2.bits = st.bits := by
  obtain ⟨n, w, h⟩ := Lzx.setReferenceData_shape st length ref
  rw [h]
  exact ⟨rfl, rfl, rfl⟩

theorem lzxBlockTail_walk {P : Except Fault BlockOut → Prop} (fuel bufSize : Nat) (lzx : Lzx.St InFile) (d crc : Nat)
    (hdec : ∀ f, Lzx.decompress sysRead fuel lzx d = .error f → P (.error f))
    (hstop : ∀ o, Lzx.decompress sysRead fuel lzx d = .ok o → o.err ≠ .ok → P (.ok ⟨o.err, o.written, o.st.src.rd⟩))
    (hcopy : ∀ o, Lzx.decompress sysRead fuel lzx d = .ok o → o.err = .ok →
      match copyFh false o.st.src.rd o.st.src.available bufSize with
      | .error f => P (.error f)
      | .ok c => ∀ e, P (.ok ⟨e, o.written, c.rd⟩)) :
    P (lzxBlockTail fuel bufSize lzx d crc) := by
  unfold lzxBlockTail
  split
  · exact hdec _ ‹_›
  · rename_i o ho
    dsimp only
    refine iteInduction (motive := P) (fun hne => hstop o ho hne) fun hok => ?_
    have := hcopy o ho (Decidable.of_not_not hok)
    split
    · rename_i f hc; rw [hc] at this; exact this
    · rename_i c hc
      rw [hc] at this
      exact iteInduction (motive := P) (fun _ => this _) fun _ => iteInduction (motive := P) (fun _ => this _) fun _ => this _

def CopyOut.toBlock : Except Fault CopyOut → Except Fault BlockOut
  | .error f => .error f
  | .ok c => .ok ⟨c.err, c.written, c.rd⟩

/-- the ending every block shares: `if (ret) goto out; target_size -= blk_dsize;` -/
def Round.finish (w : Bytes) (t d bp : Nat) : Except Fault BlockOut → Except Fault Round
  | .error f => .error f
  | .ok b => if b.err ≠ .ok then .ok (.done (b.err, w ++ b.written)) else .ok (.next b.rd bp (t - d) (w ++ b.written))

structure Producers (fuel bufSize : Nat) (S : Rd → Nat → Except Fault BlockOut → Prop) : Prop where
  copy : ∀ infh d, S infh d (CopyOut.toBlock (copyFh true infh d bufSize))
  tail : ∀ (lzx : Lzx.St InFile) d crc, lzx.inbuf = [] → lzx.bits = [] → S lzx.src.rd d (lzxBlockTail fuel bufSize lzx d crc)

inductive RoundOf (S : Rd → Nat → Except Fault BlockOut → Prop) (rd : Rd) (t : Nat) (w : Bytes) : Except Fault Round → Prop
  | done (e : Err) : e ≠ .ok → RoundOf S rd t w (.ok (.done (e, w)))
  | fin (buf : Bytes) (infh : Rd) : rd.readExact 16 = some (buf, infh) → ∀ d bp, d ≤ t → ∀ x, S infh d x →
      RoundOf S rd t w (Round.finish w t d bp x)

section
variable {S : Rd → Nat → Except Fault BlockOut → Prop} {fuel bufSize : Nat}

theorem fullBlock_walk (hS : Producers fuel bufSize S) (fill : UInt8) (blockMax : Nat) (rd : Rd) (t : Nat) (w : Bytes) :
    RoundOf S rd t w (fullBlock fuel bufSize fill blockMax rd t w) := by
  unfold fullBlock
  split
  · exact .done _ nofun
  · rename_i buf infh hre
    dsimp only
    refine iteInduction (motive := RoundOf S rd t w) (fun _ => .done _ nofun) fun hg => ?_
    have hd : u32At buf oabblk_UncompSize ≤ t := by
      simp only [not_or, Nat.not_lt] at hg; exact hg.2.1
    refine iteInduction (motive := RoundOf S rd t w) (fun _ => ?_) fun _ => ?_
    · refine iteInduction (motive := RoundOf S rd t w) (fun _ => .done _ nofun) fun _ => ?_
      have := RoundOf.fin (w := w) buf infh hre _ 0 hd _ (hS.copy infh (u32At buf oabblk_UncompSize))
      generalize copyFh true infh _ bufSize = x at this ⊢
      cases x <;> exact this
    · split
      · exact .done _ nofun
      · rename_i lzx hli
        obtain ⟨hsrc, hfr⟩ := lzxInit_fresh _ _ _ _ _ _ hli
        have := RoundOf.fin (w := w) buf infh hre _ 0 hd _
          (by have := hS.tail lzx (u32At buf oabblk_UncompSize) (u32At buf oabblk_CRC) hfr.1 hfr.2; rwa [hsrc] at this)
        generalize lzxBlockTail fuel bufSize lzx _ _ = x at this ⊢
        cases x <;> exact this

theorem patchBlock_walk (hS : Producers fuel bufSize S) (lzxBuf : Nat) (fill : UInt8) (blockMax : Nat) (base : Bytes) (ob : Bool)
    (rd : Rd) (bp t : Nat) (w : Bytes) :
    RoundOf S rd t w (patchBlock fuel bufSize lzxBuf fill blockMax base ob rd bp t w) := by
  unfold patchBlock
  split
  · exact .done _ nofun
  · rename_i buf infh hre
    dsimp only
    refine iteInduction (motive := RoundOf S rd t w) (fun _ => .done _ nofun) fun hg => ?_
    have hd : u32At buf patchblk_TargetSize ≤ t := by
      simp only [not_or, Nat.not_lt] at hg; exact hg.2.1
    split
    · exact .done _ nofun
    · rename_i lzx hli
      obtain ⟨hsrc, hfr⟩ := lzxInit_fresh _ _ _ _ _ _ hli
      obtain ⟨hsr, hsf⟩ := setReferenceData_fresh lzx (u32At buf patchblk_SourceSize)
        (some ((⟨if ob then w else base, bp⟩ : Rd).read (u32At buf patchblk_SourceSize)).1)
      rw [hfr.1, hfr.2] at hsf
      -- the reference-data call stays opaque: its result is only tested and passed on
      generalize Lzx.setReferenceData lzx (u32At buf patchblk_SourceSize) _ = sr at hsr hsf ⊢
      refine iteInduction (motive := RoundOf S rd t w) (fun he => .done _ he) fun _ => ?_
      have := RoundOf.fin (w := w) buf infh hre _
        ((⟨if ob then w else base, bp⟩ : Rd).read (u32At buf patchblk_SourceSize)).2.pos hd _
        (by have := hS.tail sr.2 (u32At buf patchblk_TargetSize) (u32At buf patchblk_CRC) hsf.1 hsf.2
            rwa [hsr, hsrc] at this)
      generalize lzxBlockTail fuel bufSize sr.2 _ _ = x at this ⊢
      cases x <;> exact this

end

/-- a `while (target_size)` loop `L` of the model over its round `B`.  The state is the four fields `Round.next` carries
    (`oabd_decompress` ignores the base position). -/
structure WhileTarget (fuel bufSize : Nat) (L : Nat → Rd → Nat → Nat → Bytes → Except Fault (Err × Bytes))
    (B : Rd → Nat → Nat → Bytes → Except Fault Round) : Prop where
  zero : ∀ rd bp t w, L 0 rd bp t w = if t = 0 then .ok (.ok, w) else .error .hang
  succ : ∀ n rd bp t w, L (n + 1) rd bp t w = if t = 0 then .ok (.ok, w) else
    match B rd bp t w with
    | .error f => .error f
    | .ok (.done r) => .ok r
    | .ok (.next rd' bp' t' w') => L n rd' bp' t' w'
  round : ∀ {S}, Producers fuel bufSize S → ∀ rd bp t w, RoundOf S rd t w (B rd bp t w)

theorem whileTarget_full (fuel bufSize : Nat) (fill : UInt8) (blockMax : Nat) :
    WhileTarget fuel bufSize (fun n rd _ t w => fullLoop fuel bufSize fill blockMax n rd t w)
      (fun rd _ t w => fullBlock fuel bufSize fill blockMax rd t w) :=
  ⟨fun _ _ _ _ => fullLoop.eq_1 .., fun _ _ _ _ _ => fullLoop.eq_2 ..,
   fun hS rd _ t w => fullBlock_walk hS fill blockMax rd t w⟩

theorem whileTarget_patch (fuel bufSize lzxBuf : Nat) (fill : UInt8) (blockMax : Nat) (base : Bytes) (ob : Bool) :
    WhileTarget fuel bufSize (patchLoop fuel bufSize lzxBuf fill blockMax base ob)
      (patchBlock fuel bufSize lzxBuf fill blockMax base ob) :=
  ⟨fun _ _ _ _ => patchLoop.eq_1 .., fun _ _ _ _ _ => patchLoop.eq_2 ..,
   fun hS => patchBlock_walk hS lzxBuf fill blockMax base ob⟩

theorem flatMap_nil_of_sum {α : Type} (out : α → Bytes) : ∀ bs : List α, (bs.map fun b => (out b).length).sum = 0 →
    bs.flatMap out = []
  | [], _ => rfl
  | b :: bs, h => by
    simp only [List.map_cons, List.sum_cons] at h
    rw [List.flatMap_cons, List.length_eq_zero_iff.mp (Nat.eq_zero_of_add_eq_zero_right h),
      flatMap_nil_of_sum out bs (Nat.eq_zero_of_add_eq_zero_left h)]; rfl

/-- `I bs rd bp` is where the files stand before the blocks `bs`.  (Blocks of no data left over when the target is reached
    are not read.) -/
theorem WhileTarget.run {fuel bufSize : Nat} {L B} (hL : WhileTarget fuel bufSize L B) {α : Type} (out : α → Bytes)
    (I : List α → Rd → Nat → Prop)
    (hstep : ∀ b bs rd bp t w, I (b :: bs) rd bp → (out b).length ≤ t →
      ∃ rd' bp', B rd bp t w = .ok (.next rd' bp' (t - (out b).length) (w ++ out b)) ∧ I bs rd' bp') :
    ∀ (bs : List α) (n : Nat) (rd : Rd) (bp : Nat) (w : Bytes), I bs rd bp → bs.length ≤ n →
      L n rd bp (bs.map fun b => (out b).length).sum w = .ok (.ok, w ++ bs.flatMap out) := by
  have hzero : ∀ n rd bp w, L n rd bp 0 w = .ok (.ok, w)
    | 0, _, _, _ => by rw [hL.zero, if_pos rfl]
    | _ + 1, _, _, _ => by rw [hL.succ, if_pos rfl]
  intro bs
  induction bs with
  | nil => intro n rd bp w _ _; rw [List.map_nil, List.sum_nil, hzero, List.flatMap_nil, List.append_nil]
  | cons b bs ih =>
    intro n rd bp w hI hn
    by_cases ht : ((b :: bs).map fun b => (out b).length).sum = 0
    · rw [ht, hzero, flatMap_nil_of_sum out _ ht, List.append_nil]
    · obtain ⟨n, rfl⟩ : ∃ m, n = m + 1 := ⟨n - 1, by simp at hn; omega⟩
      have htot : ((b :: bs).map fun b => (out b).length).sum = (out b).length + (bs.map fun b => (out b).length).sum := by
        rw [List.map_cons, List.sum_cons]
      obtain ⟨rd', bp', hB, hI'⟩ := hstep b bs rd bp _ w hI (Nat.le.intro htot.symm)
      rw [hL.succ, if_neg ht, hB]
      simp only
      rw [htot, Nat.add_sub_cancel_left, ih n rd' bp' _ hI' (Nat.le_of_succ_le_succ hn), List.flatMap_cons, List.append_assoc]

/-- the input handle after the output has been opened: an aliased input has been truncated -/
def afterOpenOut (outIsIn : Bool) (infh : Rd) : Rd := if outIsIn then { infh with file := [] } else infh

/-- the header fields reach the caller as variables with their equations, never as `u32At hdr _` terms
    (see the note on `incrementalLoop` in the model) -/
theorem decompress_walk {P : Except Fault Out → Prop} (fuel bufSize : Nat) (fill : UInt8) (input : Option Bytes) (outIsIn : Bool)
    (hearly : ∀ e, P (.ok ⟨e, none⟩))
    (hloop : ∀ file hdr infh, input = some file → (⟨file, 0⟩ : Rd).readExact oabheadSIZEOF = some (hdr, infh) →
      ∀ bm ts, ts = u32At hdr oabhead_TargetSize →
        P (wrapLoop (fullLoop fuel bufSize fill bm (file.length / 16 + 1) (afterOpenOut outIsIn infh) ts []))) :
    P (decompress fuel bufSize fill input outIsIn) := by
  unfold decompress
  split
  · exact hearly _
  · rename_i file
    split
    · exact hearly _
    · rename_i hdr infh hre
      refine iteInduction (motive := P) (fun _ => hearly _) fun _ => ?_
      exact hloop file hdr infh rfl hre _ _ rfl

theorem decompressIncremental_walk {P : Except Fault Out → Prop} (fuel bufSize : Nat) (fill : UInt8) (input base : Option Bytes)
    (outIsIn outIsBase : Bool)
    (hearly : ∀ e, P (.ok ⟨e, none⟩))
    (hloop : ∀ file hdr infh b, input = some file → (⟨file, 0⟩ : Rd).readExact patchheadSIZEOF = some (hdr, infh) →
      ∀ bm ts, ts = u32At hdr patchhead_TargetSize →
        P (wrapLoop (patchLoop fuel bufSize 4096 fill bm b outIsBase (file.length / 16 + 1) (afterOpenOut outIsIn infh) 0 ts []))) :
    P (decompressIncremental fuel bufSize fill input base outIsIn outIsBase) := by
  unfold decompressIncremental
  split
  · exact hearly _
  · rename_i file
    unfold incrementalOpened
    split
    · exact hearly _
    · rename_i hdr infh hre
      refine iteInduction (motive := P) (fun _ => hearly _) fun _ => ?_
      unfold incrementalBase
      split
      · exact hearly _
      · exact hloop file hdr infh _ rfl hre _ _ rfl

end MsPack.Oab
