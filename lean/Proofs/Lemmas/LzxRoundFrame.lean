import Proofs.Lemmas.LzxRound
/-!
# LZX round trip (streams of uncompressed blocks): one frame, the frame loop, `decompress`

One frame is proved back to front (`frameBody_tot`).  `G` is the invariant between frames and between calls;
`decompress_tot` is one call.
-/
namespace MsPack.Lzx
open MsPack.Generated
variable {σ : Type} {S : Src σ} {content : σ → Bytes}

/-- what one frame of `F` bytes, `i` of them written, leaves (relative to the state `s2` at the
    start of its block loop); `k` as in `NextFrame` -/
structure FrOut (content : σ → Bytes) (mark extra D : Bytes) (s2 s : St σ) (F i k : Nat) : Prop where
  offset : s.offset = s2.offset + i
  frame : s.frame = s2.frame + 1
  oInE8 : s.oInE8 = false
  oPtr : s.oPtr = s2.framePosn + i
  oEnd : s.oEnd = s2.framePosn + F
  framePosn : s.framePosn = if s2.framePosn + F = s2.windowSize then 0 else s2.framePosn + F
  windowPosn : s.windowPosn = if s2.framePosn + F = s2.windowSize then 0 else s2.framePosn + F
  length : s.length = s2.length
  windowSize : s.windowSize = s2.windowSize
  isDelta : s.isDelta = s2.isDelta
  resetInterval : s.resetInterval = s2.resetInterval
  inbufSize : s.inbufSize = s2.inbufSize
  error : s.error = s2.error
  headerRead : s.headerRead = s2.headerRead
  intelFilesize : s.intelFilesize = s2.intelFilesize
  winSz : s.window.size = s2.window.size
  data : (s.window.toList.take (s2.framePosn + F)).drop s2.framePosn = (D.drop s2.offset).take F
  bits : s.bits = []
  next : F = 32768 → s2.offset + F < D.length → NextFrame content mark extra s (D.drop (s2.offset + F)) k

theorem take_drop_splice {α : Type} (L : List α) (p F : Nat) (d : List α) (tail : List α) (hd : d.length = F)
    (hp : p ≤ L.length) : ((L.take p ++ d ++ tail).take (p + F)).drop p = d := by
  have hl : (L.take p).length = p := by rw [List.length_take]; omega
  rw [List.append_assoc, List.take_append, hl, List.take_of_length_le (by omega), List.drop_append, hl,
    List.drop_eq_nil_of_le (by omega), Nat.sub_self, List.drop_zero, List.nil_append,
    show p + F - p = F by omega, List.take_append, List.take_of_length_le (by omega), hd, Nat.sub_self,
    List.take_zero, List.append_nil]

theorem fbAlign_tot (mark extra D : Bytes) (F outBytes k : Nat) (s2 s3 : St σ)
    (hfc : fc (core s3) = fc (core s2)) (hbits : s3.bits = []) (hwp : s3.windowPosn = s2.framePosn + F)
    (hsz : s3.window.size = s2.window.size) (hwin : s2.window.size = s2.windowSize)
    (hfit : s2.framePosn + F ≤ s2.windowSize) (hws : s2.windowSize ≤ 33554432)
    (hpend : s2.oPtr = s2.oEnd) (hif : s2.intelFilesize = 0) (hfr : s2.frame < 2147483648)
    (hdata : (s3.window.toList.take (s2.framePosn + F)).drop s2.framePosn = (D.drop s2.offset).take F)
    (hnext : F = 32768 → s2.offset + F < D.length → NextFrame content mark extra s3 (D.drop (s2.offset + F)) k) :
    wp (fbAlign S F outBytes) (fun chunk s => chunk.toList = ((D.drop s2.offset).take F).take (min outBytes F) ∧
      FrOut content mark extra D s2 s F (min outBytes F) k) (fun _ _ => False) s3 := by
  have f1 : s3.oPtr = s2.oPtr := congrArg FCore.oPtr hfc
  have f2 : s3.oEnd = s2.oEnd := congrArg FCore.oEnd hfc
  have f3 : s3.intelFilesize = s2.intelFilesize := congrArg FCore.intelFilesize hfc
  have f4 : s3.framePosn = s2.framePosn := congrArg FCore.framePosn hfc
  have f5 : s3.windowSize = s2.windowSize := congrArg FCore.windowSize hfc
  have f6 : s3.frame = s2.frame := congrArg FCore.frame hfc
  have f7 : s3.offset = s2.offset := congrArg FCore.offset hfc
  unfold fbAlign removeBits
  simp only [wp_bind, wp_get, wp_ite, wp_modify, hbits, List.length_nil]
  refine ⟨fun h => absurd h (Nat.lt_irrefl 0), fun _ => ⟨fun h => absurd rfl h, fun _ => ?_⟩⟩
  unfold fbE8
  simp only [wp_bind, wp_get, wp_ite]
  refine ⟨fun h => absurd (by rw [f1, f2]; exact hpend) h, fun _ => ⟨fun h => absurd (by rw [f3]; exact hif) h.2.1, fun _ => ?_⟩⟩
  simp only [wp_set]
  unfold fbWrite
  simp only [wp_bind, wp_get]
  rw [show (if outBytes < F then outBytes else F) = min outBytes F by split <;> omega]
  generalize hI : min outBytes F = i
  have hiF : i ≤ F := hI ▸ Nat.min_le_right _ _
  have hsl : outSlice ({ s3 with oInE8 := false, oPtr := s3.framePosn, oEnd := s3.framePosn + F } : St σ) i =
      .ok (s3.window.extract s3.framePosn (s3.framePosn + i)) := by
    unfold outSlice
    simp only [Bool.false_eq_true, if_false]
    rw [if_pos (by rw [hsz, hwin, f4]; exact Nat.le_trans (Nat.add_le_add_left hiF _) hfit)]
  rw [hsl]
  simp only [wp_bind, wp_set, wp_pure]
  rw [f4, f6, Nat.mod_eq_of_lt (Nat.lt_of_le_of_lt (Nat.le_trans hfit hws) (by decide)),
    Nat.mod_eq_of_lt (Nat.lt_trans (Nat.succ_lt_succ hfr) (by decide))]
  refine ⟨?_, ?_⟩
  · rw [Array.toList_extract, List.extract_eq_take_drop, ← hdata]
    rw [Nat.add_sub_cancel_left, List.drop_take, Nat.add_sub_cancel_left, List.take_take, Nat.min_eq_left hiF]
  · exact
      { offset := by show s3.offset + i = _; rw [f7]
        frame := rfl
        oInE8 := rfl
        oPtr := rfl
        oEnd := rfl
        framePosn := by show (if s2.framePosn + F = s3.windowSize then 0 else s2.framePosn + F) = _; rw [f5]
        windowPosn := by
          show (if s3.windowPosn = s3.windowSize then 0 else s3.windowPosn) = _
          rw [hwp, f5]
        length := congrArg FCore.length hfc
        windowSize := f5
        isDelta := congrArg FCore.isDelta hfc
        resetInterval := congrArg FCore.resetInterval hfc
        inbufSize := congrArg FCore.inbufSize hfc
        error := congrArg FCore.error hfc
        headerRead := congrArg FCore.headerRead hfc
        intelFilesize := f3
        winSz := hsz
        data := hdata
        bits := hbits
        next := hnext }

theorem frameSize_eq (len off : Nat) (h : off < len) :
    (if len ≠ 0 ∧ (len : Int) - off < ((32768 : Nat) : Int) then toU32 ((len : Int) - off) else 32768) =
      min 32768 (len - off) := by
  split
  · rw [toU32_nonneg _ (by omega) (by omega)]; omega
  · omega

theorem toS32_add_sub (a F : Nat) (hF : F ≤ 32768) : toS32 ((a : Int) + (F : Int) - (a : Int)) = (F : Int) := by
  rw [toS32_eq _ (by omega) (by omega)]; omega

theorem toU32_add_sub (a F : Nat) (hF : F ≤ 32768) : toU32 (((a + F : Nat) : Int) - (a : Int)) = F := by
  rw [toU32_nonneg _ (by omega) (by omega)]; omega

theorem fbDecode_tot (hF : Zip.Feeds S content) (hN : ∀ s, S.lzxLength s = none) (delta : Bool) (extra D : Bytes)
    (fuel outBytes : Nat) (s2 : St σ) (cur : Bytes) (bs : List Bytes)
    (hlen : s2.length = D.length) (hlt : s2.offset < D.length)
    (hwin : s2.window.size = s2.windowSize) (hws : s2.windowSize ≤ 33554432)
    (hwpfp : s2.windowPosn = s2.framePosn) (hfit : s2.framePosn + 32768 ≤ s2.windowSize)
    (hpend : s2.oPtr = s2.oEnd) (hif : s2.intelFilesize = 0) (hb : 1 ≤ s2.inbufSize) (hfr : s2.frame < 2147483648)
    (hT : TopX (LzxEnc.chunkMark delta) extra s2.blockRemaining s2.blockType s2.blockLength s2.bits
      (remBytes content s2) 32768 cur bs)
    (hD : cur ++ bs.flatten = D.drop s2.offset) (hB : BOk bs) (hcl : cur.length < 16777216)
    (hfuel : cnt cur bs + 65538 ≤ fuel) :
    wp (fbDecode S fuel outBytes) (fun chunk s =>
      chunk.toList = ((D.drop s2.offset).take (min 32768 (D.length - s2.offset))).take
        (min outBytes (min 32768 (D.length - s2.offset))) ∧
      FrOut content (LzxEnc.chunkMark delta) extra D s2 s (min 32768 (D.length - s2.offset))
        (min outBytes (min 32768 (D.length - s2.offset))) (cnt cur bs)) (fun _ _ => False) s2 := by
  have e32 : lzxFRAME_SIZE = 32768 := rfl
  have hlenD : cur.length + bs.flatten.length = D.length - s2.offset := by
    have := congrArg List.length hD
    rwa [List.length_append, List.length_drop] at this
  unfold fbDecode
  simp only [wp_bind, wp_get, e32]
  rw [hlen, frameSize_eq _ _ hlt, hwpfp]
  generalize hFd : min 32768 (D.length - s2.offset) = F
  have hF1 : F ≤ 32768 := hFd ▸ Nat.min_le_left _ _
  have hFle : F ≤ D.length - s2.offset := hFd ▸ Nat.min_le_right _ _
  have hF0 : 1 ≤ F := by omega
  rw [toS32_add_sub _ _ hF1]
  refine wp.post (blockLoop_tot hF hN delta extra fuel F s2 32768 cur bs hT hB hcl (by decide) (Nat.le_refl _)
    (by rw [hlenD]; exact hFd.symm) hb (by rw [hwin, hwpfp]; exact Nat.le_trans (Nat.add_le_add_left hF1 _) hfit) hfuel) ?_
  intro _ s3 ⟨⟨g1, g2, g3, g4⟩, hnext, hbits⟩
  have hwp3 : s3.windowPosn = s2.framePosn + F := by rw [g2, hwpfp]
  have f4 : s3.framePosn = s2.framePosn := congrArg FCore.framePosn g1
  simp only [wp_ite, wp_bind]
  refine ⟨fun h => absurd ?_ h, fun _ => ?_⟩
  · rw [hwp3, f4, toU32_add_sub _ _ hF1]
  refine fbAlign_tot (LzxEnc.chunkMark delta) extra D F outBytes (cnt cur bs) s2 s3 g1
    (hbits (Or.inr hF0)) hwp3 g3 hwin (Nat.le_trans (Nat.add_le_add_left hF1 _) hfit) hws hpend hif hfr ?_ ?_
  · rw [g4, hwpfp, ← hD]
    exact take_drop_splice _ _ _ _ _ (by rw [List.length_take, List.length_append, hlenD]; exact Nat.min_eq_left hFle)
      (by rw [Array.length_toList, hwin]; exact Nat.le_trans (Nat.le_add_right _ _) hfit)
  · intro a b
    have := hnext a (by rw [hlenD]; exact Nat.lt_sub_of_add_lt (by rw [Nat.add_comm]; exact b))
    rwa [hD, List.drop_drop] at this

/-- the input side at the start of a frame: the chunk-size word (LZX DELTA), then either the top of a
    block-loop iteration, or - first frame - the header bit and the first block's header -/
def StartX (content : σ → Bytes) (delta : Bool) (extra : Bytes) (st : St σ) (cur : Bytes) (bs : List Bytes) : Prop :=
  st.bits = [] ∧
  ((st.headerRead = true ∧ st.intelFilesize = 0 ∧ ∃ X, remBytes content st = LzxEnc.chunkMark delta ++ X ∧
      TopX (LzxEnc.chunkMark delta) extra st.blockRemaining st.blockType st.blockLength [] X 32768 cur bs) ∨
   (st.headerRead = false ∧ cur = [] ∧ st.blockRemaining = 0 ∧ st.blockType ≠ 3 ∧ ∃ b bs', bs = b :: bs' ∧
      remBytes content st = LzxEnc.chunkMark delta ++ (LzxEnc.blockHeader [false] b.length 1 1 1 ++
        (tl (LzxEnc.chunkMark delta) b.length 32768 b b.length bs' ++ extra))))

/-- the chunk-size word of LZX DELTA; the postcondition is left to the caller, which goes on differently in
    the first frame (stream header) and in the others -/
theorem fbDelta_tot (hF : Zip.Feeds S content) (hN : ∀ s, S.lzxLength s = none) (delta : Bool) (fuel outBytes : Nat)
    (Q : Array UInt8 → St σ → Prop) (st : St σ) (X : Bytes) (hbits : st.bits = [])
    (hrem : remBytes content st = LzxEnc.chunkMark delta ++ X) (hd : st.isDelta = delta) (hb : 1 ≤ st.inbufSize)
    (hk : ∀ s1, core s1 = core st → s1.window = st.window → s1.bits = [] → remBytes content s1 = X →
      wp (fbHeader S fuel outBytes) Q (fun _ _ => False) s1) : wp (fbDelta S fuel outBytes) Q (fun _ _ => False) st := by
  unfold fbDelta removeBits
  simp only [wp_bind, wp_get, wp_ite, wp_modify]
  refine ⟨fun hdl => ?_, fun hdl => ?_⟩
  · have hdt : delta = true := by rw [← hd]; exact hdl
    subst hdt
    have hHl : (wordsBits [0, 0]).length = 16 := by rw [wordsBits_length _ rfl]; rfl
    refine wp.post (ensureBits_tot hF hN 16 (wordsBits [0, 0] ++ []) X 3 st hb ⟨[0, 0], rfl, hrem, by rw [hbits]; rfl⟩
      (by rw [List.append_nil, hHl]; decide) (by omega)) ?_
    intro _ s1 ⟨hk1, ⟨W, hW, hr1, hb1⟩, h16⟩
    obtain ⟨q1, q2⟩ := BitsAt.short (st := { s1 with bits := s1.bits.drop 16 })
      ⟨W, hW, hr1, (Zip.prefix_split hb1 hHl h16).2⟩ (Nat.zero_le _)
    exact hk _ hk1.1 hk1.2 q1 q2
  · have hdf : delta = false := by rw [← hd]; simpa using hdl
    subst hdf
    exact hk st rfl rfl hbits (by simpa [LzxEnc.chunkMark] using hrem)

/-- the states a frame goes through before its block loop agree on everything the frame level
    looks at, except that the stream header has been read -/
structure Pre2 (st s2 : St σ) : Prop where
  offset : s2.offset = st.offset
  framePosn : s2.framePosn = st.framePosn
  windowPosn : s2.windowPosn = st.windowPosn
  windowSize : s2.windowSize = st.windowSize
  frame : s2.frame = st.frame
  length : s2.length = st.length
  isDelta : s2.isDelta = st.isDelta
  resetInterval : s2.resetInterval = st.resetInterval
  inbufSize : s2.inbufSize = st.inbufSize
  error : s2.error = st.error
  oPtr : s2.oPtr = st.oPtr
  oEnd : s2.oEnd = st.oEnd
  window : s2.window = st.window
  headerRead : s2.headerRead = true
  intelFilesize : s2.intelFilesize = 0

theorem pre2_of_core {st s2 : St σ} (h : core s2 = core st) (hw : s2.window = st.window)
    (h1 : st.headerRead = true) (h2 : st.intelFilesize = 0) : Pre2 st s2 :=
  { offset := congrArg Core.offset h, framePosn := congrArg Core.framePosn h,
    windowPosn := congrArg Core.windowPosn h, windowSize := congrArg Core.windowSize h,
    frame := congrArg Core.frame h, length := congrArg Core.length h, isDelta := congrArg Core.isDelta h,
    resetInterval := congrArg Core.resetInterval h, inbufSize := congrArg Core.inbufSize h,
    error := congrArg Core.error h, oPtr := congrArg Core.oPtr h, oEnd := congrArg Core.oEnd h, window := hw,
    headerRead := (congrArg Core.headerRead h).trans h1,
    intelFilesize := (congrArg Core.intelFilesize h).trans h2 }

theorem frameBody_tot (hF : Zip.Feeds S content) (hN : ∀ s, S.lzxLength s = none) (delta : Bool) (extra D : Bytes)
    (fuel outBytes : Nat) (st : St σ) (cur : Bytes) (bs : List Bytes)
    (hlen : st.length = D.length) (hlt : st.offset < D.length)
    (hwin : st.window.size = st.windowSize) (hws : st.windowSize ≤ 33554432)
    (hwpfp : st.windowPosn = st.framePosn) (hfit : st.framePosn + 32768 ≤ st.windowSize)
    (hpend : st.oPtr = st.oEnd) (hb : 1 ≤ st.inbufSize) (hfr : st.frame < 2147483648)
    (hd : st.isDelta = delta) (hri : st.resetInterval = 0)
    (hS : StartX content delta extra st cur bs)
    (hD : cur ++ bs.flatten = D.drop st.offset) (hB : BOk bs) (hcl : cur.length < 16777216)
    (hfuel : cnt cur bs + 65538 ≤ fuel) :
    wp (frameBody S fuel outBytes) (fun chunk s => ∃ s2, Pre2 st s2 ∧
      chunk.toList = ((D.drop st.offset).take (min 32768 (D.length - st.offset))).take
        (min outBytes (min 32768 (D.length - st.offset))) ∧
      FrOut content (LzxEnc.chunkMark delta) extra D s2 s (min 32768 (D.length - st.offset))
        (min outBytes (min 32768 (D.length - st.offset))) (cnt cur bs)) (fun _ _ => False) st := by
  have common : ∀ s2 : St σ, Pre2 st s2 →
      TopX (LzxEnc.chunkMark delta) extra s2.blockRemaining s2.blockType s2.blockLength s2.bits
        (remBytes content s2) 32768 cur bs →
      wp (fbLen S fuel outBytes) (fun chunk s => ∃ s2, Pre2 st s2 ∧
        chunk.toList = ((D.drop st.offset).take (min 32768 (D.length - st.offset))).take
          (min outBytes (min 32768 (D.length - st.offset))) ∧
        FrOut content (LzxEnc.chunkMark delta) extra D s2 s (min 32768 (D.length - st.offset))
          (min outBytes (min 32768 (D.length - st.offset))) (cnt cur bs)) (fun _ _ => False) s2 := by
    intro s2 p hT
    unfold fbLen
    simp only [wp_bind, wp_get, wp_ite]
    have hl2 : s2.length ≠ 0 := by rw [p.length, hlen]; omega
    refine ⟨fun h => absurd h.1 hl2, fun _ => ?_⟩
    refine wp.post (fbDecode_tot hF hN delta extra D fuel outBytes s2 cur bs (by rw [p.length]; exact hlen)
      (by rw [p.offset]; exact hlt) (by rw [p.window, p.windowSize]; exact hwin)
      (by rw [p.windowSize]; exact hws) (by rw [p.windowPosn, p.framePosn]; exact hwpfp)
      (by rw [p.framePosn, p.windowSize]; exact hfit)
      (by rw [p.oPtr, p.oEnd]; exact hpend) p.intelFilesize (by rw [p.inbufSize]; exact hb)
      (by rw [p.frame]; exact hfr) hT (by rw [p.offset]; exact hD) hB hcl hfuel) ?_
    intro chunk s ⟨h1, h2⟩
    rw [p.offset] at h1 h2
    exact ⟨s2, p, h1, h2⟩
  obtain ⟨hbits, hcase⟩ := hS
  rw [frameBody_eq]
  simp only [wp_bind, wp_get, wp_ite, wp_modify]
  refine ⟨fun h => absurd hri h.1, fun _ => ?_⟩
  rcases hcase with ⟨hh, hi0, X, hrem, hT⟩ | ⟨hh, hc0, hbr, hbt, b, bs', hbs, hrem⟩
  · refine fbDelta_tot hF hN delta fuel outBytes _ st X hbits hrem hd hb ?_
    intro s1 hc hw hb1 hr1
    have hh1 : s1.headerRead = true := (congrArg Core.headerRead hc).trans hh
    unfold fbHeader
    simp only [wp_bind, wp_get]
    -- `wp_ite` by `rw`, at the head only: as a `simp` lemma it also rewrites the nested `if` under the binders of the
    -- other branch, and the kernel does not get through that proof term (deep recursion)
    rw [wp_ite]
    refine ⟨fun h => ?_, fun _ => ?_⟩
    · rw [hh1] at h; cases h
    refine common s1 (pre2_of_core hc hw hh hi0) ?_
    have q1 : s1.blockRemaining = st.blockRemaining := congrArg Core.blockRemaining hc
    have q2 : s1.blockType = st.blockType := congrArg Core.blockType hc
    have q3 : s1.blockLength = st.blockLength := congrArg Core.blockLength hc
    rw [q1, q2, q3, hb1, hr1]
    exact hT
  · subst hc0 hbs
    refine fbDelta_tot hF hN delta fuel outBytes _ st _ hbits hrem hd hb ?_
    intro s1 hc hw hb1 hr1
    have hh1 : s1.headerRead = false := (congrArg Core.headerRead hc).trans hh
    have hib1 : 1 ≤ s1.inbufSize := by
      have : s1.inbufSize = st.inbufSize := congrArg Core.inbufSize hc
      rw [this]; exact hb
    obtain ⟨W, hW, hhdr, hwb⟩ := blockHeader_words [false] (by decide) b.length 1 1 1
    unfold fbHeader
    simp only [wp_bind, wp_get]
    rw [wp_ite]
    refine ⟨fun _ => ?_, fun h => absurd (by rw [hh1]; rfl) h⟩
    rw [wp_bind]
    refine wp.post (readBits_tot hF hN 1 (by omega) s1 hib1 [false] (hdrBits b.length ++ [false, false, false, false])
      (regs 1 1 1 ++ (tl (LzxEnc.chunkMark delta) b.length 32768 b b.length bs' ++ extra))
      ⟨W, hW, by rw [hr1, hhdr, List.append_assoc], by rw [hb1]; exact hwb⟩ rfl) ?_
    intro i s1' ⟨hi, hk1, hH1⟩
    have hi0 : i = 0 := hi
    subst hi0
    rw [wp_ite]
    refine ⟨fun h => absurd rfl h, fun _ => ?_⟩
    rw [pure_bind, wp_modify_bind]
    have hv : toS32 ((((0, 0) : Nat × Nat).fst * 65536 ||| ((0, 0) : Nat × Nat).snd : Nat) : Int) = 0 := by decide
    rw [hv]
    have c1 : core s1' = core st := hk1.1.trans hc
    have q1 : s1'.blockRemaining = st.blockRemaining := congrArg Core.blockRemaining c1
    have q2 : s1'.blockType = st.blockType := congrArg Core.blockType c1
    have hrb := remBytes_congr (content := content) ({ s1' with intelFilesize := 0, headerRead := true }) s1' rfl rfl rfl
    refine common _
      { offset := congrArg Core.offset c1, framePosn := congrArg Core.framePosn c1,
        windowPosn := congrArg Core.windowPosn c1, windowSize := congrArg Core.windowSize c1,
        frame := congrArg Core.frame c1, length := congrArg Core.length c1, isDelta := congrArg Core.isDelta c1,
        resetInterval := congrArg Core.resetInterval c1, inbufSize := congrArg Core.inbufSize c1,
        error := congrArg Core.error c1, oPtr := congrArg Core.oPtr c1, oEnd := congrArg Core.oEnd c1,
        window := hk1.2.trans hw, headerRead := rfl, intelFilesize := rfl } ?_
    rw [hrb]
    show TopX (LzxEnc.chunkMark delta) extra s1'.blockRemaining s1'.blockType s1'.blockLength s1'.bits
      (remBytes content s1') 32768 [] (b :: bs')
    refine ⟨q1.trans hbr, fun h => absurd rfl h, ?_⟩
    intro _ b2 bs2 hb2
    cases hb2
    obtain ⟨W', hW', hr', hb'⟩ := hH1
    exact ⟨b.length, Nat.le_refl _, [false, false, false, false], 1, 1, 1, by decide, by decide,
      Or.inl ⟨fun h => hbt (q2.symm.trans h.1), W', hW', hr', hb'⟩⟩

/-- the invariant of a decoder state between frames and between calls: `D` is the whole output,
    `offset` bytes of it have been written, `oEnd - oPtr` more are decoded and pending in the window;
    `k` bounds the blocks and part blocks still to come (`k + 65538` fuel suffices for every later call) -/
structure G (content : σ → Bytes) (delta : Bool) (extra D : Bytes) (k : Nat) (st : St σ) : Prop where
  err : st.error = .ok
  len : st.length = D.length
  win : st.window.size = st.windowSize
  dvd : st.windowSize % 32768 = 0
  wsLe : st.windowSize ≤ 33554432
  dl : st.isDelta = delta
  ri : st.resetInterval = 0
  ibs : 1 ≤ st.inbufSize
  ple : st.oPtr ≤ st.oEnd
  tle : st.offset + (st.oEnd - st.oPtr) ≤ D.length
  e8 : st.oInE8 = true → st.oPtr = 0 ∧ st.oEnd = 0
  pend : st.oInE8 = false → st.oEnd ≤ st.window.size ∧
    (st.window.toList.take st.oEnd).drop st.oPtr = (D.drop st.offset).take (st.oEnd - st.oPtr)
  more : st.offset + (st.oEnd - st.oPtr) < D.length →
    st.frame * 32768 = st.offset + (st.oEnd - st.oPtr) ∧ st.windowPosn = st.framePosn ∧
    st.framePosn % 32768 = 0 ∧ st.framePosn < st.windowSize ∧
    ∃ cur bs, cur ++ bs.flatten = D.drop (st.offset + (st.oEnd - st.oPtr)) ∧ BOk bs ∧ cur.length < 16777216 ∧
      cnt cur bs ≤ k ∧ StartX content delta extra st cur bs
  fin : st.offset + (st.oEnd - st.oPtr) = D.length → D.length ≤ st.frame * 32768

theorem frame_fit {fp ws : Nat} (m3 : fp % 32768 = 0) (m4 : fp < ws) (hd : ws % 32768 = 0) :
    fp + 32768 ≤ ws ∧ (if fp + 32768 = ws then 0 else fp + 32768) % 32768 = 0 ∧
      (if fp + 32768 = ws then 0 else fp + 32768) < ws := by
  have h : fp + 32768 ≤ ws := by omega
  refine ⟨h, ?_⟩
  split
  · exact ⟨rfl, Nat.lt_of_le_of_lt (Nat.zero_le _) m4⟩
  · exact ⟨by rw [Nat.add_mod_right]; exact m3, by omega⟩

theorem frame_len {off L F fr : Nat} (hlt : off < L) (hFd : F = min 32768 (L - off)) (m1 : fr * 32768 = off) :
    F ≤ 32768 ∧ off + F ≤ L ∧ (off + F < L → F = 32768) ∧ (off + F = L → L ≤ (fr + 1) * 32768) := by
  omega

theorem G_after_frame {delta : Bool} {extra D : Bytes} {k : Nat} {st s2 s : St σ} {F i kc : Nat}
    (g : G content delta extra D k st) (hp : st.oPtr = st.oEnd) (hlt : st.offset < D.length)
    (p : Pre2 st s2) (hFd : F = min 32768 (D.length - st.offset)) (hi : i ≤ F) (hkc : kc ≤ k)
    (o : FrOut content (LzxEnc.chunkMark delta) extra D s2 s F i kc) : G content delta extra D k s := by
  obtain ⟨m1, m2, m3, m4, _⟩ := g.more (by omega)
  rw [hp, Nat.sub_self, Nat.add_zero] at m1
  obtain ⟨hfit, hfp⟩ := frame_fit m3 m4 g.dvd
  obtain ⟨hF1, hF2, hF3, hF4⟩ := frame_len hlt hFd m1
  have q1 : s.offset = st.offset + i := by rw [o.offset, p.offset]
  have q2 : s.frame = st.frame + 1 := by rw [o.frame, p.frame]
  have q4 : s.oPtr = st.framePosn + i := by rw [o.oPtr, p.framePosn]
  have q5 : s.oEnd = st.framePosn + F := by rw [o.oEnd, p.framePosn]
  have q6 := o.framePosn
  rw [p.framePosn, p.windowSize] at q6
  have q8 : s.windowSize = st.windowSize := o.windowSize.trans p.windowSize
  have q9 : s.window.size = st.window.size := o.winSz.trans (by rw [p.window])
  have hE : s.offset + (s.oEnd - s.oPtr) = st.offset + F := by
    rw [q1, q4, q5, Nat.add_sub_add_left, Nat.add_assoc, Nat.add_sub_cancel' hi]
  exact
    { err := o.error.trans (p.error.trans g.err)
      len := o.length.trans (p.length.trans g.len)
      win := by rw [q9, q8]; exact g.win
      dvd := by rw [q8]; exact g.dvd
      wsLe := by rw [q8]; exact g.wsLe
      dl := o.isDelta.trans (p.isDelta.trans g.dl)
      ri := o.resetInterval.trans (p.resetInterval.trans g.ri)
      ibs := by rw [o.inbufSize, p.inbufSize]; exact g.ibs
      ple := by rw [q4, q5]; exact Nat.add_le_add_left hi _
      tle := by rw [hE]; exact hF2
      e8 := fun h => by rw [o.oInE8] at h; cases h
      pend := fun _ => by
        refine ⟨by rw [q5, q9, g.win]; exact Nat.le_trans (Nat.add_le_add_left hF1 _) hfit, ?_⟩
        have hd := o.data
        rw [p.framePosn, p.offset] at hd
        rw [q5, q4, ← List.drop_drop, hd, List.drop_take, List.drop_drop, q1, Nat.add_sub_add_left]
      more := fun h => by
        rw [hE] at h ⊢
        have hF := hF3 h
        obtain ⟨cur', bs', n1, n2, n3, n4, n5, X, n6, n7⟩ := o.next hF (by rw [p.offset]; exact h)
        rw [p.offset] at n1
        rw [hF] at q6
        refine ⟨by rw [q2, Nat.add_mul, Nat.one_mul, m1, hF], o.windowPosn.trans o.framePosn.symm,
          by rw [q6]; exact hfp.1, by rw [q6, q8]; exact hfp.2,
          cur', bs', n1, n2, n3, Nat.le_trans n4 hkc, n5, Or.inl ⟨o.headerRead.trans p.headerRead,
            o.intelFilesize.trans p.intelFilesize, X, n6, n7⟩⟩
      fin := fun h => by rw [hE] at h; rw [q2]; exact hF4 h }

theorem stop_arith {L off out fr ef : Nat} (m1 : off < L → fr * 32768 = off) (ho : off + out ≤ L)
    (he : ef = (off + out) / 32768 + 1) (hc : ¬ (fr < ef ∧ ¬ (L ≠ 0 ∧ off ≥ L))) : out = 0 := by
  by_cases hlt : off < L
  · have := m1 hlt; omega
  · omega

theorem pend_arith {L off p e fr : Nat} (hple : p ≤ e) (htle : off + (e - p) ≤ L)
    (more : off + (e - p) < L → fr * 32768 = off + (e - p)) (fin : off + (e - p) = L → L ≤ fr * 32768)
    (hfr : fr < off / 32768 + 1) : p = e := by
  by_cases hT : off + (e - p) < L
  · have := more hT; omega
  · have := fin (by omega); omega

theorem frame_step (hF : Zip.Feeds S content) (hN : ∀ s, S.lzxLength s = none) (delta : Bool) (extra D : Bytes)
    (hn : D.length < 2147483648) (k fuel : Nat) (hfuel : k + 65538 ≤ fuel) (st : St σ) (outBytes : Nat)
    (g : G content delta extra D k st) (hpe : st.oPtr = st.oEnd) (hlt : st.offset < D.length) :
    ∃ chunk s, (frameBody S fuel outBytes).run.run st = (.ok chunk, s) ∧ G content delta extra D k s ∧
      chunk.size ≤ outBytes ∧ (s.oPtr = s.oEnd ∨ chunk.size = outBytes) ∧ s.offset = st.offset + chunk.size ∧
      s.frame = st.frame + 1 ∧ chunk.toList = (D.drop st.offset).take chunk.size := by
  obtain ⟨m1, m2, m3, m4, cur, bs, c1, c2, c3, c4, c5⟩ := g.more (by rw [hpe, Nat.sub_self]; exact hlt)
  rw [hpe, Nat.sub_self, Nat.add_zero] at m1 c1
  have hfr : st.frame < 2147483648 :=
    Nat.lt_of_le_of_lt (m1 ▸ Nat.le_mul_of_pos_right _ (by decide)) (Nat.lt_trans hlt hn)
  have hfit := (frame_fit m3 m4 g.dvd).1
  have hF2 := (frame_len hlt rfl m1).2.1
  obtain ⟨chunk, s, hrun, s2, p, hchunk, o⟩ := wp.total (frameBody_tot hF hN delta extra D fuel outBytes st cur bs
    g.len hlt g.win g.wsLe m2 hfit hpe g.ibs hfr g.dl g.ri c5 c1 c2 c3 (Nat.le_trans (Nat.add_le_add_right c4 _) hfuel))
  generalize hFd : min 32768 (D.length - st.offset) = F at hchunk o hF2
  generalize hid : min outBytes F = i at hchunk o
  have hiF : i ≤ F := hid ▸ Nat.min_le_right _ _
  rw [List.take_take, Nat.min_eq_left hiF] at hchunk
  have hcs : chunk.size = i := by
    have := congrArg List.length hchunk
    rwa [Array.length_toList, List.length_take, List.length_drop,
      Nat.min_eq_left (Nat.le_trans hiF (Nat.le_sub_of_add_le' hF2))] at this
  refine ⟨chunk, s, hrun, G_after_frame g hpe hlt p hFd.symm hiF c4 o, hcs ▸ hid ▸ Nat.min_le_left _ _, ?_,
    by rw [o.offset, p.offset, hcs], by rw [o.frame, p.frame], by rw [hcs]; exact hchunk⟩
  rw [o.oPtr, o.oEnd, hcs, ← hid]
  rcases Nat.le_total outBytes F with h | h
  · exact Or.inr (Nat.min_eq_left h)
  · exact Or.inl (by rw [Nat.min_eq_right h])

theorem frameLoop_tot (hF : Zip.Feeds S content) (hN : ∀ s, S.lzxLength s = none) (delta : Bool) (extra D : Bytes)
    (hn : D.length < 2147483648) (hn1 : 1 ≤ D.length) (k fuel endFrame : Nat) (hfuel : k + 65538 ≤ fuel) :
    ∀ (m : Nat) (st : St σ) (outBytes : Nat) (acc : Array UInt8), G content delta extra D k st →
    (st.oPtr = st.oEnd ∨ outBytes = 0) → st.offset + outBytes ≤ D.length →
    endFrame = (st.offset + outBytes) / 32768 + 1 → endFrame ≤ st.frame + m →
    ∃ st', frameLoop S fuel endFrame m st outBytes acc =
        .ok ⟨.ok, acc.toList ++ (D.drop st.offset).take outBytes, st'⟩ ∧
      G content delta extra D k st' ∧ st'.offset = st.offset + outBytes := by
  -- when the loop stops nothing more is asked for
  have stop : ∀ (st : St σ) (outBytes : Nat), G content delta extra D k st →
      (st.oPtr = st.oEnd ∨ outBytes = 0) → st.offset + outBytes ≤ D.length →
      endFrame = (st.offset + outBytes) / 32768 + 1 →
      ¬ (st.frame < endFrame ∧ ¬ (st.length ≠ 0 ∧ st.offset ≥ st.length)) → outBytes = 0 := by
    intro st outBytes g hp ho he hc
    rcases hp with hp | hp
    · rw [g.len] at hc
      refine stop_arith (fun h => ?_) ho he hc
      have := (g.more (by rw [hp, Nat.sub_self]; exact h)).1
      rwa [hp, Nat.sub_self, Nat.add_zero] at this
    · exact hp
  intro m
  induction m with
  | zero =>
    intro st outBytes acc g hp ho he hm
    have h0 := stop st outBytes g hp ho he (fun h => by omega)
    subst h0
    refine ⟨st, ?_, g, rfl⟩
    rw [frameLoop, if_neg (by omega), if_neg (by simp)]
    simp
  | succ m ih =>
    intro st outBytes acc g hp ho he hm
    rw [frameLoop]
    split
    · rename_i hc
      have hlt : st.offset < D.length := by
        have := hc.2
        rw [g.len] at this
        omega
      have hpe : st.oPtr = st.oEnd := by
        rcases hp with hp | hp
        · exact hp
        · subst hp
          exact pend_arith g.ple g.tle (fun h => (g.more h).1) g.fin (by have := hc.1; rwa [he, Nat.add_zero] at this)
      obtain ⟨chunk, s, hrun, gs, hio, hps, q1, q2, hchunk⟩ :=
        frame_step hF hN delta extra D hn k fuel hfuel st outBytes g hpe hlt
      rw [hrun]
      dsimp only
      have hsum : st.offset + chunk.size + (outBytes - chunk.size) = st.offset + outBytes := by
        rw [Nat.add_assoc, Nat.add_sub_cancel' hio]
      obtain ⟨st', hr, gs', ho'⟩ := ih s (outBytes - chunk.size) (acc ++ chunk) gs
        (hps.imp id (fun h => by rw [h, Nat.sub_self])) (by rw [q1, hsum]; exact ho) (by rw [he, q1, hsum])
        (by rw [q2]; omega)
      refine ⟨st', ?_, gs', by rw [ho', q1, hsum]⟩
      rw [hr, Array.toList_append, hchunk, q1, ← List.drop_drop, List.append_assoc, ← List.take_add, Nat.add_sub_cancel' hio]
    · rename_i hc
      have h0 := stop st outBytes g hp ho he hc
      subst h0
      refine ⟨st, ?_, g, rfl⟩
      rw [if_neg (by simp)]
      simp

theorem outSlice_pending {delta : Bool} {extra D : Bytes} {k : Nat} {st : St σ} (g : G content delta extra D k st)
    (i : Nat) (hip : i ≤ st.oEnd - st.oPtr) :
    ∃ chunk, outSlice st i = .ok chunk ∧ chunk.toList = (D.drop st.offset).take i := by
  have hple := g.ple
  unfold outSlice
  cases hE : st.oInE8
  · obtain ⟨p1, p2⟩ := g.pend hE
    simp only [Bool.false_eq_true, if_false]
    rw [if_pos (by omega)]
    refine ⟨_, rfl, ?_⟩
    rw [List.drop_take] at p2
    rw [Array.toList_extract, List.extract_eq_take_drop, Nat.add_sub_cancel_left, ← Nat.min_eq_left hip,
      ← List.take_take, p2, List.take_take]
  · obtain ⟨p1, p2⟩ := g.e8 hE
    have hi0 : i = 0 := by omega
    subst hi0
    simp only [if_true]
    rw [if_pos (by omega)]
    refine ⟨_, rfl, ?_⟩
    rw [Array.toList_extract, List.extract_eq_take_drop]
    simp

theorem G_flush {delta : Bool} {extra D : Bytes} {k : Nat} {st : St σ} (g : G content delta extra D k st)
    (i : Nat) (hip : i ≤ st.oEnd - st.oPtr) :
    G content delta extra D k { st with oPtr := st.oPtr + i, offset := st.offset + i } := by
  have hple := g.ple
  have e : st.offset + i + (st.oEnd - (st.oPtr + i)) = st.offset + (st.oEnd - st.oPtr) := by omega
  exact
    { err := g.err, len := g.len, win := g.win, dvd := g.dvd, wsLe := g.wsLe, dl := g.dl, ri := g.ri, ibs := g.ibs
      ple := by show st.oPtr + i ≤ st.oEnd; omega
      tle := by show st.offset + i + (st.oEnd - (st.oPtr + i)) ≤ D.length; rw [e]; exact g.tle
      e8 := fun h => by
        obtain ⟨p1, p2⟩ := g.e8 h
        show st.oPtr + i = 0 ∧ st.oEnd = 0
        omega
      pend := fun h => by
        obtain ⟨p1, p2⟩ := g.pend h
        refine ⟨p1, ?_⟩
        show (st.window.toList.take st.oEnd).drop (st.oPtr + i) =
          (D.drop (st.offset + i)).take (st.oEnd - (st.oPtr + i))
        rw [← List.drop_drop, p2, List.drop_take, List.drop_drop, Nat.sub_add_eq]
      more := fun h => by
        change st.offset + i + (st.oEnd - (st.oPtr + i)) < D.length at h
        rw [e] at h
        obtain ⟨m1, m2, m3, m4, cur, bs, c1, c2, c3, c4, c5⟩ := g.more h
        refine ⟨?_, m2, m3, m4, cur, bs, ?_, c2, c3, c4, c5⟩
        · show st.frame * 32768 = st.offset + i + (st.oEnd - (st.oPtr + i))
          rw [e]; exact m1
        · show cur ++ bs.flatten = D.drop (st.offset + i + (st.oEnd - (st.oPtr + i)))
          rw [e]; exact c1
      fin := fun h => by
        change st.offset + i + (st.oEnd - (st.oPtr + i)) = D.length at h
        rw [e] at h
        exact g.fin h }

theorem endFrame_eq (a : Nat) (h : a < 2147483648) :
    (a / 32768 % 4294967296 + 1) % 4294967296 = a / 32768 + 1 := by omega

theorem decompress_tot (hF : Zip.Feeds S content) (hN : ∀ s, S.lzxLength s = none) (delta : Bool) (extra D : Bytes)
    (hn : D.length < 2147483648) (k fuel : Nat) (hfuel : k + 65538 ≤ fuel)
    (st : St σ) (outBytes : Nat) (g : G content delta extra D k st) (ho : st.offset + outBytes ≤ D.length) :
    ∃ st', decompress S fuel st outBytes = .ok ⟨.ok, (D.drop st.offset).take outBytes, st'⟩ ∧
      G content delta extra D k st' ∧ st'.offset = st.offset + outBytes := by
  have hple := g.ple
  unfold decompress
  rw [if_neg (by rw [g.err]; simp)]
  generalize hi : min (st.oEnd - st.oPtr) outBytes = i
  have hip : i ≤ st.oEnd - st.oPtr := hi ▸ Nat.min_le_left _ _
  have hio : i ≤ outBytes := hi ▸ Nat.min_le_right _ _
  have hsum : st.offset + i + (outBytes - i) = st.offset + outBytes := by
    rw [Nat.add_assoc, Nat.add_sub_cancel' hio]
  obtain ⟨chunk, hsl1, hch⟩ := outSlice_pending g i hip
  dsimp +zeta only
  rw [hsl1]
  dsimp +zeta only
  have g1 := G_flush g i hip
  split
  · rename_i h0
    obtain rfl := Nat.le_antisymm hio (Nat.le_of_sub_eq_zero h0)
    exact ⟨_, by rw [hch], g1, rfl⟩
  · rename_i hne
    show ∃ st', frameLoop S fuel (((st.offset + i + (outBytes - i)) / lzxFRAME_SIZE % 4294967296 + 1) % 4294967296)
      _ _ (outBytes - i) chunk = _ ∧ _
    rw [show lzxFRAME_SIZE = 32768 from rfl, hsum, endFrame_eq _ (Nat.lt_of_le_of_lt ho hn)]
    obtain ⟨st', hr, gs', ho'⟩ := frameLoop_tot hF hN delta extra D hn (by omega) k fuel _ hfuel
      ((st.offset + outBytes) / 32768 + 1 - st.frame) _ (outBytes - i) chunk g1
      (Or.inl (by show st.oPtr + i = st.oEnd; omega)) (by show st.offset + i + (outBytes - i) ≤ D.length; rwa [hsum])
      (by show _ = (st.offset + i + (outBytes - i)) / 32768 + 1; rw [hsum])
      (Nat.sub_le_iff_le_add'.mp (Nat.le_refl _))
    refine ⟨st', ?_, gs', ho'.trans hsum⟩
    rw [hr]
    congr 2
    show chunk.toList ++ (D.drop (st.offset + i)).take (outBytes - i) = _
    rw [hch, ← List.drop_drop, ← List.take_add, Nat.add_sub_cancel' hio]

end MsPack.Lzx
