import MsPack.Basic
import Proofs.Lemmas.Sim
/-!
# Two-run (relational) reasoning for the decoder monads: the kit for C11 on the decoder models

`wp2 m₁ m₂ Q E s₁ s₂` runs `m₁` from `s₁` and `m₂` from `s₂` and says: both end normally with results/states related
by `Q`, or both throw, with the exceptions/states related by `E`; mixed outcomes are excluded.  The rules are
implications (`wp2_bind`) or, for primitives in head position, equivalences usable with `simp only`.

`InStep X P Q m` is the case the decoders need: one program run from two `P`-related states returns the same
value in `Q`-related states, or throws the same exception in `X`-related states.  It is `Sim2` (`Sim.lean`) with
`m₂ = m₁`, and its rules are those of `Sim2`, applied as terms, so a lemma about a function that only calls others
never names a state; only the functions that read or write the differing cells themselves go down to `wp2`
(`inStep_iff`).

`Agree n a b`: two arrays of the same size with the same contents below `n` — the cells above `n`
are the ones holding the allocator's fill byte that the decoder must never read.
-/
namespace MsPack.FillSim

section wp2
variable {ε s α β γ δ : Type}

def Post2 (Q : α → β → s → s → Prop) (E : ε → ε → s → s → Prop) :
    Except ε α × s → Except ε β × s → Prop
  | (.ok a, t1), (.ok b, t2) => Q a b t1 t2
  | (.error e1, t1), (.error e2, t2) => E e1 e2 t1 t2
  | _, _ => False

def wp2 (m1 : ExceptT ε (StateM s) α) (m2 : ExceptT ε (StateM s) β)
    (Q : α → β → s → s → Prop) (E : ε → ε → s → s → Prop) (s1 s2 : s) : Prop :=
  Post2 Q E (m1.run.run s1) (m2.run.run s2)

theorem wp2_bind {m1 : ExceptT ε (StateM s) α} {m2 : ExceptT ε (StateM s) β}
    {f1 : α → ExceptT ε (StateM s) γ} {f2 : β → ExceptT ε (StateM s) δ}
    {Q' : α → β → s → s → Prop} {Q : γ → δ → s → s → Prop} {E : ε → ε → s → s → Prop} {s1 s2 : s}
    (hm : wp2 m1 m2 Q' E s1 s2)
    (hf : ∀ a b t1 t2, Q' a b t1 t2 → wp2 (f1 a) (f2 b) Q E t1 t2) :
    wp2 (m1 >>= f1) (m2 >>= f2) Q E s1 s2 := by
  unfold wp2 at *
  show Post2 Q E (match (m1.run.run s1 : Except ε α × s) with
      | (a, t) => (ExceptT.bindCont f1 a t : Except ε γ × s))
    (match (m2.run.run s2 : Except ε β × s) with
      | (a, t) => (ExceptT.bindCont f2 a t : Except ε δ × s))
  cases h1 : (m1.run.run s1 : Except ε α × s) with
  | mk r1 t1 =>
    cases h2 : (m2.run.run s2 : Except ε β × s) with
    | mk r2 t2 =>
      rw [h1, h2] at hm
      cases r1 with
      | ok a =>
        cases r2 with
        | ok b => exact hf a b t1 t2 hm
        | error e => exact hm.elim
      | error e1 =>
        cases r2 with
        | ok b => exact hm.elim
        | error e2 => exact hm

theorem wp2_mono {m1 : ExceptT ε (StateM s) α} {m2 : ExceptT ε (StateM s) β}
    {Q Q' : α → β → s → s → Prop} {E E' : ε → ε → s → s → Prop} {s1 s2 : s}
    (h : wp2 m1 m2 Q E s1 s2) (hq : ∀ a b t1 t2, Q a b t1 t2 → Q' a b t1 t2)
    (he : ∀ a b t1 t2, E a b t1 t2 → E' a b t1 t2) : wp2 m1 m2 Q' E' s1 s2 := by
  unfold wp2 at *
  cases h1 : (m1.run.run s1 : Except ε α × s) with
  | mk r1 t1 =>
    cases h2 : (m2.run.run s2 : Except ε β × s) with
    | mk r2 t2 =>
      rw [h1, h2] at h
      cases r1 <;> cases r2 <;> first | exact h.elim | exact hq _ _ _ _ h | exact he _ _ _ _ h

theorem wp2.elim {m1 : ExceptT ε (StateM s) α} {m2 : ExceptT ε (StateM s) β}
    {Q : α → β → s → s → Prop} {E : ε → ε → s → s → Prop} {s1 s2 : s} (h : wp2 m1 m2 Q E s1 s2) :
    (∃ a b t1 t2, m1.run.run s1 = (.ok a, t1) ∧ m2.run.run s2 = (.ok b, t2) ∧ Q a b t1 t2) ∨
    (∃ e1 e2 t1 t2, m1.run.run s1 = (.error e1, t1) ∧ m2.run.run s2 = (.error e2, t2) ∧ E e1 e2 t1 t2) := by
  unfold wp2 at h
  cases h1 : (m1.run.run s1 : Except ε α × s) with
  | mk r1 t1 =>
    cases h2 : (m2.run.run s2 : Except ε β × s) with
    | mk r2 t2 =>
      rw [h1, h2] at h
      cases r1 <;> cases r2
      · exact .inr ⟨_, _, _, _, rfl, rfl, h⟩
      · exact h.elim
      · exact h.elim
      · exact .inl ⟨_, _, _, _, rfl, rfl, h⟩

theorem wp2_cons {m1 : ExceptT ε (StateM s) α} {m2 : ExceptT ε (StateM s) β}
    {Q Q' : α → β → s → s → Prop} {E : ε → ε → s → s → Prop} {s1 s2 : s}
    (h : wp2 m1 m2 Q E s1 s2) (hq : ∀ a b t1 t2, Q a b t1 t2 → Q' a b t1 t2) : wp2 m1 m2 Q' E s1 s2 :=
  wp2_mono h hq (fun _ _ _ _ h => h)

variable (Q : α → β → s → s → Prop) (E : ε → ε → s → s → Prop) (s1 s2 : s)

theorem wp2_pure (a : α) (b : β) :
    wp2 (pure a : ExceptT ε (StateM s) α) (pure b : ExceptT ε (StateM s) β) Q E s1 s2 ↔ Q a b s1 s2 := Iff.rfl

theorem wp2_throw (e1 e2 : ε) :
    wp2 (throw e1 : ExceptT ε (StateM s) α) (throw e2 : ExceptT ε (StateM s) β) Q E s1 s2 ↔ E e1 e2 s1 s2 := Iff.rfl

theorem wp2_get (Q : s → s → s → s → Prop) :
    wp2 (get : ExceptT ε (StateM s) s) (get : ExceptT ε (StateM s) s) Q E s1 s2 ↔ Q s1 s2 s1 s2 := Iff.rfl

theorem wp2_set (x y : s) (Q : PUnit → PUnit → s → s → Prop) :
    wp2 (set x : ExceptT ε (StateM s) PUnit) (set y : ExceptT ε (StateM s) PUnit) Q E s1 s2 ↔ Q ⟨⟩ ⟨⟩ x y := Iff.rfl

theorem wp2_modify (f g : s → s) (Q : PUnit → PUnit → s → s → Prop) :
    wp2 (modify f : ExceptT ε (StateM s) PUnit) (modify g : ExceptT ε (StateM s) PUnit) Q E s1 s2 ↔
      Q ⟨⟩ ⟨⟩ (f s1) (g s2) := Iff.rfl

theorem wp2_modifyGet (f : s → α × s) (g : s → β × s) :
    wp2 (modifyGet f : ExceptT ε (StateM s) α) (modifyGet g : ExceptT ε (StateM s) β) Q E s1 s2 ↔
      Q (f s1).1 (g s2).1 (f s1).2 (g s2).2 := Iff.rfl

variable (Q : γ → δ → s → s → Prop)

theorem wp2_get_bind (f1 : s → ExceptT ε (StateM s) γ) (f2 : s → ExceptT ε (StateM s) δ) :
    wp2 (get >>= f1) (get >>= f2) Q E s1 s2 ↔ wp2 (f1 s1) (f2 s2) Q E s1 s2 := Iff.rfl

theorem wp2_set_bind (x y : s) (f1 : PUnit → ExceptT ε (StateM s) γ) (f2 : PUnit → ExceptT ε (StateM s) δ) :
    wp2 (set x >>= f1) (set y >>= f2) Q E s1 s2 ↔ wp2 (f1 ⟨⟩) (f2 ⟨⟩) Q E x y := Iff.rfl

theorem wp2_modify_bind (f g : s → s) (f1 : PUnit → ExceptT ε (StateM s) γ) (f2 : PUnit → ExceptT ε (StateM s) δ) :
    wp2 (modify f >>= f1) (modify g >>= f2) Q E s1 s2 ↔ wp2 (f1 ⟨⟩) (f2 ⟨⟩) Q E (f s1) (g s2) := Iff.rfl

theorem wp2_modifyGet_bind (f : s → α × s) (g : s → β × s)
    (f1 : α → ExceptT ε (StateM s) γ) (f2 : β → ExceptT ε (StateM s) δ) :
    wp2 (modifyGet f >>= f1) (modifyGet g >>= f2) Q E s1 s2 ↔
      wp2 (f1 (f s1).1) (f2 (g s2).1) Q E (f s1).2 (g s2).2 := Iff.rfl

theorem wp2_pure_bind (a : α) (b : β) (f1 : α → ExceptT ε (StateM s) γ) (f2 : β → ExceptT ε (StateM s) δ) :
    wp2 (pure a >>= f1) (pure b >>= f2) Q E s1 s2 ↔ wp2 (f1 a) (f2 b) Q E s1 s2 := Iff.rfl

theorem wp2_throw_bind (e1 e2 : ε) (f1 : α → ExceptT ε (StateM s) γ) (f2 : β → ExceptT ε (StateM s) δ) :
    wp2 (throw e1 >>= f1) (throw e2 >>= f2) Q E s1 s2 ↔ E e1 e2 s1 s2 := Iff.rfl

end wp2

macro "wsimp" : tactic =>
  `(tactic| simp only [wp2_get_bind, wp2_set_bind, wp2_modify_bind, wp2_modifyGet_bind, wp2_pure_bind,
      wp2_throw_bind, wp2_pure, wp2_throw, wp2_get, wp2_set, wp2_modify, wp2_modifyGet, bind_assoc, pure_bind])

section eqr
variable {ε s α β : Type}

def EqR (R : s → s → Prop) : α → α → s → s → Prop := fun a b t1 t2 => a = b ∧ R t1 t2

theorem wp2_dite {c : Prop} [Decidable c] {a1 : c → ExceptT ε (StateM s) α} {b1 : ¬c → ExceptT ε (StateM s) α}
    {a2 : c → ExceptT ε (StateM s) β} {b2 : ¬c → ExceptT ε (StateM s) β}
    {Q : α → β → s → s → Prop} {E : ε → ε → s → s → Prop} {s1 s2 : s}
    (ht : ∀ h : c, wp2 (a1 h) (a2 h) Q E s1 s2) (hf : ∀ h : ¬c, wp2 (b1 h) (b2 h) Q E s1 s2) :
    wp2 (dite c a1 b1) (dite c a2 b2) Q E s1 s2 := by
  by_cases h : c
  · simp only [dif_pos h]; exact ht h
  · simp only [dif_neg h]; exact hf h

theorem wp2_ite {c : Prop} [Decidable c] {a1 b1 : ExceptT ε (StateM s) α}
    {a2 b2 : ExceptT ε (StateM s) β}
    {Q : α → β → s → s → Prop} {E : ε → ε → s → s → Prop} {s1 s2 : s}
    (ht : c → wp2 a1 a2 Q E s1 s2) (hf : ¬c → wp2 b1 b2 Q E s1 s2) :
    wp2 (ite c a1 b1) (ite c a2 b2) Q E s1 s2 := by
  by_cases h : c
  · simp only [if_pos h]; exact ht h
  · simp only [if_neg h]; exact hf h

end eqr

section instep
open MsPack.CountLaws
variable {ε s α : Type} {X : ε → s → s → Prop} {P Q : s → s → Prop}

def EqX (X : ε → s → s → Prop) : ε → ε → s → s → Prop := fun e1 e2 t1 t2 => e1 = e2 ∧ X e1 t1 t2

abbrev InStep (X : ε → s → s → Prop) (P Q : s → s → Prop) (m : ExceptT ε (StateM s) α) : Prop :=
  Sim2 True P Q (fun _ _ => True) X m m

theorem inStep_iff {m : ExceptT ε (StateM s) α} :
    InStep X P Q m ↔ ∀ ⦃s1 s2⦄, P s1 s2 → wp2 m m (EqR Q) (EqX X) s1 s2 := by
  constructor
  · intro h s1 s2 hp
    unfold wp2
    cases hm : m.run.run s1 with
    | mk r t1 =>
      cases r with
      | ok a => obtain ⟨t2, h2, hq⟩ := h.ok s1 s2 hp a t1 hm; rw [h2]; exact ⟨rfl, hq⟩
      | error e => obtain ⟨t2, h2, hx⟩ := (h.err s1 s2 hp e t1 hm).2 trivial; rw [h2]; exact ⟨rfl, hx⟩
  · intro h
    refine ⟨fun s1 s2 hp a t1 hm => ?_, fun s1 s2 hp e t1 hm => ⟨trivial, fun _ => ?_⟩⟩
    · rcases (h hp).elim with ⟨_, _, _, u2, h1, h2, rfl, hq⟩ | ⟨_, _, _, _, h1, _, _⟩ <;> rw [hm] at h1 <;> cases h1
      exact ⟨u2, h2, hq⟩
    · rcases (h hp).elim with ⟨_, _, _, _, h1, _, _⟩ | ⟨_, _, _, u2, h1, h2, rfl, hx⟩ <;> rw [hm] at h1 <;> cases h1
      exact ⟨u2, h2, hx⟩

end instep

def Agree {α : Type} (n : Nat) (a b : Array α) : Prop :=
  a.size = b.size ∧ ∀ i, i < n → a[i]? = b[i]?

namespace Agree
variable {α : Type} {n : Nat} {a b : Array α}

theorem refl (n : Nat) (a : Array α) : Agree n a a := ⟨rfl, fun _ _ => rfl⟩

theorem zero (h : a.size = b.size) : Agree 0 a b := ⟨h, fun _ hi => absurd hi (Nat.not_lt_zero _)⟩

theorem size (h : Agree n a b) : a.size = b.size := h.1

theorem mono {m : Nat} (h : Agree n a b) (hm : m ≤ n) : Agree m a b :=
  ⟨h.1, fun i hi => h.2 i (Nat.lt_of_lt_of_le hi hm)⟩

theorem get? (h : Agree n a b) {i : Nat} (hi : i < n) : a[i]? = b[i]? := h.2 i hi

theorem get (h : Agree n a b) {i : Nat} (hi : i < n) (ha : i < a.size) (hb : i < b.size) : a[i] = b[i] := by
  have := h.2 i hi
  rw [Array.getElem?_eq_getElem ha, Array.getElem?_eq_getElem hb] at this
  exact Option.some.inj this

theorem set (h : Agree n a b) (i : Nat) (v : α) (ha : i < a.size) (hb : i < b.size) :
    Agree n (a.set i v ha) (b.set i v hb) := by
  refine ⟨by simp [h.1], fun j hj => ?_⟩
  rw [Array.getElem?_set, Array.getElem?_set]
  split
  · rfl
  · exact h.2 j hj

theorem setIfInBounds (h : Agree n a b) (i : Nat) (v : α) :
    Agree n (a.setIfInBounds i v) (b.setIfInBounds i v) := by
  refine ⟨by simp [h.1], fun j hj => ?_⟩
  rw [Array.getElem?_setIfInBounds, Array.getElem?_setIfInBounds, h.1]
  split
  · rfl
  · exact h.2 j hj

theorem set_extend (h : Agree n a b) (v : α) (ha : n < a.size) (hb : n < b.size) :
    Agree (n + 1) (a.set n v ha) (b.set n v hb) := by
  refine ⟨by simp [h.1], fun j hj => ?_⟩
  rw [Array.getElem?_set, Array.getElem?_set]
  split
  · rfl
  · rename_i hne
    exact h.2 j (by omega)

theorem setIfInBounds_extend (h : Agree n a b) (v : α) :
    Agree (n + 1) (a.setIfInBounds n v) (b.setIfInBounds n v) := by
  refine ⟨by simp [h.1], fun j hj => ?_⟩
  rw [Array.getElem?_setIfInBounds, Array.getElem?_setIfInBounds, h.1]
  split
  · rfl
  · exact h.2 j (by omega)

theorem extract_eq (h : Agree n a b) {i j : Nat} (hj : j ≤ n) : a.extract i j = b.extract i j := by
  apply Array.ext
  · simp only [Array.size_extract, h.1]
  · intro k h1 h2
    simp only [Array.size_extract] at h1 h2
    simp only [Array.getElem_extract]
    exact h.get (by omega) _ _

theorem of_eq (n : Nat) (h : a = b) : Agree n a b := h ▸ refl n a

end Agree

theorem rel_ite {α β : Type} {R : α → β → Prop} (c : Prop) [Decidable c] {t1 e1 : α} {t2 e2 : β}
    (ht : c → R t1 t2) (he : ¬c → R e1 e2) : R (ite c t1 e1) (ite c t2 e2) := by
  by_cases h : c
  · rw [if_pos h, if_pos h]; exact ht h
  · rw [if_neg h, if_neg h]; exact he h

theorem rel_dite {α β : Type} {R : α → β → Prop} {c1 c2 : Prop} [Decidable c1] [Decidable c2] (hc : c1 ↔ c2)
    {t1 : c1 → α} {e1 : ¬c1 → α} {t2 : c2 → β} {e2 : ¬c2 → β}
    (ht : ∀ h1 h2, R (t1 h1) (t2 h2)) (he : ∀ h1 h2, R (e1 h1) (e2 h2)) : R (dite c1 t1 e1) (dite c2 t2 e2) := by
  by_cases h : c1
  · rw [dif_pos h, dif_pos (hc.mp h)]; exact ht _ _
  · rw [dif_neg h, dif_neg (mt hc.mpr h)]; exact he _ _

def RelX {φ α β : Type} (R : α → β → Prop) : Except φ α → Except φ β → Prop
  | .ok a, .ok b => R a b
  | .error f1, .error f2 => f1 = f2
  | _, _ => False

theorem relX_ok {φ α β : Type} (R : α → β → Prop) (a : α) (b : β) :
    RelX (φ := φ) R (.ok a) (.ok b) ↔ R a b := Iff.rfl
theorem relX_error {φ α β : Type} (R : α → β → Prop) (f g : φ) :
    RelX (α := α) (β := β) R (.error f) (.error g) ↔ f = g := Iff.rfl
theorem relX_ok_error {φ α β : Type} (R : α → β → Prop) (a : α) (g : φ) :
    RelX (β := β) R (.ok a) (.error g) ↔ False := Iff.rfl
theorem relX_error_ok {φ α β : Type} (R : α → β → Prop) (f : φ) (b : β) :
    RelX (α := α) R (.error f) (.ok b) ↔ False := Iff.rfl

theorem RelX.cases {φ α β : Type} {R : α → β → Prop} {x : Except φ α} {y : Except φ β} (h : RelX R x y) :
    (∃ f, x = .error f ∧ y = .error f) ∨ (∃ a b, x = .ok a ∧ y = .ok b ∧ R a b) := by
  cases x <;> cases y <;> simp only [relX_ok, relX_error, relX_ok_error, relX_error_ok] at h
  · subst h; exact Or.inl ⟨_, rfl, rfl⟩
  · exact Or.inr ⟨_, _, rfl, rfl, h⟩

theorem RelX.map {φ α β α' β' : Type} {R : α → β → Prop} {Q : α' → β' → Prop} {x : Except φ α}
    {y : Except φ β} {f : α → α'} {g : β → β'} (h : RelX R x y) (hq : ∀ a b, R a b → Q (f a) (g b)) :
    RelX Q (x.map f) (y.map g) := by
  rcases h.cases with ⟨e, rfl, rfl⟩ | ⟨a, b, rfl, rfl, h⟩
  · exact rfl
  · exact hq a b h

theorem RelX.follows {φ α β : Type} {R : α → β → Prop} {x : Except φ α} {y : Except φ β}
    (h : RelX R x y) : (∀ a, x = .ok a → ∃ b, y = .ok b ∧ R a b) ∧ (∀ f, x = .error f → y = .error f) := by
  rcases h.cases with ⟨f, rfl, rfl⟩ | ⟨a, b, rfl, rfl, hr⟩
  · exact ⟨fun _ h => (nomatch h), fun _ h => Except.error.inj h ▸ rfl⟩
  · exact ⟨fun _ h => Except.ok.inj h ▸ ⟨b, rfl, hr⟩, fun _ h => nomatch h⟩

end MsPack.FillSim
