import Proofs.Lemmas.HuffCanon
import Proofs.Lemmas.Src
import Proofs.Lemmas.LzxPieces
/-!
# C04 — LZX (`MsPack/Lzx/Decoder.lean`): the source only moves forward, the out-of-fuel outcome
is unreachable

One pass over every function of the decoder model proves two things at once (`Tr G P x Q`, a
Hoare triple over `LM σ = ExceptT Halt (StateM (St σ))`, ghost context `G : Ctx σ`):

* (A) the source state after the call is `G.R`-related to a fixed starting source state `G.s0`
  (normal exit and `return lzx->error = e` exit alike; the state survives a `throw`).  `readInput`
  is the only function that stores into `src`.
* (B) under the switch `G.T` (a proposition: `True` for the termination theorem, `False` when only
  (A) is wanted, so that (A) needs no assumption on the fuel): the fault `hang` is not raised.

Measure (B).  `M st = st.bits.length + 8 * st.inbuf.length + 8 * rem st.src + (if st.inputEnd then 0
else 16)`: the bits the decoder can still consume - bit buffer, input buffer, what the source can
still deliver, and the two zero bytes `read_input` makes up at the first end of input.  No function
of the decoder increases `M`; `READ_BITS(n)` lowers it by `n`, `READ_HUFFSYM` by the decoded
symbol's own length, at least one bit (`Huff.decode_len`), a byte taken from the input buffer by 8.
`Inv_T G c B st` says `M st + c ≤ B` (under `G.T`) for a ghost bound `B` that stays fixed: `c` counts
what has been consumed.  Every fuel loop consumes at least one bit per round (or leaves):

* `ensureBits n k`: every round adds 16 bits, `n ≤ bits + 16 * k` suffices (call sites: fuel 3,
  `n ≤ 17`);
* `readLensLoop`, `decodeRun`: every round starts with a `READ_HUFFSYM`; `M + 1 ≤ fuel` suffices;
* `copyRaw`: a round either refills an empty input buffer (the next one does not) or takes at
  least one byte; `M + 2 ≤ fuel` suffices;
* `blockLoop`: a round either reads a block header (≥ 3 bits) or decodes a non-empty run (≥ 1 symbol
  or ≥ 1 byte); the loops it calls get the fuel that is left; `M + 3 ≤ fuel` suffices;
* `e8Loop`: the position goes up every round, `dataend ≤ p + fuel` suffices (the caller passes
  `frame_size` for `dataend = frame_size - 10`);
* `frameLoop`: the frame counter goes up by one per round and no other function changes it (this
  is the `frame` component of `Inv_T`).

Result: `fuelBound rem st = bits buffered + 8 * (bytes buffered + rem st.src) + 19 ≤ fuel` excludes
`hang` from any decoder state (`C04_lzx_no_hang`); for the OAB source started with empty buffers
that is `8 * file.length + 19`, well below the `16 * file.length + 100000` the drivers pass
(`C04_lzx_oab_term`, `LoopTermOab.lean`).

The proofs follow the `do` blocks, one Hoare rule per statement; the three large functions are walked
through the pieces `LzxPieces.lean` cuts them into.
-/
namespace MsPack.Lzx
open MsPack.Generated

variable {σ : Type} {α β : Type}

def run' (x : LM σ α) (st : St σ) : Except Halt α × St σ := x.run.run st

theorem run'_pure (a : α) (st : St σ) : run' (pure a : LM σ α) st = (.ok a, st) := rfl
theorem run'_get (st : St σ) : run' (get : LM σ (St σ)) st = (.ok st, st) := rfl
theorem run'_set (s st : St σ) : run' (set s : LM σ PUnit) st = (.ok ⟨⟩, s) := rfl
theorem run'_modify (f : St σ → St σ) (st : St σ) : run' (modify f : LM σ PUnit) st = (.ok ⟨⟩, f st) := rfl
theorem run'_modifyGet (f : St σ → α × St σ) (st : St σ) :
    run' (modifyGet f : LM σ α) st = (.ok (f st).1, (f st).2) := rfl
theorem run'_throw (e : Halt) (st : St σ) : run' (throw e : LM σ α) st = (.error e, st) := rfl

theorem run'_bind (x : LM σ α) (f : α → LM σ β) (st : St σ) :
    run' (x >>= f) st = match run' x st with
      | (.ok a, st') => run' (f a) st'
      | (.error e, st') => (.error e, st') := by
  show (x >>= f).run.run st = _
  simp only [run']
  rcases h : x.run.run st with ⟨r, s⟩
  cases r <;> simp [ExceptT.run_bind, StateT.run_bind, h] <;> rfl

/-- ghost context of a triple: the switch `T` for the termination half, the relation `R` on source
    states and the source state `s0` the run started from, the bytes-left function `rem` of the
    source, the value `f0` of the frame counter -/
structure Ctx (σ : Type) where
  T   : Prop
  R   : σ → σ → Prop
  s0  : σ
  rem : σ → Nat
  f0  : Nat

variable (G : Ctx σ)

def Post_T (Q : St σ → Prop) : Except Halt α × St σ → Prop
  | (.ok _, st') => Q st'
  | (.error (.sys _), st') => G.R G.s0 st'.src
  | (.error (.fault f), _) => G.T → f ≠ Fault.hang

def Tr (P : St σ → Prop) (x : LM σ α) (Q : St σ → Prop) : Prop := ∀ st, P st → Post_T G Q (run' x st)

variable {G}

theorem Tr_pure (P : St σ → Prop) (a : α) : Tr G P (pure a : LM σ α) P := fun _ h => h

theorem Tr_pure' {P Q : St σ → Prop} (a : α) (h : ∀ st, P st → Q st) : Tr G P (pure a : LM σ α) Q :=
  fun st hp => h st hp

theorem Tr_bind {P Q Q' : St σ → Prop} {x : LM σ α} {f : α → LM σ β}
    (hx : Tr G P x Q) (hf : ∀ a, Tr G Q (f a) Q') : Tr G P (x >>= f) Q' := by
  intro st hP
  have h := hx st hP
  rw [run'_bind]
  rcases hr : run' x st with ⟨r, st1⟩
  rw [hr] at h
  cases r with
  | ok a => exact hf a st1 h
  | error e => cases e <;> exact h

theorem Tr_weaken {P P' Q Q' : St σ → Prop} {x : LM σ α} (h : Tr G P x Q)
    (hP : ∀ st, P' st → P st) (hQ : ∀ st, Q st → Q' st) : Tr G P' x Q' := by
  intro st hp
  have := h st (hP st hp)
  rcases hr : run' x st with ⟨r, st1⟩
  rw [hr] at this
  cases r with
  | ok a => exact hQ _ this
  | error e => cases e <;> exact this

theorem Tr_pre {P P' Q : St σ → Prop} {x : LM σ α} (h : Tr G P x Q)
    (hP : ∀ st, P' st → P st) : Tr G P' x Q := Tr_weaken h hP (fun _ h => h)

theorem Tr_post {P Q Q' : St σ → Prop} {x : LM σ α} (h : Tr G P x Q)
    (hQ : ∀ st, Q st → Q' st) : Tr G P x Q' := Tr_weaken h (fun _ h => h) hQ

theorem Tr_get_bind {P Q : St σ → Prop} {f : St σ → LM σ β}
    (h : ∀ s, Tr G (fun st => P st ∧ st = s) (f s) Q) : Tr G P (get >>= f) Q := by
  intro st hP
  rw [run'_bind, run'_get]
  exact h st st ⟨hP, rfl⟩

theorem Tr_ite {P Q : St σ → Prop} {c : Prop} [Decidable c] {x y : LM σ α}
    (hx : c → Tr G P x Q) (hy : ¬ c → Tr G P y Q) : Tr G P (if c then x else y) Q := by
  split
  · exact hx ‹_›
  · exact hy ‹_›

theorem Tr_dite {P Q : St σ → Prop} {c : Prop} [Decidable c] {x : c → LM σ α} {y : ¬ c → LM σ α}
    (hx : ∀ h, Tr G P (x h) Q) (hy : ∀ h, Tr G P (y h) Q) : Tr G P (if h : c then x h else y h) Q := by
  split
  · exact hx _
  · exact hy _

/-- `if c then x` followed by the rest of a `do` block (the elaborator's join point `jp`) -/
theorem Tr_ite_jp {P Q1 Q : St σ → Prop} {c : Prop} [Decidable c] {x : LM σ PUnit} {jp : PUnit → LM σ β}
    (hx : c → Tr G P x Q1) (hn : ¬ c → ∀ st, P st → Q1 st) (hj : ∀ r, Tr G Q1 (jp r) Q) :
    Tr G P (if c then x >>= jp else jp ⟨⟩) Q := by
  split
  · exact Tr_bind (hx ‹_›) hj
  · exact Tr_pre (hj _) (hn ‹_›)

theorem Tr_modify {P Q : St σ → Prop} (g : St σ → St σ) (h : ∀ st, P st → Q (g st)) :
    Tr G P (modify g : LM σ PUnit) Q := fun st hp => h st hp

theorem Tr_set {P Q : St σ → Prop} (s : St σ) (h : ∀ st, P st → Q s) :
    Tr G P (set s : LM σ PUnit) Q := fun st hp => h st hp

theorem Tr_throw_fault {P Q : St σ → Prop} (f : Fault) (h : f ≠ .hang) :
    Tr G P (throw (.fault f) : LM σ α) Q := fun _ _ _ => h

theorem Tr_assume {P Q : St σ → Prop} {x : LM σ α} (φ : Prop) (h1 : ∀ st, P st → φ) (h2 : φ → Tr G P x Q) :
    Tr G P x Q := fun st hP => h2 (h1 st hP) st hP

theorem Tr_false {Q : St σ → Prop} (x : LM σ α) : Tr G (fun _ => False) x Q := fun _ h => h.elim

structure SrcOk (G : Ctx σ) (S : Src σ) : Prop where
  step  : ∀ s n x s', S.read s n = .ok (x, s') → G.R s s'
  trans : ∀ a b c, G.R a b → G.R b c → G.R a c
  fin   : G.T → Src.Finite S G.rem

def M (rem : σ → Nat) (st : St σ) : Nat :=
  st.bits.length + 8 * st.inbuf.length + 8 * rem st.src + (if st.inputEnd then 0 else 16)

variable (G) in
structure Inv_T (c B : Nat) (st : St σ) : Prop where
  fwd   : G.R G.s0 st.src
  frame : st.frame = G.f0
  le    : G.T → M G.rem st + c ≤ B

theorem Inv_T.step {c c' B : Nat} {st st' : St σ} (h : Inv_T G c B st) (hs : st'.src = st.src)
    (hf : st'.frame = st.frame) (hm : M G.rem st' + c' ≤ M G.rem st + c) : Inv_T G c' B st' :=
  ⟨hs ▸ h.fwd, hf ▸ h.frame, fun hT => Nat.le_trans hm (h.le hT)⟩

theorem Inv_T.keep {c B : Nat} {st st' : St σ} (h : Inv_T G c B st)
    (e : (st'.src, st'.frame, st'.bits, st'.inbuf, st'.inputEnd) =
      (st.src, st.frame, st.bits, st.inbuf, st.inputEnd)) : Inv_T G c B st' := by
  simp only [Prod.mk.injEq] at e
  obtain ⟨h1, h2, h3, h4, h5⟩ := e
  exact h.step h1 h2 (by simp only [M, h1, h3, h4, h5]; exact Nat.le_refl _)

theorem Inv_T.mono {c c' B : Nat} (hc : c' ≤ c) (st : St σ) (h : Inv_T G c B st) : Inv_T G c' B st :=
  h.step rfl rfl (Nat.add_le_add_left hc _)

variable (S : Src σ)

theorem fail_tr (c B : Nat) (e : Err) (Q : St σ → Prop) : Tr G (Inv_T G c B) (fail e : LM σ α) Q := by
  intro st h
  exact h.fwd

theorem Tr_get_bind' {P Q : St σ → Prop} {f : St σ → LM σ β}
    (h : ∀ s, Tr G P (f s) Q) : Tr G P (get >>= f) Q :=
  Tr_get_bind fun s => Tr_pre (h s) (fun _ h => h.1)

theorem Tr_ite_then {P Q : St σ → Prop} {c : Prop} [Decidable c] {x : LM σ α} {y : LM σ β}
    (hx : Tr G P x P) (hy : Tr G P y Q) : Tr G P (if c then x >>= fun _ => y else y) Q := by
  split
  · exact Tr_bind hx fun _ => hy
  · exact hy

theorem Tr_pure_bind {P Q : St σ → Prop} {a : α} {f : α → LM σ β} (h : Tr G P (f a) Q) :
    Tr G P (pure a >>= f) Q := by
  intro st hp
  rw [run'_bind, run'_pure]
  exact h st hp

theorem Tr_ite_fail {Q : St σ → Prop} {c0 B : Nat} {c : Prop} [Decidable c] {e : Err} {k : α → LM σ β}
    {y : LM σ β} (hy : Tr G (Inv_T G c0 B) y Q) : Tr G (Inv_T G c0 B) (if c then fail e >>= k else y) Q := by
  split
  · exact Tr_bind (Q := fun _ => False) (fail_tr c0 B e _) fun _ => Tr_false _
  · exact hy

theorem Tr_ite_then_eq {P Q : St σ → Prop} {s : St σ} {c : Prop} [Decidable c] {x : LM σ α} {y : LM σ β}
    (hx : Tr G P x P) (hy : Tr G P y Q) :
    Tr G (fun st => P st ∧ st = s) (if c then x >>= fun _ => y else y) Q :=
  Tr_pre (Tr_ite_then hx hy) (fun _ h => h.1)

theorem Tr_guard_eq {P Q : St σ → Prop} {s : St σ} {x : LM σ α}
    (h : Tr G (fun st => P st ∧ st = s) x Q) : Tr G (fun st => P st ∧ st = s) x Q := h

theorem Tr_get_bind_eq {P Q : St σ → Prop} {s : St σ} {f : St σ → LM σ β}
    (h : ∀ s', Tr G (fun st => P st ∧ st = s') (f s') Q) :
    Tr G (fun st => P st ∧ st = s) (get >>= f) Q :=
  Tr_pre (Tr_get_bind h) (fun _ h => h.1)

theorem Tr_throw_bind {P Q : St σ → Prop} (f : Fault) (k : α → LM σ β) (h : f ≠ .hang) :
    Tr G P (throw (.fault f) >>= k) Q :=
  Tr_bind (Q := fun _ => False) (Tr_throw_fault f h) fun _ => Tr_false _

theorem Tr_fail_bind (c B : Nat) (e : Err) (k : α → LM σ β) (Q : St σ → Prop) :
    Tr G (Inv_T G c B) (fail e >>= k) Q :=
  Tr_bind (Q := fun _ => False) (fail_tr c B e _) fun _ => Tr_false _

theorem Tr_hang {P Q : St σ → Prop} (h : ∀ st, P st → G.T → False) :
    Tr G P (throw (.fault .hang) : LM σ α) Q := fun st hp hT => (h st hp hT).elim

theorem Tr_get_bind_inv {c B : Nat} {Q : St σ → Prop} {f : St σ → LM σ β}
    (h : ∀ s, Inv_T G c B s → Tr G (Inv_T G c B) (f s) Q) : Tr G (Inv_T G c B) (get >>= f) Q :=
  Tr_get_bind fun s => Tr_assume (Inv_T G c B s) (fun st h => by obtain ⟨h1, hs⟩ := h; subst hs; exact h1)
    fun hs => Tr_pre (h s hs) (fun _ h => h.1)

theorem Tr_set_keep {c B : Nat} {s s' : St σ}
    (e : (s'.src, s'.frame, s'.bits, s'.inbuf, s'.inputEnd) = (s.src, s.frame, s.bits, s.inbuf, s.inputEnd)) :
    Tr G (fun st => Inv_T G c B st ∧ st = s) (set s' : LM σ PUnit) (Inv_T G c B) :=
  Tr_set _ fun st h => by
    obtain ⟨hI, hs⟩ := h
    subst hs
    exact hI.keep e

theorem Tr_set_bind_pure {P Q : St σ → Prop} {c B : Nat} {s s' : St σ} {k : PUnit → LM σ β}
    (hs : Inv_T G c B s)
    (e : (s'.src, s'.frame, s'.bits, s'.inbuf, s'.inputEnd) = (s.src, s.frame, s.bits, s.inbuf, s.inputEnd))
    (hk : ∀ u, Tr G (Inv_T G c B) (k u) Q) : Tr G P (set s' >>= k) Q :=
  Tr_bind (Tr_set _ fun _ _ => hs.keep e) hk

theorem Tr_keep {c B : Nat} (g : St σ → St σ)
    (e : ∀ st, ((g st).src, (g st).frame, (g st).bits, (g st).inbuf, (g st).inputEnd) =
      (st.src, st.frame, st.bits, st.inbuf, st.inputEnd)) :
    Tr G (Inv_T G c B) (modify g : LM σ PUnit) (Inv_T G c B) :=
  Tr_modify _ fun st h => h.keep (e st)

theorem Tr_or {P1 P2 Q : St σ → Prop} {x : LM σ α} (h1 : Tr G P1 x Q) (h2 : Tr G P2 x Q) :
    Tr G (fun st => P1 st ∨ P2 st) x Q := fun st h => h.elim (h1 st) (h2 st)

theorem readInput_tr (hS : SrcOk G S) (c B L : Nat) :
    Tr G (fun st => Inv_T G c B st ∧ st.bits.length = L) (readInput S)
      (fun st => Inv_T G c B st ∧ st.bits.length = L ∧ st.inbuf ≠ []) := by
  intro st ⟨hI, hL⟩
  unfold readInput
  simp only [run'_bind, run'_get]
  rcases hr : S.read st.src st.inbufSize with f | ⟨got, src⟩
  · simp only [run'_throw, Post_T]
    intro hT hh; subst hh; exact (hS.fin hT).no_hang _ _ hr
  · have hfwd : G.R G.s0 src := hS.trans _ _ _ hI.fwd (hS.step _ _ _ _ hr)
    simp only []
    cases got with
    | none => simp only [run'_bind, run'_set, run'_throw, Post_T]; exact hfwd
    | some got =>
      cases got with
      | nil =>
        simp only []
        cases he : st.inputEnd with
        | true => simp only [if_true, run'_bind, run'_set, run'_throw, Post_T]; exact hfwd
        | false =>
          simp only [Bool.false_eq_true, if_false, run'_set, Post_T]
          refine ⟨⟨hfwd, hI.frame, fun hT => ?_⟩, hL, by simp⟩
          have h1 := hI.le hT
          have h2 := (hS.fin hT).read_le _ _ _ _ hr
          simp only [M, he, Bool.false_eq_true, if_false, if_true, List.length_cons, List.length_nil] at h1 h2 ⊢
          omega
      | cons b rest =>
        simp only [run'_set, Post_T]
        refine ⟨⟨hfwd, hI.frame, fun hT => ?_⟩, hL, by simp⟩
        have h1 := hI.le hT
        have h2 := (hS.fin hT).read_le _ _ _ _ hr
        simp only [M] at h1 ⊢
        simp only [List.length_cons] at h2 ⊢
        omega

theorem nextByte_tr (hS : SrcOk G S) (c B L : Nat) :
    Tr G (fun st => Inv_T G c B st ∧ st.bits.length = L) (nextByte S)
      (fun st => Inv_T G (c + 8) B st ∧ st.bits.length = L) := by
  unfold nextByte
  refine Tr_get_bind fun s0 => ?_
  refine Tr_ite_jp (Q1 := fun st => Inv_T G c B st ∧ st.bits.length = L) (fun _ => ?_) (fun _ _ h => h.1) fun _ => ?_
  · exact Tr_weaken (readInput_tr S hS c B L) (fun _ h => h.1) (fun _ h => ⟨h.1, h.2.1⟩)
  · refine Tr_get_bind fun s => ?_
    split
    · next b rest hb =>
      refine Tr_bind (Q := fun st => Inv_T G (c + 8) B st ∧ st.bits.length = L) ?_ fun _ => Tr_pure _ _
      refine Tr_set _ fun st ⟨⟨hI, hL⟩, hs⟩ => ?_
      subst hs
      exact ⟨hI.step rfl rfl (by simp only [M, hb, List.length_cons]; omega), hL⟩
    · exact Tr_throw_fault _ (by simp)

theorem ensureBits_tr (hS : SrcOk G S) (c B n : Nat) : ∀ k : Nat,
    Tr G (fun st => Inv_T G c B st ∧ n ≤ st.bits.length + 16 * k) (ensureBits S n k)
      (fun st => Inv_T G c B st ∧ n ≤ st.bits.length) := by
  intro k
  induction k with
  | zero =>
    rw [ensureBits]
    refine Tr_get_bind fun s => Tr_ite (fun hc => ?_) (fun hc => ?_)
    · intro st ⟨⟨_, hn⟩, hs⟩; subst hs; omega
    · exact Tr_pure' _ (fun st h => ⟨h.1.1, by have := h.2; subst this; omega⟩)
  | succ k ih =>
    rw [ensureBits]
    refine Tr_get_bind fun s => Tr_ite (fun hc => ?_) (fun hc => ?_)
    · refine Tr_assume (n ≤ s.bits.length + 16 * (k + 1)) ?_ (fun hn => ?_)
      · intro st ⟨⟨_, hn⟩, hs⟩; subst hs; exact hn
      refine Tr_bind (Tr_pre (nextByte_tr S hS c B s.bits.length) ?_) (fun b0 => ?_)
      · intro st ⟨⟨hI, _⟩, hs⟩; subst hs; exact ⟨hI, rfl⟩
      refine Tr_bind (nextByte_tr S hS (c + 8) B s.bits.length) (fun b1 => ?_)
      refine Tr_bind (Q := fun st => Inv_T G c B st ∧ n ≤ st.bits.length + 16 * k) ?_ (fun _ => ih)
      refine Tr_modify _ fun st ⟨hI, hL⟩ => ⟨hI.step rfl rfl ?_, ?_⟩
      · simp only [M, List.length_append, wordBits_length]; omega
      · simp only [List.length_append, wordBits_length]; omega
    · exact Tr_pure' _ (fun st h => ⟨h.1.1, by have := h.2; subst this; omega⟩)

/-- the call sites: fuel 3, `n ≤ 48` (the model asks for at most 17) -/
theorem ensureBits3_tr (hS : SrcOk G S) (c B n : Nat) (hn : n ≤ 48) :
    Tr G (Inv_T G c B) (ensureBits S n 3) (fun st => Inv_T G c B st ∧ n ≤ st.bits.length) :=
  Tr_pre (ensureBits_tr S hS c B n 3) (fun _ h => ⟨h, by omega⟩)

theorem ensureBits3_tr' (hS : SrcOk G S) (c B n : Nat) (hn : n ≤ 48) :
    Tr G (Inv_T G c B) (ensureBits S n 3) (Inv_T G c B) :=
  Tr_post (ensureBits3_tr S hS c B n hn) (fun _ h => h.1)

theorem removeBits_le (c B n k : Nat) (hk : k ≤ n) :
    Tr G (fun st => Inv_T G c B st ∧ k ≤ st.bits.length) (removeBits n : LM σ Unit) (Inv_T G (c + k) B) :=
  Tr_modify _ fun st ⟨h, hl⟩ => h.step rfl rfl (by simp only [M, List.length_drop]; omega)

theorem removeBits_tr (c B n : Nat) : Tr G (Inv_T G c B) (removeBits n : LM σ Unit) (Inv_T G c B) :=
  Tr_pre (removeBits_le c B n 0 (Nat.zero_le _)) fun _ h => ⟨h, Nat.zero_le _⟩

theorem removeBits_strict (c B n : Nat) :
    Tr G (fun st => Inv_T G c B st ∧ n ≤ st.bits.length) (removeBits n : LM σ Unit) (Inv_T G (c + n) B) :=
  removeBits_le c B n n (Nat.le_refl _)

theorem peekBits_tr (P : St σ → Prop) (n : Nat) : Tr G P (peekBits n : LM σ Nat) P := by
  unfold peekBits
  exact Tr_get_bind fun s => Tr_pure' _ (fun _ h => h.1)

theorem readBits_strict (hS : SrcOk G S) (c B n : Nat) (hn : n ≤ 48) :
    Tr G (Inv_T G c B) (readBits S n) (Inv_T G (c + n) B) := by
  unfold readBits
  refine Tr_bind (ensureBits3_tr S hS c B n hn) fun _ => ?_
  refine Tr_bind (peekBits_tr _ n) fun _ => ?_
  exact Tr_bind (removeBits_strict c B n) fun _ => Tr_pure _ _

theorem readBits_tr (hS : SrcOk G S) (c B n : Nat) (hn : n ≤ 48) :
    Tr G (Inv_T G c B) (readBits S n) (Inv_T G c B) :=
  Tr_post (readBits_strict S hS c B n hn) (Inv_T.mono (Nat.le_add_right _ _))

theorem readHuffSym_strict (hS : SrcOk G S) (c B : Nat) (tbl : Option Huff.Canon) (name : String) :
    Tr G (Inv_T G c B) (readHuffSym S tbl name) (Inv_T G (c + 1) B) := by
  unfold readHuffSym
  refine Tr_bind (ensureBits3_tr' S hS c B 16 (by omega)) fun _ => ?_
  split
  · exact Tr_throw_fault _ (by simp)
  · next cn =>
    refine Tr_get_bind fun s => ?_
    split
    · next sym len hd =>
      have hl := Huff.decode_len _ _ _ _ hd
      refine Tr_bind (Tr_weaken (removeBits_strict c B len) ?_ (Inv_T.mono (by omega))) fun _ => Tr_pure _ _
      intro st ⟨hI, hs⟩; subst hs; exact ⟨hI, hl.2⟩
    · exact Tr_pre (fail_tr c B _ _) fun _ h => h.1

theorem readHuffSym_tr (hS : SrcOk G S) (c B : Nat) (tbl : Option Huff.Canon) (name : String) :
    Tr G (Inv_T G c B) (readHuffSym S tbl name) (Inv_T G c B) :=
  Tr_post (readHuffSym_strict S hS c B tbl name) (Inv_T.mono (Nat.le_succ _))

theorem e8Loop_no_hang (dataend : Nat) (filesize : Int) : ∀ (fuel p : Nat) (curpos : Int) (buf : Array UInt8),
    dataend ≤ p + fuel → e8Loop dataend filesize fuel p curpos buf ≠ .error .hang := by
  intro fuel p curpos buf hf
  rcases e8Loop_cases dataend filesize fuel p curpos buf rfl with ⟨_, h, _⟩ | ⟨_, h⟩ | ⟨h, _⟩
  · rw [h]; nofun
  · omega
  · rw [h]; nofun

theorem e8Loop_no_hang0 (n : Nat) (filesize curpos : Int) (buf : Array UInt8) (f : Fault)
    (h : e8Loop (n - 10) filesize n 0 curpos buf = .error f) : f ≠ .hang := by
  intro hf
  subst hf
  exact e8Loop_no_hang _ _ _ _ _ _ (by omega) h

theorem nextByte_tr' (hS : SrcOk G S) (c B : Nat) : Tr G (Inv_T G c B) (nextByte S) (Inv_T G c B) :=
  fun st h => Tr_post (nextByte_tr S hS c B st.bits.length) (fun s hs => Inv_T.mono (Nat.le_add_right _ _) s hs.1)
    st ⟨h, rfl⟩

theorem readInput_tr' (hS : SrcOk G S) (c B : Nat) : Tr G (Inv_T G c B) (readInput S) (Inv_T G c B) :=
  fun st h => Tr_post (readInput_tr S hS c B st.bits.length) (fun _ hs => hs.1) st ⟨h, rfl⟩

theorem getLen_tr (P : St σ → Prop) (t : Tree) (x : Nat) : Tr G P (getLen t x : LM σ Nat) P := by
  unfold getLen
  refine Tr_get_bind' fun s => ?_
  cases t <;> (dsimp only; split <;> first | exact Tr_pure _ _ | exact Tr_throw_fault _ (by simp))

theorem setLen_tr (c B : Nat) (t : Tree) (x : Nat) (v : UInt8) :
    Tr G (Inv_T G c B) (setLen t x v : LM σ Unit) (Inv_T G c B) := by
  unfold setLen
  refine Tr_get_bind fun s => ?_
  split
  all_goals exact Tr_dite (fun _ => Tr_set_keep rfl) fun _ => Tr_throw_fault _ (by simp)

theorem fillLens_tr (c B : Nat) (t : Tree) (v : UInt8) : ∀ y x : Nat,
    Tr G (Inv_T G c B) (fillLens t v y x : LM σ Unit) (Inv_T G c B) := by
  intro y
  induction y with
  | zero => intro x; rw [fillLens]; exact Tr_pure _ _
  | succ y ih => intro x; rw [fillLens]; exact Tr_bind (setLen_tr c B t x v) fun _ => ih _

theorem winCopy_tr (c B n src dst : Nat) : Tr G (Inv_T G c B) (winCopy n src dst : LM σ Unit) (Inv_T G c B) := by
  intro st hI
  unfold winCopy
  simp only [run'_bind, run'_modifyGet]
  rcases hc : copyFwd n src dst st.window with f | w
  · simp only [run'_throw, Post_T]
    intro _; exact (copyFwd_fits ..).no_hang hc
  · simp only [run'_pure, Post_T]
    exact hI.keep rfl

theorem putLiteral_tr (c B : Nat) (b : UInt8) : Tr G (Inv_T G c B) (putLiteral b : LM σ Unit) (Inv_T G c B) := by
  intro st hI
  unfold putLiteral
  simp only [run'_bind, run'_modifyGet]
  by_cases h : st.windowPosn < st.window.size
  · simp only [h, dite_true, Bool.not_true, Bool.false_eq_true, if_false, run'_pure, Post_T]
    exact hI.keep rfl
  · simp only [h, dite_false, Bool.not_false, if_true, run'_throw, Post_T]
    intro _; simp
theorem extraBits_le : ∀ e ∈ lzxExtraBits, e ≤ 17 := by decide

theorem extraBitsArr_le (slot e : Nat) (h : extraBitsArr[slot]? = some e) : e ≤ 17 := by
  apply extraBits_le
  have := Array.mem_of_getElem? h
  simpa [extraBitsArr] using this

theorem copyRaw_aux (hS : SrcOk G S) (B : Nat) : ∀ (fuel c dest r : Nat), (G.T → B + 1 ≤ fuel + c) →
    Tr G (fun st => Inv_T G c B st ∧ (st.inbuf = [] → G.T → B + 2 ≤ fuel + c)) (copyRaw S fuel dest r)
      (fun st => Inv_T G c B st ∧ (0 < r → Inv_T G (c + 1) B st)) := by
  intro fuel
  induction fuel with
  | zero =>
    intro c dest r hf
    rw [copyRaw]
    exact Tr_hang fun st h hT => by have := h.1.le hT; have := hf hT; omega
  | succ fuel ih =>
    intro c dest r hf
    rw [copyRaw]
    refine Tr_ite (fun hr => ?_) (fun hr => ?_)
    · exact Tr_pure' _ fun st h => ⟨h.1, fun h0 => by omega⟩
    refine Tr_get_bind fun s => Tr_ite (fun he => ?_) (fun he => ?_)
    · -- refill
      refine Tr_assume (G.T → B + 2 ≤ fuel + 1 + c) ?_ fun hf2 => ?_
      · intro st ⟨⟨_, h2⟩, hs⟩
        subst hs
        exact h2 (by simpa using he)
      refine Tr_bind (Tr_pre (readInput_tr S hS c B s.bits.length) ?_) fun _ => ?_
      · intro st ⟨⟨hI, _⟩, hs⟩; subst hs; exact ⟨hI, rfl⟩
      refine Tr_pre (ih c dest r (fun hT => by have := hf2 hT; omega)) ?_
      intro st ⟨hI, _, hne⟩
      exact ⟨hI, fun h => absurd h hne⟩
    · -- take `min (bytes buffered) this_run` bytes
      intro st ⟨⟨hI, _⟩, hs⟩
      subst hs
      simp only [run'_bind, run'_modifyGet]
      rcases hw : writeBytes (List.take (min st.inbuf.length r) st.inbuf) dest st.window with f | w
      · simp only [run'_throw, Post_T]
        intro _; exact (writeBytes_fits ..).no_hang hw
      · simp only []
        have hlen : 0 < st.inbuf.length := by
          cases hb : st.inbuf with
          | nil => simp [hb] at he
          | cons a t => simp
        refine Tr_post (ih (c + 8) _ _ (fun hT => by have := hf hT; omega)) ?_ _ ⟨?_, ?_⟩
        · intro st' h
          exact ⟨Inv_T.mono (by omega) _ h.1, fun _ => Inv_T.mono (by omega) _ h.1⟩
        · exact hI.step rfl rfl (by simp only [M, List.length_drop]; omega)
        · intro _ hT
          have := hf hT
          omega

theorem copyRaw_tr (hS : SrcOk G S) (B fuel c dest r : Nat) (hf : G.T → B + 2 ≤ fuel + c) :
    Tr G (Inv_T G c B) (copyRaw S fuel dest r) (fun st => Inv_T G c B st ∧ (0 < r → Inv_T G (c + 1) B st)) :=
  Tr_pre (copyRaw_aux S hS B fuel c dest r (fun hT => by have := hf hT; omega)) (fun _ h => ⟨h, fun _ => hf⟩)



/-! A join point of a `do` block (`have __do_jp := …`) is named (`extract_lets`) and verified once.  `Tr` is sealed
here: applied to all its arguments a lemma about `Tr` has a type that unfolds to `∀ st, …`, and the elaborator,
looking for optional parameters there, would run the program symbolically. -/
section
seal Tr

theorem copyMatch_tr (c B : Nat) (ctx : RunCtx) (mo ml : Nat) :
    Tr G (Inv_T G c B) (copyMatch ctx mo ml : LM σ Unit) (Inv_T G c B) := by
  unfold copyMatch
  have wc := winCopy_tr (G := G) c B
  have fin : ∀ _ : Unit, Tr G (Inv_T G c B) _ (Inv_T G c B) := fun _ =>
    Tr_keep (fun st : St σ => { st with windowPosn := st.windowPosn + ml }) fun _ => rfl
  refine Tr_get_bind' fun s => Tr_ite_fail <| Tr_ite (fun _ => ?_) fun _ => Tr_bind (wc _ _ _) fin
  refine Tr_ite_fail <| Tr_ite_fail <| Tr_ite (fun _ => Tr_throw_bind _ _ (by simp)) fun _ => ?_
  exact Tr_ite (fun _ => Tr_bind (wc _ _ _) fun _ => Tr_bind (wc _ _ _) fin) fun _ => Tr_bind (wc _ _ _) fin

theorem readExtraLen_tr (hS : SrcOk G S) (c B : Nat) : Tr G (Inv_T G c B) (readExtraLen S) (Inv_T G c B) := by
  unfold readExtraLen
  have rb : ∀ n, n ≤ 48 → Tr G (Inv_T G c B) (readBits S n) (Inv_T G c B) := readBits_tr S hS c B
  have rm := removeBits_tr (G := G) c B
  have pk := peekBits_tr (G := G) (Inv_T G c B)
  refine Tr_bind (ensureBits3_tr' S hS c B 3 (by omega)) fun _ => ?_
  refine Tr_bind (pk 1) fun _ => Tr_ite (fun _ => Tr_bind (rm 1) fun _ => rb 8 (by omega)) fun _ => ?_
  refine Tr_bind (pk 2) fun _ => Tr_ite (fun _ => ?_) fun _ => Tr_bind (pk 3) fun _ => Tr_ite (fun _ => ?_) fun _ => ?_
  · exact Tr_bind (rm 2) fun _ => Tr_bind (rb 10 (by omega)) fun _ => Tr_pure _ _
  · exact Tr_bind (rm 3) fun _ => Tr_bind (rb 12 (by omega)) fun _ => Tr_pure _ _
  · exact Tr_bind (rm 3) fun _ => rb 15 (by omega)

theorem readOffset_tr (hS : SrcOk G S) (c B : Nat) (ctx : RunCtx) (slot : Nat) :
    Tr G (Inv_T G c B) (readOffset S ctx slot) (Inv_T G c B) := by
  unfold readOffset
  extract_lets jpM jpA jpE
  have rb : ∀ n, n ≤ 17 → Tr G (Inv_T G c B) (readBits S n) (Inv_T G c B) :=
    fun n h => readBits_tr S hS c B n (by omega)
  have hM : ∀ mo, Tr G (Inv_T G c B) (jpM mo) (Inv_T G c B) := fun mo =>
    Tr_bind (Tr_keep _ fun _ => rfl) fun _ => Tr_pure _ mo
  have hA : ∀ mo, Tr G (Inv_T G c B) (jpA mo) (Inv_T G c B) := fun mo =>
    Tr_bind (readHuffSym_tr S hS c B _ _) fun ab => Tr_pure_bind (hM _)
  have hE : ∀ e, e ≤ 17 → Tr G (Inv_T G c B) (jpE e) (Inv_T G c B) := fun e he => by
    unfold jpE
    cases positionBaseArr[slot]? with
    | none => exact Tr_throw_bind _ _ (by simp)
    | some b =>
      refine Tr_pure_bind (Tr_ite (fun _ => Tr_ite (fun _ => ?_) fun _ => Tr_pure_bind (hA _)) fun _ =>
        Tr_ite (fun _ => ?_) fun _ => Tr_pure_bind (hM _))
      · exact Tr_bind (rb _ (by omega)) fun _ => Tr_pure_bind (hA _)
      · exact Tr_bind (rb _ he) fun _ => Tr_pure_bind (hM _)
  refine Tr_ite (fun _ => Tr_pure_bind (hE 17 (by omega))) fun _ => ?_
  split
  · next e he => exact Tr_pure_bind (hE e (extraBitsArr_le _ _ he))
  · exact Tr_throw_bind _ _ (by simp)

theorem readPretreeLens_tr (hS : SrcOk G S) (c B : Nat) : ∀ k x : Nat,
    Tr G (Inv_T G c B) (readPretreeLens S k x) (Inv_T G c B) := by
  intro k
  induction k with
  | zero => intro x; rw [readPretreeLens]; exact Tr_pure _ _
  | succ k ih =>
    intro x
    rw [readPretreeLens]
    exact Tr_bind (readBits_tr S hS c B 4 (by omega)) fun _ => Tr_get_bind_inv fun st hst =>
      Tr_dite (fun _ => Tr_set_bind_pure hst rfl fun _ => ih _) fun _ => Tr_throw_bind _ _ (by simp)

theorem readAlignedLens_tr (hS : SrcOk G S) (c B : Nat) : ∀ k x : Nat,
    Tr G (Inv_T G c B) (readAlignedLens S k x) (Inv_T G c B) := by
  intro k
  induction k with
  | zero => intro x; rw [readAlignedLens]; exact Tr_pure _ _
  | succ k ih =>
    intro x
    rw [readAlignedLens]
    exact Tr_bind (readBits_tr S hS c B 3 (by omega)) fun _ => Tr_get_bind_inv fun st hst =>
      Tr_dite (fun _ => Tr_set_bind_pure hst rfl fun _ => ih _) fun _ => Tr_throw_bind _ _ (by simp)

theorem readRaw_tr (hS : SrcOk G S) (c B : Nat) : ∀ (k : Nat) (acc : Bytes),
    Tr G (Inv_T G c B) (readRaw S k acc) (Inv_T G c B) := by
  intro k
  induction k with
  | zero => intro acc; rw [readRaw]; exact Tr_pure _ _
  | succ k ih => intro acc; rw [readRaw]; exact Tr_bind (nextByte_tr' S hS c B) fun _ => ih _

theorem readLensLoop_tr (hS : SrcOk G S) (B : Nat) (t : Tree) (pre : Huff.Canon) (last : Nat) :
    ∀ (fuel c x : Nat), (G.T → B + 1 ≤ fuel + c) →
      Tr G (Inv_T G c B) (readLensLoop S t pre last fuel x) (Inv_T G c B) := by
  intro fuel
  induction fuel with
  | zero =>
    intro c x hf
    rw [readLensLoop]
    exact Tr_hang fun st h hT => by have := h.le hT; have := hf hT; omega
  | succ fuel ih =>
    intro c x hf
    rw [readLensLoop]
    refine Tr_ite (fun _ => ?_) (fun _ => Tr_pure _ _)
    refine Tr_post (Q := Inv_T G (c + 1) B) ?_ (Inv_T.mono (Nat.le_succ _))
    refine Tr_bind (readHuffSym_strict S hS c B _ _) fun z => ?_
    have ih' : ∀ x, Tr G (Inv_T G (c + 1) B) (readLensLoop S t pre last fuel x) (Inv_T G (c + 1) B) :=
      fun x => ih (c + 1) x (fun hT => by have := hf hT; omega)
    have rb : ∀ n, n ≤ 48 → Tr G _ (readBits S n) _ := readBits_tr S hS (c + 1) B
    have fl := fillLens_tr (G := G) (c + 1) B t
    have gl := getLen_tr (G := G) (Inv_T G (c + 1) B) t
    refine Tr_ite (fun _ => ?_) fun _ => Tr_ite (fun _ => ?_) fun _ => Tr_ite (fun _ => ?_) fun _ => ?_
    · exact Tr_bind (rb 4 (by omega)) fun _ => Tr_bind (fl _ _ _) fun _ => ih' _
    · exact Tr_bind (rb 5 (by omega)) fun _ => Tr_bind (fl _ _ _) fun _ => ih' _
    · exact Tr_bind (rb 1 (by omega)) fun _ => Tr_bind (readHuffSym_tr S hS _ B _ _) fun _ =>
        Tr_bind (gl _) fun _ => Tr_bind (fl _ _ _) fun _ => ih' _
    · exact Tr_bind (gl _) fun _ => Tr_bind (setLen_tr _ B t _ _) fun _ => ih' _

theorem readLengths_tr (hS : SrcOk G S) (c B fuel : Nat) (hf : G.T → B + 1 ≤ fuel + c) (t : Tree)
    (first last : Nat) : Tr G (Inv_T G c B) (readLengths S fuel t first last) (Inv_T G c B) := by
  unfold readLengths
  refine Tr_bind (readPretreeLens_tr S hS c B _ _) fun _ => Tr_get_bind' fun s => ?_
  split
  · exact fail_tr _ _ _ _
  · exact readLensLoop_tr S hS B t _ last fuel c first hf

theorem Tr_modify_clearBits {c B : Nat} :
    Tr G (Inv_T G c B) (modify (fun st => { st with bits := [] }) : LM σ PUnit) (Inv_T G c B) :=
  Tr_modify _ fun st h => h.step rfl rfl (by simp only [M, List.length_nil]; omega)

section
variable (hS : SrcOk G S) (c B fuel : Nat) (hf : G.T → B + 1 ≤ fuel + c)
include hS hf

theorem hdrLength_tr : Tr G (Inv_T G c B) (hdrLength S fuel) (Inv_T G c B) := by
  unfold hdrLength
  refine Tr_bind (readLengths_tr S hS c B fuel hf _ _ _) fun _ => Tr_bind (Tr_keep _ fun _ => rfl) fun _ =>
    Tr_get_bind' fun s => ?_
  extract_lets ll
  split
  · exact Tr_keep _ fun _ => rfl
  · exact Tr_bind (Tr_keep _ fun _ => rfl) fun _ => Tr_ite_fail (Tr_keep _ fun _ => rfl)

theorem hdrIntel_tr : Tr G (Inv_T G c B) (hdrIntel S fuel) (Inv_T G c B) := by
  unfold hdrIntel
  exact Tr_bind (getLen_tr _ _ _) fun _ => Tr_ite_then (Tr_keep _ fun _ => rfl) (hdrLength_tr S hS c B fuel hf)

theorem hdrMain_tr : Tr G (Inv_T G c B) (hdrMain S fuel) (Inv_T G c B) := by
  unfold hdrMain
  have rl := readLengths_tr S hS c B fuel hf .main
  refine Tr_bind (rl _ _) fun _ => Tr_get_bind' fun _ => Tr_bind (rl _ _) fun _ => Tr_get_bind' fun _ => ?_
  split
  · exact Tr_bind (Tr_keep _ fun _ => rfl) fun _ => Tr_fail_bind _ _ _ _ _
  · exact Tr_bind (Tr_keep _ fun _ => rfl) fun _ => hdrIntel_tr S hS c B fuel hf

theorem hdrAligned_tr : Tr G (Inv_T G c B) (hdrAligned S fuel) (Inv_T G c B) := by
  unfold hdrAligned
  refine Tr_bind (readAlignedLens_tr S hS c B _ _) fun _ => Tr_get_bind' fun _ => ?_
  split
  · exact Tr_bind (Tr_keep _ fun _ => rfl) fun _ => Tr_fail_bind _ _ _ _ _
  · exact Tr_bind (Tr_keep _ fun _ => rfl) fun _ => hdrMain_tr S hS c B fuel hf

omit hf in
theorem hdrRaw_tr : Tr G (Inv_T G c B) (hdrRaw S) (Inv_T G c B) := by
  unfold hdrRaw
  refine Tr_bind Tr_modify_clearBits fun _ => Tr_bind (readRaw_tr S hS c B 12 []) fun buf => ?_
  split
  · exact Tr_keep _ fun _ => rfl
  · exact Tr_throw_fault _ (by simp)

theorem hdrBody_tr : Tr G (Inv_T G c B) (hdrBody S fuel) (Inv_T G (c + 1) B) := by
  unfold hdrBody
  have hf1 : G.T → B + 1 ≤ fuel + (c + 1) := fun hT => by have := hf hT; omega
  have rb : ∀ n, n ≤ 48 → Tr G _ (readBits S n) _ := readBits_tr S hS (c + 1) B
  refine Tr_bind (Q := Inv_T G (c + 1) B) (Tr_post (readBits_strict S hS c B 3 (by omega)) (Inv_T.mono (by omega)))
    fun bt => ?_
  refine Tr_bind (Tr_keep _ fun _ => rfl) fun _ => Tr_bind (rb 16 (by omega)) fun i =>
    Tr_bind (rb 8 (by omega)) fun j => Tr_bind (Tr_keep _ fun _ => rfl) fun _ => ?_
  refine Tr_ite (fun _ => Tr_ite (fun _ => hdrAligned_tr S hS _ B fuel hf1) fun _ => hdrMain_tr S hS _ B fuel hf1)
    fun _ => Tr_ite (fun _ => ?_) fun _ => fail_tr _ _ _ _
  exact Tr_bind (Tr_keep _ fun _ => rfl) fun _ => Tr_get_bind' fun _ =>
    Tr_ite_then (ensureBits3_tr' S hS _ B 16 (by omega)) (hdrRaw_tr S hS _ B)

theorem readBlockHeader_tr : Tr G (Inv_T G c B) (readBlockHeader S fuel) (Inv_T G (c + 1) B) := by
  rw [readBlockHeader_eq]
  exact Tr_get_bind' fun s => Tr_ite_then (nextByte_tr' S hS c B) (hdrBody_tr S hS c B fuel hf)
end

theorem decodeRun_tr (hS : SrcOk G S) (B : Nat) : ∀ (fuel c : Nat) (ctx : RunCtx) (r : Int),
    (G.T → B + 1 ≤ fuel + c) →
      Tr G (Inv_T G c B) (decodeRun S ctx fuel r) (fun st => Inv_T G c B st ∧ (0 < r → Inv_T G (c + 1) B st)) := by
  intro fuel
  induction fuel with
  | zero =>
    intro c ctx r hf
    rw [decodeRun]
    exact Tr_hang fun st h hT => by have := h.le hT; have := hf hT; omega
  | succ fuel ih =>
    intro c ctx r hf
    rw [decodeRun]
    refine Tr_ite (fun hr => ?_) (fun _ => ?_)
    · exact Tr_pure' _ fun st h => ⟨h, fun h0 => by omega⟩
    refine Tr_post (Q := Inv_T G (c + 1) B) ?_ (fun st h => ⟨Inv_T.mono (Nat.le_succ _) st h, fun _ => h⟩)
    have ih' : ∀ r, Tr G (Inv_T G (c + 1) B) (decodeRun S ctx fuel r) (Inv_T G (c + 1) B) :=
      fun r => Tr_post (ih (c + 1) ctx r (fun hT => by have := hf hT; omega)) (fun _ h => h.1)
    refine Tr_bind (readHuffSym_strict S hS c B _ _) fun me =>
      Tr_ite (fun _ => Tr_bind (putLiteral_tr _ B _) fun _ => ih' _) fun _ => ?_
    extract_lets me' ml slot jpL jpF
    have hL : ∀ ml, Tr G (Inv_T G (c + 1) B) (jpL ml) (Inv_T G (c + 1) B) := fun ml => by
      unfold jpL
      extract_lets ml' jpO
      have hO : ∀ mo, Tr G (Inv_T G (c + 1) B) (jpO mo) (Inv_T G (c + 1) B) := fun mo => by
        unfold jpO
        extract_lets jpC
        have hC : ∀ ml, Tr G (Inv_T G (c + 1) B) (jpC ml) (Inv_T G (c + 1) B) := fun ml =>
          Tr_bind (copyMatch_tr _ B ctx mo ml) fun _ => ih' _
        exact Tr_ite (fun _ => Tr_bind (readExtraLen_tr S hS _ B) fun _ => Tr_pure_bind (hC _))
          fun _ => Tr_pure_bind (hC _)
      refine Tr_ite (fun _ => Tr_get_bind' fun _ => Tr_pure_bind (hO _)) fun _ => Tr_ite (fun _ => ?_) fun _ =>
        Tr_ite (fun _ => ?_) fun _ => Tr_bind (readOffset_tr S hS _ B ctx slot) hO
      · exact Tr_get_bind_inv fun st hst => Tr_set_bind_pure hst rfl fun _ => Tr_pure_bind (hO _)
      · exact Tr_get_bind_inv fun st hst => Tr_set_bind_pure hst rfl fun _ => Tr_pure_bind (hO _)
    exact Tr_ite (fun _ => Tr_ite_fail <| Tr_bind (readHuffSym_tr S hS _ B _ _) fun _ => Tr_pure_bind (hL _))
      fun _ => Tr_pure_bind (hL _)

theorem blockAfter_tr {c B fuel : Nat} (ih : ∀ r, Tr G (Inv_T G c B) (blockLoop S fuel r) (Inv_T G c B))
    (r left : Int) : Tr G (Inv_T G c B) (blockAfter S fuel r left) (Inv_T G c B) := by
  unfold blockAfter
  exact Tr_ite (fun _ => Tr_get_bind' fun _ => Tr_ite_fail <| Tr_bind (Tr_keep _ fun _ => rfl) fun _ => ih _)
    fun _ => ih _

/-- the run of a round: `d` bits have been consumed when it starts, `c + 1` when it ends - either a block
    header has just been read (`d = c + 1`) or the run is not empty -/
theorem blockRest_tr (hS : SrcOk G S) (B fuel c d : Nat) (r : Int) (hr : 0 < r) (hd : c ≤ d)
    (hf : G.T → B + 2 ≤ fuel + c)
    (ih : ∀ r, Tr G (Inv_T G (c + 1) B) (blockLoop S fuel r) (Inv_T G (c + 1) B)) :
    Tr G (fun st => Inv_T G d B st ∧ (d = c → st.blockRemaining ≠ 0)) (blockRest S fuel r)
      (Inv_T G (c + 1) B) := by
  unfold blockRest
  refine Tr_get_bind fun s => Tr_assume (Inv_T G d B s ∧ (d = c → s.blockRemaining ≠ 0))
    (fun st h => by obtain ⟨h1, hs⟩ := h; subst hs; exact h1) fun hs => ?_
  extract_lets thisRun todo bt ctx wp jp
  have up : ∀ p : Prop, (0 < thisRun → p) → ∀ st, Inv_T G d B st ∧ (p → Inv_T G (d + 1) B st) →
      Inv_T G (c + 1) B st := fun p hp st h => by
    by_cases hdc : d = c
    · have h0 : 0 < thisRun := by have := hs.2 hdc; simp only [thisRun]; split <;> omega
      exact hdc ▸ h.2 (hp h0)
    · exact Inv_T.mono (by omega) st h.1
  have after : ∀ l, Tr G (Inv_T G (c + 1) B) (jp l) (Inv_T G (c + 1) B) := blockAfter_tr S ih todo
  refine Tr_bind (Q := Inv_T G d B) (Tr_set _ fun _ _ => hs.1.keep rfl) fun _ => ?_
  refine Tr_ite (fun _ => ?_) fun _ => Tr_ite (fun _ => ?_) fun _ => Tr_fail_bind _ _ _ _ _
  · exact Tr_bind (Tr_post (decodeRun_tr S hS B fuel d ctx thisRun (fun hT => by have := hf hT; omega))
      (up _ id)) after
  · exact Tr_bind (Tr_keep _ fun _ => rfl) fun _ => Tr_bind (Tr_post (copyRaw_tr S hS B fuel d wp _
      (fun hT => by have := hf hT; omega)) (up _ (by omega))) fun _ => Tr_pure_bind (after 0)

theorem blockLoop_tr (hS : SrcOk G S) (B : Nat) : ∀ (fuel c : Nat) (r : Int), (G.T → B + 3 ≤ fuel + c) →
    Tr G (Inv_T G c B) (blockLoop S fuel r) (Inv_T G c B) := by
  intro fuel
  induction fuel with
  | zero =>
    intro c r hf
    rw [blockLoop]
    exact Tr_hang fun st h hT => by have := h.le hT; have := hf hT; omega
  | succ fuel ih =>
    intro c r hf
    rw [blockLoop_eq]
    refine Tr_ite (fun _ => Tr_pure _ _) fun hr => Tr_post (Q := Inv_T G (c + 1) B) ?_ (Inv_T.mono (Nat.le_succ _))
    have hf2 : G.T → B + 2 ≤ fuel + c := fun hT => by have := hf hT; omega
    have rest := fun d hd => blockRest_tr S hS B fuel c d r (by omega) hd hf2
      fun r => ih (c + 1) r (fun hT => by have := hf hT; omega)
    refine Tr_get_bind fun s => Tr_ite_jp
      (Q1 := fun st => Inv_T G (c + 1) B st ∨ Inv_T G c B st ∧ st.blockRemaining ≠ 0) (fun _ => ?_)
      (fun hne st h => ?_) fun _ => Tr_or (Tr_pre (rest (c + 1) (by omega)) fun _ h => ⟨h, by omega⟩)
        (Tr_pre (rest c (by omega)) fun _ h => ⟨h.1, fun _ => h.2⟩)
    · exact Tr_weaken (readBlockHeader_tr S hS c B fuel (fun hT => by have := hf hT; omega))
        (fun _ h => h.1) (fun _ h => .inl h)
    · obtain ⟨hI, hs⟩ := h
      subst hs
      exact .inr ⟨hI, hne⟩

def Ctx.next (G : Ctx σ) : Ctx σ := { G with f0 := (G.f0 + 1) % 4294967296 }

theorem SrcOk.next {G : Ctx σ} {S : Src σ} (h : SrcOk G S) : SrcOk G.next S := ⟨h.step, h.trans, h.fin⟩

theorem fbWrite_tr (c B frameSize ob : Nat) :
    Tr G (Inv_T G c B) (fbWrite frameSize ob : LM σ _) (Inv_T G.next c B) := by
  unfold fbWrite
  refine Tr_get_bind_inv fun s hs => ?_
  split
  · next f hf => exact Tr_throw_fault _ ((outSlice_fits ..).no_hang hf)
  · refine Tr_bind (Q := Inv_T G.next c B) (Tr_set _ fun _ _ => ⟨hs.fwd, ?_, hs.le⟩) fun _ => Tr_pure _ _
    show (s.frame + 1) % 4294967296 = _
    rw [hs.frame]
    rfl

theorem fbE8_tr (c B frameSize ob : Nat) :
    Tr G (Inv_T G c B) (fbE8 frameSize ob : LM σ _) (Inv_T G.next c B) := by
  unfold fbE8
  have w : ∀ _ : Unit, _ := fun _ => fbWrite_tr (G := G) c B frameSize ob
  refine Tr_get_bind_inv fun s hs => Tr_ite_fail <| Tr_ite (fun _ => ?_) fun _ => Tr_set_bind_pure hs rfl w
  split
  · next f hf => exact Tr_throw_bind _ _ ((copyAcross_fits ..).no_hang hf)
  · split
    · next f hf => exact Tr_throw_bind _ _ (e8Loop_no_hang0 _ _ _ _ _ hf)
    · exact Tr_set_bind_pure hs rfl w

section
variable (hS : SrcOk G S) (c B fuel ob : Nat)
include hS

theorem fbAlign_tr (frameSize : Nat) : Tr G (Inv_T G c B) (fbAlign S frameSize ob) (Inv_T G.next c B) := by
  unfold fbAlign
  exact Tr_get_bind' fun _ => Tr_ite_then (ensureBits3_tr' S hS c B 16 (by omega)) <| Tr_get_bind' fun _ =>
    Tr_ite_then (removeBits_tr c B _) (fbE8_tr c B frameSize ob)

variable (hf : G.T → B + 3 ≤ fuel + c)
include hf

theorem fbDecode_tr : Tr G (Inv_T G c B) (fbDecode S fuel ob) (Inv_T G.next c B) := by
  unfold fbDecode
  exact Tr_get_bind' fun _ => Tr_bind (blockLoop_tr S hS B fuel c _ hf) fun _ => Tr_get_bind' fun _ =>
    Tr_ite_fail (fbAlign_tr S hS c B ob _)

theorem fbLen_tr : Tr G (Inv_T G c B) (fbLen S fuel ob) (Inv_T G.next c B) := by
  unfold fbLen
  have d := fbDecode_tr S hS c B fuel ob hf
  exact Tr_get_bind' fun _ => Tr_ite (fun _ => Tr_ite_then (readInput_tr' S hS c B) d) fun _ => d

theorem fbHeader_tr : Tr G (Inv_T G c B) (fbHeader S fuel ob) (Inv_T G.next c B) := by
  unfold fbHeader
  have rb : ∀ n, n ≤ 48 → Tr G _ (readBits S n) _ := readBits_tr S hS c B
  have l := fbLen_tr S hS c B fuel ob hf
  refine Tr_get_bind' fun _ => Tr_ite (fun _ => Tr_bind (rb 1 (by omega)) fun i => Tr_ite (fun _ =>
    Tr_bind (rb 16 (by omega)) fun _ => Tr_bind (rb 16 (by omega)) fun _ => Tr_pure_bind ?_) fun _ =>
      Tr_pure_bind ?_) fun _ => l
  all_goals exact Tr_bind (Tr_keep _ fun _ => rfl) fun _ => l

theorem fbDelta_tr : Tr G (Inv_T G c B) (fbDelta S fuel ob) (Inv_T G.next c B) := by
  unfold fbDelta
  have h := fbHeader_tr S hS c B fuel ob hf
  exact Tr_get_bind' fun _ => Tr_ite (fun _ => Tr_bind (ensureBits3_tr' S hS c B 16 (by omega)) fun _ =>
    Tr_bind (removeBits_tr c B 16) fun _ => h) fun _ => h

theorem frameBody_tr : Tr G (Inv_T G c B) (frameBody S fuel ob) (Inv_T G.next c B) := by
  rw [frameBody_eq]
  exact Tr_get_bind' fun _ => Tr_ite_then (Tr_keep _ fun _ => rfl) (fbDelta_tr S hS c B fuel ob hf)
end
end

/-- a call that reports MSPACK_ERR_OK leaves a state within the budget only given that no frame ends in
    `return lzx->error = OK`, which `Post_T` does not record -/
def FLPost (fuel : Nat) (G : Ctx σ) (B : Nat) : Except Fault (DecodeOut (St σ)) → Prop
  | .ok o => G.R G.s0 o.st.src ∧ (o.err = .ok →
      (∀ ob st st', (frameBody S fuel ob).run.run st ≠ (.error (.sys .ok), st')) → G.T → M G.rem o.st ≤ B)
  | .error f => G.T → f ≠ Fault.hang

theorem frameLoop_post (B fuel endFrame : Nat) (hE : endFrame < 4294967296) :
    ∀ (n : Nat) (G : Ctx σ) (st : St σ) (ob : Nat) (acc : Array UInt8), SrcOk G S → Inv_T G 0 B st →
      (G.T → B + 3 ≤ fuel) → endFrame ≤ st.frame + n →
        FLPost S fuel G B (frameLoop S fuel endFrame n st ob acc) := by
  have stop : ∀ (G : Ctx σ) (st : St σ) (ob : Nat) (acc : Array UInt8), Inv_T G 0 B st → FLPost S fuel G B
      (if ob ≠ 0 then .ok ⟨.decrunch, acc.toList, { st with error := .decrunch }⟩ else .ok ⟨.ok, acc.toList, st⟩) := by
    intro G st ob acc hI
    split
    · exact ⟨hI.fwd, fun he => nomatch he⟩
    · exact ⟨hI.fwd, fun _ _ hT => by have := hI.le hT; omega⟩
  intro n
  induction n with
  | zero =>
    intro G st ob acc hS hI hf hn
    rw [frameLoop, if_neg (by omega)]
    exact stop G st ob acc hI
  | succ n ih =>
    intro G st ob acc hS hI hf hn
    rw [frameLoop]
    by_cases hlt : st.frame < endFrame ∧ ¬ (st.length ≠ 0 ∧ st.offset ≥ st.length)
    · rw [if_pos hlt]
      have h := frameBody_tr S hS 0 B fuel ob (fun hT => by have := hf hT; omega) st hI
      change Post_T G _ ((frameBody S fuel ob).run.run st) at h
      rcases hr : (frameBody S fuel ob).run.run st with ⟨r, st1⟩
      rw [hr] at h
      cases r with
      | error e =>
        cases e with
        | sys e => exact ⟨h, fun he hno => absurd hr ((show e = .ok from he) ▸ hno _ _ _)⟩
        | fault f => exact h
      | ok chunk =>
        have hI' : Inv_T G.next 0 B st1 := h
        refine ih G.next st1 _ _ hS.next hI' hf ?_
        have h1 : st1.frame = (G.f0 + 1) % 4294967296 := hI'.frame
        have h2 := hI.frame
        rw [h1, ← h2, Nat.mod_eq_of_lt (by omega)]
        omega
    · rw [if_neg hlt]
      exact stop G st ob acc hI

theorem decompress_post (hS : SrcOk G S) (B fuel : Nat) (st : St σ) (n : Nat) (hI : Inv_T G 0 B st)
    (hf : G.T → B + 3 ≤ fuel) : FLPost S fuel G B (decompress S fuel st n) := by
  unfold decompress
  by_cases he : st.error ≠ .ok
  · rw [if_pos he]; exact ⟨hI.fwd, fun h => absurd h he⟩
  · rw [if_neg he]
    dsimp only
    split
    · next f hs => exact fun _ => (outSlice_fits ..).no_hang hs
    · next chunk hs =>
      split
      · exact ⟨hI.fwd, fun _ _ hT => hI.le hT⟩
      · refine frameLoop_post S B fuel _ (Nat.mod_lt _ (by omega)) _ G _ _ _ hS (hI.keep rfl) hf ?_
        dsimp only
        omega

/-- **C04 (LZX), the source only moves forward.**  For any source `S` and any reflexive, transitive
    relation `R` on source states that every `S.read` respects: the source state `lzxd_decompress`
    leaves behind is `R`-related to the one it found.  No assumption on the fuel. -/
theorem C04_lzx_src_forward (R : σ → σ → Prop) (hrefl : ∀ s, R s s) (htrans : ∀ a b c, R a b → R b c → R a c)
    (hstep : ∀ s n x s', S.read s n = .ok (x, s') → R s s')
    (fuel : Nat) (st : St σ) (n : Nat) (o : DecodeOut (St σ)) (h : decompress S fuel st n = .ok o) :
    R st.src o.st.src := by
  let G : Ctx σ := ⟨False, R, st.src, fun _ => 0, st.frame⟩
  have hS : SrcOk G S := ⟨hstep, htrans, fun h => h.elim⟩
  have := decompress_post S hS 0 fuel st n ⟨hrefl _, rfl, fun h => h.elim⟩ (fun h => h.elim)
  rw [h] at this
  exact this.1

theorem decompress_post_M (rem : σ → Nat) (hS : Src.Finite S rem) (fuel : Nat) (st : St σ) (n : Nat)
    (hf : M rem st + 3 ≤ fuel) :
    FLPost S fuel ⟨True, fun _ _ => True, st.src, rem, st.frame⟩ (M rem st) (decompress S fuel st n) :=
  decompress_post S ⟨fun _ _ _ _ _ => trivial, fun _ _ _ _ _ => trivial, fun _ => hS⟩ (M rem st) fuel st n
    ⟨trivial, rfl, fun _ => Nat.le_refl _⟩ (fun _ => hf)

theorem Term2.no_hang_M (rem : σ → Nat) (hS : Src.Finite S rem) (fuel : Nat) (st : St σ) (n : Nat)
    (hf : M rem st + 3 ≤ fuel) : decompress S fuel st n ≠ .error .hang := by
  have := decompress_post_M S rem hS fuel st n hf
  intro h
  rw [h] at this
  exact this trivial rfl

/-- `M` at its largest (the 16 made-up bits) plus the 3 that `blockLoop_tr` asks for -/
def fuelBound (rem : σ → Nat) (st : St σ) : Nat :=
  st.bits.length + 8 * st.inbuf.length + 8 * rem st.src + 19

/-- **C04 (LZX), no hang.**  Over a finite source (`Src.Finite S rem`), from any decoder state,
    `lzxd_decompress` does not run out of fuel when given
    `bits buffered + 8 * (bytes buffered + bytes the source can still deliver) + 19` units. -/
theorem C04_lzx_no_hang (rem : σ → Nat) (hS : Src.Finite S rem) (fuel : Nat) (st : St σ) (n : Nat)
    (hf : fuelBound rem st ≤ fuel) : decompress S fuel st n ≠ .error .hang := by
  refine Term2.no_hang_M S rem hS fuel st n ?_
  simp only [fuelBound] at hf
  simp only [M]
  split <;> omega

end MsPack.Lzx

namespace MsPack

/-- non-vacuity: the file-backed source `Rd.src`, any decoder state -/
example (fuel : Nat) (st : Lzx.St Rd) (n : Nat) (hf : Lzx.fuelBound Rd.left st ≤ fuel) :
    Lzx.decompress Rd.src fuel st n ≠ .error .hang :=
  Lzx.C04_lzx_no_hang Rd.src Rd.left Rd.src_finite fuel st n hf

end MsPack
