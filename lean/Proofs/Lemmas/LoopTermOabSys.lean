import Proofs.Lemmas.LoopTermSys
import Proofs.Lemmas.OabApiWalk
/-!
# OAB over `Sys.M`: `copy_fh` and the two block loops never run out of fuel

The LZX block decoder is a parameter of the effect model (`Body`); it has no out-of-fuel outcome of
its own.  What the loops need of it (`BodyFwd`): it does not give the input handle more to read than
it had (it reads forward; it does not seek back, and does not put a longer file under the handle).
Measure: `Sys.inLeft w inFh`, the bytes the input handle can still deliver — every `copy_fh` round
that goes round again has read `run ≥ 1` bytes, every block-loop round a 16-byte header.
-/
namespace MsPack.Sys

theorem read_nextId (id n : Nat) (w : World) : (read id n w).2.nextId = w.nextId := by
  unfold read
  simp only [tick]
  split
  · rfl
  · split
    · rfl
    · split <;> rfl

theorem openRead_inLeft_ne (name : String) (w : World) (fh : Nat) (hne : fh ≠ w.nextId) :
    inLeft (open_ name .read w).2 fh = inLeft w fh := by
  unfold open_
  simp only [tick]
  split
  · rfl
  · split
    · rfl
    · simp only [inLeft, findHandle, List.find?_cons]
      have : decide (w.nextId = fh) = false := by simp; omega
      simp [this]

theorem open_id (name : String) (mode : Mode) (w : World) (f : Nat) (h : (open_ name mode w).1 = some f) :
    f = w.nextId ∧ (open_ name mode w).2.nextId = w.nextId + 1 := by
  unfold open_ at h ⊢
  simp only [tick] at h ⊢
  split at h
  · cases h
  · rename_i h1
    rw [if_neg h1]
    split at h
    · cases h
    · rename_i h2
      rw [if_neg h2]
      simp only [Option.some.injEq] at h
      exact ⟨h.symm, rfl⟩

/-- the two bounds on what `fh` can still deliver: below `fuel`, which every `copy_fh` call starts from, and
    `c` below `k`, which the block loop counts its 16-byte headers against -/
def Within (fh fuel c k : Nat) (w : World) : Prop := inLeft w fh + 1 ≤ fuel ∧ inLeft w fh + c ≤ k

theorem NonInc.within {fh : Nat} {α : Type} {x : M α} (h : NonInc fh x) (fuel c k : Nat) : Pres (Within fh fuel c k) x :=
  fun w hw => by have := h w; unfold Within at *; omega

theorem read_within (fh n fuel c k : Nat) :
    Hoare (Within fh fuel c k) (read fh n) fun r => Within fh fuel ((r.getD []).length + c) k := fun w hw => by
  have := read_inLeft fh n w fh
  rw [if_pos rfl] at this
  unfold Within at *; omega

theorem Within.mono {fh fuel c k c' k' : Nat} {w : World} (h : Within fh fuel c k w) (hc : c' + k ≤ c + k') :
    Within fh fuel c' k' w := by unfold Within at *; omega

end MsPack.Sys

namespace MsPack.Oab.Api
open MsPack.Sys

/-- what the loops need of the LZX block decoder body -/
def BodyFwd (body : Body) : Prop := ∀ (a : LzxArgs) (inFh outFh : Nat), NonInc inFh (body a inFh outFh)

theorem copyFh_good (inFh : Nat) (outFh : Option Nat) {bufSize : Nat} (hb : 1 ≤ bufSize) (fuel todo c k : Nat) :
    Hoare (Within inFh fuel c k) (copyFh inFh outFh bufSize fuel todo) fun r w => r ≠ none ∧ Within inFh fuel c k w :=
  (copyFh_walk (I := fun n w => inLeft w inFh + 1 ≤ n ∧ Within inFh fuel c k w) inFh outFh bufSize
    (fun n run hrun w h => by
      have h1 := read_left inFh run 1 (n + 1) w h.1
      have h2 := (NonInc.read inFh inFh run).within fuel c k w h.2
      have h3 := (NonInc.read inFh inFh run) w
      exact ⟨⟨by have := h.1; omega, h2⟩, fun got hr hl => ⟨by
        rw [hr] at h1; simp only [Option.getD_some] at h1
        have := hrun hb
        omega, h2⟩⟩)
    (fun n o bs _ w h => ⟨(NonInc.write inFh o bs).left 1 n w h.1, (NonInc.write inFh o bs).within fuel c k w h.2⟩)
    (fun w h => absurd h.1 (by omega)) (fun _ _ _ h => ⟨nofun, h.2⟩) fuel todo).pre fun _ h => ⟨h.1, h⟩

section
variable {inFh outFh baseFh bufSize : Nat} {fuel : Nat}

/-- `H := False`: a block's `copy_fh` calls return -/
theorem Within.blockStable {body : Body} (hB : BodyFwd body) (hb : 1 ≤ bufSize) (c k : Nat) :
    BlockStable body inFh baseFh outFh bufSize fuel (fun _ => Within inFh fuel c k) False where
  alloc := fun _ => (NonInc.alloc inFh).within fuel c k
  free := fun _ o => (NonInc.free inFh o).within fuel c k
  freeUnder := fun _ _ o => (NonInc.free inFh o).within fuel c k
  readBase := fun _ n => (NonInc.read inFh baseFh n).within fuel c k
  dec := fun _ a => (hB a inFh outFh).within fuel c k
  copy := fun _ o n _ => copyFh_good inFh o hb fuel n c k

/-- a round that goes round again has consumed its 16-byte header -/
def Stepped (inFh fuel m : Nat) (r : Round) (w : World) : Prop :=
  r ≠ .hang ∧ ∀ t, r = .next t → Within inFh fuel 16 m w

theorem round_step {block : Bytes → M Round} {n m : Nat} (hn : n = 16)
    (hblock : ∀ h, Hoare (Within inFh fuel 16 m) (block h) (RoundPost (fun _ => Within inFh fuel 16 m) False [])) :
    Hoare (Within inFh fuel 0 m)
      (do match ← read inFh n with
          | none => return .done .read none
          | some h => if h.length ≠ n then return .done .read none else block h)
      (Stepped inFh fuel m) :=
  .bind (read_within inFh n fuel 0 m) fun
    | none => .pure fun _ _ => ⟨nofun, nofun⟩
    | some h => .ite (fun _ => .pure fun _ _ => ⟨nofun, nofun⟩) fun hl =>
      ((hblock h).pre fun w hw => hw.mono (by
        have : h.length = n := Decidable.of_not_not hl
        simp only [Option.getD_some]; omega)).post fun
        | .done _ _, _, _ => ⟨nofun, nofun⟩
        | .next _, _, hg => ⟨nofun, fun _ _ => hg⟩
        | .hang, _, hg => hg.elim

theorem fullRound_step (body : Body) (hB : BodyFwd body) (blockMax targetSize m : Nat) (hb : 1 ≤ bufSize) :
    Hoare (Within inFh fuel 0 m) (fullRound body inFh outFh bufSize fuel blockMax targetSize) (Stepped inFh fuel m) :=
  round_step rfl fun _ => fullBlock_walk (Within.blockStable (baseFh := inFh) hB hb 16 m) blockMax targetSize _ _ _ _

theorem patchRound_step (body : Body) (hB : BodyFwd body) (lzxBuf blockMax targetSize m : Nat) (hb : 1 ≤ bufSize) :
    Hoare (Within inFh fuel 0 m) (patchRound body inFh baseFh outFh bufSize lzxBuf fuel blockMax targetSize)
      (Stepped inFh fuel m) :=
  round_step rfl fun _ => patchBlock_walk (Within.blockStable hB hb 16 m) lzxBuf blockMax targetSize _ _ _ _

/-- a `while (target_size)` loop with more rounds in hand than 16-byte headers left to read -/
theorem loop_no_hang {round : Nat → M Round} (hround : ∀ t m, Hoare (Within inFh fuel 0 m) (round t) (Stepped inFh fuel m))
    {loop : Nat → Nat → M (Option (Err × Option Lzx))}
    (hs : ∀ n t, loop (n + 1) t = if t = 0 then pure (some (.ok, none)) else do
      match ← round t with
      | .done e l => return some (e, l)
      | .hang => return none
      | .next t' => loop n t') :
    ∀ n t, Hoare (Within inFh fuel 1 (16 * n)) (loop n t) (fun r _ => r ≠ none) := by
  intro n
  induction n with
  | zero => intro t w h; unfold Within at h; omega
  | succ n ih =>
    intro t
    rw [hs]
    exact .ite (fun _ => .pure fun _ _ => nofun) fun _ =>
      .bind ((hround t (16 * n + 15)).pre fun w h => h.mono (by omega)) fun
        | .done _ _ => .pure fun _ _ => nofun
        | .hang => fun _ h => absurd rfl h.1
        | .next t' => (ih t').pre fun w h => (h.2 t' rfl).mono (by omega)

end

section
variable {inFh : Nat} {fuel : Nat}

theorem out_returns {α : Type} {P : World → Prop} (l : Option Lzx) (a b c d : Option Nat) (e : α) :
    Hoare P (do out l a b c d; return some e) (fun r _ => r ≠ none) :=
  .bind (.trivial _ _) fun _ => .pure fun _ _ => nofun

theorem fullRun_no_hang (body : Body) (hB : BodyFwd body) (i : Inst) (output : String) (blockMax targetSize : Nat)
    (hb : 1 ≤ i.bufSize) :
    Hoare (fun w => inLeft w inFh + 1 ≤ fuel) (fullRun body i inFh output fuel blockMax targetSize) (fun r _ => r ≠ none) :=
  .bind ((NonInc.openWrite inFh output).left 1 fuel) fun
    | none => out_returns _ _ _ _ _ _
    | some _ => .bind ((NonInc.alloc inFh).left 1 fuel) fun
      | none => out_returns _ _ _ _ _ _
      | some _ =>
        .bind ((loop_no_hang (fun t m => fullRound_step body hB blockMax t m hb) (fun _ _ => fullLoop.eq_2 ..)
          fuel targetSize).pre fun w h => ⟨h, by omega⟩) fun
          | none => fun _ h => absurd rfl h
          | some _ => out_returns _ _ _ _ _ _

/-- `inFh < w.nextId`: opening the base file then leaves `inFh` alone -/
theorem patchRun_no_hang (body : Body) (hB : BodyFwd body) (i : Inst) (base output : String)
    (lzxBuf blockMax targetSize : Nat) (hb : 1 ≤ i.bufSize) :
    Hoare (fun w => inFh < w.nextId ∧ inLeft w inFh + 1 ≤ fuel)
      (patchRun body i inFh base output lzxBuf fuel blockMax targetSize) (fun r _ => r ≠ none) :=
  .bind (R := fun _ w => inLeft w inFh + 1 ≤ fuel)
    (fun w h => Nat.le_trans (Nat.le_of_eq (by rw [openRead_inLeft_ne base w inFh (by omega)])) h.2) fun
    | none => out_returns _ _ _ _ _ _
    | some _ => .bind ((NonInc.openWrite inFh output).left 1 fuel) fun
      | none => out_returns _ _ _ _ _ _
      | some _ => .bind ((NonInc.alloc inFh).left 1 fuel) fun
        | none => out_returns _ _ _ _ _ _
        | some _ =>
          .bind ((loop_no_hang (fun t m => patchRound_step body hB lzxBuf _ t m hb) (fun _ _ => patchLoop.eq_2 ..)
            fuel targetSize).pre fun w h => ⟨h, by omega⟩) fun
            | none => fun _ h => absurd rfl h
            | some _ => out_returns _ _ _ _ _ _

end

theorem decompress_no_hang (body : Body) (hB : BodyFwd body) (i : Inst) (input output : String) (fuel : Nat)
    (hb : 1 ≤ i.bufSize) (w : World) (hf : ((w.files.lookup input).getD []).length + 1 ≤ fuel) :
    (decompress body i input output fuel w).1 ≠ none :=
  (show Hoare (fun w => ((w.files.lookup input).getD []).length + 1 ≤ fuel) (decompress body i input output fuel)
      (fun r _ => r ≠ none) from
    .bind (openRead_size input 1 fuel) fun
      | none => out_returns _ _ _ _ _ _
      | some inFh =>
        .bind (((NonInc.read inFh inFh _).left 1 fuel).pre fun w h => by
          have := h inFh rfl; have := inLeft_le_inSize w inFh; omega) fun
          | none => out_returns _ _ _ _ _ _
          | some _ => .ite (fun _ => out_returns _ _ _ _ _ _) fun _ => .ite (fun _ => out_returns _ _ _ _ _ _) fun _ =>
              fullRun_no_hang body hB i output _ _ hb) w hf

theorem decompressIncremental_no_hang (body : Body) (hB : BodyFwd body) (i : Inst) (input base output : String)
    (fuel : Nat) (hb : 1 ≤ i.bufSize) (w : World) (hf : ((w.files.lookup input).getD []).length + 1 ≤ fuel) :
    (decompressIncremental body i input base output fuel w).1 ≠ none :=
  (show Hoare (fun w => ((w.files.lookup input).getD []).length + 1 ≤ fuel)
      (decompressIncremental body i input base output fuel) (fun r _ => r ≠ none) from
    .bind (R := fun o w => ∀ f, o = some f → f < w.nextId ∧ inSize w f + 1 ≤ fuel)
      (fun w h f hf => ⟨by have := open_id input .read w f hf; omega, openRead_size input 1 fuel w h f hf⟩) fun
      | none => out_returns _ _ _ _ _ _
      | some inFh =>
        .bind (R := fun _ w => inFh < w.nextId ∧ inLeft w inFh + 1 ≤ fuel) (fun w h => by
          obtain ⟨h1, h2⟩ := h inFh rfl
          have := NonInc.read inFh inFh Generated.patchheadSIZEOF w
          have := inLeft_le_inSize w inFh
          rw [read_nextId]
          exact ⟨h1, by omega⟩) fun
          | none => out_returns _ _ _ _ _ _
          | some _ => .ite (fun _ => out_returns _ _ _ _ _ _) fun _ => .ite (fun _ => out_returns _ _ _ _ _ _) fun _ =>
              patchRun_no_hang body hB i base output _ _ _ hb) w hf

end MsPack.Oab.Api
