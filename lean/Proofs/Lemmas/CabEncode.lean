import MsPack.Cab.Headers
import Proofs.Lemmas.Fields
import Proofs.Lemmas.RdFacts
/-
CAB header round trip, lemmas: the writer's layout (`encodeHeaders`), string reading, the DOS
date/time bit fields, and the folder / file entry loops of `cabd_read_headers` on that layout.
-/
namespace MsPack.Cab

theorem idxOf_zero (a : Bytes) (h0 : ∀ b ∈ a, b ≠ 0) (tail : Bytes) :
    (a ++ 0 :: tail).idxOf? (0 : UInt8) = some a.length := by
  induction a with
  | nil => simp [List.idxOf?_cons]
  | cons x xs ih =>
    have hx : x ≠ 0 := h0 x (List.mem_cons_self ..)
    have := ih (fun b hb => h0 b (List.mem_cons_of_mem _ hb))
    simp only [List.cons_append, List.idxOf?_cons, beq_iff_eq, hx, ↓reduceIte, this, Option.map_some, List.length_cons]

theorem readString_spec (file : Bytes) (pos : Nat) (name rest : Bytes) (h0 : ∀ b ∈ name, b ≠ 0)
    (hl : name.length ≤ 255) (hne : name ≠ []) (hd : file.drop pos = name ++ 0 :: rest) (pe : Bool) :
    readString ⟨file, pos⟩ pe = .ok (name, ⟨file, pos + name.length + 1⟩) := by
  unfold readString
  simp only [Rd.read, hd, Rd.seekStart]
  have htake : (name ++ 0 :: rest).take 256 = name ++ 0 :: rest.take (255 - name.length) := by
    rw [List.take_append, List.take_of_length_le (by omega)]
    congr 1
    have : 256 - name.length = (255 - name.length) + 1 := by omega
    rw [this, List.take_succ_cons]
  rw [htake]
  have hlen : (name ++ 0 :: rest.take (255 - name.length)).length ≠ 0 := by simp
  rw [if_neg hlen, idxOf_zero name h0]
  have hnl : name.length ≠ 0 := fun h => hne (List.length_eq_zero_iff.mp h)
  simp only [hnl, false_and, ↓reduceIte, List.take_left']

theorem date_fields (y m d : Nat) (hy1 : 1980 ≤ y) (hy2 : y < 2108) (hm : m < 16) (hd : d < 32) :
    encDate y m d < 65536 ∧ (encDate y m d) &&& 0x1F = d ∧ ((encDate y m d) >>> 5) &&& 0xF = m ∧
    ((encDate y m d) >>> 9) + 1980 = y := by
  rw [Nat.and_two_pow_sub_one_eq_mod _ 5, Nat.and_two_pow_sub_one_eq_mod _ 4]
  unfold encDate
  omega

/-- `(x << 1) & 0x3E`: the low six bits of `2x` (bit 0 is clear anyway) -/
theorem shl1_and3E (x : Nat) : (x <<< 1) &&& 0x3E = (x * 2) % 64 := by
  apply Nat.eq_of_testBit_eq
  intro i
  have e64 : (64 : Nat) = 2 ^ 6 := rfl
  have e3 : (0x3E : Nat) = 2 * (2 ^ 5 - 1) := rfl
  rw [Nat.testBit_and, e64, Nat.testBit_mod_two_pow, Nat.shiftLeft_eq, Nat.pow_one]
  cases i with
  | zero => simp [Nat.testBit_zero, Nat.mul_mod_left]
  | succ i =>
    rw [e3, Nat.mul_comm x 2, Nat.testBit_succ, Nat.testBit_succ, Nat.mul_div_cancel_left _ (by decide : 0 < 2),
      Nat.mul_div_cancel_left _ (by decide : 0 < 2), Nat.testBit_two_pow_sub_one]
    by_cases hi : i < 5 <;> simp [hi] <;> omega

theorem time_fields (h m s : Nat) (hh : h < 32) (hm : m < 64) (hs : s < 64) (hev : s % 2 = 0) :
    encTime h m s < 65536 ∧ (encTime h m s) >>> 11 = h ∧ ((encTime h m s) >>> 5) &&& 0x3F = m ∧
    ((encTime h m s) <<< 1) &&& 0x3E = s := by
  rw [Nat.and_two_pow_sub_one_eq_mod _ 6, shl1_and3E]
  unfold encTime
  omega

theorem folder_fields (f : FolderSpec) (h : f.wf) :
    (encFolder f).length = 8 ∧ u32At (encFolder f) 0 = f.dataOff ∧ u16At (encFolder f) 4 = f.numBlocks ∧
    u16At (encFolder f) 6 = f.compType := by
  obtain ⟨h1, h2, h3⟩ := h
  simp only [encFolder, List.append_assoc, List.length_append, enc32_length, enc16_length, u16At_skip, Nat.reduceLeDiff,
    Nat.reduceSub, u16At_enc16, u16At_enc16_nil, u32At_enc32, h1, h2, h3, and_self]

theorem readFolders_spec (base : Nat) (file : Bytes) : ∀ (fs : List FolderSpec) (pos : Nat) (acc : List CFolder) (rest : Bytes),
    (∀ f ∈ fs, f.wf) → file.drop pos = fs.flatMap encFolder ++ rest →
    readFolders base 0 fs.length ⟨file, pos⟩ acc =
      .ok (acc.reverse ++ fs.map (FolderSpec.listed base), ⟨file, pos + 8 * fs.length⟩)
  | [], pos, acc, rest, _, _ => by simp [readFolders]
  | f :: fs, pos, acc, rest, hwf, hd => by
    obtain ⟨hl, f0, f4, f6⟩ := folder_fields f (hwf f (List.mem_cons_self ..))
    obtain ⟨hre, hd2⟩ := Rd.readExact_at (show file.drop pos = encFolder f ++ (fs.flatMap encFolder ++ rest) by
      rw [hd, List.flatMap_cons, List.append_assoc]) hl
    have ih := readFolders_spec base file fs (pos + 8) (FolderSpec.listed base f :: acc) rest
      (fun g hg => hwf g (List.mem_cons_of_mem _ hg)) hd2
    rw [List.length_cons, readFolders, hre]
    generalize encFolder f = buf at f0 f4 f6
    simp only [ne_eq, not_true_eq_false, ↓reduceIte, f0, f4, f6]
    rw [show ({ compType := f.compType, numBlocks := f.numBlocks, dataOffset := base + f.dataOff } : CFolder) = FolderSpec.listed base f from rfl, ih]
    simp only [List.reverse_cons, List.append_assoc, List.cons_append, List.nil_append, List.map_cons]
    congr 3; omega

theorem file_fields (f : FileSpec) (n : Nat) (h : f.wf n) :
    (encFileFixed f).length = 16 ∧ u32At (encFileFixed f) 0 = f.length ∧ u32At (encFileFixed f) 4 = f.offset ∧
    u16At (encFileFixed f) 8 = f.folder ∧ u16At (encFileFixed f) 10 = encDate f.year f.month f.day ∧
    u16At (encFileFixed f) 12 = encTime f.hour f.minute f.second ∧ u16At (encFileFixed f) 14 = f.attribs := by
  obtain ⟨_, _, _, h1, h2, _, h3, h4, y1, y2, mo, d, hh, mi, s, ev⟩ := h
  have hdate := (date_fields f.year f.month f.day y1 y2 mo d).1
  have htime := (time_fields f.hour f.minute f.second hh mi s ev).1
  have h3 : f.folder < 65536 := by omega
  simp only [encFileFixed, List.append_assoc, List.length_append, enc32_length, enc16_length, u16At_skip, u32At_skip,
    Nat.reduceLeDiff, Nat.reduceSub, u16At_enc16, u16At_enc16_nil, u32At_enc32, h1, h2, h3, h4, hdate, htime, and_self]

theorem encFile_length (f : FileSpec) : (encFile f).length = 17 + f.name.length := by
  simp only [encFile, encFileFixed, List.length_append, enc32_length, enc16_length, List.length_cons, List.length_nil]
  omega

theorem readFiles_spec (nfolders : Nat) (salvage : Bool) (file : Bytes) :
    ∀ (fs : List FileSpec) (pos : Nat) (acc : List CFile) (rest : Bytes),
    (∀ f ∈ fs, f.wf nfolders) → file.drop pos = fs.flatMap encFile ++ rest →
    ∃ r, readFiles nfolders salvage fs.length ⟨file, pos⟩ acc = .ok (acc.reverse ++ fs.map FileSpec.listed, r)
  | [], pos, acc, rest, _, _ => ⟨⟨file, pos⟩, by simp [readFiles]⟩
  | f :: fs, pos, acc, rest, hwf, hd => by
    have hw := hwf f (List.mem_cons_self ..)
    obtain ⟨hl, f0, f4, f8, f10, f12, f14⟩ := file_fields f nfolders hw
    obtain ⟨n0, nne, nl, _, _, hfo, hfo2, _, y1, y2, mo, d, hh, mi, sc, ev⟩ := hw
    obtain ⟨_, dd, dm, dy⟩ := date_fields f.year f.month f.day y1 y2 mo d
    obtain ⟨_, th, tm, ts⟩ := time_fields f.hour f.minute f.second hh mi sc ev
    obtain ⟨hre, hd2⟩ := Rd.readExact_at
      (show file.drop pos = encFileFixed f ++ (f.name ++ 0 :: (fs.flatMap encFile ++ rest)) by
        rw [hd]; simp [encFile, List.append_assoc]) hl
    have hstr := readString_spec file (pos + 16) f.name _ n0 nl nne hd2 false
    have hd3 : file.drop (pos + 16 + f.name.length + 1) = fs.flatMap encFile ++ rest := by
      have := (Rd.readExact_at (a := f.name ++ [0]) (rest := fs.flatMap encFile ++ rest) (by rw [hd2]; simp) rfl).2
      simpa [Nat.add_assoc] using this
    obtain ⟨r, ih⟩ := readFiles_spec nfolders salvage file fs (pos + 16 + f.name.length + 1) (FileSpec.listed f :: acc) rest
      (fun g hg => hwf g (List.mem_cons_of_mem _ hg)) hd3
    refine ⟨r, ?_⟩
    rw [List.length_cons, readFiles, hre]
    generalize encFileFixed f = buf at f0 f4 f8 f10 f12 f14
    have hres : resolveFolder f.folder nfolders = some f.folder := by
      simp only [resolveFolder, cffileCONTINUED_FROM_PREV, hfo2, hfo, ↓reduceIte]
    simp only [f0, f4, f8, f10, f12, f14, hres, hstr, dd, dm, dy, th, tm, ts]
    rw [show ({ name := f.name, length := f.length, attribs := f.attribs, offset := f.offset, folder := f.folder, fidx := f.folder,
                time_h := f.hour, time_m := f.minute, time_s := f.second, date_d := f.day, date_m := f.month, date_y := f.year } : CFile)
          = FileSpec.listed f from rfl, ih]
    simp only [List.reverse_cons, List.append_assoc, List.cons_append, List.nil_append, List.map_cons]

end MsPack.Cab
