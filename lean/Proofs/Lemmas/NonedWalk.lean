import MsPack.Cab.Extract
/-
`noned_decompress` (the copy loop of a stored folder) walked once.  `I` is kept by every read that delivers what was asked
for; the loop ends OK in `I` with everything asked for written, or with READ after a read that failed or came short
(`E` of the feeder then), or in a fault of a read, or out of fuel.
-/
namespace MsPack.Cab

structure NonedReads (files : Files) (I E : Feeder → Prop) (F : Fault → Prop) : Prop where
  fault : ∀ {fd n f}, I fd → (feederSrc files).read fd n = .error f → F f
  failed : ∀ {fd n fd'}, I fd → (feederSrc files).read fd n = .ok (none, fd') → E fd'
  short : ∀ {fd n got fd'}, I fd → (feederSrc files).read fd n = .ok (some got, fd') → got.length ≠ n → E fd'
  full : ∀ {fd n got fd'}, I fd → (feederSrc files).read fd n = .ok (some got, fd') → got.length = n → I fd'

theorem NonedReads.any (files : Files) : NonedReads files (fun _ => True) (fun _ => True) (fun _ => True) :=
  ⟨fun _ _ => trivial, fun _ _ => trivial, fun _ _ _ => trivial, fun _ _ _ => trivial⟩

def NonedPost (bs : Nat) (I E : Feeder → Prop) (F : Fault → Prop) (total : Nat) : Except Fault DecOut → Prop
  | .error f => f = .hang ∨ F f
  | .ok o => o.dec = .none bs o.err ∧
      ((o.err = .ok ∧ I o.feeder ∧ o.written.length = total) ∨ (o.err = .read ∧ E o.feeder ∧ o.written.length ≤ total))

theorem nonedDecompress_walk {files : Files} {I E : Feeder → Prop} {F : Fault → Prop} (R : NonedReads files I E F)
    (bs : Nat) : ∀ (fuel : Nat) (fd : Feeder) (bytes : Nat) (w : Bytes), I fd →
    NonedPost bs I E F (w.length + bytes) (nonedDecompress files bs fuel fd bytes w)
  | 0, _, _, _, _ => .inl rfl
  | fuel + 1, fd, bytes, w, hi => by
    unfold nonedDecompress
    split
    · exact ⟨rfl, .inl ⟨rfl, hi, by show w.length = _; omega⟩⟩
    dsimp only
    have hrun : (if bytes > bs then bs else bytes) ≤ bytes := by split <;> omega
    generalize (if bytes > bs then bs else bytes) = run at hrun
    split
    · exact .inr (R.fault hi ‹_›)
    · exact ⟨rfl, .inr ⟨rfl, R.failed hi ‹_›, by show w.length ≤ _; omega⟩⟩
    · rename_i got fd' hr
      split
      · exact ⟨rfl, .inr ⟨rfl, R.short hi hr ‹_›, by show w.length ≤ _; omega⟩⟩
      · have hg : got.length = run := Decidable.not_not.1 ‹_›
        have := nonedDecompress_walk R bs fuel fd' (bytes - run) (w ++ got) (R.full hi hr hg)
        rwa [List.length_append, hg, show w.length + run + (bytes - run) = w.length + bytes by omega] at this

end MsPack.Cab
