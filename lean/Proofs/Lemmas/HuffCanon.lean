import MsPack.Huff
import Proofs.Lemmas.Bits
/-!
# Canonical Huffman codes: what `Huff.mkCanon` builds and what `Huff.decode` reads

* The table: entry `l - 1` of `mkCanon lens n` holds `firstCode lens (l - 1)`, the first code of length `l` in the
  canonical numbering, and the symbols of length `l` in index order (`mkCanon_getD`).
* `decode_canon`: in the table `make_decode_table` builds from ANY accepted length vector, the word
  `firstCode (l - 1) + k` of `l` bits decodes to the `k`-th symbol of length `l`.  No shorter prefix of it is a code
  because the first code of a length is at least `2^m` times (first code + number of codes) of the length `m` bits
  shorter, which is the recurrence of `firstCode` (`firstCode_shift`); the word fits in `l` bits because the Kraft sum
  is at most 1 (`canon_lt`).  `decode_flat` is the case of `2^w` symbols of length `w`.
* `decode_complete`: if the Kraft sum over the lengths `1..n` is exactly 1, `decode (mkCanon lens n)` finds a code in
  every word of `n` bits: the first code past length `n` would be `2^(n+1)`.  `build7_complete` is the case of the 7-bit code-length table of
  `zip_read_lens`: `Huff.build 7 lens` accepts only such vectors (when no length exceeds 7, which holds for the 3-bit
  fields of the code-length code), so `bl_table[PEEK_BITS(7)]` never meets an entry that `make_decode_table` did not
  write.
-/
namespace MsPack.Huff
open MsPack.Zip (codeBits_succ shift_bit)

theorem range_map_getD (l : List Nat) : (List.range l.length).map (fun i => l.getD i 0) = l := by
  apply List.ext_getElem
  · simp
  · intro i h1 h2
    simp at h1
    simp [h1]

theorem symsOfLen_size (lens : List Nat) (l : Nat) : (symsOfLen lens l).size = lens.count l := by
  unfold symsOfLen
  rw [List.size_toArray]
  conv => rhs; rw [← range_map_getD lens]
  rw [List.count_eq_countP, List.countP_map, List.countP_eq_length_filter]
  congr 1

/-- first canonical code of length `i + 1` -/
def firstCode (lens : List Nat) : Nat → Nat
  | 0 => 0
  | i + 1 => (firstCode lens i + (symsOfLen lens (i + 1)).size) * 2

theorem mkCanon_go (lens : List Nat) : ∀ (fuel i : Nat) (first : Array Nat) (syms : Array (Array Nat)),
    (∀ j, j < i → first.getD j 0 = firstCode lens j ∧ syms.getD j #[] = symsOfLen lens (j + 1)) →
    first.size = i → syms.size = i →
    ∀ j, j < i + fuel →
      (mkCanon.go lens (i + 1) fuel (firstCode lens i) first syms).1.getD j 0 = firstCode lens j ∧
      (mkCanon.go lens (i + 1) fuel (firstCode lens i) first syms).2.getD j #[] = symsOfLen lens (j + 1) := by
  intro fuel
  induction fuel with
  | zero => intro i first syms h _ _ j hj; exact h j hj
  | succ fuel ih =>
    intro i first syms h hf hs j hj
    rw [mkCanon.go]
    refine ih (i + 1) _ _ ?_ (by rw [Array.size_push, hf]) (by rw [Array.size_push, hs]) j (by omega)
    intro k hk
    simp only [Array.getD_eq_getD_getElem?, Array.getElem?_push, hf, hs]
    by_cases hki : k = i
    · subst hki; simp
    · have := h k (by omega)
      simp only [Array.getD_eq_getD_getElem?] at this
      simp only [if_neg hki]; exact this

theorem mkCanon_getD (lens : List Nat) (n j : Nat) (hj : j < n) :
    (mkCanon lens n).first.getD j 0 = firstCode lens j ∧ (mkCanon lens n).syms.getD j #[] = symsOfLen lens (j + 1) := by
  have := mkCanon_go lens n 0 #[] #[] (fun _ h => absurd h (Nat.not_lt_zero _)) rfl rfl j (by omega)
  exact this

theorem firstCode_zero (lens : List Nat) : ∀ i, (∀ j < i, (symsOfLen lens (j + 1)).size = 0) → firstCode lens i = 0
  | 0, _ => rfl
  | i + 1, h => by rw [firstCode, firstCode_zero lens i fun j hj => h j (by omega), h i (by omega)]

theorem decode_go_len (c : Canon) : ∀ (fuel l code : Nat) (bits : List Bool) (sym len : Nat),
    decode.go c l fuel code bits = some (sym, len) → l ≤ len ∧ len + 1 ≤ l + bits.length := by
  intro fuel
  induction fuel with
  | zero => intro l code bits sym len h; simp [decode.go] at h
  | succ fuel ih =>
    intro l code bits sym len h
    cases bits with
    | nil => simp [decode.go] at h
    | cons b rest =>
      rw [decode.go] at h
      generalize (code * 2 + (if b = true then 1 else 0)) = code' at h
      split at h
      · simp only [Option.some.injEq, Prod.mk.injEq] at h
        simp only [List.length_cons]
        omega
      · have := ih _ _ _ _ _ h
        simp only [List.length_cons]
        omega

theorem decode_len (c : Canon) (bits : List Bool) (sym len : Nat) (h : decode c bits = some (sym, len)) :
    1 ≤ len ∧ len ≤ bits.length := by
  have := decode_go_len c _ _ _ _ _ _ h
  omega

theorem go_mono (c : Canon) (tail : List Bool) (r : Nat × Nat) : ∀ (fuel l code : Nat) (p : List Bool),
    decode.go c l fuel code p = some r → decode.go c l fuel code (p ++ tail) = some r := by
  intro fuel
  induction fuel with
  | zero => intro l code p h; simp [decode.go] at h
  | succ fuel ih =>
    intro l code p h
    cases p with
    | nil => simp [decode.go] at h
    | cons b p =>
      rw [List.cons_append]
      unfold decode.go at h ⊢
      dsimp only at h ⊢
      generalize code * 2 + (if b = true then 1 else 0) = code' at h ⊢
      split
      · rename_i hc; rw [if_pos hc] at h; exact h
      · rename_i hc; rw [if_neg hc] at h; exact ih _ _ _ h

theorem decode_mono (c : Canon) (p tail : List Bool) (r : Nat × Nat) (h : decode c p = some r) :
    decode c (p ++ tail) = some r := go_mono c tail r _ _ _ _ h

/-- the code `code` of length `l` is one of `c`'s -/
def Hit (c : Canon) (l code : Nat) : Prop :=
  c.first.getD (l - 1) 0 ≤ code ∧ code - c.first.getD (l - 1) 0 < (c.syms.getD (l - 1) #[]).size

theorem go_codeBits (c : Canon) (v : Nat) (tail : List Bool) : ∀ (m l fuel : Nat), m + 1 ≤ fuel →
    (∀ j < m, ¬ Hit c (l + j) (v / 2 ^ (m - j))) → Hit c (l + m) v →
    decode.go c l fuel (v / 2 ^ (m + 1)) (Deflate.codeBits (m + 1) v ++ tail) =
      some ((c.syms.getD (l + m - 1) #[]).getD (v - c.first.getD (l + m - 1) 0) 0, l + m) := by
  intro m
  induction m with
  | zero =>
    intro l fuel hf _ hh
    obtain ⟨fuel, rfl⟩ : ∃ k, fuel = k + 1 := ⟨fuel - 1, by omega⟩
    rw [codeBits_succ, List.cons_append, decode.go, shift_bit, Nat.pow_zero, Nat.div_one]
    exact if_pos hh
  | succ m ih =>
    intro l fuel hf hm hh
    obtain ⟨fuel, rfl⟩ : ∃ k, fuel = k + 1 := ⟨fuel - 1, by omega⟩
    rw [codeBits_succ, List.cons_append, decode.go, shift_bit]
    refine (if_neg (hm 0 (Nat.succ_pos _))).trans ?_
    rw [ih (l + 1) fuel (by omega)
      (fun j hj => by have := hm (j + 1) (by omega); rwa [Nat.add_sub_add_right, ← Nat.add_assoc, Nat.add_right_comm] at this)
      (by rw [Nat.add_assoc, Nat.add_comm 1 m]; exact hh), Nat.add_right_comm l 1 m]
    rfl

theorem decode_codeBits (c : Canon) (n v : Nat) (tail : List Bool) (hn : 1 ≤ n) (hm : n ≤ c.maxLen)
    (hv : v < 2 ^ n) (hmiss : ∀ j, 1 ≤ j → j < n → ¬ Hit c j (v / 2 ^ (n - j))) (hhit : Hit c n v) :
    decode c (Deflate.codeBits n v ++ tail) =
      some ((c.syms.getD (n - 1) #[]).getD (v - c.first.getD (n - 1) 0) 0, n) := by
  obtain ⟨m, rfl⟩ : ∃ m, n = m + 1 := ⟨n - 1, by omega⟩
  have := go_codeBits c v tail m 1 c.maxLen hm
    (fun j hj => by rw [Nat.add_comm 1 j]; have := hmiss (j + 1) (by omega) (by omega); rwa [Nat.add_sub_add_right] at this)
    (by rwa [Nat.add_comm] at hhit)
  rw [Nat.div_eq_of_lt hv, Nat.add_comm 1 m] at this
  exact this

theorem firstCode_shift (lens : List Nat) (j : Nat) : ∀ m,
    (firstCode lens j + (symsOfLen lens (j + 1)).size) * 2 ^ (m + 1) ≤ firstCode lens (j + m + 1)
  | 0 => by rw [Nat.add_zero, firstCode, Nat.pow_one]; exact Nat.le_refl _
  | m + 1 => by
    have := firstCode_shift lens j m
    rw [← Nat.add_assoc, firstCode, Nat.pow_succ, ← Nat.mul_assoc]
    exact Nat.mul_le_mul_right 2 (Nat.le_trans this (Nat.le_add_right _ _))

theorem decode_canon_word (lens : List Nat) (n l k : Nat) (hl : 1 ≤ l) (hln : l ≤ n)
    (hk : k < (symsOfLen lens l).size) (hv : firstCode lens (l - 1) + k < 2 ^ l) (t : List Bool) :
    decode (mkCanon lens n) (Deflate.codeBits l (firstCode lens (l - 1) + k) ++ t) =
      some ((symsOfLen lens l).getD k 0, l) := by
  obtain ⟨l, rfl⟩ : ∃ l', l = l' + 1 := ⟨l - 1, by omega⟩
  rw [Nat.add_sub_cancel] at hv ⊢
  have tab := fun j (hj : j < n) => mkCanon_getD lens n j hj
  rw [decode_codeBits (mkCanon lens n) (l + 1) _ t hl hln hv, Nat.add_sub_cancel, (tab l hln).1, (tab l hln).2,
    Nat.add_sub_cancel_left]
  · intro j hj1 hjl ⟨_, h2⟩
    obtain ⟨a, rfl⟩ : ∃ a, j = a + 1 := ⟨j - 1, by omega⟩
    obtain ⟨d, rfl⟩ : ∃ d, l = a + d + 1 := ⟨l - a - 1, by omega⟩
    rw [Nat.add_sub_cancel, (tab a (by omega)).1, (tab a (by omega)).2,
      show a + d + 1 + 1 - (a + 1) = d + 1 by omega] at h2
    have : firstCode lens a + (symsOfLen lens (a + 1)).size ≤ (firstCode lens (a + d + 1) + k) / 2 ^ (d + 1) :=
      (Nat.le_div_iff_mul_le (Nat.two_pow_pos _)).mpr (Nat.le_trans (firstCode_shift lens a d) (Nat.le_add_right _ _))
    omega
  · rw [Hit, Nat.add_sub_cancel, (tab l hln).1, (tab l hln).2, Nat.add_sub_cancel_left]
    exact ⟨Nat.le_add_right _ _, hk⟩

/-- the Kraft sum (×2^16) by code length -/
def kraftSum (lens : List Nat) : Nat → Nat
  | 0 => 0
  | k + 1 => kraftSum lens k + lens.count (k + 1) * 2 ^ (16 - (k + 1))

theorem kraftSum_cons (l : Nat) (rest : List Nat) : ∀ n,
    kraftSum (l :: rest) n = kraftSum rest n + if 1 ≤ l ∧ l ≤ n then 2 ^ (16 - l) else 0 := by
  intro n
  induction n with
  | zero => rw [if_neg (by omega)]; rfl
  | succ n ih =>
    have step : (if 1 ≤ l ∧ l ≤ n then 2 ^ (16 - l) else 0) + (if (l == n + 1) = true then 1 else 0) * 2 ^ (16 - (n + 1)) =
        if 1 ≤ l ∧ l ≤ n + 1 then 2 ^ (16 - l) else 0 := by
      by_cases h : l = n + 1
      · subst h
        rw [if_neg (by omega), beq_self_eq_true, if_pos rfl, if_pos (by omega)]
        omega
      · rw [beq_false_of_ne h, if_neg Bool.false_ne_true, Nat.zero_mul, Nat.add_zero]
        by_cases h2 : 1 ≤ l ∧ l ≤ n
        · rw [if_pos h2, if_pos (by omega)]
        · rw [if_neg h2, if_neg (by omega)]
    rw [kraftSum, kraftSum, ih, List.count_cons, Nat.add_mul, ← step]
    omega

theorem kraftSum_nil : ∀ n, kraftSum [] n = 0
  | 0 => rfl
  | n + 1 => by rw [kraftSum, kraftSum_nil n, List.count_nil, Nat.zero_mul]

theorem kraft_eq_kraftSum (lens : List Nat) (n : Nat) : kraft lens n = kraftSum lens n := by
  unfold kraft
  suffices h : ∀ acc, lens.foldl (fun acc l => if 1 ≤ l ∧ l ≤ n then acc + 2 ^ (16 - l) else acc) acc =
      acc + kraftSum lens n by rw [h, Nat.zero_add]
  induction lens with
  | nil => intro acc; rw [kraftSum_nil]; rfl
  | cons l rest ih =>
    intro acc
    rw [List.foldl_cons, ih, kraftSum_cons]
    split <;> omega

theorem kraftSum_mono (lens : List Nat) (a : Nat) : ∀ b, a ≤ b → kraftSum lens a ≤ kraftSum lens b
  | 0, h => by rw [Nat.le_zero.mp h]; exact Nat.le_refl _
  | b + 1, h => by
    by_cases hab : a = b + 1
    · rw [hab]; exact Nat.le_refl _
    · rw [kraftSum]; exact Nat.le_trans (kraftSum_mono lens a b (by omega)) (Nat.le_add_right _ _)

/-- the codes of length `≤ n` take up `firstCode n / 2^(n+1)` of the code space -/
theorem firstCode_kraft (lens : List Nat) : ∀ n, n ≤ 16 → firstCode lens n * 2 ^ (16 - n) = 2 * kraftSum lens n
  | 0, _ => by rw [firstCode, kraftSum, Nat.zero_mul]
  | n + 1, h => by
    have ih := firstCode_kraft lens n (by omega)
    rw [show 16 - n = (16 - (n + 1)) + 1 by omega, Nat.pow_succ] at ih
    rw [firstCode, kraftSum, symsOfLen_size, Nat.mul_add, ← ih, Nat.mul_assoc, Nat.mul_comm 2, Nat.add_mul,
      Nat.mul_left_comm 2, Nat.mul_comm 2 (2 ^ _)]

theorem canon_lt (lens : List Nat) (m l k : Nat) (hm : m ≤ 16) (hkr : kraft lens m ≤ 65536) (hl : 1 ≤ l) (hlm : l ≤ m)
    (hk : k < (symsOfLen lens l).size) : firstCode lens (l - 1) + k < 2 ^ l := by
  obtain ⟨j, rfl⟩ : ∃ j, l = j + 1 := ⟨l - 1, by omega⟩
  have h2 := kraftSum_mono lens (j + 1) m hlm
  rw [← kraft_eq_kraftSum lens m] at h2
  have h3 : firstCode lens (j + 1) * 2 ^ (16 - (j + 1)) ≤ 2 ^ (j + 2) * 2 ^ (16 - (j + 1)) := by
    rw [firstCode_kraft lens (j + 1) (by omega), ← Nat.pow_add, show j + 2 + (16 - (j + 1)) = 17 by omega]
    omega
  have := Nat.le_of_mul_le_mul_right h3 (Nat.two_pow_pos _)
  rw [firstCode, Nat.pow_succ] at this
  rw [Nat.add_sub_cancel]
  omega

theorem build_some {nbits : Nat} {lens : List Nat} {c : Canon} (h : build nbits lens = some c) :
    ∃ m, (m = nbits ∨ m = 16 ∧ kraft lens nbits ≠ 65536) ∧ kraft lens m = 65536 ∧ c = mkCanon lens m := by
  unfold build accepts at h
  dsimp only at h
  by_cases h1 : kraft lens nbits > 65536
  · rw [if_pos h1] at h; cases h
  · rw [if_neg h1] at h
    by_cases h2 : kraft lens nbits = 65536
    · rw [if_pos h2] at h; exact ⟨nbits, .inl rfl, h2, (Option.some.inj h).symm⟩
    · rw [if_neg h2] at h
      by_cases h3 : kraft lens 16 = 65536
      · rw [if_pos h3] at h; exact ⟨16, .inr ⟨rfl, h2⟩, h3, (Option.some.inj h).symm⟩
      · rw [if_neg h3] at h; cases h

theorem decode_canon {nbits : Nat} (hn : nbits ≤ 16) {lens : List Nat} {c : Canon} (hb : build nbits lens = some c)
    (l k : Nat) (hl : 1 ≤ l) (hln : l ≤ nbits) (hk : k < (symsOfLen lens l).size) (t : List Bool) :
    decode c (Deflate.codeBits l (firstCode lens (l - 1) + k) ++ t) = some ((symsOfLen lens l).getD k 0, l) := by
  obtain ⟨m, hm, hkr, rfl⟩ := build_some hb
  have hlm : l ≤ m := by omega
  exact decode_canon_word lens m l k hl hlm hk (canon_lt lens m l k (by omega) (Nat.le_of_eq hkr) hl hlm hk) t

theorem symsOfLen_replicate (n w l : Nat) :
    symsOfLen (List.replicate n w) l = if w = l then (List.range n).toArray else #[] := by
  unfold symsOfLen
  rw [List.length_replicate]
  split
  · rename_i h
    congr 1
    rw [List.filter_eq_self]
    intro i hi
    rw [List.getD_eq_getElem?_getD, List.getElem?_replicate, if_pos (List.mem_range.mp hi)]
    simpa using h
  · rename_i h
    congr 1
    rw [List.filter_eq_nil_iff]
    intro i hi
    rw [List.getD_eq_getElem?_getD, List.getElem?_replicate, if_pos (List.mem_range.mp hi)]
    simpa using h

theorem decode_flat {nbits : Nat} (hn : nbits ≤ 16) {w : Nat} {c : Canon}
    (hb : build nbits (List.replicate (2 ^ w) w) = some c) (hw : 1 ≤ w) (hwn : w ≤ nbits) (sym : Nat) (hsym : sym < 2 ^ w)
    (t : List Bool) : decode c (Deflate.codeBits w sym ++ t) = some (sym, w) := by
  have := decode_canon hn hb w sym hw hwn (by rw [symsOfLen_replicate, if_pos rfl]; simpa using hsym) t
  rw [firstCode_zero _ _ fun j hj => by rw [symsOfLen_replicate, if_neg (by omega)]; rfl, Nat.zero_add,
    symsOfLen_replicate, if_pos rfl] at this
  rw [this]
  simp [Array.getD_eq_getD_getElem?, hsym]

/-- entering length `l` the code read so far is not below the first code of that length (else a shorter one had matched) -/
theorem decode_go_complete (lens : List Nat) (n : Nat) (hfull : firstCode lens n = 2 ^ (n + 1)) :
    ∀ (fuel l code : Nat) (bits : List Bool), l + fuel = n → firstCode lens l ≤ 2 * code → code < 2 ^ l →
      fuel ≤ bits.length → decode.go (mkCanon lens n) (l + 1) fuel code bits ≠ none := by
  intro fuel
  induction fuel with
  | zero =>
    intro l code bits hl hc hlt _
    rw [Nat.add_zero] at hl; subst hl
    rw [hfull, Nat.pow_succ] at hc
    omega
  | succ fuel ih =>
    intro l code bits hl hc hlt hb
    match bits, hb with
    | b :: rest, hb =>
      rw [decode.go]
      obtain ⟨hf, hs⟩ := mkCanon_getD lens n l (by omega)
      rw [Nat.add_sub_cancel, hf, hs]
      have hx : (if b = true then 1 else 0 : Nat) ≤ 1 := by split <;> omega
      generalize (if b = true then 1 else 0 : Nat) = x at hx ⊢
      by_cases hm : firstCode lens l ≤ code * 2 + x ∧ code * 2 + x - firstCode lens l < (symsOfLen lens (l + 1)).size
      · rw [if_pos hm]; exact nofun
      · rw [if_neg hm]
        refine ih (l + 1) _ rest (by omega) ?_ ?_ (Nat.le_of_succ_le_succ hb)
        · rw [firstCode]; omega
        · rw [Nat.pow_succ]; omega

theorem decode_complete (lens : List Nat) (n : Nat) (hn : n ≤ 16) (hk : kraft lens n = 65536) (bits : List Bool)
    (hb : n ≤ bits.length) : decode (mkCanon lens n) bits ≠ none := by
  refine decode_go_complete lens n ?_ n 0 0 bits (Nat.zero_add n) (Nat.le_refl 0) Nat.one_pos hb
  have h := firstCode_kraft lens n hn
  rw [← kraft_eq_kraftSum, hk] at h
  refine Nat.eq_of_mul_eq_mul_right (Nat.two_pow_pos (16 - n)) (h.trans ?_)
  rw [← Nat.pow_add, show n + 1 + (16 - n) = 17 by omega]

theorem kraft_le7 (lens : List Nat) (hle : ∀ l ∈ lens, l ≤ 7) : kraft lens 16 = kraft lens 7 := by
  unfold kraft
  generalize 0 = acc
  induction lens generalizing acc with
  | nil => rfl
  | cons l rest ih =>
    rw [List.foldl_cons, List.foldl_cons]
    have hl : l ≤ 7 := hle l (List.mem_cons_self ..)
    have : (1 ≤ l ∧ l ≤ 16) ↔ (1 ≤ l ∧ l ≤ 7) := by omega
    simp only [this]
    exact ih (fun l h => hle l (List.mem_cons_of_mem _ h)) _

theorem build7_complete (lens : List Nat) (hle : ∀ l ∈ lens, l ≤ 7) (c : Canon) (h : build 7 lens = some c)
    (bits : List Bool) (hb : 7 ≤ bits.length) : decode c (bits.take 7) ≠ none := by
  obtain ⟨m, hm, hk, rfl⟩ := build_some h
  rcases hm with rfl | ⟨rfl, hne⟩
  · exact decode_complete lens 7 (by decide) hk _ (by rw [List.length_take]; omega)
  · exact absurd ((kraft_le7 lens hle).symm.trans hk) hne

end MsPack.Huff
