import MsPack.Spec.LzhEncode
import MsPack.Kwaj.Lzh
import MsPack.Lzss.Decoder
import Proofs.Lemmas.LzhBounds
import Proofs.Lemmas.Lzss
import Proofs.Lemmas.HuffCanon
/-!
# KWAJ LZH round trip, lemmas

What each piece of the LZH decoder model (`MsPack/Kwaj/Lzh.lean`) does on a file-backed source when
the unread input starts with the coding the specification writer (`MsPack/Spec/LzhEncode.lean`)
produces.

`At st bs r L B` is the state as the format sees it: `bs` the unread *real* input as one bit stream
(wherever the bit buffer, the refills of `inbuf` and the end of the file fall), `r` the ring with the
output, `L` the five code-length arrays.  Every reading primitive is described as a function of `bs`: it
delivers the next field if the stream still has all its bits, and makes the enclosing function return
`MSPACK_ERR_OK` (without touching the output) if it had to use made-up bits; every writer is a function
of `r` or of `L`.  A step that leaves the input side alone (`InKeep`) takes `At` along by `At.frame`.

`Runs x st Q R`: from `st`, `x` either returns normally with `Q`, or leaves through a `return e`
with `R e`; it takes no fault.
-/
namespace MsPack.Kwaj.Lzh
open MsPack.Generated MsPack.LzhEnc
open MsPack.Lzss (Ring)

variable {α β : Type}

abbrev LensOf := Tbl → Array UInt8

def LensOf.put (L : LensOf) (t : Tbl) (a : Array UInt8) : LensOf := fun t' => if t' = t then a else L t'

theorem LensOf.put_same (L : LensOf) (t : Tbl) (a : Array UInt8) : L.put t a t = a := if_pos rfl

theorem LensOf.put_other (L : LensOf) {t t' : Tbl} (a : Array UInt8) (h : t' ≠ t) : L.put t a t' = L t' := if_neg h

theorem LensOf.put_put (L : LensOf) (t : Tbl) (a b : Array UInt8) : (L.put t a).put t b = L.put t b := by
  funext t'; unfold LensOf.put; split <;> rfl

theorem LensOf.put_self (L : LensOf) (t : Tbl) : L.put t (L t) = L := by
  funext t'; unfold LensOf.put; split
  · rename_i ht; rw [ht]
  · rfl

def LensOf.ok (L : LensOf) : Prop := ∀ t, (L t).size = t.syms

theorem LensOf.put_ok {L : LensOf} (h : L.ok) (t : Tbl) (a : Array UInt8) (ha : a.size = t.syms) : (L.put t a).ok := by
  intro t'
  by_cases ht : t' = t
  · rw [ht, put_same]; exact ha
  · rw [put_other _ _ ht]; exact h t'

/-- bytes in `inbuf` the decoder has not moved to the bit buffer -/
def buffered (st : St Rd) : Bytes := (st.inbuf.toList.take st.cur.iEnd).drop st.cur.iPtr

def ring (st : St Rd) : Ring := ⟨st.window, st.pos, st.out⟩

def bytesBitsMSB (bs : Bytes) : List Bool := bs.flatMap byteBitsMSB

/-- The decoder as the format sees it: `bs` = the real bits not yet consumed, `r` the ring with the output, `L` the five
    code-length arrays.  The zero byte `lzh_read_input` makes up after the end of the file is counted while it is still in
    `inbuf`: the bit buffer, then the buffered bytes, then the rest of the file are the real bits followed by `input_end`
    zeros.  So the state `lzh_read_input` leaves satisfies the same equation as any other, and `*i_ptr++` keeps it by moving
    one byte across a `++`.  `B`: a made-up byte has been fetched only when fewer than `B` real bits were left
    (`ENSURE_BITS(n)` with `n ≤ B` keeps that). -/
structure At0 (st : St Rd) (bs : List Bool) (r : Ring) (L : LensOf) (B : Nat := 16) : Prop where
  inbuf : st.inbuf.size = 2048
  ptr   : st.cur.iPtr ≤ st.cur.iEnd
  iend  : st.cur.iEnd ≤ 2048
  bits  : st.cur.bits ++ bytesBitsMSB (buffered st ++ st.src.file.drop st.src.pos) = bs ++ List.replicate st.inputEnd false
  fin   : st.inputEnd ≠ 0 → st.src.file.drop st.src.pos = [] ∧ bs.length < B
  ring  : ring st = r
  ok    : r.ok
  lens  : ∀ t, st.lens t = L t

/-- between two fields a made-up byte is not left in `inbuf` (`At0` alone: between `lzh_read_input` and `*i_ptr++`) -/
structure At (st : St Rd) (bs : List Bool) (r : Ring) (L : LensOf) (B : Nat := 16) : Prop extends At0 st bs r L B where
  done : st.inputEnd ≠ 0 → st.cur.iPtr = st.cur.iEnd

def InKeep (st s : St Rd) : Prop :=
  s.cur = st.cur ∧ s.inbuf = st.inbuf ∧ s.inputEnd = st.inputEnd ∧ s.src = st.src

theorem At.frame {B : Nat} {st s : St Rd} {bs : List Bool} {r r' : Ring} {L L' : LensOf} (h : At st bs r L B) (hi : InKeep st s)
    (hr : Lzh.ring s = r') (hok : r'.ok) (hl : ∀ t, s.lens t = L' t) : At s bs r' L' B := by
  obtain ⟨a, b, c, d⟩ := hi
  have hb : buffered s = buffered st := by simp only [buffered, a, b]
  exact ⟨⟨by rw [b]; exact h.inbuf, by rw [a]; exact h.ptr, by rw [a]; exact h.iend, by rw [a, c, d, hb]; exact h.bits,
    by rw [c, d]; exact h.fin, hr, hok, hl⟩, by rw [a, c]; exact h.done⟩

theorem At.mono {B B' : Nat} {s : St Rd} {bs : List Bool} {r : Ring} {L : LensOf} (h : At s bs r L B) (hB : B ≤ B') : At s bs r L B' :=
  ⟨⟨h.inbuf, h.ptr, h.iend, h.bits, fun hk => ⟨(h.fin hk).1, Nat.lt_of_lt_of_le (h.fin hk).2 hB⟩, h.ring, h.ok, h.lens⟩, h.done⟩

theorem At.noEnd {B : Nat} {s : St Rd} {bs : List Bool} {r : Ring} {L : LensOf} (h : At s bs r L B) (hB : B ≤ bs.length) :
    s.inputEnd = 0 :=
  Decidable.byContradiction fun hk => absurd (h.fin hk).2 (by omega)

theorem At.ended {B : Nat} {s : St Rd} {bs : List Bool} {r : Ring} {L : LensOf} (h : At s bs r L B)
    (hl : bs.length < s.cur.bits.length) : s.inputEnd ≠ 0 := by
  intro hk
  have := congrArg List.length h.bits
  rw [hk] at this
  simp only [List.length_append, List.length_replicate] at this
  omega

def Runs (x : LM Rd α) (st : St Rd) (Q : α → St Rd → Prop) (R : Err → St Rd → Prop) : Prop :=
  match x.run.run st with
  | (.ok a, s) => Q a s
  | (.error (.ret e), s) => R e s
  | (.error (.fault _), _) => False

def RunsE (R : Err → St Rd → Prop) : Halt → St Rd → Prop
  | .ret e, s => R e s
  | .fault _, _ => False

theorem RunsE.imp {R R' : Err → St Rd → Prop} (hr : ∀ e s, R e s → R' e s) : ∀ e s, RunsE R e s → RunsE R' e s
  | .ret e, s, h => hr e s h
  | .fault _, _, h => h

theorem Runs_iff {x : LM Rd α} {st : St Rd} {Q : α → St Rd → Prop} {R : Err → St Rd → Prop} :
    Runs x st Q R ↔ wp x Q (RunsE R) st := by
  unfold Runs wp
  rcases x.run.run st with ⟨(_ | _) | _, _⟩ <;> exact Iff.rfl

theorem Runs.pure {a : α} {st : St Rd} {Q : α → St Rd → Prop} {R : Err → St Rd → Prop} (h : Q a st) :
    Runs (pure a : LM Rd α) st Q R := h

theorem Runs.throw_ret {e : Err} {st : St Rd} {Q : α → St Rd → Prop} {R : Err → St Rd → Prop} (h : R e st) :
    Runs (throw (.ret e) : LM Rd α) st Q R := h

theorem Runs.bind {x : LM Rd α} {f : α → LM Rd β} {st : St Rd} {Q : α → St Rd → Prop} {R : Err → St Rd → Prop}
    {Q' : β → St Rd → Prop} {R' : Err → St Rd → Prop} (hx : Runs x st Q R)
    (hf : ∀ a s, Q a s → Runs (f a) s Q' R')
    (hr : ∀ e s, R e s → R' e s := by exact fun _ _ h => h) :
    Runs (x >>= f) st Q' R' :=
  Runs_iff.mpr (((Runs_iff.mp hx).mono (fun _ _ h => h) (RunsE.imp hr)).bind_of fun a s h => Runs_iff.mp (hf a s h))

theorem Runs.bind_total {x : LM Rd α} {f : α → LM Rd β} {st : St Rd} {Q : α → St Rd → Prop}
    {Q' : β → St Rd → Prop} {R' : Err → St Rd → Prop} (hx : Runs x st Q (fun _ _ => False))
    (hf : ∀ a s, Q a s → Runs (f a) s Q' R') : Runs (x >>= f) st Q' R' :=
  Runs.bind hx hf (fun _ _ h => h.elim)

theorem Runs.get_bind {f : St Rd → LM Rd β} {st : St Rd} {Q : β → St Rd → Prop} {R : Err → St Rd → Prop}
    (hf : Runs (f st) st Q R) : Runs (get >>= f) st Q R :=
  Runs_iff.mpr ((wp_get_bind ..).mpr (Runs_iff.mp hf))

theorem Runs.set_bind {f : PUnit → LM Rd β} {s st : St Rd} {Q : β → St Rd → Prop} {R : Err → St Rd → Prop}
    (hf : Runs (f ⟨⟩) s Q R) : Runs (set s >>= f) st Q R :=
  Runs_iff.mpr ((wp_set_bind ..).mpr (Runs_iff.mp hf))

theorem Runs.modify_bind {f : PUnit → LM Rd β} {g : St Rd → St Rd} {st : St Rd} {Q : β → St Rd → Prop}
    {R : Err → St Rd → Prop} (hf : Runs (f ⟨⟩) (g st) Q R) : Runs (modify g >>= f) st Q R :=
  Runs_iff.mpr ((wp_modify_bind ..).mpr (Runs_iff.mp hf))

theorem Runs.set {s st : St Rd} {Q : PUnit → St Rd → Prop} {R : Err → St Rd → Prop} (h : Q ⟨⟩ s) :
    Runs (set s : LM Rd PUnit) st Q R := h

theorem Runs.modify {g : St Rd → St Rd} {st : St Rd} {Q : PUnit → St Rd → Prop} {R : Err → St Rd → Prop}
    (h : Q ⟨⟩ (g st)) : Runs (modify g : LM Rd PUnit) st Q R := h

theorem Runs.mono {x : LM Rd α} {st : St Rd} {Q Q' : α → St Rd → Prop} {R R' : Err → St Rd → Prop}
    (hx : Runs x st Q R) (hq : ∀ a s, Q a s → Q' a s)
    (hr : ∀ e s, R e s → R' e s := by exact fun _ _ h => h) : Runs x st Q' R' :=
  Runs_iff.mpr ((Runs_iff.mp hx).mono hq (RunsE.imp hr))

theorem Runs.and {x : LM Rd α} {st : St Rd} {Q Q' : α → St Rd → Prop} {R R' : Err → St Rd → Prop}
    (h : Runs x st Q R) (h' : Runs x st Q' R') : Runs x st (fun a s => Q a s ∧ Q' a s) (fun e s => R e s ∧ R' e s) :=
  Runs_iff.mpr (((Runs_iff.mp h).and (Runs_iff.mp h')).mono (fun _ _ h => h) fun
    | .ret _, _, h => h
    | .fault _, _, h => h.1)

theorem byteBitsMSB_eq (b : UInt8) : byteBitsMSB b = msbBits 8 b.toNat := rfl

theorem bytesBitsMSB_cons (b : UInt8) (rest : Bytes) :
    bytesBitsMSB (b :: rest) = byteBitsMSB b ++ bytesBitsMSB rest := rfl

theorem bytesBitsMSB_append (a b : Bytes) : bytesBitsMSB (a ++ b) = bytesBitsMSB a ++ bytesBitsMSB b := by
  simp [bytesBitsMSB]

theorem bytesBitsMSB_length (a : Bytes) : (bytesBitsMSB a).length = 8 * a.length := by
  induction a with
  | nil => rfl
  | cons b rest ih =>
    rw [bytesBitsMSB_cons, List.length_append, byteBitsMSB_length, ih, List.length_cons]; omega

theorem byteBitsMSB_ofNat_valMSB (c : List Bool) (hc : c.length = 8) : byteBitsMSB (UInt8.ofNat (valMSB c)) = c := by
  have hlt := Lzx.bitsVal_lt c
  rw [hc] at hlt
  rw [byteBitsMSB_eq, Lzx.valMSB_eq, UInt8.toNat_ofNat', Nat.mod_eq_of_lt hlt]
  exact Lzx.msbBits_bitsVal 8 c hc

theorem packAux_bits : ∀ (fuel : Nat) (bs : List Bool), bs.length ≤ fuel →
    bytesBitsMSB (packAux fuel bs) = bs ++ List.replicate ((8 - bs.length % 8) % 8) false :=
  pack_bits (byteOf := fun c => UInt8.ofNat (valMSB (c ++ List.replicate (8 - c.length) false)))
    (bitsOf := byteBitsMSB)
    (fun c hc => byteBitsMSB_ofNat_valMSB _ (by rw [List.length_append, List.length_replicate]; omega))
    (fun _ => rfl) (fun _ _ => rfl)

theorem packBits_bits (bs : List Bool) :
    bytesBitsMSB (packBits bs) = bs ++ List.replicate ((8 - bs.length % 8) % 8) false :=
  packAux_bits _ bs (Nat.le_refl _)

theorem blit_toList : ∀ (got : Bytes) (a : Array UInt8) (k : Nat), k + got.length ≤ a.size →
    (blit a k got).toList = a.toList.take k ++ got ++ a.toList.drop (k + got.length)
  | [], a, k, _ => by simp [blit]
  | b :: rest, a, k, h => by
    rw [List.length_cons] at h
    rw [blit, blit_toList rest _ (k + 1) (by rw [Array.size_setIfInBounds]; omega), Array.toList_setIfInBounds,
      take_set_succ _ _ _ (by rw [Array.length_toList]; omega), List.drop_set, if_pos (by omega), List.length_cons,
      show k + 1 + rest.length = k + (rest.length + 1) by omega]
    simp only [List.append_assoc, List.cons_append, List.nil_append]

/-- the `i_ptr` / `i_end` that `READ_BYTES` copies back into its locals after `lzh_read_input` -/
def promote (s : St Rd) : St Rd := { s with cur := { s.cur with iPtr := s.saved.iPtr, iEnd := s.saved.iEnd } }

theorem buffered_empty (st : St Rd) (h : st.cur.iEnd ≤ st.cur.iPtr) : buffered st = [] := by
  unfold buffered
  apply List.drop_eq_nil_of_le
  rw [List.length_take]; omega

/-- `inbuf` after `lzh_read_input` has made up a byte -/
theorem buffered_fake (s : St Rd) (a : Array UInt8) (ha : a.size = 2048) (hi : s.inbuf = a.setIfInBounds 0 0) (hp : s.cur.iPtr = 0)
    (he : s.cur.iEnd = 1) : buffered s = [0] := by
  unfold buffered
  rw [hp, he, hi, List.drop_zero, Array.toList_setIfInBounds]
  exact take_set_succ _ 0 _ (by rw [Array.length_toList, ha]; decide)

theorem readInput_at {B : Nat} {st : St Rd} {bs : List Bool} {r : Ring} {L : LensOf} (h : At st bs r L B)
    (hp : st.cur.iEnd ≤ st.cur.iPtr) (hlt : st.cur.bits.length < B) :
    Runs (readInput Rd.src) st
      (fun _ s => At0 (promote s) bs r L B ∧ s.cur.bits = st.cur.bits ∧ s.saved.iPtr < s.saved.iEnd ∧
        (s.inputEnd ≠ 0 → s.saved.iPtr + 1 = s.saved.iEnd)) (fun _ _ => False) := by
  have hbits := h.bits
  rw [buffered_empty st hp, List.nil_append] at hbits
  have hz8 : bytesBitsMSB [0] = List.replicate 8 false := by decide
  have hlens : ∀ (s : St Rd), s.matchlen1Len = st.matchlen1Len → s.matchlen2Len = st.matchlen2Len → s.litlenLen = st.litlenLen →
      s.offsetLen = st.offsetLen → s.literalLen = st.literalLen → ∀ t, s.lens t = L t := by
    intro s h1 h2 h3 h4 h5 t
    rw [← h.lens t]; cases t <;> assumption
  unfold readInput
  apply Runs.get_bind
  by_cases hk : st.inputEnd = 0
  · rw [if_neg (by simp [hk])]
    rw [hk, List.replicate_zero, List.append_nil] at hbits
    have hread : Rd.src.read st.src kwajINPUT_SIZE = .ok (some ((st.src.file.drop st.src.pos).take kwajINPUT_SIZE),
        ({ st.src with pos := st.src.pos + ((st.src.file.drop st.src.pos).take kwajINPUT_SIZE).length } : Rd)) := rfl
    rw [hread]
    generalize hchunk : (st.src.file.drop st.src.pos).take kwajINPUT_SIZE = chunk
    cases chunk with
    | nil =>
      have hrest : st.src.file.drop st.src.pos = [] := by
        cases hd : st.src.file.drop st.src.pos with
        | nil => rfl
        | cons x xs => rw [hd] at hchunk; simp [kwajINPUT_SIZE] at hchunk
      refine Runs.set ⟨⟨?_, Nat.zero_le 1, (by show (1 : Nat) ≤ 2048; decide), ?_, fun _ => ⟨hrest, ?_⟩, h.ring, h.ok,
        hlens _ rfl rfl rfl rfl rfl⟩, rfl, Nat.zero_lt_one, fun _ => rfl⟩
      · show (st.inbuf.setIfInBounds 0 0).size = 2048
        rw [Array.size_setIfInBounds]; exact h.inbuf
      · rw [buffered_fake _ st.inbuf h.inbuf rfl rfl rfl]
        show st.cur.bits ++ bytesBitsMSB ([0] ++ st.src.file.drop (st.src.pos + 0)) = bs ++ List.replicate 8 false
        rw [Nat.add_zero, hrest, List.append_nil, hz8, ← hbits, hrest]; simp [bytesBitsMSB]
      · rw [← hbits, hrest]; simpa [bytesBitsMSB] using hlt
    | cons x xs =>
      have hlen : (x :: xs).length ≤ 2048 := by rw [← hchunk, List.length_take]; exact Nat.min_le_left _ _
      dsimp only
      rw [if_neg (by rw [h.inbuf]; omega)]
      refine Runs.set ⟨⟨?_, Nat.zero_le _, hlen, ?_, fun hn => absurd hk hn, h.ring, h.ok, hlens _ rfl rfl rfl rfl rfl⟩, rfl,
        Nat.succ_pos _, fun hn => absurd hk hn⟩
      · show (blit st.inbuf 0 (x :: xs)).size = 2048
        rw [blit_size]; exact h.inbuf
      · show st.cur.bits ++ bytesBitsMSB (((blit st.inbuf 0 (x :: xs)).toList.take (x :: xs).length).drop 0 ++
          st.src.file.drop (st.src.pos + (x :: xs).length)) = bs ++ List.replicate st.inputEnd false
        rw [hk, List.replicate_zero, List.append_nil, ← hbits, blit_toList _ _ _ (by rw [h.inbuf]; omega), List.take_zero,
          List.nil_append, Nat.zero_add, List.take_left' rfl, List.drop_zero, ← List.drop_drop, ← hchunk, List.length_take]
        congr 2
        by_cases h2 : kwajINPUT_SIZE ≤ (st.src.file.drop st.src.pos).length
        · rw [Nat.min_eq_left h2]; exact List.take_append_drop ..
        · have h3 : (st.src.file.drop st.src.pos).length ≤ kwajINPUT_SIZE := by omega
          rw [Nat.min_eq_right h3, List.take_of_length_le h3, List.drop_of_length_le (Nat.le_refl _), List.append_nil]
  · rw [if_pos hk]
    obtain ⟨hrest, hl16⟩ := h.fin hk
    refine Runs.set ⟨⟨?_, Nat.zero_le 1, (by show (1 : Nat) ≤ 2048; decide), ?_, fun _ => ⟨hrest, hl16⟩, h.ring, h.ok,
      hlens _ rfl rfl rfl rfl rfl⟩, rfl, Nat.zero_lt_one, fun _ => rfl⟩
    · show (st.inbuf.setIfInBounds 0 0).size = 2048
      rw [Array.size_setIfInBounds]; exact h.inbuf
    · rw [buffered_fake _ st.inbuf h.inbuf rfl rfl rfl]
      show st.cur.bits ++ bytesBitsMSB ([0] ++ st.src.file.drop st.src.pos) = bs ++ List.replicate (st.inputEnd + 8) false
      rw [hrest, List.append_nil, hz8, ← List.replicate_append_replicate, ← List.append_assoc, ← hbits, hrest]
      simp [bytesBitsMSB]

theorem buffered_cons (st : St Rd) (hin : st.inbuf.size = 2048) (hp : st.cur.iPtr < st.cur.iEnd) (he : st.cur.iEnd ≤ 2048) :
    ∃ h : st.cur.iPtr < st.inbuf.size, buffered st = st.inbuf[st.cur.iPtr] ::
      buffered { st with cur := { st.cur with iPtr := st.cur.iPtr + 1, bits := st.cur.bits ++ byteBitsMSB st.inbuf[st.cur.iPtr] } } := by
  refine ⟨by omega, ?_⟩
  unfold buffered
  have hl : st.cur.iPtr < (st.inbuf.toList.take st.cur.iEnd).length := by
    rw [List.length_take, Array.length_toList, hin]; omega
  rw [List.drop_eq_getElem_cons hl, List.getElem_take, Array.getElem_toList]

/-- the `*i_ptr++` / `INJECT_BITS` half of `READ_BYTES` -/
theorem takeByte_at {B : Nat} {s1 : St Rd} {bs : List Bool} {r : Ring} {L : LensOf} (h : At0 s1 bs r L B)
    (hlt : s1.cur.iPtr < s1.cur.iEnd) (hd : s1.inputEnd ≠ 0 → s1.cur.iPtr + 1 = s1.cur.iEnd) :
    Runs (get >>= fun st : St Rd =>
        if h : st.cur.iPtr < st.inbuf.size then
          (set { st with cur := { st.cur with iPtr := st.cur.iPtr + 1,
                                              bits := st.cur.bits ++ byteBitsMSB st.inbuf[st.cur.iPtr] } } : LM Rd PUnit)
        else throw (.fault (.oob "lzh->inbuf (*i_ptr++)"))) s1
      (fun _ s => At s bs r L B ∧ s.cur.bits.length = s1.cur.bits.length + 8) (fun _ _ => False) := by
  apply Runs.get_bind
  obtain ⟨hlt', hbuf⟩ := buffered_cons s1 h.inbuf hlt h.iend
  rw [dif_pos hlt']
  refine Runs.set ⟨⟨⟨h.inbuf, Nat.succ_le_of_lt hlt, h.iend, ?_, h.fin, h.ring, h.ok, fun t => ?_⟩, hd⟩, ?_⟩
  · rw [← h.bits, hbuf]
    simp only [List.cons_append, bytesBitsMSB_cons, List.append_assoc]
  · rw [← h.lens t]; cases t <;> rfl
  · show (s1.cur.bits ++ _).length = _
    rw [List.length_append, byteBitsMSB_length]

theorem readBytes_at {B : Nat} {st : St Rd} {bs : List Bool} {r : Ring} {L : LensOf} (h : At st bs r L B)
    (hlt : st.cur.bits.length < B) :
    Runs (readBytes Rd.src) st (fun _ s => At s bs r L B ∧ s.cur.bits.length = st.cur.bits.length + 8) (fun _ _ => False) := by
  unfold readBytes
  apply Runs.get_bind
  apply Runs.get_bind
  simp only
  split
  · rename_i hge
    refine Runs.bind (readInput_at h hge hlt) ?_
    intro _ s1 ⟨h1, hb1, hlt1, hd1⟩
    apply Runs.modify_bind
    rw [← hb1]
    exact takeByte_at h1 hlt1 hd1
  · rename_i hlt2
    exact takeByte_at h.toAt0 (by omega) fun hk => absurd (h.done hk) (by omega)

theorem ensureBits_at {B : Nat} (n : Nat) (hn : n ≤ B) {bs : List Bool} {r : Ring} {L : LensOf} : ∀ (fuel : Nat) {st : St Rd},
    At st bs r L B → (n + 7 - st.cur.bits.length) / 8 + 1 ≤ fuel →
    Runs (ensureBits Rd.src n fuel) st (fun _ s => At s bs r L B ∧ n ≤ s.cur.bits.length) (fun _ _ => False)
  | 0, _, _, hf => by omega
  | fuel + 1, st, h, hf => by
    rw [ensureBits]
    apply Runs.get_bind
    split
    · rename_i hlt
      exact Runs.bind (readBytes_at h (by omega)) fun _ s ⟨h1, hl1⟩ => ensureBits_at n hn fuel h1 (by rw [hl1]; omega)
    · rename_i hge
      exact Runs.pure ⟨h, by omega⟩

theorem At.take {B : Nat} {s : St Rd} {bs : List Bool} {r : Ring} {L : LensOf} (h : At s bs r L B) (n : Nat) (hn : n ≤ 16)
    (hl : n ≤ s.cur.bits.length) : s.cur.bits.take n = (bs ++ List.replicate 16 false).take n := by
  have hb := h.bits
  have hlen := congrArg List.length hb
  simp only [List.length_append, List.length_replicate] at hlen
  rw [← List.take_append_of_le_length (l₂ := bytesBitsMSB (buffered s ++ s.src.file.drop s.src.pos)) hl, hb]
  simp only [List.take_append, List.take_replicate]
  congr 2
  omega

def dropped (s : St Rd) (n : Nat) : St Rd := { s with cur := { s.cur with bits := s.cur.bits.drop n } }

/-- `REMOVE_BITS(n)` and the test the `_SAFE` macros make after it -/
theorem At.dropBits {B : Nat} {s : St Rd} {bs : List Bool} {r : Ring} {L : LensOf} (h : At s bs r L B) (n : Nat)
    (hl : n ≤ s.cur.bits.length) :
    (n ≤ bs.length → At (dropped s n) (bs.drop n) r L B ∧ ¬(s.inputEnd ≠ 0 ∧ (s.cur.bits.drop n).length < s.inputEnd)) ∧
    (bs.length < n → s.inputEnd ≠ 0 ∧ (s.cur.bits.drop n).length < s.inputEnd) := by
  have hb := h.bits
  have hlen := congrArg List.length hb
  simp only [List.length_append, List.length_replicate] at hlen
  -- once a byte has been made up, nothing real is left outside the bit buffer
  have hX : s.inputEnd ≠ 0 → (bytesBitsMSB (buffered s ++ s.src.file.drop s.src.pos)).length = 0 := by
    intro hk
    rw [buffered_empty s (Nat.le_of_eq (h.done hk).symm), (h.fin hk).1]; rfl
  refine ⟨fun hn => ⟨⟨⟨h.inbuf, h.ptr, h.iend, ?_, fun hk => ⟨(h.fin hk).1, ?_⟩, h.ring, h.ok, fun t => ?_⟩, h.done⟩, ?_⟩, fun hn => ?_⟩
  · show s.cur.bits.drop n ++ _ = _
    rw [← List.drop_append_of_le_length hl, ← List.drop_append_of_le_length hn]
    exact congrArg (List.drop n) hb
  · rw [List.length_drop]; have := (h.fin hk).2; omega
  · rw [← h.lens t]; cases t <;> rfl
  · intro ⟨hk, hlt⟩
    have := hX hk
    rw [List.length_drop] at hlt; omega
  · have hk : s.inputEnd ≠ 0 := fun hk => by omega
    have := hX hk
    exact ⟨hk, by rw [List.length_drop]; omega⟩

theorem safeCheck_spec (st : St Rd) :
    Runs (safeCheck : LM Rd Unit) st
      (fun _ s => s = st ∧ ¬(st.inputEnd ≠ 0 ∧ st.cur.bits.length < st.inputEnd))
      (fun e s => e = .ok ∧ s = st ∧ (st.inputEnd ≠ 0 ∧ st.cur.bits.length < st.inputEnd)) := by
  unfold safeCheck
  apply Runs.get_bind
  split
  · rename_i h; exact Runs.throw_ret ⟨rfl, rfl, h⟩
  · rename_i h; exact Runs.pure ⟨rfl, h⟩

theorem removeCheck_at {γ : Type} {B : Nat} {s : St Rd} {bs : List Bool} {r : Ring} {L : LensOf} (h : At s bs r L B) (n : Nat)
    (hl : n ≤ s.cur.bits.length) (v : γ) :
    Runs (removeBits n >>= fun _ => safeCheck >>= fun _ => (Pure.pure v : LM Rd γ)) s
      (fun a s' => a = v ∧ n ≤ bs.length ∧ At s' (bs.drop n) r L B)
      (fun e s' => e = .ok ∧ bs.length < n ∧ ring s' = r) := by
  obtain ⟨h1, h2⟩ := h.dropBits n hl
  unfold removeBits
  apply Runs.modify_bind
  refine Runs.bind (safeCheck_spec _) ?_ ?_
  · intro _ s' ⟨hs, hno⟩
    subst hs
    by_cases hc : n ≤ bs.length
    · exact Runs.pure ⟨rfl, hc, (h1 hc).1⟩
    · exact absurd (h2 (by omega)) hno
  · intro e s' ⟨he, hs, hyes⟩
    subst hs
    by_cases hc : n ≤ bs.length
    · exact absurd hyes (h1 hc).2
    · exact ⟨he, by omega, h.ring⟩

/-- `code` = the next `n` bits of the real stream continued with zeros -/
theorem readBitsSafe_at {B : Nat} (n : Nat) (hn : n ≤ 16) (hB : n ≤ B) {st : St Rd} {bs : List Bool} {r : Ring} {L : LensOf}
    (h : At st bs r L B) (code tail : List Bool) (hz : bs ++ List.replicate 16 false = code ++ tail) (hc : code.length = n) :
    Runs (readBitsSafe Rd.src n) st
      (fun v s => v = bitsValMSB code ∧ n ≤ bs.length ∧ At s (bs.drop n) r L B)
      (fun e s => e = .ok ∧ bs.length < n ∧ ring s = r) := by
  unfold readBitsSafe
  refine Runs.bind_total (ensureBits_at n hB 4 h (by omega)) ?_
  intro _ s ⟨h1, hl1⟩
  apply Runs.get_bind
  rw [h1.take n hn hl1, hz, List.take_left' hc]
  exact removeCheck_at h1 n hl1 _

theorem readSymSafe_at (c : Huff.Canon) {st : St Rd} {bs : List Bool} {r : Ring} {L : LensOf} (h : At st bs r L)
    (code tail : List Bool) (sym : Nat) (hz : bs ++ List.replicate 16 false = code ++ tail) (hc : code.length ≤ 16)
    (hdec : ∀ t, Huff.decode c (code ++ t) = some (sym, code.length)) :
    Runs (readHuffSymSafe Rd.src c) st
      (fun v s => v = sym ∧ code.length ≤ bs.length ∧ At s (bs.drop code.length) r L)
      (fun e s => e = .ok ∧ bs.length < code.length ∧ ring s = r) := by
  unfold readHuffSymSafe
  refine Runs.bind_total (ensureBits_at 16 (Nat.le_refl _) 4 h (by omega)) ?_
  intro _ s ⟨h1, hl1⟩
  apply Runs.get_bind
  have hl : code.length ≤ s.cur.bits.length := Nat.le_trans hc hl1
  have hd : Huff.decode c s.cur.bits = some (sym, code.length) := by
    rw [← List.take_append_drop code.length s.cur.bits, h1.take code.length hc hl, hz, List.take_left' rfl]; exact hdec _
  rw [hd]
  exact removeCheck_at h1 code.length hl _

/-- a field of the real stream itself (not of its zero continuation): it is delivered -/
theorem readBits_at {B : Nat} (n : Nat) (hn : n ≤ 16) (hB : n ≤ B) {st : St Rd} (code : List Bool) {rest : List Bool} {r : Ring}
    {L : LensOf} (h : At st (code ++ rest) r L B) (hc : code.length = n) :
    Runs (readBitsSafe Rd.src n) st (fun v s => v = bitsValMSB code ∧ At s rest r L B) (fun _ _ => False) := by
  refine (readBitsSafe_at n hn hB h code (rest ++ List.replicate 16 false) (List.append_assoc ..) hc).mono ?_ ?_
  · intro v s ⟨a, _, b⟩
    rw [List.drop_left' hc] at b
    exact ⟨a, b⟩
  · intro e s ⟨_, h, _⟩
    rw [List.length_append] at h; omega

theorem readSym_at (c : Huff.Canon) {st : St Rd} (code : List Bool) {rest : List Bool} {r : Ring} {L : LensOf} (sym : Nat)
    (h : At st (code ++ rest) r L) (hc : code.length ≤ 16) (hdec : ∀ t, Huff.decode c (code ++ t) = some (sym, code.length)) :
    Runs (readHuffSymSafe Rd.src c) st (fun v s => v = sym ∧ At s rest r L) (fun _ _ => False) := by
  refine (readSymSafe_at c h code (rest ++ List.replicate 16 false) sym (List.append_assoc ..) hc hdec).mono ?_ ?_
  · intro v s ⟨a, _, b⟩
    rw [List.drop_left' rfl] at b
    exact ⟨a, b⟩
  · intro e s ⟨_, h, _⟩
    rw [List.length_append] at h; omega

/-- `READ_HUFFSYM_SAFE` on a real stream of fewer than 16 bits: `ENSURE_BITS(16)` has fetched a made-up byte -/
theorem readSymSafe_end (c : Huff.Canon) {st : St Rd} {bs : List Bool} {r : Ring} {L : LensOf} (h : At st bs r L)
    (hl : bs.length < 16) : Runs (readHuffSymSafe Rd.src c) st (fun _ s => s.inputEnd ≠ 0) (fun _ _ => True) := by
  unfold readHuffSymSafe
  refine Runs.bind_total (ensureBits_at 16 (Nat.le_refl _) 4 h (by omega)) ?_
  intro _ s ⟨h1, hl1⟩
  have he := h1.ended (by omega)
  apply Runs.get_bind
  split
  · exact Runs.throw_ret trivial
  · unfold removeBits
    apply Runs.modify_bind
    exact Runs.bind (safeCheck_spec _) (fun _ s' hs => by rw [hs.1]; exact Runs.pure he) (fun _ _ _ => trivial)

theorem emitByte_at {B : Nat} (b : UInt8) {st : St Rd} {bs : List Bool} {r : Ring} {L : LensOf} (h : At st bs r L B) :
    Runs (emitByte b : LM Rd Unit) st (fun _ s => At s bs (r.emit b) L B) (fun _ _ => False) := by
  have hlt : st.pos < st.window.size := by
    show (ring st).pos < (ring st).window.size
    rw [h.ring, h.ok.1]; exact h.ok.2
  unfold emitByte
  apply Runs.get_bind
  rw [dif_pos hlt]
  refine Runs.set (h.frame ⟨rfl, rfl, rfl, rfl⟩ ?_ (Lzss.Ring.emit_ok h.ok _) fun t => by rw [← h.lens t]; cases t <;> rfl)
  rw [← h.ring]
  show (⟨st.window.set st.pos b hlt, (st.pos + 1) % 4096, st.out.push b⟩ : Ring) =
    ⟨st.window.setIfInBounds st.pos b, (st.pos + 1) % 4096, st.out.push b⟩
  rw [Array.setIfInBounds, dif_pos hlt]

theorem copyMatch_at {B : Nat} (offset : Nat) : ∀ (len : Nat) {st : St Rd} {bs : List Bool} {r : Ring} {L : LensOf}, At st bs r L B →
    Runs (copyMatch offset len : LM Rd Unit) st (fun _ s => At s bs (copyBack offset len r) L B) (fun _ _ => False)
  | 0, st, _, _, _, h => by rw [copyMatch]; exact Runs.pure h
  | len + 1, st, _, r, _, h => by
    have hlt : (st.pos + 4096 - offset) % 4096 < st.window.size := by
      show _ < (ring st).window.size
      rw [h.ring, h.ok.1]; exact Nat.mod_lt _ (by decide)
    rw [copyMatch]
    apply Runs.get_bind
    simp only
    rw [dif_pos hlt]
    have hb : st.window[(st.pos + 4096 - offset) % 4096] = r.window.getD ((r.pos + 4096 - offset) % 4096) 0 := by
      rw [← h.ring]
      show _ = st.window.getD ((st.pos + 4096 - offset) % 4096) 0
      simp [Array.getD, hlt]
    rw [hb]
    exact Runs.bind (emitByte_at _ h) fun _ s hs => copyMatch_at offset len hs

theorem literalRun_at (lit : Huff.Canon)
    (hlit : ∀ sym < 256, ∀ t, Huff.decode lit (flatCode 8 sym ++ t) = some (sym, (flatCode 8 sym).length)) :
    ∀ (lits : Bytes) {st : St Rd} {rest : List Bool} {r : Ring} {L : LensOf},
    At st ((lits.flatMap fun b => flatCode 8 b.toNat) ++ rest) r L →
    Runs (literalRun Rd.src lit lits.length) st (fun _ s => At s rest (emitAll r lits) L) (fun _ _ => False)
  | [], st, rest, r, L, h => by
    rw [List.length_nil, literalRun]
    have h' : At st rest r L := by simpa using h
    exact Runs.pure h'
  | b :: lits, st, rest, r, _, h => by
    rw [List.length_cons, literalRun]
    rw [List.flatMap_cons, List.append_assoc] at h
    refine Runs.bind (readSym_at lit _ b.toNat h (by rw [flatCode, msbBits_length]; decide) (hlit _ b.toNat_lt)) ?_
    intro j s1 ⟨hj, h1⟩
    subst hj
    rw [UInt8.ofNat_toNat]
    exact Runs.bind (emitByte_at b h1) fun _ s2 h2 => literalRun_at lit hlit lits h2

structure Codes (tr : Trees) : Prop where
  m1  : ∀ sym < 16, ∀ t, Huff.decode tr.matchlen1 (flatCode 4 sym ++ t) = some (sym, (flatCode 4 sym).length)
  m2  : ∀ sym < 16, ∀ t, Huff.decode tr.matchlen2 (flatCode 4 sym ++ t) = some (sym, (flatCode 4 sym).length)
  ll  : ∀ sym < 32, ∀ t, Huff.decode tr.litlen (flatCode 5 sym ++ t) = some (sym, (flatCode 5 sym).length)
  off : ∀ sym < 64, ∀ t, Huff.decode tr.offset (flatCode 6 sym ++ t) = some (sym, (flatCode 6 sym).length)
  lit : ∀ sym < 256, ∀ t, Huff.decode tr.literal (flatCode 8 sym ++ t) = some (sym, (flatCode 8 sym).length)

theorem flatCode_length (w sym : Nat) : (flatCode w sym).length = w := msbBits_length w sym

theorem flatCode_zero (w : Nat) : flatCode w 0 = List.replicate w false := by
  simp only [flatCode, msbBits, Nat.zero_testBit]
  rw [List.map_const', List.length_range]

theorem Tok.bits_length_ge (t : Tok) (h : t.wf) : 16 ≤ t.bits.length := by
  cases t with
  | mat len offset => simp only [Tok.bits, List.length_append, flatCode_length, msbBits_length]; omega
  | lits bs =>
    cases bs with
    | nil => simp [Tok.wf] at h
    | cons b bs =>
      simp only [Tok.bits, List.length_append, flatCode_length, List.flatMap_cons]
      omega

theorem readLen_at (tr : Trees) (hc : Codes tr) (litRun : Bool) {st : St Rd} {bs : List Bool} {r : Ring} {L : LensOf}
    (h : At st bs r L) (sym : Nat) (hs : sym < 16) (tail : List Bool)
    (hz : bs ++ List.replicate 16 false = flatCode 4 sym ++ tail) :
    Runs (if litRun = true then readHuffSymSafe Rd.src tr.matchlen2 else readHuffSymSafe Rd.src tr.matchlen1) st
      (fun v s => v = sym ∧ 4 ≤ bs.length ∧ At s (bs.drop 4) r L)
      (fun e s => e = .ok ∧ bs.length < 4 ∧ ring s = r) := by
  have hl : (flatCode 4 sym).length = 4 := flatCode_length 4 sym
  cases litRun with
  | true =>
    rw [if_pos rfl]
    have := readSymSafe_at tr.matchlen2 h _ tail sym hz (by rw [hl]; decide) (hc.m2 sym hs)
    rw [hl] at this; exact this
  | false =>
    rw [if_neg (by decide)]
    have := readSymSafe_at tr.matchlen1 h _ tail sym hz (by rw [hl]; decide) (hc.m1 sym hs)
    rw [hl] at this; exact this

theorem zeros_split (p a : Nat) (ha : a ≤ 16) :
    List.replicate p false ++ List.replicate 16 false = List.replicate a false ++ List.replicate (p + 16 - a) false := by
  rw [List.replicate_append_replicate, List.replicate_append_replicate]
  congr 1
  omega

theorem offset_join (offset : Nat) : (offset / 64) <<< 6 ||| offset % 64 = offset := by
  rw [← Nat.shiftLeft_add_eq_or_of_lt (Nat.mod_lt _ (by decide) : offset % 64 < 2 ^ 6), Nat.shiftLeft_eq]
  omega

def afterLen (tr : Trees) (fuel len : Nat) : LM Rd Unit :=
  if len > 0 then do
    let j ← readHuffSymSafe Rd.src tr.offset
    let j2 ← readBitsSafe Rd.src 6
    copyMatch ((j <<< 6) ||| j2) (len + 2)
    mainLoop Rd.src tr fuel false
  else do
    let l ← readHuffSymSafe Rd.src tr.litlen
    literalRun Rd.src tr.literal (l + 1)
    mainLoop Rd.src tr fuel (decide (l + 1 ≠ 32))

/-- the loop body re-cut at the first symbol (the model's two branches share their continuation) -/
theorem mainLoop_succ (tr : Trees) (fuel : Nat) (litRun : Bool) :
    mainLoop Rd.src tr (fuel + 1) litRun = (get >>= fun st : St Rd =>
      if st.inputEnd ≠ 0 then pure () else
        (if litRun = true then readHuffSymSafe Rd.src tr.matchlen2 else readHuffSymSafe Rd.src tr.matchlen1) >>=
          afterLen tr fuel) := by
  rw [mainLoop]
  cases litRun <;> rfl

/-- the token loop ends with OK by its own test or through a `_SAFE` return; either way exactly the tokens have been
    applied to the ring -/
theorem mainLoop_at (tr : Trees) (hc : Codes tr) : ∀ (toks : List Tok) (fuel : Nat) {st : St Rd} (litRun : Bool)
    (pad : Nat) {r : Ring} {L : LensOf}, toks.length + 1 ≤ fuel → (∀ t ∈ toks, t.wf) → pad < 8 →
    At st (toks.flatMap Tok.bits ++ List.replicate pad false) r L →
    Runs (mainLoop Rd.src tr fuel litRun) st (fun _ s => ring s = expand toks r)
      (fun e s => e = .ok ∧ ring s = expand toks r) := by
  intro toks
  induction toks with
  | nil =>
    intro fuel st litRun pad r L hfuel _ hpad h
    obtain ⟨fuel, rfl⟩ : ∃ f, fuel = f + 1 := ⟨fuel - 1, by simp at hfuel; omega⟩
    rw [List.flatMap_nil, List.nil_append] at h
    rw [mainLoop_succ]
    apply Runs.get_bind
    split
    · exact Runs.pure h.ring
    · refine Runs.bind (readLen_at tr hc litRun h 0 (by decide) _
        (by rw [flatCode_zero]; exact zeros_split pad 4 (by decide))) ?_ (fun e s ⟨he, _, hr⟩ => ⟨he, hr⟩)
      intro len s1 ⟨hlen, h4, h1⟩
      subst hlen
      unfold afterLen
      rw [if_neg (by decide)]
      rw [List.drop_replicate] at h1
      refine Runs.bind (readSymSafe_at tr.litlen h1 _ _ 0
        (by rw [flatCode_zero]; exact zeros_split (pad - 4) 5 (by decide)) (by rw [flatCode_length]; decide)
        (hc.ll 0 (by decide))) ?_ (fun e s ⟨he, _, hr⟩ => ⟨he, hr⟩)
      intro _ s2 ⟨_, h5, _⟩
      rw [flatCode_length, List.length_replicate] at h5
      omega
  | cons t ts ih =>
    intro fuel st litRun pad r L hfuel hwf hpad h
    obtain ⟨fuel, rfl⟩ : ∃ f, fuel = f + 1 := ⟨fuel - 1, by simp at hfuel; omega⟩
    have hfuel' : ts.length + 1 ≤ fuel := by simpa using hfuel
    have hwt : t.wf := hwf t (List.mem_cons_self ..)
    have hwf' : ∀ t ∈ ts, t.wf := fun t' h => hwf t' (List.mem_cons_of_mem _ h)
    have h16 := Tok.bits_length_ge t hwt
    rw [List.flatMap_cons, List.append_assoc] at h
    have hie : st.inputEnd = 0 := h.noEnd (by rw [List.length_append]; omega)
    rw [mainLoop_succ]
    apply Runs.get_bind
    rw [if_neg (by simp [hie])]
    -- the first symbol of a token is all there: no `_SAFE` return
    have hshort : ∀ {sym : Nat} {x : List Bool} (e : Err) (s : St Rd),
        e = .ok ∧ (flatCode 4 sym ++ x).length < 4 ∧ ring s = r → e = .ok ∧ ring s = expand (t :: ts) r := by
      intro _ _ e s ⟨_, hlt, _⟩
      simp only [List.length_append, flatCode_length] at hlt
      omega
    cases t with
    | mat len offset =>
      obtain ⟨w1, w2, w3⟩ := hwt
      simp only [Tok.bits, List.append_assoc] at h
      refine Runs.bind (readLen_at tr hc litRun h (len - 2) (by omega) _ (List.append_assoc ..)) ?_ hshort
      intro l s1 ⟨hl, _, h1⟩
      subst hl
      rw [List.drop_left' (flatCode_length 4 _)] at h1
      unfold afterLen
      rw [if_pos (by omega)]
      refine Runs.bind_total (readSym_at tr.offset _ (offset / 64) h1 (by rw [flatCode_length]; decide)
        (hc.off _ (by omega))) ?_
      intro j s2 ⟨hj, h2⟩
      subst hj
      refine Runs.bind_total (readBits_at 6 (by decide) (by decide) _ h2 (msbBits_length 6 _)) ?_
      intro j2 s3 ⟨hj2, h3⟩
      rw [bitsValMSB_msbBits, Nat.mod_mod_of_dvd _ (by decide : 2 ^ 6 ∣ 64)] at hj2
      subst hj2
      rw [show (2 ^ 6 : Nat) = 64 from rfl, offset_join, Nat.sub_add_cancel (by omega)]
      exact Runs.bind_total (copyMatch_at offset len h3) fun _ s4 h4 => ih fuel false pad hfuel' hwf' hpad h4
    | lits bs =>
      obtain ⟨w1, w2⟩ := hwt
      simp only [Tok.bits, List.append_assoc] at h
      refine Runs.bind (readLen_at tr hc litRun h 0 (by decide) _ (List.append_assoc ..)) ?_ hshort
      intro l s1 ⟨hl, _, h1⟩
      subst hl
      rw [List.drop_left' (flatCode_length 4 _)] at h1
      unfold afterLen
      rw [if_neg (by decide)]
      refine Runs.bind_total (readSym_at tr.litlen _ (bs.length - 1) h1 (by rw [flatCode_length]; decide)
        (hc.ll _ (by omega))) ?_
      intro j s2 ⟨hj, h2⟩
      subst hj
      rw [Nat.sub_add_cancel w1]
      exact Runs.bind_total (literalRun_at tr.literal hc.lit bs h2) fun _ s3 h3 => ih fuel _ pad hfuel' hwf' hpad h3

/-- the length `lzh_read_lens` gives every symbol of a type 0 table -/
def flatWidth (t : Tbl) : Nat :=
  if t.syms = 16 then 4 else if t.syms = 32 then 5 else if t.syms = 64 then 6 else if t.syms = 256 then 8 else 0

theorem flat_build_some (t : Tbl) : (Huff.build kwajTABLEBITS (List.replicate t.syms (flatWidth t))).isSome = true := by
  cases t <;> decide +kernel

theorem decode_zero_bit (nbits : Nat) (hn : 1 ≤ nbits) (lens : List Nat) (c : Huff.Canon)
    (hb : Huff.build nbits lens = some c) (sym : Nat) (hs : (Huff.symsOfLen lens 1).toList.head? = some sym)
    (t : List Bool) : Huff.decode c (false :: t) = some (sym, 1) := by
  obtain ⟨m, hm, -, rfl⟩ := Huff.build_some hb
  obtain ⟨tl, htl⟩ := List.head?_eq_some_iff.mp hs
  have hsz : 0 < (Huff.symsOfLen lens 1).size := by rw [← Array.length_toList, htl]; exact Nat.succ_pos _
  have h0 : (Huff.symsOfLen lens 1)[0]? = some sym := by rw [← Array.getElem?_toList, htl]; rfl
  have := Huff.decode_canon_word lens m 1 0 (Nat.le_refl _) (by omega) hsz (show 0 + 0 < 2 by decide) t
  rw [show Huff.firstCode lens (1 - 1) + 0 = 0 from rfl, show Deflate.codeBits 1 0 = [false] by decide] at this
  exact this.trans (by rw [Array.getD_eq_getD_getElem?, h0]; rfl)

theorem codes_flat (tr : Trees)
    (h1 : Huff.build kwajTABLEBITS (List.replicate Tbl.MATCHLEN1.syms (flatWidth .MATCHLEN1)) = some tr.matchlen1)
    (h2 : Huff.build kwajTABLEBITS (List.replicate Tbl.MATCHLEN2.syms (flatWidth .MATCHLEN2)) = some tr.matchlen2)
    (h3 : Huff.build kwajTABLEBITS (List.replicate Tbl.LITLEN.syms (flatWidth .LITLEN)) = some tr.litlen)
    (h4 : Huff.build kwajTABLEBITS (List.replicate Tbl.OFFSET.syms (flatWidth .OFFSET)) = some tr.offset)
    (h5 : Huff.build kwajTABLEBITS (List.replicate Tbl.LITERAL.syms (flatWidth .LITERAL)) = some tr.literal) : Codes tr :=
  have h (w : Nat) (hw : 1 ≤ w) (h9 : w ≤ 9) (c : Huff.Canon) (hb : Huff.build kwajTABLEBITS (List.replicate (2 ^ w) w) = some c)
      (sym : Nat) (hs : sym < 2 ^ w) (t : List Bool) :
      Huff.decode c (flatCode w sym ++ t) = some (sym, (flatCode w sym).length) := by
    rw [flatCode_length, flatCode, msbBits_eq, ← Zip.codeBits_eq_msbBits]
    exact Huff.decode_flat (by decide) hb hw h9 sym hs t
  ⟨h 4 (by decide) (by decide) _ h1, h 4 (by decide) (by decide) _ h2, h 5 (by decide) (by decide) _ h3,
   h 6 (by decide) (by decide) _ h4, h 8 (by decide) (by decide) _ h5⟩

theorem Runs.tryCatch {x : LM Rd α} {h : Halt → LM Rd α} {st : St Rd} {Q : α → St Rd → Prop} {R : Err → St Rd → Prop}
    (hx : Runs x st Q (fun _ _ => False)) : Runs (tryCatch x h) st Q R :=
  Runs_iff.mpr ((wp_tryCatch ..).mpr ((Runs_iff.mp hx).mono (fun _ _ h => h) fun e _ h => by cases e <;> exact h.elim))

theorem readTypes_at {B : Nat} (hB : 4 ≤ B) {rest : List Bool} {r : Ring} {L : LensOf} : ∀ (vals : List Nat) (acc : List Nat)
    {st : St Rd}, (∀ v ∈ vals, v < 16) → At st (vals.flatMap (msbBits 4) ++ rest) r L B →
    Runs (readTypes Rd.src vals.length acc) st (fun ts s => ts = acc.reverse ++ vals ∧ At s rest r L B) (fun _ _ => False)
  | [], acc, st, _, h => by
    rw [List.length_nil, readTypes]
    exact Runs.pure ⟨by simp, by simpa using h⟩
  | v :: vals, acc, st, h16, h => by
    rw [List.length_cons, readTypes]
    rw [List.flatMap_cons, List.append_assoc] at h
    refine Runs.bind (readBits_at 4 (by decide) hB _ h (msbBits_length 4 v)) ?_
    intro x s1 ⟨hx, h1⟩
    rw [bitsValMSB_msbBits, Nat.mod_eq_of_lt (h16 v (List.mem_cons_self ..))] at hx
    subst hx
    refine (readTypes_at hB vals (x :: acc) (fun v' h => h16 v' (List.mem_cons_of_mem _ h)) h1).mono ?_
    intro ts s2 ⟨a, b⟩
    exact ⟨by rw [a, List.reverse_cons, List.append_assoc]; rfl, b⟩

theorem setLens_lens (st : St Rd) (t : Tbl) (a : Array UInt8) : (st.setLens t a).lens t = a := by
  cases t <;> rfl

theorem setLens_other (st : St Rd) (t t' : Tbl) (a : Array UInt8) (h : t' ≠ t) : (st.setLens t a).lens t' = st.lens t' := by
  cases t <;> cases t' <;> first | rfl | exact absurd rfl h

theorem setLens_setLens (st : St Rd) (t : Tbl) (a b : Array UInt8) : (st.setLens t a).setLens t b = st.setLens t b := by
  cases t <;> rfl

theorem setLens_self (st : St Rd) (t : Tbl) : st.setLens t (st.lens t) = st := by
  cases t <;> rfl

theorem setLens_fields (st : St Rd) (t : Tbl) (a : Array UInt8) :
    (st.setLens t a).cur = st.cur ∧ (st.setLens t a).saved = st.saved ∧ (st.setLens t a).inbuf = st.inbuf ∧
    (st.setLens t a).inputEnd = st.inputEnd ∧ (st.setLens t a).src = st.src ∧ (st.setLens t a).window = st.window ∧
    (st.setLens t a).pos = st.pos ∧ (st.setLens t a).out = st.out := by
  cases t <;> exact ⟨rfl, rfl, rfl, rfl, rfl, rfl, rfl, rfl⟩

theorem flatWidth_byte (t : Tbl) : (UInt8.ofNat (flatWidth t % 256)).toNat = flatWidth t := by
  cases t <;> rfl

theorem lens_with_cur (s : St Rd) (c : BitPos) (t : Tbl) : ({ s with cur := c } : St Rd).lens t = s.lens t := by
  cases t <;> rfl
theorem lens_with_saved (s : St Rd) (c : BitPos) (t : Tbl) : ({ s with saved := c } : St Rd).lens t = s.lens t := by
  cases t <;> rfl

theorem At.setLens {B : Nat} {st : St Rd} {bs : List Bool} {r : Ring} {L : LensOf} (h : At st bs r L B) (t : Tbl)
    (a : Array UInt8) : At (st.setLens t a) bs r (L.put t a) B := by
  have hf := setLens_fields st t a
  refine h.frame ⟨hf.1, hf.2.2.1, hf.2.2.2.1, hf.2.2.2.2.1⟩ ?_ h.ok fun t' => ?_
  · rw [← h.ring]
    simp only [Lzh.ring, hf.2.2.2.2.2.1, hf.2.2.2.2.2.2.1, hf.2.2.2.2.2.2.2]
  · by_cases ht : t' = t
    · rw [ht, setLens_lens, LensOf.put_same]
    · rw [setLens_other _ _ _ _ ht, LensOf.put_other _ _ ht, h.lens]

theorem At.stored {B : Nat} {st : St Rd} {bs : List Bool} {r : Ring} {L : LensOf} (h : At st bs r L B) :
    At ({ st with saved := st.cur } : St Rd) bs r L B :=
  h.frame ⟨rfl, rfl, rfl, rfl⟩ h.ring h.ok fun t => (lens_with_saved ..).trans (h.lens t)

theorem At.restored {B : Nat} {st : St Rd} {bs : List Bool} {r : Ring} {L : LensOf} (h : At st bs r L B)
    (hsc : st.saved = st.cur) : At ({ st with cur := st.saved } : St Rd) bs r L B :=
  h.frame ⟨hsc, rfl, rfl, rfl⟩ h.ring h.ok fun t => (lens_with_cur ..).trans (h.lens t)

theorem setLen_at {B : Nat} (t : Tbl) (i c : Nat) {st : St Rd} {bs : List Bool} {r : Ring} {L : LensOf} (h : At st bs r L B)
    (hi : i < (L t).size) :
    Runs (setLen t i c : LM Rd Unit) st
      (fun _ s => At s bs r (L.put t ((L t).setIfInBounds i (UInt8.ofNat (c % 256)))) B) (fun _ _ => False) := by
  unfold setLen
  apply Runs.get_bind
  simp only
  have hi' : i < (st.lens t).size := by rw [h.lens]; exact hi
  rw [dif_pos hi']
  refine Runs.set ?_
  rw [show (L t).setIfInBounds i (UInt8.ofNat (c % 256)) = (st.lens t).set i (UInt8.ofNat (c % 256)) hi' by
    simp [Array.setIfInBounds, h.lens, hi]]
  exact h.setLens t _

/-- one more element of a run written into an array from `i` on -/
theorem set_toList (a : Array UInt8) (i : Nat) (v : UInt8) (hi : i < a.size) (mid : List UInt8) (k : Nat) :
    (a.setIfInBounds i v).toList.take (i + 1) ++ mid ++ (a.setIfInBounds i v).toList.drop (i + 1 + k) =
      a.toList.take i ++ v :: mid ++ a.toList.drop (i + (k + 1)) := by
  rw [Array.toList_setIfInBounds, take_set_succ _ _ _ (by rw [Array.length_toList]; exact hi), List.drop_set,
    if_pos (by omega), show i + 1 + k = i + (k + 1) by omega]
  simp

theorem lensFill_at {B : Nat} (t : Tbl) (c : Nat) {bs : List Bool} {r : Ring} : ∀ (k i : Nat) {st : St Rd} {L : LensOf},
    At st bs r L B → i + k ≤ (L t).size →
    Runs (lensFill t c k i : LM Rd Unit) st
      (fun _ s => ∃ a, a.toList = (L t).toList.take i ++ List.replicate k (UInt8.ofNat (c % 256)) ++ (L t).toList.drop (i + k) ∧
        At s bs r (L.put t a) B) (fun _ _ => False)
  | 0, i, st, L, h, _ => by
    rw [lensFill]
    refine Runs.pure ⟨L t, by simp, ?_⟩
    rw [LensOf.put_self]; exact h
  | k + 1, i, st, L, h, hsz => by
    rw [lensFill]
    refine Runs.bind (setLen_at t i c h (by omega)) fun _ s1 h1 => ?_
    refine (lensFill_at t c k (i + 1) h1 (by rw [LensOf.put_same, Array.size_setIfInBounds]; omega)).mono ?_
    intro _ s2 ⟨a, ha, h2⟩
    rw [LensOf.put_put] at h2
    refine ⟨a, ?_, h2⟩
    rw [ha, LensOf.put_same, set_toList _ _ _ (by omega), List.replicate_succ]

theorem readLensBody_flat_at {B : Nat} (t : Tbl) {st : St Rd} {bs : List Bool} {r : Ring} {L : LensOf} (hsc : st.saved = st.cur)
    (h : At st bs r L B) (hsz : (L t).size = t.syms) :
    Runs (readLensBody Rd.src t 0) st
      (fun _ s => s.saved = s.cur ∧ ∃ a, a.toList.map (·.toNat) = List.replicate t.syms (flatWidth t) ∧ At s bs r (L.put t a) B)
      (fun _ _ => False) := by
  unfold readLensBody restoreBits storeBits
  apply Runs.modify_bind
  simp only [↓reduceIte]
  refine Runs.bind (lensFill_at t (flatWidth t) t.syms 0 (h.restored hsc) (by omega)) ?_
  intro _ s ⟨a, ha, hs⟩
  refine Runs.modify ⟨rfl, a, ?_, hs.stored⟩
  rw [ha, List.take_zero, List.nil_append, Nat.zero_add, List.drop_of_length_le (by rw [Array.length_toList]; omega),
    List.append_nil, List.map_replicate, flatWidth_byte]

theorem buildTree_of_lens_at {B : Nat} (t : Tbl) (type : Nat) (vals : List Nat) (c : Huff.Canon)
    (hc : Huff.build kwajTABLEBITS vals = some c) {st : St Rd} {bs rest : List Bool} {r : Ring} {L : LensOf}
    (h : At st bs r L B)
    (hbody : ∀ s, s.saved = s.cur → At s bs r L B → Runs (readLensBody Rd.src t type) s
      (fun _ s => s.saved = s.cur ∧ ∃ a, a.toList.map (·.toNat) = vals ∧ At s rest r (L.put t a) B) (fun _ _ => False)) :
    Runs (buildTree Rd.src t type) st (fun c' s => c' = c ∧ ∃ a, a.toList.map (·.toNat) = vals ∧ At s rest r (L.put t a) B)
      (fun _ _ => False) := by
  unfold buildTree storeBits
  apply Runs.modify_bind
  unfold readLens
  refine Runs.bind (Q := fun e s => e = Err.ok ∧ s.saved = s.cur ∧ ∃ a, a.toList.map (·.toNat) = vals ∧
      At s rest r (L.put t a) B) (Runs.tryCatch (Runs.bind (hbody _ rfl h.stored) fun _ s hs => Runs.pure ⟨rfl, hs⟩)) ?_
  intro e s ⟨he, hsc, a, ha, hs⟩
  subst he
  simp only [ne_eq, not_true_eq_false, ↓reduceIte]
  unfold restoreBits
  apply Runs.modify_bind
  apply Runs.get_bind
  have hr := hs.restored hsc
  rw [hr.lens t, LensOf.put_same, ha, hc]
  exact Runs.pure ⟨rfl, a, ha, hr⟩

/-- `BUILD_TREE(tbl, type)` uses up `bits` and makes the table `c`, wherever in the stream it is called -/
def BuildsFrom (B : Nat) (t : Tbl) (type : Nat) (bits : List Bool) (c : Huff.Canon) : Prop :=
  ∀ {s : St Rd} {rest : List Bool} {r : Ring} {L : LensOf}, At s (bits ++ rest) r L B → L.ok →
    Runs (buildTree Rd.src t type) s (fun c' s' => c' = c ∧ ∃ L', L'.ok ∧ At s' rest r L' B) (fun _ _ => False)

theorem BuildsFrom.of_lens {B : Nat} {t : Tbl} {type : Nat} {bits : List Bool} {vals : List Nat} {c : Huff.Canon}
    (hlen : vals.length = t.syms) (hc : Huff.build kwajTABLEBITS vals = some c)
    (hbody : ∀ {s : St Rd} {rest : List Bool} {r : Ring} {L : LensOf}, s.saved = s.cur → At s (bits ++ rest) r L B →
      (L t).size = t.syms → Runs (readLensBody Rd.src t type) s
        (fun _ s => s.saved = s.cur ∧ ∃ a, a.toList.map (·.toNat) = vals ∧ At s rest r (L.put t a) B) (fun _ _ => False)) :
    BuildsFrom B t type bits c := fun h hL =>
  (buildTree_of_lens_at t type vals c hc h fun s hsc hs => hbody hsc hs (hL t)).mono fun _ _ ⟨hc', a, ha, hs⟩ =>
    ⟨hc', _, LensOf.put_ok hL t a (by rw [← Array.length_toList, ← List.length_map (f := (·.toNat)), ha, hlen]), hs⟩

theorem buildTree_flat {B : Nat} (t : Tbl) (c : Huff.Canon)
    (hc : Huff.build kwajTABLEBITS (List.replicate t.syms (flatWidth t)) = some c) : BuildsFrom B t 0 [] c :=
  BuildsFrom.of_lens (bits := []) List.length_replicate hc fun hsc h hsz => readLensBody_flat_at t hsc h hsz

/-- every field read before the token loop has 4 bits, hence any bound `B ≥ 4` -/
theorem decompressBody_tables {B : Nat} (hB : 4 ≤ B) (fuel : Nat) (st : St Rd) (hin : st.inbuf.size = 2048)
    (hsz : LensOf.ok st.lens) (types : List Nat) (hlen : types.length = 6) (h16 : ∀ v ∈ types, v < 16)
    (b1 b2 b3 b4 b5 rest : List Bool) (tr : Trees)
    (hsrc : bytesBitsMSB (st.src.file.drop st.src.pos) =
      types.flatMap (msbBits 4) ++ (b1 ++ (b2 ++ (b3 ++ (b4 ++ (b5 ++ rest))))))
    (hb1 : BuildsFrom B .MATCHLEN1 (types.getD 0 0) b1 tr.matchlen1)
    (hb2 : BuildsFrom B .MATCHLEN2 (types.getD 1 0) b2 tr.matchlen2)
    (hb3 : BuildsFrom B .LITLEN (types.getD 2 0) b3 tr.litlen)
    (hb4 : BuildsFrom B .OFFSET (types.getD 3 0) b4 tr.offset)
    (hb5 : BuildsFrom B .LITERAL (types.getD 4 0) b5 tr.literal)
    {Q : Unit → St Rd → Prop} {R : Err → St Rd → Prop}
    (hmain : ∀ s L, At s rest ⟨Array.replicate 4096 0x20, 0, st.out⟩ L B → Runs (mainLoop Rd.src tr fuel false) s Q R) :
    Runs (decompressBody Rd.src fuel) st Q R := by
  unfold decompressBody restoreBits
  apply Runs.modify_bind
  apply Runs.modify_bind
  apply Runs.modify_bind
  have h3 : At ({ ({ ({ st with saved := {}, inputEnd := 0 } : St Rd) with cur := ({} : BitPos) } : St Rd) with
      window := Array.replicate lzssWINDOW_SIZE (UInt8.ofNat lzssWINDOW_FILL), pos := 0 } : St Rd)
      (types.flatMap (msbBits 4) ++ (b1 ++ (b2 ++ (b3 ++ (b4 ++ (b5 ++ rest)))))) ⟨Array.replicate 4096 0x20, 0, st.out⟩ st.lens B :=
    ⟨⟨hin, Nat.le_refl _, Nat.zero_le _, by rw [← hsrc]; exact (List.append_nil _).symm, fun h => absurd rfl h, rfl,
      ⟨by simp, by show 0 < 4096; decide⟩, fun t => by cases t <;> rfl⟩, fun h => absurd rfl h⟩
  have ht := readTypes_at hB types [] h16 h3
  rw [hlen] at ht
  refine Runs.bind_total ht ?_
  intro ts s4 ⟨hty, h4⟩
  have hty : ts = types := hty
  subst hty
  refine Runs.bind_total (hb1 h4 hsz) fun c1 s5 ⟨he5, L5, hL5, h5⟩ => ?_
  refine Runs.bind_total (hb2 h5 hL5) fun c2 s6 ⟨he6, L6, hL6, h6⟩ => ?_
  refine Runs.bind_total (hb3 h6 hL6) fun c3 s7 ⟨he7, L7, hL7, h7⟩ => ?_
  refine Runs.bind_total (hb4 h7 hL7) fun c4 s8 ⟨he8, L8, hL8, h8⟩ => ?_
  refine Runs.bind_total (hb5 h8 hL8) fun c5 s9 ⟨he9, L9, _, h9⟩ => ?_
  subst he5 he6 he7 he8 he9
  exact hmain s9 L9 h9

theorem decompressBody_spec (toks : List Tok) (hwf : ∀ t ∈ toks, t.wf) (fuel : Nat) (hfuel : toks.length + 1 ≤ fuel)
    (st : St Rd) (hin : st.inbuf.size = 2048) (hsz : LensOf.ok st.lens)
    (hsrc : st.src.file.drop st.src.pos = encodeLzh toks) :
    Runs (decompressBody Rd.src fuel) st
      (fun _ s => ring s = expand toks ⟨Array.replicate 4096 0x20, 0, st.out⟩)
      (fun e s => e = .ok ∧ ring s = expand toks ⟨Array.replicate 4096 0x20, 0, st.out⟩) := by
  obtain ⟨m1, hm1⟩ := Option.isSome_iff_exists.mp (flat_build_some .MATCHLEN1)
  obtain ⟨m2, hm2⟩ := Option.isSome_iff_exists.mp (flat_build_some .MATCHLEN2)
  obtain ⟨ll, hll⟩ := Option.isSome_iff_exists.mp (flat_build_some .LITLEN)
  obtain ⟨off, hoff⟩ := Option.isSome_iff_exists.mp (flat_build_some .OFFSET)
  obtain ⟨li, hli⟩ := Option.isSome_iff_exists.mp (flat_build_some .LITERAL)
  exact decompressBody_tables (B := 16) (by decide) fuel st hin hsz [0, 0, 0, 0, 0, 0] rfl (by decide) [] [] [] [] []
    (toks.flatMap Tok.bits ++ List.replicate ((8 - (lzhBits toks).length % 8) % 8) false) ⟨m1, m2, ll, off, li⟩
    (by rw [hsrc, encodeLzh, packBits_bits, lzhBits, List.append_assoc]; rfl)
    (buildTree_flat _ _ hm1) (buildTree_flat _ _ hm2) (buildTree_flat _ _ hll) (buildTree_flat _ _ hoff)
    (buildTree_flat _ _ hli) fun s L h =>
      mainLoop_at _ (codes_flat ⟨m1, m2, ll, off, li⟩ hm1 hm2 hll hoff hli) toks fuel false _ hfuel hwf (by omega) h

theorem init_sizes (r : Rd) (fill : UInt8) : LensOf.ok (init r fill).lens := by
  intro t
  cases t <;> simp [init, St.lens, Tbl.syms]

theorem decompress_of_runs (fuel : Nat) (st : St Rd) (P : St Rd → Prop)
    (h : Runs (decompressBody Rd.src fuel) st (fun _ s => P s) (fun e s => e = .ok ∧ P s)) :
    ∃ st', decompress Rd.src fuel st = .ok ⟨.ok, st'.out.toList, st'⟩ ∧ P st' := by
  unfold Runs at h
  unfold decompress
  rcases hr : (decompressBody Rd.src fuel).run.run st with ⟨r, s⟩
  rw [hr] at h
  cases r with
  | ok a => exact ⟨s, rfl, h⟩
  | error e =>
    cases e with
    | ret e =>
      obtain ⟨he, hp⟩ := h
      subst he
      exact ⟨s, rfl, hp⟩
    | fault f => exact h.elim

end MsPack.Kwaj.Lzh
