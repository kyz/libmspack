import MsPack.Oab.Decompress
import MsPack.Spec.CabEncode
import Proofs.Lemmas.Fields
import Proofs.Lemmas.RdFacts
import Proofs.Lemmas.OabWalk
/-
Lemmas behind Proofs/Props/C06.lean: for full files and for incremental patches, the specification of the file layout
(`encFull`, `encPatch`), one round on a well-formed block (the handle afterwards is named by what follows it) and the
whole `while (target_size)` loop of the decompressor on a list of them (`WhileTarget.run`).  An LZX block enters through
its decoder law (`LzxLaw`, `PatchLaw`): a hypothesis saying that the LZX DELTA decoder delivers the block's data from its
payload; it is validated by differential runs, not proved (see the header of C06.lean).
-/
namespace MsPack.Oab
open MsPack.Generated


/-- a 16-byte header of four little-endian words is read: the buffer reaches the caller as a variable with its four
    field equations, the handle by what follows it -/
theorem readExact_hdr16 {file : Bytes} {pos a b c d : Nat} {rest : Bytes} (ha : a < 4294967296) (hb : b < 4294967296)
    (hc : c < 4294967296) (hd : d < 4294967296) (h : file.drop pos = enc32 a ++ enc32 b ++ enc32 c ++ enc32 d ++ rest) :
    ∃ hdr, (⟨file, pos⟩ : Rd).readExact 16 = some (hdr, ⟨file, pos + 16⟩) ∧ file.drop (pos + 16) = rest ∧
      u32At hdr 0 = a ∧ u32At hdr 4 = b ∧ u32At hdr 8 = c ∧ u32At hdr 12 = d := by
  obtain ⟨hre, hd2⟩ := Rd.readExact_at (n := 16) h (by simp only [List.length_append, Cab.enc32_length])
  refine ⟨_, hre, hd2, ?_⟩
  simp only [List.append_assoc, Cab.enc32_length, Cab.u32At_skip, Nat.reduceLeDiff, Nat.reduceSub,
    Cab.u32At_enc32, Cab.u32At_enc32_nil, ha, hb, hc, hd, and_self]

theorem read_prefix (file : Bytes) (pos : Nat) (a rest : Bytes) (h : file.drop pos = a ++ rest) :
    (⟨file, pos⟩ : Rd).read a.length = (a, ⟨file, pos + a.length⟩) := by
  simp [Rd.read, h]

theorem copyFhLoop_spec (bufSize : Nat) (hb : 0 < bufSize) (file : Bytes) :
    ∀ (fuel pos : Nat) (a rest racc : Bytes), file.drop pos = a ++ rest → a.length ≤ fuel →
      copyFhLoop true bufSize fuel ⟨file, pos⟩ a.length racc = .ok ⟨.ok, racc.reverse ++ a, ⟨file, pos + a.length⟩⟩ := by
  intro fuel
  induction fuel with
  | zero =>
    intro pos a rest racc _ hl
    have : a = [] := List.length_eq_zero_iff.mp (by omega)
    subst this; simp [copyFhLoop]
  | succ fuel ih =>
    intro pos a rest racc hd hl
    unfold copyFhLoop
    by_cases h0 : a.length = 0
    · have : a = [] := List.length_eq_zero_iff.mp h0
      subst this; simp
    · rw [if_neg h0]
      let run := if bufSize > a.length then a.length else bufSize
      have hrun : run ≤ a.length := by simp only [run]; split <;> omega
      have hrun0 : 0 < run := by simp only [run]; split <;> omega
      have hsplit : file.drop pos = a.take run ++ (a.drop run ++ rest) := by
        rw [← List.append_assoc, List.take_append_drop]; exact hd
      have htl : (a.take run).length = run := by rw [List.length_take]; omega
      have hr := read_prefix file pos (a.take run) (a.drop run ++ rest) hsplit
      rw [htl] at hr
      show (let run := if bufSize > a.length then a.length else bufSize; _) = _
      simp only
      rw [hr]
      simp only [htl, ne_eq, ↓reduceIte]
      have hd' : file.drop (pos + run) = a.drop run ++ rest := (Rd.readExact_at hsplit htl).2
      have hlen : a.length - run = (a.drop run).length := by rw [List.length_drop]
      rw [hlen, ih (pos + run) (a.drop run) rest _ hd' (by rw [List.length_drop]; omega)]
      simp only [List.reverse_append, List.reverse_reverse, List.append_assoc, List.take_append_drop,
        List.length_drop]
      rw [if_neg (fun h => h rfl)]
      have : pos + run + (a.length - run) = pos + a.length := by omega
      rw [this]

theorem copyFh_spec (bufSize : Nat) (hb : 0 < bufSize) (file : Bytes) (pos : Nat) (a rest : Bytes)
    (h : file.drop pos = a ++ rest) :
    copyFh true ⟨file, pos⟩ a.length bufSize = .ok ⟨.ok, a, ⟨file, pos + a.length⟩⟩ := by
  unfold copyFh
  rw [copyFhLoop_spec bufSize hb file a.length pos a rest [] h (Nat.le_refl _)]
  simp

/-- one block of a full OAB file as the writer laid it out -/
structure Blk where
  lzx     : Bool
  data    : Bytes      -- what the block decompresses to
  payload : Bytes      -- the bytes stored in the file (incl. any padding after the LZX data)
  crc     : Nat

def encBlk (b : Blk) : Bytes :=
  enc32 (if b.lzx then 1 else 0) ++ enc32 b.payload.length ++ enc32 b.data.length ++ enc32 b.crc ++ b.payload

def total (bs : List Blk) : Nat := (bs.map (·.data.length)).sum
def plain (bs : List Blk) : Bytes := bs.flatMap (·.data)

def encFull (blockMax : Nat) (bs : List Blk) : Bytes :=
  enc32 3 ++ enc32 1 ++ enc32 blockMax ++ enc32 (total bs) ++ bs.flatMap encBlk

/-- the decoder law of one LZX block (hypothesis): wherever the payload sits in a
    file, `lzxd_init` succeeds with the window size oabd.c derives, and decoding + padding skip +
    CRC comparison deliver exactly the block's data and leave the input after the payload -/
def LzxLaw (fuel bufSize : Nat) (fill : UInt8) (b : Blk) : Prop :=
  ∀ (file : Bytes) (pos : Nat) (rest : Bytes), file.drop pos = b.payload ++ rest →
    ∃ lzx, lzxInit ⟨⟨file, pos⟩, b.payload.length⟩ (windowBits b.data.length) bufSize b.data.length fill = some lzx ∧
      lzxBlockTail fuel bufSize lzx b.data.length b.crc = .ok ⟨.ok, b.data, ⟨file, pos + b.payload.length⟩⟩

def Blk.wf (fuel bufSize : Nat) (fill : UInt8) (blockMax : Nat) (b : Blk) : Prop :=
  b.data.length ≤ blockMax ∧ b.payload.length < 4294967296 ∧ b.crc < 4294967296 ∧
  (if b.lzx then LzxLaw fuel bufSize fill b else b.payload = b.data)

theorem fullBlock_step (fuel bufSize : Nat) (hb : 0 < bufSize) (fill : UInt8) (blockMax : Nat)
    (file : Bytes) (b : Blk) (pos targetSize : Nat) (rest w : Bytes)
    (hd : file.drop pos = encBlk b ++ rest) (hwf : b.wf fuel bufSize fill blockMax)
    (hbm : blockMax < 4294967296) (ht : b.data.length ≤ targetSize) :
    ∃ pos', fullBlock fuel bufSize fill blockMax ⟨file, pos⟩ targetSize w =
      .ok (.next ⟨file, pos'⟩ 0 (targetSize - b.data.length) (w ++ b.data)) ∧ file.drop pos' = rest := by
  obtain ⟨hdl, hpl, hcrc, hkind⟩ := hwf
  obtain ⟨hdr, hre, hd2, f0, f1, f2, f3⟩ := readExact_hdr16 (rest := b.payload ++ rest)
    (show (if b.lzx then 1 else 0 : Nat) < 4294967296 by split <;> omega) hpl (Nat.lt_of_le_of_lt hdl hbm) hcrc
    (by rw [hd]; simp [encBlk, List.append_assoc])
  unfold fullBlock
  rw [show oabblkSIZEOF = 16 from rfl, hre]
  simp only [oabblk_Flags, oabblk_CompSize, oabblk_UncompSize, oabblk_CRC, f0, f1, f2, f3]
  have hc1 : ¬(b.data.length > blockMax ∨ b.data.length > targetSize ∨ (if b.lzx then 1 else 0 : Nat) > 1) := by
    split <;> omega
  rw [if_neg hc1]
  cases hl : b.lzx with
  | false =>
    simp only [hl, Bool.false_eq_true, ↓reduceIte] at hkind ⊢
    rw [hkind] at hd2 ⊢
    rw [if_neg (fun h => h rfl), copyFh_spec bufSize hb file (pos + 16) b.data _ hd2]
    exact ⟨_, rfl, (Rd.readExact_at hd2 rfl).2⟩
  | true =>
    simp only [hl, ↓reduceIte] at hkind ⊢
    obtain ⟨lzx, hinit, htail⟩ := hkind file (pos + 16) _ hd2
    simp only [Nat.reduceEqDiff, ↓reduceIte, hinit, htail, ne_eq, not_true_eq_false]
    exact ⟨_, rfl, (Rd.readExact_at hd2 rfl).2⟩

theorem fullLoop_spec (fuel bufSize : Nat) (hb : 0 < bufSize) (fill : UInt8) (blockMax : Nat)
    (hbm : blockMax < 4294967296) (file : Bytes) :
    ∀ (bs : List Blk) (n pos : Nat) (rest w : Bytes),
      file.drop pos = bs.flatMap encBlk ++ rest → bs.length ≤ n →
      (∀ b ∈ bs, b.wf fuel bufSize fill blockMax) →
      fullLoop fuel bufSize fill blockMax n ⟨file, pos⟩ (total bs) w = .ok (.ok, w ++ plain bs) := by
  intro bs n pos rest w hd hn hwf
  refine (whileTarget_full fuel bufSize fill blockMax).run (·.data)
    (fun bs rd _ => rd.file.drop rd.pos = bs.flatMap encBlk ++ rest ∧ ∀ b ∈ bs, b.wf fuel bufSize fill blockMax)
    ?_ bs n ⟨file, pos⟩ 0 w ⟨hd, hwf⟩ hn
  rintro b bs ⟨file, pos⟩ _ t w ⟨hd, hwf⟩ ht
  obtain ⟨pos', h, hd'⟩ := fullBlock_step fuel bufSize hb fill blockMax file b pos t _ w
    (by rw [hd, List.flatMap_cons, List.append_assoc]) (hwf b (List.mem_cons_self ..)) hbm ht
  exact ⟨_, _, h, hd', fun b' h => hwf b' (List.mem_cons_of_mem _ h)⟩

theorem flatMap_encBlk_length (bs : List Blk) : 16 * bs.length ≤ (bs.flatMap encBlk).length := by
  induction bs with
  | nil => simp
  | cons b bs ih =>
    simp only [List.flatMap_cons, List.length_append, List.length_cons, encBlk, enc32, List.length_nil]
    omega

/-- one block of a patch: LZX DELTA data decoding to `data` against `ref`, the next `ref.length`
    bytes of the base file -/
structure PBlk where
  data    : Bytes
  ref     : Bytes
  payload : Bytes
  crc     : Nat

def encPBlk (b : PBlk) : Bytes :=
  enc32 b.payload.length ++ enc32 b.data.length ++ enc32 b.ref.length ++ enc32 b.crc ++ b.payload

def ptotal (bs : List PBlk) : Nat := (bs.map (·.data.length)).sum
def pplain (bs : List PBlk) : Bytes := bs.flatMap (·.data)
def pbase (bs : List PBlk) : Bytes := bs.flatMap (·.ref)

def encPatch (blockMax sourceSize sourceCrc targetCrc : Nat) (bs : List PBlk) : Bytes :=
  enc32 3 ++ enc32 2 ++ enc32 blockMax ++ enc32 sourceSize ++ (enc32 (ptotal bs) ++ enc32 sourceCrc ++ enc32 targetCrc)
    ++ bs.flatMap encPBlk

/-- decoder law of one patch block (hypothesis): with the window size oabd.c derives from the
    source and target sizes and the reference data loaded, decoding delivers the block's data -/
def PatchLaw (fuel bufSize : Nat) (fill : UInt8) (b : PBlk) : Prop :=
  ∀ (file : Bytes) (pos : Nat) (rest : Bytes), file.drop pos = b.payload ++ rest →
    ∃ lzx lzx', lzxInit ⟨⟨file, pos⟩, b.payload.length⟩ (windowBits (patchWindowSize b.ref.length b.data.length)) 4096 b.data.length fill = some lzx ∧
      Lzx.setReferenceData lzx b.ref.length (some b.ref) = (.ok, lzx') ∧
      lzxBlockTail fuel bufSize lzx' b.data.length b.crc = .ok ⟨.ok, b.data, ⟨file, pos + b.payload.length⟩⟩

def PBlk.wf (fuel bufSize : Nat) (fill : UInt8) (blockMax : Nat) (b : PBlk) : Prop :=
  b.data.length ≤ blockMax ∧ b.ref.length ≤ blockMax ∧ b.payload.length < 4294967296 ∧ b.crc < 4294967296 ∧
  PatchLaw fuel bufSize fill b

theorem patchBlock_step (fuel bufSize : Nat) (fill : UInt8) (blockMax : Nat)
    (file base : Bytes) (b : PBlk) (pos bpos targetSize : Nat) (rest brest w : Bytes)
    (hd : file.drop pos = encPBlk b ++ rest) (hbd : base.drop bpos = b.ref ++ brest)
    (hwf : b.wf fuel bufSize fill blockMax) (hbm : blockMax < 4294967296) (ht : b.data.length ≤ targetSize) :
    ∃ pos', patchBlock fuel bufSize 4096 fill blockMax base false ⟨file, pos⟩ bpos targetSize w =
      .ok (.next ⟨file, pos'⟩ (bpos + b.ref.length) (targetSize - b.data.length) (w ++ b.data)) ∧ file.drop pos' = rest := by
  obtain ⟨hdl, hrl, hpl, hcrc, hlaw⟩ := hwf
  obtain ⟨hdr, hre, hd2, f0, f1, f2, f3⟩ := readExact_hdr16 (rest := b.payload ++ rest) hpl (Nat.lt_of_le_of_lt hdl hbm)
    (Nat.lt_of_le_of_lt hrl hbm) hcrc (by rw [hd]; simp [encPBlk, List.append_assoc])
  have hbr := read_prefix base bpos _ _ hbd
  unfold patchBlock
  rw [show patchblkSIZEOF = 16 from rfl, hre]
  simp only [patchblk_PatchSize, patchblk_TargetSize, patchblk_SourceSize, patchblk_CRC, f0, f1, f2, f3]
  have hc1 : ¬(b.data.length > blockMax ∨ b.data.length > targetSize ∨ b.ref.length > blockMax) := by omega
  rw [if_neg hc1]
  obtain ⟨lzx, lzx', hinit, hset, htail⟩ := hlaw file (pos + 16) _ hd2
  simp only [hinit, Bool.false_eq_true, ↓reduceIte, hbr, hset, htail, ne_eq, not_true_eq_false]
  exact ⟨_, rfl, (Rd.readExact_at hd2 rfl).2⟩

theorem patchLoop_spec (fuel bufSize : Nat) (fill : UInt8) (blockMax : Nat)
    (hbm : blockMax < 4294967296) (file base : Bytes) :
    ∀ (bs : List PBlk) (n pos bpos : Nat) (rest brest w : Bytes),
      file.drop pos = bs.flatMap encPBlk ++ rest → base.drop bpos = pbase bs ++ brest → bs.length ≤ n →
      (∀ b ∈ bs, b.wf fuel bufSize fill blockMax) →
      patchLoop fuel bufSize 4096 fill blockMax base false n ⟨file, pos⟩ bpos (ptotal bs) w = .ok (.ok, w ++ pplain bs) := by
  intro bs n pos bpos rest brest w hd hbd hn hwf
  refine (whileTarget_patch fuel bufSize 4096 fill blockMax base false).run (·.data)
    (fun bs rd bp => rd.file.drop rd.pos = bs.flatMap encPBlk ++ rest ∧ base.drop bp = pbase bs ++ brest ∧
      ∀ b ∈ bs, b.wf fuel bufSize fill blockMax)
    ?_ bs n ⟨file, pos⟩ bpos w ⟨hd, hbd, hwf⟩ hn
  rintro b bs ⟨file, pos⟩ bp t w ⟨hd, hbd, hwf⟩ ht
  have hbd1 : base.drop bp = b.ref ++ (pbase bs ++ brest) := by rw [hbd, pbase, List.flatMap_cons, List.append_assoc]; rfl
  obtain ⟨pos', h, hd'⟩ := patchBlock_step fuel bufSize fill blockMax file base b pos bp t _ _ w
    (by rw [hd, List.flatMap_cons, List.append_assoc]) hbd1 (hwf b (List.mem_cons_self ..)) hbm ht
  exact ⟨_, _, h, hd', (Rd.readExact_at hbd1 rfl).2, fun b' h => hwf b' (List.mem_cons_of_mem _ h)⟩

theorem flatMap_encPBlk_length (bs : List PBlk) : 16 * bs.length ≤ (bs.flatMap encPBlk).length := by
  induction bs with
  | nil => simp
  | cons b bs ih =>
    simp only [List.flatMap_cons, List.length_append, List.length_cons, encPBlk, enc32, List.length_nil]
    omega

theorem patch_hdr_fields (a b c d e f g : Nat) (ha : a < 4294967296) (hb : b < 4294967296) (hc : c < 4294967296)
    (he : e < 4294967296) :
    (enc32 a ++ enc32 b ++ enc32 c ++ enc32 d ++ (enc32 e ++ enc32 f ++ enc32 g)).length = 28 ∧
    u32At (enc32 a ++ enc32 b ++ enc32 c ++ enc32 d ++ (enc32 e ++ enc32 f ++ enc32 g)) 0 = a ∧
    u32At (enc32 a ++ enc32 b ++ enc32 c ++ enc32 d ++ (enc32 e ++ enc32 f ++ enc32 g)) 4 = b ∧
    u32At (enc32 a ++ enc32 b ++ enc32 c ++ enc32 d ++ (enc32 e ++ enc32 f ++ enc32 g)) 8 = c ∧
    u32At (enc32 a ++ enc32 b ++ enc32 c ++ enc32 d ++ (enc32 e ++ enc32 f ++ enc32 g)) 16 = e := by
  simp only [List.append_assoc, List.length_append, Cab.enc32_length, Cab.u32At_skip, Nat.reduceLeDiff, Nat.reduceSub,
    Cab.u32At_enc32, ha, hb, hc, he, and_self]

/-! ## the API functions, given what the header read delivers (everything opaque, so that neither
the elaborator nor the kernel is tempted to evaluate header fields of a concrete buffer) -/

theorem decompress_of_header (fuel bufSize : Nat) (fill : UInt8) (file hdr : Bytes) (blockMax targetSize : Nat)
    (r : Err × Bytes)
    (hre : (⟨file, 0⟩ : Rd).readExact 16 = some (hdr, ⟨file, 16⟩))
    (f0 : u32At hdr 0 = 3) (f1 : u32At hdr 4 = 1) (f2 : u32At hdr 8 = blockMax) (f3 : u32At hdr 12 = targetSize)
    (hloop : fullLoop fuel bufSize fill blockMax (file.length / 16 + 1) ⟨file, 16⟩ targetSize [] = .ok r) :
    decompress fuel bufSize fill (some file) = .ok ⟨r.1, some r.2⟩ := by
  have h1 : fullRun fuel bufSize fill file.length blockMax targetSize ⟨file, 16⟩ false = .ok ⟨r.1, some r.2⟩ := by
    unfold fullRun
    simp only [Bool.false_eq_true, ↓reduceIte, hloop, wrapLoop]
  unfold decompress
  simp only [show oabheadSIZEOF = 16 from rfl, hre, oabhead_VersionHi, oabhead_VersionLo, oabhead_BlockMax,
    oabhead_TargetSize, f0, f1, f2, f3, ne_eq, not_true_eq_false, or_self, ↓reduceIte, h1]

theorem decompressIncremental_of_header (fuel bufSize : Nat) (fill : UInt8) (file base hdr : Bytes)
    (blockMax targetSize : Nat) (r : Err × Bytes)
    (hre : (⟨file, 0⟩ : Rd).readExact 28 = some (hdr, ⟨file, 28⟩))
    (f0 : u32At hdr 0 = 3) (f1 : u32At hdr 4 = 2) (f2 : u32At hdr 8 = blockMax) (f4 : u32At hdr 16 = targetSize)
    (hloop : patchLoop fuel bufSize 4096 fill (if blockMax < 16 then 16 else blockMax) base false (file.length / 16 + 1)
               ⟨file, 28⟩ 0 targetSize [] = .ok r) :
    decompressIncremental fuel bufSize fill (some file) (some base) = .ok ⟨r.1, some r.2⟩ := by
  have h1 : incrementalLoop fuel bufSize 4096 fill file.length blockMax targetSize ⟨file, 28⟩ base false false = .ok ⟨r.1, some r.2⟩ := by
    unfold incrementalLoop
    simp only [show patchblkSIZEOF = 16 from rfl, Bool.false_eq_true, ↓reduceIte, hloop, wrapLoop]
  have h2 : incrementalOpened fuel bufSize 4096 fill file (some base) false false = .ok ⟨r.1, some r.2⟩ := by
    unfold incrementalOpened
    simp only [show patchheadSIZEOF = 28 from rfl, hre, patchhead_VersionHi, patchhead_VersionLo, patchhead_BlockMax,
      patchhead_TargetSize, f0, f1, f2, f4, ne_eq, not_true_eq_false, or_self, ↓reduceIte, incrementalBase, h1]
  unfold decompressIncremental
  exact h2

end MsPack.Oab
