import Proofs.Lemmas.QtmBounds
import Proofs.Lemmas.CountLaws
/-!
# Counting law of the Quantum decoder (lemmas for C07Decoders)

`Bal T r` — bytes handed to `write` so far + bytes still owed = the request — is one more invariant of the walk of
`CountLaws.lean` (`bal_walk : WalkOut S (Bal T) (fun _ => Bal T)`): no step but `writeOut n` and the `out_bytes -= n`
after it touches either summand, and across the two together (`flushThen_bal`, `wrapThen_bal`) the sum is the same
because `writeOut` hands out exactly `n` bytes when it does not fault.
-/
namespace MsPack.CountLaws.Qtm
open MsPack.Qtm
variable {σ : Type} (S : Src σ) (T : Nat)

def Bal (T : Nat) (r : Run σ) : Prop := r.written.size + r.outBytes = T

theorem Bal_of {T : Nat} {a b : Run σ} (h : Bal T a) (h1 : b.written = a.written)
    (h2 : b.outBytes = a.outBytes) : Bal T b := by
  unfold Bal at *; rw [h1, h2]; exact h

theorem Bal_write {r b : Run σ} (hr : Bal T r) {p n : Nat} (hn : n ≤ r.outBytes)
    (hw : ¬(n > 0 ∧ p + n > r.st.window.size)) (h1 : b.written = r.written ++ r.st.window.extract p (p + n))
    (h2 : b.outBytes = r.outBytes - n) : Bal T b := by
  unfold Bal at *
  rw [h1, h2, Array.size_append, Array.size_extract]
  omega

theorem flushThen_bal (ws : Nat) {k : QM σ Unit} (hk : Tri (Bal T) (fun _ => Bal T) k) :
    Tri (Bal T) (fun _ => Bal T) (flushThen ws k) := by
  constructor
  intro r hr res s' h
  unfold flushThen at h
  rw [run_get_bind] at h
  dsimp only at h
  by_cases hc : ws - r.st.oPtr > r.outBytes
  · rw [if_pos hc, wp.run_bind, fail_run] at h
    cases h
    exact hr
  · rw [if_neg hc, wp.run_bind, writeOut_run] at h
    by_cases hw : ws - r.st.oPtr > 0 ∧ r.st.oPtr + (ws - r.st.oPtr) > r.st.window.size
    · rw [if_pos hw] at h; cases h; exact hr
    · rw [if_neg hw] at h
      dsimp only at h
      rw [run_modify_bind] at h
      exact hk.out _ (Bal_write T hr (Nat.le_of_not_gt hc) hw rfl rfl) _ _ h

theorem wrapThen_bal {k : QM σ Unit} (hk : Tri (Bal T) (fun _ => Bal T) k) :
    Tri (Bal T) (fun _ => Bal T) (wrapThen k) := by
  constructor
  intro r hr res s' h
  unfold wrapThen at h
  rw [run_get_bind] at h
  dsimp only at h
  split at h
  · split at h
    · cases h; exact hr
    · rw [wp.run_bind, writeOut_run] at h
      by_cases hw : r.st.oEnd - r.st.oPtr > 0 ∧ r.st.oPtr + (r.st.oEnd - r.st.oPtr) > r.st.window.size
      · rw [if_pos hw] at h; cases h; exact hr
      · rw [if_neg hw] at h
        dsimp only at h
        rw [run_modify_bind] at h
        exact hk.out _ (Bal_write T hr (Nat.le_of_lt (Nat.lt_of_not_ge ‹_›)) hw rfl rfl) _ _ h
  · exact hk.out r hr _ _ h

theorem bal_walk : WalkOut S (Bal T) (fun _ => Bal T) where
  frame := fun h _ _ _ h1 h2 => Bal_of h h1 h2
  fault := fun _ _ h _ => h
  readFault := fun _ _ h _ => h
  symFault := fun _ _ _ _ _ _ h _ => h
  fail := fun _ h => Bal_of h rfl rfl
  readNone := fun _ _ h _ => Bal_of h rfl rfl
  readEnd := fun _ _ h _ => Bal_of h rfl rfl
  readMore := fun _ _ _ _ h _ _ _ _ h1 h2 => Bal_of h h1 h2
  flush := fun ws _ hk => flushThen_bal T ws hk
  wrap := fun hk => wrapThen_bal T hk

theorem blockLoop_bal (fuel n : Nat) : Tri (Bal T) (fun _ => Bal T) (Qtm.blockLoop S fuel n) :=
  blockLoop_walk (bal_walk S T) fuel n

def Fin (T : Nat) : Except Qtm.Halt Unit × Run σ → Prop
  | (.ok _, r) => r.written.size = T
  | (.error _, r) => r.written.size ≤ T

theorem body_fin (fuel : Nat) (r0 : Run σ) (h0 : Bal T r0) : Fin T ((body S fuel).run.run r0) := by
  rw [body_eq, run_get_bind, wp.run_bind]
  cases hr : (Qtm.blockLoop S fuel (2 * r0.outBytes + 4)).run.run r0 with
  | mk res r1 =>
    have h1 : Bal T r1 := (blockLoop_bal S T fuel _).keeps.out r0 h0 _ _ hr
    unfold Bal at h1
    cases res with
    | error e => show r1.written.size ≤ T; omega
    | ok u =>
      dsimp only
      rw [run_get_bind, run_ite]
      split
      · rw [wp.run_bind, writeOut_run]
        by_cases hc : r1.outBytes > 0 ∧ r1.st.oPtr + r1.outBytes > r1.st.window.size
        · rw [if_pos hc]; show r1.written.size ≤ T; omega
        · rw [if_neg hc]
          dsimp only
          rw [run_modify]
          show (r1.written ++ r1.st.window.extract r1.st.oPtr (r1.st.oPtr + r1.outBytes)).size = T
          rw [Array.size_append, Array.size_extract]
          omega
      · rename_i h0'
        rw [run_pure]
        show r1.written.size = T
        omega

/-- counting law of `qtmd_decompress`, every source, fuel, state and request size -/
theorem decompress_count (fuel : Nat) (st : St σ) (n : Nat) (o : DecodeOut (St σ))
    (h : Qtm.decompress S fuel st n = .ok o) :
    o.written.length ≤ n ∧ (o.err = .ok → o.written.length = n) := by
  have : (match Qtm.decompress S fuel st n with
      | .ok o => o.written.length ≤ n ∧ (o.err = .ok → o.written.length = n) | .error _ => True) := by
    refine Qtm.decompress_cases S fuel st n
      (P := fun | .ok o => o.written.length ≤ n ∧ (o.err = .ok → o.written.length = n) | .error _ => True)
      (fun he => ⟨Nat.zero_le _, fun hc => absurd hc he⟩) fun _ i _ hin => ?_
    have hsz (hg : ¬(i > 0 ∧ st.oPtr + i > st.window.size)) : (st.window.extract st.oPtr (st.oPtr + i)).size = i := by
      simp only [Array.size_extract]; omega
    refine ⟨fun _ => trivial, fun hg _ => ?_, fun hg _ => ?_⟩
    · simp only [Array.length_toList, hsz hg]
      omega
    · have hb (r0 : Run σ) (h0 : r0.written.size + r0.outBytes = n) := body_fin S n fuel r0 h0
      refine .of_run (fun _ r hr => ?_) fun e r hr => ?_
      · have hf : r.written.size = n := (hr ▸ hb _ (by dsimp only; rw [hsz hg]; omega) : Fin n (.ok (), r))
        simp only [Array.length_toList, hf]
        exact ⟨Nat.le_refl _, fun _ => trivial⟩
      · have hf : r.written.size ≤ n := (hr ▸ hb _ (by dsimp only; rw [hsz hg]; omega) : Fin n (.error e, r))
        cases e with
        | fault _ => trivial
        | sys e => exact ⟨by simpa using hf, fun hc => absurd hc ((body_throws S fuel).out _ _ _ hr)⟩
  rw [h] at this
  exact this

end MsPack.CountLaws.Qtm
