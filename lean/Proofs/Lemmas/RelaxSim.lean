import Proofs.Lemmas.BlockBounds
import Proofs.Lemmas.CountLawsRead
import Proofs.Lemmas.ZipSim
/-!
# C18: the relaxed modes simulate the strict run (lemmas for C18Decoders)

`Sim False R E m₁ m₂` (`Sim.lean`): from `R`-related states, whenever `m₁` returns normally, `m₂` returns the same
value in an `R`-related state.  `R` relates a strict-mode state to one that differs only in the relaxation flags
(feeder: `salvage`, `fixMszip`, and the `readError` bookkeeping; MSZIP: `repair`).  The flags are consulted
only on paths the strict run answers with an error, so nothing has to be shown there.
-/
namespace MsPack.CountLaws.Relax
open MsPack.Cab
open MsPack.CountLaws.ReadErr (run_set_bind run_set run_throw)
open MsPack.CountLaws.Qtm (run_get_bind)

structure FR (a b : Feeder) : Prop where
  rd : b.rd = a.rd
  parts : b.parts = a.parts
  block : b.block = a.block
  numBlocks : b.numBlocks = a.numBlocks
  outlen : b.outlen = a.outlen
  buf : b.buf = a.buf
  compType : b.compType = a.compType
  lzxLen : b.lzxLen = a.lzxLen
  strictS : a.salvage = false
  strictF : a.fixMszip = false

theorem FR.eq {a b : Feeder} (h : FR a b) :
    b = { a with readError := b.readError, salvage := b.salvage, fixMszip := b.fixMszip } := by
  cases a; cases b
  cases h.rd; cases h.parts; cases h.block; cases h.numBlocks; cases h.outlen; cases h.buf; cases h.compType
  cases h.lzxLen
  rfl

theorem feederRead_flags (files : Files) (s f : Bool) : ∀ (fuel : Nat) (fd : Feeder) (e : Err) (todo : Nat)
    (got g : Bytes) (fd' : Feeder), fd.salvage = false → fd.fixMszip = false →
    feederRead files fuel fd todo got = .ok (some g, fd') →
    fd'.salvage = false ∧ fd'.fixMszip = false ∧ ∃ e', feederRead files fuel
      { fd with readError := e, salvage := s, fixMszip := f } todo got =
        .ok (some g, { fd' with readError := e', salvage := s, fixMszip := f }) := by
  intro fuel fd e todo got
  revert e
  refine feederRead_induct files (hang := fun _ _ _ _ _ => nofun)
    (done := fun e _ _ hs hf h => by cases h; exact ⟨hs, hf, e, by rw [feederRead_succ, if_pos rfl]⟩)
    (serve := fun h0 hb ih e g fd' hs hf h => by
      rw [feederRead_succ]; dsimp only; rw [if_neg h0, if_pos hb]
      exact ih e g fd' hs hf h)
    (pastEnd := fun h0 hb hge e g fd' hs hf h => by
      cases h
      rw [feederRead_succ]; dsimp only; rw [if_neg h0, if_neg (fun h => h hb), if_pos hge]
      exact ⟨hs, hf, _, rfl⟩)
    (fault := fun _ _ _ _ _ _ _ _ _ => nofun) (refuse := fun _ _ _ _ _ _ _ _ _ => nofun)
    (take := fun h0 hb hlt hrb ih e g fd' hs hf h => by
      rw [feederRead_succ]; dsimp only; rw [if_neg h0, if_neg (fun h => h hb), if_neg (Nat.not_le.2 hlt)]
      unfold Feeder.nextBlock at hrb ⊢
      rw [hs, hf] at hrb
      dsimp only
      rw [readBlock_relax_mono files _ _ _ _ _ _ _ _ _ _ hrb]
      exact ih .ok g fd' hs hf h) fuel fd todo got

theorem feederRead_rel (files : Files) (fuel : Nat) (fd1 fd2 : Feeder) (todo : Nat) (got g : Bytes)
    (fd1' : Feeder) (hr : FR fd1 fd2) (h : feederRead files fuel fd1 todo got = .ok (some g, fd1')) :
    ∃ fd2', feederRead files fuel fd2 todo got = .ok (some g, fd2') ∧ FR fd1' fd2' := by
  obtain ⟨hs, hf, e', h2⟩ :=
    feederRead_flags files fd2.salvage fd2.fixMszip fuel fd1 fd2.readError todo got g fd1' hr.strictS hr.strictF h
  rw [← hr.eq] at h2
  exact ⟨_, h2, rfl, rfl, rfl, rfl, rfl, rfl, rfl, rfl, hs, hf⟩

theorem feederSrc_rel (files : Files) (fd1 fd2 : Feeder) (n : Nat) (g : Bytes) (fd1' : Feeder) (hr : FR fd1 fd2)
    (h : (feederSrc files).read fd1 n = .ok (some g, fd1')) :
    ∃ fd2', (feederSrc files).read fd2 n = .ok (some g, fd2') ∧ FR fd1' fd2' := by
  have hf : feederFuel fd2 = feederFuel fd1 := by unfold feederFuel; rw [hr.numBlocks, hr.block]
  show ∃ fd2', feederRead files (feederFuel fd2) fd2 n [] = _ ∧ _
  rw [hf]
  exact feederRead_rel files _ _ _ _ _ _ _ hr h


section zip
open MsPack.CabLift.ZipSim
variable (files : Files)

structure ZR (a b : Zip.St Feeder) : Prop where
  src : FR a.src b.src
  inbufSize : b.inbufSize = a.inbufSize
  inbuf : b.inbuf = a.inbuf
  inputEnd : b.inputEnd = a.inputEnd
  bits : b.bits = a.bits
  window : b.window = a.window
  windowPosn : b.windowPosn = a.windowPosn
  bytesOutput : b.bytesOutput = a.bytesOutput
  litLens : b.litLens = a.litLens
  distLens : b.distLens = a.distLens
  error : b.error = a.error
  pending : b.pending = a.pending
  repair : a.repair = false

def NR (a : Zip.St Feeder) : Prop := a.repair = false

def RE : Zip.Halt → Zip.St Feeder → Prop
  | .fault _, _ => True
  | _, st => st.repair = false

theorem ZR.toSR {a b : Zip.St Feeder} (h : ZR a b) : SR FR NR b.repair a b := by
  refine ⟨h.repair, b.src, h.src, ?_⟩
  cases a; cases b
  cases h.inbufSize; cases h.inbuf; cases h.inputEnd; cases h.bits; cases h.window; cases h.windowPosn
  cases h.bytesOutput; cases h.litLens; cases h.distLens; cases h.error; cases h.pending
  rfl

theorem ZR.ofSR {c : Bool} {a b : Zip.St Feeder} (h : SR FR NR c a b) : ZR a b := by
  obtain ⟨hc, x, hx, rfl⟩ := h
  exact ⟨hx, rfl, rfl, rfl, rfl, rfl, rfl, rfl, rfl, rfl, rfl, rfl, hc⟩

theorem readInput_rel (c : Bool) : Sim False (SR FR NR c) RE
    (Zip.readInput (feederSrc files)) (Zip.readInput (feederSrc files)) := by
  constructor
  · intro s1 s2 hr a s1' h
    obtain ⟨hc, fd, hf, rfl⟩ := hr
    unfold Zip.readInput at h ⊢
    rw [run_get_bind] at h ⊢
    dsimp only
    split at h
    · rw [run_throw] at h; cases h
    · rw [run_set_bind, run_throw] at h; cases h
    · rename_i src hrd
      obtain ⟨fd2', h2, hf'⟩ := feederSrc_rel files _ _ _ _ _ hf hrd
      rw [h2]
      dsimp only
      split at h
      · rw [run_set_bind, run_throw] at h; cases h
      · rename_i hie
        rw [run_set] at h; cases h
        rw [if_neg hie, run_set]
        exact ⟨_, rfl, hc, fd2', hf', rfl⟩
    · rename_i got src hne hrd
      obtain ⟨fd2', h2, hf'⟩ := feederSrc_rel files _ _ _ _ _ hf hrd
      rw [h2]
      rw [run_set] at h; cases h
      cases got with
      | nil => exact absurd rfl hne
      | cons b rest =>
        dsimp only
        rw [run_set]
        exact ⟨_, rfl, hc, fd2', hf', rfl⟩
  · intro s1 _ hr e t1 h
    refine ⟨?_, False.elim⟩
    unfold Zip.readInput at h
    rw [run_get_bind] at h
    split at h
    · rw [run_throw] at h; cases h; trivial
    · rw [run_set_bind, run_throw] at h; cases h; exact hr.1
    · split at h
      · rw [run_set_bind, run_throw] at h; cases h; exact hr.1
      · rw [run_set] at h; cases h
    · rw [run_set] at h; cases h

theorem relax_walk (c : Bool) : Walk False FR NR c RE (feederSrc files) (feederSrc files) :=
  ⟨fun h _ _ _ h4 => h4.trans h, fun h => h.elim, fun _ _ _ _ => trivial, fun _ h => h, readInput_rel files c⟩

def ZSame (o1 : Zip.Out Feeder) (r : Except Fault (Zip.Out Feeder)) : Prop :=
  ∃ o2, r = .ok o2 ∧ o2.err = .ok ∧ o2.written = o1.written ∧ ZR o1.st o2.st

/-- **MSZIP under relaxed flags**: an OK call of the strict decoder is repeated verbatim by one that differs
    in the feeder's flags and the repair flag -/
theorem zip_relax (fuel : Nat) (s1 s2 : Zip.St Feeder) (n : Nat) (o1 : Zip.Out Feeder) (hr : ZR s1 s2)
    (h : Zip.decompress (feederSrc files) fuel s1 n = .ok o1) (he : o1.err = .ok) : ZSame o1 (Zip.decompress (feederSrc files) fuel s2 n) := by
  have h1 : s1.error = .ok := by
    refine Decidable.byContradiction fun hne => ?_
    rw [Zip.decompress_dead _ fuel s1 n hne] at h
    cases h
    exact hne he
  have := decompress_sim (relax_walk files s2.repair) (fun _ h => h) (fun a h hr => by rw [h] at hr; cases hr)
    (fun _ _ _ _ h _ _ hr _ => hr.trans h) fuel n hr.toSR h1
  rw [h] at this
  obtain ⟨o2, h2, e2, w2, hr2⟩ := this.2.1 he
  exact ⟨o2, h2, e2, w2, .ofSR hr2⟩

end zip

end MsPack.CountLaws.Relax
