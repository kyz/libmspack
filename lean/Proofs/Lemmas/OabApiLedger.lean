import Proofs.Lemmas.KwajApiLedger
import Proofs.Lemmas.OabApiWalk
/-
Ledger effect of the OAB API functions (model `MsPack/Oab/Api.lean`): every path of `oabd_decompress`
and `oabd_decompress_incremental`, under any fault plan, for any file contents, and for any LZX
decoder body that satisfies the frame law (`Lawful`).  `copy_fh` and the blocks are walked in
`OabApiWalk.lean` for any invariant; here the ledger is put in.

oabd.c acquires and releases in stack order (input handle, [base handle,] output handle, `buf`,
then per LZX block the three blocks of the stream), so the ledger during a call is described by
`Plus v ex hs`: the view `v` from before the call with the blocks `ex` and the handles `hs` pushed
on top.
-/
namespace MsPack.Oab.Api
open MsPack.Sys
open MsPack.Kwaj.Api (FrameLaw)

/-- the frame law for `lzxd_decompress` over `oabd_sys`: whatever it was set up with, run with a live
    input and a live output handle it leaves live blocks, live handles and the misuse record as they
    were (`oabd_sys_read` / `oabd_sys_write` call `read` on the first and `write` on the second) -/
def Lawful (body : Body) : Prop :=
  ∀ a : LzxArgs, FrameLaw fun inFh outFh => do let r ← body a inFh outFh; pure r.err

section
variable {v : View} {ex : List Nat} {hs : List (Nat × Mode)} {inFh baseFh outFh : Nat}

theorem Lawful.pres {body : Body} (hb : Lawful body) (a : LzxArgs) (hin : (inFh, Mode.read) ∈ hs ++ v.handles)
    (hout : (outFh, Mode.write) ∈ hs ++ v.handles) : Pres (Plus v ex hs) (body a inFh outFh) :=
  fun w p => p.step (hb a inFh outFh w p.ok (p.mem_handles hin) (p.mem_handles hout))

theorem copyFh_pres (outFh : Option Nat) (bufSize : Nat) (hin : (inFh, Mode.read) ∈ hs ++ v.handles)
    (hout : ∀ o, outFh = some o → (o, Mode.write) ∈ hs ++ v.handles) :
    ∀ fuel todo, Pres (Plus v ex hs) (copyFh inFh outFh bufSize fuel todo) :=
  copyFh_walk (I := fun _ => Plus v ex hs) inFh outFh bufSize
    (fun _ run _ => (Plus.read run hin).post fun _ _ p => ⟨p, fun _ _ _ => p⟩)
    (fun _ o bs ho => Plus.write bs (hout o ho)) (fun _ p => p) (fun _ _ _ p => p)

theorem Plus.memStable : MemStable fun bl => Plus v bl hs :=
  ⟨fun _ => Plus.alloc, fun _ o => Plus.free o, fun _ x o => Plus.free_under x o⟩

/-- `H := True`: a `copy_fh` out of fuel is not a return of the C, nothing is claimed of it -/
theorem Plus.blockStable {body : Body} (hb : Lawful body) (bufSize fuel : Nat) (hin : (inFh, Mode.read) ∈ hs ++ v.handles)
    (hbase : (baseFh, Mode.read) ∈ hs ++ v.handles) (hout : (outFh, Mode.write) ∈ hs ++ v.handles) :
    BlockStable body inFh baseFh outFh bufSize fuel (fun bl => Plus v bl hs) True where
  toMemStable := Plus.memStable
  readBase := fun _ n => Plus.read n hbase
  dec := fun _ a => hb.pres a hin hout
  copy := fun _ o n ho =>
    (copyFh_pres o bufSize hin (fun x hx => ho x hx ▸ hout) fuel n).post fun _ _ p => ⟨fun _ => trivial, p⟩

theorem lzxdFreeIf_spec (l : Option Lzx) :
    Hoare (Plus v (lzxBlocks l ++ ex) hs) (lzxdFreeIf l) (fun _ => Plus v ex hs) := by
  cases l with
  | none => exact .pure fun _ p => p
  | some l => exact lzxdFree_walk Plus.memStable l

theorem closeIf_spec (o : Option Nat) (m : Mode) :
    Hoare (Plus v ex (o.toList.map (·, m) ++ hs)) (closeIf o) (fun _ => Plus v ex hs) := by
  cases o with
  | none => exact .pure fun _ p => p
  | some fh => exact Plus.close fh m

theorem fullRound_spec (body : Body) (hb : Lawful body) (bufSize fuel blockMax targetSize : Nat)
    (hin : (inFh, Mode.read) ∈ hs ++ v.handles) (hout : (outFh, Mode.write) ∈ hs ++ v.handles) :
    Hoare (Plus v ex hs) (fullRound body inFh outFh bufSize fuel blockMax targetSize)
      (RoundPost (fun bl => Plus v bl hs) True ex) :=
  .bind (Plus.read _ hin) fun
    | none => .pure fun _ p => p
    | some _ => .ite (fun _ => .pure fun _ p => p) fun _ =>
        fullBlock_walk (Plus.blockStable hb bufSize fuel hin hin hout) blockMax targetSize _ _ _ _

/-- what a block loop leaves on arrival at `out:` -/
def LoopPost (v : View) (ex : List Nat) (hs : List (Nat × Mode)) : Option (Err × Option Lzx) → World → Prop :=
  RetV fun r => Plus v (lzxBlocks r.2 ++ ex) hs

theorem fullLoop_spec (body : Body) (hb : Lawful body) (bufSize fuel blockMax : Nat)
    (hin : (inFh, Mode.read) ∈ hs ++ v.handles) (hout : (outFh, Mode.write) ∈ hs ++ v.handles) :
    ∀ n targetSize, Hoare (Plus v ex hs) (fullLoop body inFh outFh bufSize fuel blockMax n targetSize)
      (LoopPost v ex hs)
  | 0, _ => .pure fun _ _ => trivial
  | n + 1, t => .ite (fun _ => .pure fun _ p => p) fun _ =>
    .bind (fullRound_spec body hb bufSize fuel blockMax t hin hout) fun
      | .done _ _ => .pure fun _ p => p
      | .hang => .pure fun _ _ => trivial
      | .next t' => fullLoop_spec body hb bufSize fuel blockMax hin hout n t'

theorem patchRound_spec (body : Body) (hb : Lawful body) (bufSize lzxBuf fuel blockMax targetSize : Nat)
    (hin : (inFh, Mode.read) ∈ hs ++ v.handles) (hbase : (baseFh, Mode.read) ∈ hs ++ v.handles)
    (hout : (outFh, Mode.write) ∈ hs ++ v.handles) :
    Hoare (Plus v ex hs) (patchRound body inFh baseFh outFh bufSize lzxBuf fuel blockMax targetSize)
      (RoundPost (fun bl => Plus v bl hs) True ex) :=
  .bind (Plus.read _ hin) fun
    | none => .pure fun _ p => p
    | some _ => .ite (fun _ => .pure fun _ p => p) fun _ =>
        patchBlock_walk (Plus.blockStable hb bufSize fuel hin hbase hout) lzxBuf blockMax targetSize _ _ _ _

theorem patchLoop_spec (body : Body) (hb : Lawful body) (bufSize lzxBuf fuel blockMax : Nat)
    (hin : (inFh, Mode.read) ∈ hs ++ v.handles) (hbase : (baseFh, Mode.read) ∈ hs ++ v.handles)
    (hout : (outFh, Mode.write) ∈ hs ++ v.handles) :
    ∀ n targetSize, Hoare (Plus v ex hs) (patchLoop body inFh baseFh outFh bufSize lzxBuf fuel blockMax n targetSize)
      (LoopPost v ex hs)
  | 0, _ => .pure fun _ _ => trivial
  | n + 1, t => .ite (fun _ => .pure fun _ p => p) fun _ =>
    .bind (patchRound_spec body hb bufSize lzxBuf fuel blockMax t hin hbase hout) fun
      | .done _ _ => .pure fun _ p => p
      | .hang => .pure fun _ _ => trivial
      | .next t' => patchLoop_spec body hb bufSize lzxBuf fuel blockMax hin hbase hout n t'

/-- `out:` gives back, newest first, the stream (if `lzx` is set), the handles that are set, and `buf` -/
theorem out_spec (l : Option Lzx) (outFh baseFh inFh buf : Option Nat) :
    Hoare
      (Plus v (lzxBlocks l ++ (buf.toList ++ ex))
        (outFh.toList.map (·, Mode.write) ++ (baseFh.toList.map (·, Mode.read) ++ (inFh.toList.map (·, Mode.read) ++ hs))))
      (out l outFh baseFh inFh buf) (fun _ => Plus v ex hs) :=
  .bind (lzxdFreeIf_spec l) fun _ => .bind (closeIf_spec outFh .write) fun _ => .bind (closeIf_spec baseFh .read) fun _ =>
    .bind (closeIf_spec inFh .read) fun _ => Plus.free buf

theorem out_ret (l : Option Lzx) (outFh baseFh inFh buf : Option Nat) (e : Err) :
    Hoare
      (Plus v (lzxBlocks l ++ (buf.toList ++ ex))
        (outFh.toList.map (·, Mode.write) ++ (baseFh.toList.map (·, Mode.read) ++ (inFh.toList.map (·, Mode.read) ++ hs))))
      (do out l outFh baseFh inFh buf; return some e) (Ret (Plus v ex hs)) :=
  .bind (out_spec l outFh baseFh inFh buf) fun _ => .pure fun _ p => p

theorem fullRun_spec (body : Body) (hb : Lawful body) (i : Inst) (output : String) (fuel blockMax targetSize : Nat) :
    Hoare (Plus v ex ((inFh, Mode.read) :: hs)) (fullRun body i inFh output fuel blockMax targetSize)
      (Ret (Plus v ex hs)) :=
  .bind (Plus.open_ output .write) fun
    | none => out_ret none none none (some inFh) none _
    | some outFh => .bind Plus.alloc fun
      | none => out_ret none (some outFh) none (some inFh) none _
      | some buf =>
        .bindRet (fullLoop_spec body hb i.bufSize fuel blockMax (List.mem_cons_of_mem _ (List.mem_cons_self ..))
          (List.mem_cons_self ..) fuel targetSize) fun (e, l) =>
        out_ret l (some outFh) none (some inFh) (some buf) e

theorem decompress_spec (body : Body) (hb : Lawful body) (i : Inst) (input output : String) (fuel : Nat) :
    Hoare (Plus v ex hs) (decompress body i input output fuel) (Ret (Plus v ex hs)) :=
  .bind (Plus.open_ input .read) fun
    | none => out_ret none none none none none _
    | some inFh =>
      have hout e := out_ret none none none (some inFh) none e
      .bind (Plus.read _ (List.mem_cons_self ..)) fun
        | none => hout _
        | some _ => .ite (fun _ => hout _) fun _ =>
            .ite (fun _ => hout _) fun _ => fullRun_spec body hb i output fuel _ _

theorem patchRun_spec (body : Body) (hb : Lawful body) (i : Inst) (base output : String)
    (lzxBuf fuel blockMax targetSize : Nat) :
    Hoare (Plus v ex ((inFh, Mode.read) :: hs)) (patchRun body i inFh base output lzxBuf fuel blockMax targetSize)
      (Ret (Plus v ex hs)) :=
  .bind (Plus.open_ base .read) fun
    | none => out_ret none none none (some inFh) none _
    | some baseFh => .bind (Plus.open_ output .write) fun
      | none => out_ret none none (some baseFh) (some inFh) none _
      | some outFh => .bind Plus.alloc fun
        | none => out_ret none (some outFh) (some baseFh) (some inFh) none _
        | some buf =>
          .bindRet (patchLoop_spec body hb i.bufSize lzxBuf fuel _
            (List.mem_cons_of_mem _ (List.mem_cons_of_mem _ (List.mem_cons_self ..)))
            (List.mem_cons_of_mem _ (List.mem_cons_self ..)) (List.mem_cons_self ..) fuel targetSize) fun (e, l) =>
          out_ret l (some outFh) (some baseFh) (some inFh) (some buf) e

theorem decompressIncremental_spec (body : Body) (hb : Lawful body) (i : Inst) (input base output : String) (fuel : Nat) :
    Hoare (Plus v ex hs) (decompressIncremental body i input base output fuel) (Ret (Plus v ex hs)) :=
  .bind (Plus.open_ input .read) fun
    | none => out_ret none none none none none _
    | some inFh =>
      have hout e := out_ret none none none (some inFh) none e
      .bind (Plus.read _ (List.mem_cons_self ..)) fun
        | none => hout _
        | some _ => .ite (fun _ => hout _) fun _ =>
            .ite (fun _ => hout _) fun _ => patchRun_spec body hb i base output _ fuel _ _

theorem runOp_spec (body : Body) (hb : Lawful body) (fuel : Nat) (i : Inst) (op : Op) :
    Hoare (Plus v ex hs) (runOp body fuel i op) (Ret (Plus v ex hs)) :=
  match op with
  | .decompress a b => .bindRet (decompress_spec body hb i a b fuel).retV fun _ => .pure fun _ p => p
  | .decompressIncremental a b c =>
    .bindRet (decompressIncremental_spec body hb i a b c fuel).retV fun _ => .pure fun _ p => p
  | .setParam _ _ => .pure fun _ p => p

theorem runOps_spec (body : Body) (hb : Lawful body) (fuel : Nat) : ∀ (ops : List Op) (i : Inst),
    Hoare (Plus v ex hs) (runOps body fuel ops i) (Ret (Plus v ex hs))
  | [], _ => .pure fun _ p => p
  | op :: ops, i => .bindRet (runOp_spec body hb fuel i op).retV fun i1 => runOps_spec body hb fuel ops i1

theorem create_spec : Hoare (Plus v ex hs) create (fun r => Plus v ((r.map (·.self)).toList ++ ex) hs) :=
  .bind Plus.alloc fun | none => .pure fun _ p => p | some _ => .pure fun _ p => p

theorem program_spec (body : Body) (hb : Lawful body) (fuel : Nat) (ops : List Op) :
    Hoare (Plus v ex hs) (program body fuel ops) (Ret (Plus v ex hs)) :=
  .bind create_spec fun
    | none => .pure fun _ p => p
    | some i0 => .bindRet (runOps_spec body hb fuel ops i0).retV fun _ =>
        .bind (Plus.free1 i0.self) fun _ => .pure fun _ p => p

end

end MsPack.Oab.Api
