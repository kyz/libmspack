import MsPack.Qtm.Decoder
/-!
# Pieces of the Quantum decoding loops

The two places where `qtmd_decompress` hands window bytes to `write` in mid-loop, `writeOut n` followed by
`out_bytes -= n` (window wrap inside a match in `symbolLoop`, window wrap between frames in `blockLoop`), each named
as one step with what follows it as a continuation (`flushThen`, `wrapThen`), and the loops' successor equations
in those terms.  Between the two statements "written + owed" is off by `n`, so a walk with an invariant over
`written` and `outBytes` takes each piece as a whole.  Also what the two leaves `fail` and `writeOut` return
(`fail_run`, `writeOut_run`), `body` as an equation (`body_eq`) and `qtmd_init` opened (`init_fields`).
-/
namespace MsPack.Qtm
open MsPack.Generated
variable {σ : Type} (S : Src σ)

theorem fail_run {α : Type} (e : Err) (r : Run σ) :
    (fail e : QM σ α).run.run r = (.error (.sys e), { r with st := { r.st with error := e } }) := rfl

theorem writeOut_run (p n : Nat) (r : Run σ) :
    (writeOut p n).run.run r =
      if n > 0 ∧ p + n > r.st.window.size then (.error (.fault (.oob "qtmd window (write)")), r)
      else (.ok (), { r with written := r.written ++ r.st.window.extract p (p + n) }) := by
  unfold writeOut
  exact apply_ite (fun m : QM σ Unit => m.run.run r) ..

def flushThen (ws : Nat) (k : QM σ Unit) : QM σ Unit := do
  let r ← get
  let fl := ws - r.st.oPtr
  if fl > r.outBytes then fail .decrunch
  writeOut r.st.oPtr fl
  modify fun r => { r with outBytes := r.outBytes - fl, st := { r.st with oPtr := 0, oEnd := 0 } }
  k

theorem symbolLoop_succ (fuel frameEnd n : Nat) : symbolLoop S fuel frameEnd (n + 1) = (do
    if (← get).windowPosn < frameEnd then
      let selector ← getSymbol S fuel .m7
      if selector < 4 then
        let id : MId := if selector = 0 then .m0 else if selector = 1 then .m1
                        else if selector = 2 then .m2 else .m3
        let sym ← getSymbol S fuel id
        let wp := (← get).windowPosn
        if wp ≥ (← get).st.window.size then throw (.fault (.oob "qtmd window (literal)"))
        modify fun r => { r with st := { r.st with window := r.st.window.setIfInBounds wp (UInt8.ofNat (sym % 256)) },
                                 windowPosn := wp + 1,
                                 frameTodo := (r.frameTodo + u32 - 1) % u32 }
        symbolLoop S fuel frameEnd n
      else
        let (matchOffset, matchLength) ←
          if selector = 4 then do
            let sym ← getSymbol S fuel .m4
            pure ((← readOffset S sym), 3)
          else if selector = 5 then do
            let sym ← getSymbol S fuel .m5
            pure ((← readOffset S sym), 4)
          else if selector = 6 then do
            let sym ← getSymbol S fuel .m6len
            let nb ← tableAt "qtmd length_extra[]" qtmLengthExtra sym
            let extra ← readManyBits S nb
            let lb ← tableAt "qtmd length_base[]" qtmLengthBase sym
            let ml := lb + extra + 5
            let sym ← getSymbol S fuel .m6
            pure ((← readOffset S sym), ml)
          else fail .decrunch
        modify fun r => { r with frameTodo := (r.frameTodo + u32 - matchLength % u32) % u32 }
        let r ← get
        let wp := r.windowPosn
        let ws := r.st.windowSize
        if (wp + matchLength) % u32 > ws then
          let i := ws - wp
          let j := (wp + u32 - matchOffset % u32) % u32
          copyMasked i j wp
          flushThen ws (do
            copyMasked (matchLength - i) ((j + i) % u32) 0
            modify fun r => { r with windowPosn := wp + matchLength - ws })
          -- `break`
        else
          if matchOffset > wp then
            let j := matchOffset - wp
            if j > ws then fail .decrunch
            if j < matchLength then
              copyFwd j (ws - j) wp
              copyFwd (matchLength - j) 0 (wp + j)
            else
              copyFwd matchLength (ws - j) wp
          else
            copyFwd matchLength (wp - matchOffset) wp
          modify fun r => { r with windowPosn := wp + matchLength }
          symbolLoop S fuel frameEnd n
    else pure ()) := by
  rw [symbolLoop]; rfl

def wrapThen (k : QM σ Unit) : QM σ Unit := do
  let r ← get
  if r.windowPosn = r.st.windowSize then
    let i := r.st.oEnd - r.st.oPtr
    if i ≥ r.outBytes then pure ()
    else
      writeOut r.st.oPtr i
      modify fun r => { r with outBytes := r.outBytes - i, windowPosn := 0,
                               st := { r.st with oPtr := 0, oEnd := 0 } }
      k
  else k

theorem blockLoop_succ (fuel n : Nat) : blockLoop S fuel (n + 1) = (do
    let r ← get
    if r.st.oEnd - r.st.oPtr < r.outBytes then
      if !r.st.headerRead then
        modify fun r => { r with H := 0xFFFF, L := 0 }
        let c ← readBits S 16
        modify fun r => { r with C := c, st := { r.st with headerRead := true } }
      let r ← get
      let wp := r.windowPosn
      let frameEnd := (wp + (r.outBytes - (r.st.oEnd - r.st.oPtr))) % u32
      let frameEnd := if (wp + r.frameTodo) % u32 < frameEnd
                      then (wp + r.frameTodo) % u32 else frameEnd
      let frameEnd := if frameEnd > r.st.windowSize then r.st.windowSize else frameEnd
      symbolLoop S fuel frameEnd (frameEnd - wp)
      modify fun r => { r with st := { r.st with oEnd := r.windowPosn } }
      if (← get).frameTodo > qtmFRAME_SIZE then fail .decrunch
      if (← get).frameTodo = 0 then
        let bl := (← get).bitsLeft
        if bl % 8 ≠ 0 then removeBits (bl % 8)
        trailerScan S fuel
        modify fun r => { r with frameTodo := qtmFRAME_SIZE, st := { r.st with headerRead := false } }
      wrapThen (blockLoop S fuel n)
) := by
  rw [blockLoop]; rfl

theorem body_eq (fuel : Nat) : body S fuel = (do
    blockLoop S fuel (2 * (← get).outBytes + 4)
    let r ← get
    if r.outBytes ≠ 0 then
      writeOut r.st.oPtr r.outBytes
      modify fun r => { r with st := { r.st with oPtr := r.st.oPtr + r.outBytes } }) := rfl

theorem init_fields {src : σ} {wb ibs : Nat} {fill : UInt8} {st : St σ} (h : init src wb ibs fill = some st) :
    st.src = src ∧ st.inbuf = [] ∧ st.bitsLeft = 0 ∧ st.inputEnd = false ∧ st.error = .ok ∧ 2 ≤ st.inbufSize ∧
      st.oPtr = 0 ∧ st.oEnd = 0 ∧ st.windowPosn = 0 ∧ st.frameTodo = qtmFRAME_SIZE := by
  unfold init at h
  by_cases hwb : wb < 10 ∨ wb > 21
  · simp [hwb] at h
  · by_cases hsz : (ibs + 1) / 2 * 2 < 2
    · simp [hwb, hsz] at h
    · simp only [hwb, hsz, if_false] at h
      cases h
      exact ⟨rfl, rfl, rfl, rfl, rfl, Nat.le_of_not_lt hsz, rfl, rfl, rfl, rfl⟩

end MsPack.Qtm
