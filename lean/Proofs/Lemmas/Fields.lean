import MsPack.Spec.ChmEncode
/-
Fields of an encoded layout: what `u16At` / `u32At` / `u32BEAt` / `i64At` read from `enc16 n ++ l` etc., and one lemma
per reader that walks to a field at a literal offset.
-/
namespace MsPack.Cab
open MsPack.Oab (enc32)

theorem toNat_ofNat_mod (x : Nat) : (UInt8.ofNat (x % 256)).toNat = x % 256 := by
  simp [UInt8.toNat_ofNat']

/-! ## fields of a layout `f₀ ++ (f₁ ++ (f₂ ++ …))`

`simp only [List.append_assoc, u16At_skip, u32At_skip, enc32_length, enc16_length, Nat.reduceLeDiff, Nat.reduceSub,
u16At_enc16, u32At_enc32, …]` walks to a field at a literal offset: skip the fields before it, read the one at 0.
A skip lemma has the length of the skipped part as a variable `n`: simp discharges `hn` with the length lemma of whatever
writer `a` is, which assigns `n`, and then `h` by arithmetic on literals.  (Stated with `a.length ≤ i` and `i - a.length`
simp cannot use it.  `rfl` for such facts, and for the length of a layout, makes the elaborator evaluate the list and
is slow to check.) -/

theorem byteAt_append_right (a l : Bytes) (k : Nat) : byteAt (a ++ l) (k + a.length) = byteAt l k := by
  simp only [byteAt, List.getD_eq_getElem?_getD, List.getElem?_append_right (Nat.le_add_left ..), Nat.add_sub_cancel]

theorem u16At_append_right (a l : Bytes) (k : Nat) : u16At (a ++ l) (k + a.length) = u16At l k := by
  unfold u16At
  rw [Nat.add_right_comm k _ 1]
  simp only [byteAt_append_right]

theorem u32At_append_right (a l : Bytes) (k : Nat) : u32At (a ++ l) (k + a.length) = u32At l k := by
  unfold u32At
  rw [Nat.add_right_comm k _ 1, Nat.add_right_comm k _ 2, Nat.add_right_comm k _ 3]
  simp only [byteAt_append_right]

theorem byteAt_append_left (a b : Bytes) (i : Nat) (h : i < a.length) : byteAt (a ++ b) i = byteAt a i := by
  simp only [byteAt, List.getD_eq_getElem?_getD, List.getElem?_append_left h]

theorem u32At_append_left (a b : Bytes) (i : Nat) (h : i + 4 ≤ a.length) : u32At (a ++ b) i = u32At a i := by
  simp only [u32At]
  rw [byteAt_append_left a b i (by omega), byteAt_append_left a b (i+1) (by omega),
    byteAt_append_left a b (i+2) (by omega), byteAt_append_left a b (i+3) (by omega)]

theorem shift_len {α : Type} {rd : Bytes → Nat → α} (hrd : ∀ a l k, rd (a ++ l) (k + a.length) = rd l k)
    {a : Bytes} {i n : Nat} (l : Bytes) (hn : a.length = n) (h : n ≤ i) : rd (a ++ l) i = rd l (i - n) := by
  have := hrd a l (i - n); rwa [hn, Nat.sub_add_cancel h] at this

theorem u16At_skip {a : Bytes} {i n : Nat} (l : Bytes) (hn : a.length = n) (h : n ≤ i) : u16At (a ++ l) i = u16At l (i - n) :=
  shift_len u16At_append_right l hn h
theorem u32At_skip {a : Bytes} {i n : Nat} (l : Bytes) (hn : a.length = n) (h : n ≤ i) : u32At (a ++ l) i = u32At l (i - n) :=
  shift_len u32At_append_right l hn h

theorem u16At_enc16 {n : Nat} (h : n < 65536) (l : Bytes) : u16At (enc16 n ++ l) 0 = n := by
  simp only [u16At, byteAt, le16, enc16, List.cons_append, List.nil_append, Nat.zero_add, List.getD_cons_zero,
    List.getD_cons_succ, toNat_ofNat_mod]
  omega
theorem u32At_enc32 {n : Nat} (h : n < 4294967296) (l : Bytes) : u32At (enc32 n ++ l) 0 = n := by
  simp only [u32At, byteAt, le32, enc32, List.cons_append, List.nil_append, Nat.zero_add, List.getD_cons_zero,
    List.getD_cons_succ, toNat_ofNat_mod]
  omega
theorem u16At_enc16_nil {n : Nat} (h : n < 65536) : u16At (enc16 n) 0 = n := by
  have := u16At_enc16 h []; rwa [List.append_nil] at this
theorem u32At_enc32_nil {n : Nat} (h : n < 4294967296) : u32At (enc32 n) 0 = n := by
  have := u32At_enc32 h []; rwa [List.append_nil] at this

theorem u16_enc16 (n : Nat) (h : n < 65536) (pre post : Bytes) : u16At (pre ++ enc16 n ++ post) pre.length = n := by
  rw [List.append_assoc, ← Nat.zero_add pre.length, u16At_append_right, u16At_enc16 h]
theorem u32_enc32 (n : Nat) (h : n < 4294967296) (pre post : Bytes) : u32At (pre ++ enc32 n ++ post) pre.length = n := by
  rw [List.append_assoc, ← Nat.zero_add pre.length, u32At_append_right, u32At_enc32 h]

theorem enc32_length (n : Nat) : (enc32 n).length = 4 := rfl
theorem enc16_length (n : Nat) : (enc16 n).length = 2 := rfl

end MsPack.Cab

namespace MsPack.Chm
open MsPack.Cab

theorem enc32BE_length (n : Nat) : (enc32BE n).length = 4 := rfl
theorem enc64_length (n : Nat) : (enc64 n).length = 8 := rfl

theorem u32BEAt_append_right (a l : Bytes) (k : Nat) : u32BEAt (a ++ l) (k + a.length) = u32BEAt l k := by
  unfold u32BEAt
  rw [Nat.add_right_comm k _ 1, Nat.add_right_comm k _ 2, Nat.add_right_comm k _ 3]
  simp only [byteAt_append_right]

theorem i64At_append_right (a l : Bytes) (k : Nat) : i64At (a ++ l) (k + a.length) = i64At l k := by
  unfold i64At
  rw [Nat.add_right_comm k _ 4, u32At_append_right, u32At_append_right]

theorem u32BEAt_skip {a : Bytes} {i n : Nat} (l : Bytes) (hn : a.length = n) (h : n ≤ i) :
    u32BEAt (a ++ l) i = u32BEAt l (i - n) := shift_len u32BEAt_append_right l hn h
theorem i64At_skip {a : Bytes} {i n : Nat} (l : Bytes) (hn : a.length = n) (h : n ≤ i) : i64At (a ++ l) i = i64At l (i - n) :=
  shift_len i64At_append_right l hn h

theorem u32BEAt_enc32BE {n : Nat} (h : n < 4294967296) (l : Bytes) : u32BEAt (enc32BE n ++ l) 0 = n := by
  simp only [u32BEAt, byteAt, le32, enc32BE, List.cons_append, List.nil_append, Nat.zero_add, List.getD_cons_zero,
    List.getD_cons_succ, toNat_ofNat_mod]
  omega

theorem wrapI64_small (n : Nat) (h : n < 9223372036854775808) : wrapI64 (Int.ofNat n) = Int.ofNat n := by
  unfold wrapI64
  simp only [Int.ofNat_eq_natCast]
  omega

theorem i64At_enc64 {n : Nat} (h : n < 9223372036854775808) (l : Bytes) : i64At (enc64 n ++ l) 0 = Int.ofNat n := by
  have hlo : n % 4294967296 < 4294967296 := Nat.mod_lt _ (by decide)
  have hhi : n / 4294967296 < 4294967296 := by omega
  simp only [i64At, enc64, List.append_assoc, Nat.zero_add, u32At_skip, enc32_length, Nat.le_refl, Nat.sub_self,
    u32At_enc32, hlo, hhi]
  rw [Nat.add_comm, Nat.div_add_mod', wrapI64_small n h]
theorem i64At_enc64_nil {n : Nat} (h : n < 9223372036854775808) : i64At (enc64 n) 0 = Int.ofNat n := by
  have := i64At_enc64 h []; rwa [List.append_nil] at this

end MsPack.Chm
