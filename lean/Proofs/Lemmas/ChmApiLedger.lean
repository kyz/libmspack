import Proofs.Lemmas.OabApiLedger
import MsPack.Chm.Api
/-
Ledger effect of the CHM API functions (model `MsPack/Chm/Api.lean`): every path of each, under any fault plan, for
any file contents, for every value of the parsing parameter `Parse`, and for any LZX decoder that satisfies the frame
law (`Lawful`).

chmd.c does *not* release in stack order (headers are closed in any order, the decoder cache
`self->d` lives across calls and is dropped by whichever `close` owns it), so the ledger during a
session is described by `Own v ex hs`: the live blocks are, up to order, the client's own (`v`)
plus the blocks `ex`; the client's own are still there in their order; the handles opened on top of
the client's are `hs` (these do follow a stack, except that `close` may drop the decoder's input
handle from under the one `open` holds).
-/
namespace MsPack.Chm.Api
open MsPack.Sys
open MsPack.Szdd.Api (Frame)
open MsPack.Oab.Api (Lzx lzxdFree lzxdFreeIf closeIf lzxBlocks Plus)

/-! ## `tell`, `seekAbs`, `seekEnd`: the primitives only the CHM model has -/

theorem tell_live_view (w : World) (hok : w.view.ok) (id : Nat) (m : Mode) (h : (id, m) ∈ w.view.handles) :
    (tell id w).2.view = w.view := by
  obtain ⟨hd, hf, _, _, _⟩ := findHandle_of_view w hok id m h
  unfold tell
  rw [hf]

theorem seekAbs_live_view (w : World) (hok : w.view.ok) (id : Nat) (off : Int) (m : Mode)
    (h : (id, m) ∈ w.view.handles) : (seekAbs id off w).2.view = w.view := by
  unfold seekAbs
  split
  · exact seekStart_live_view w hok id _ m h
  · obtain ⟨hd, hf, _, _, _⟩ := findHandle_of_view w hok id m h
    simp only [tick]
    have hf' : findHandle { w with counts := w.counts.bump Kind.seek } id = some hd := hf
    rw [hf']
    rfl

theorem seekEnd_live_view (w : World) (hok : w.view.ok) (id : Nat) (m : Mode) (h : (id, m) ∈ w.view.handles) :
    (seekEnd id w).2.view = w.view := Sys.seekEnd_live_view (fun _ _ => rfl) w hok id m h

structure Own (v : View) (ex : List Nat) (hs : List (Nat × Mode)) (w : World) : Prop where
  perm    : w.view.allocs.Perm (ex ++ v.allocs)
  old     : w.view.allocs.filter (fun a => decide (a < v.nextId)) = v.allocs
  fresh   : ∀ a ∈ ex, v.nextId ≤ a
  handles : w.view.handles = hs ++ v.handles
  misuse  : w.view.misuse = v.misuse
  nextId  : v.nextId ≤ w.view.nextId
  ok      : w.view.ok

section kit
variable {v : View} {ex ex' : List Nat} {hs : List (Nat × Mode)} {w : World}

theorem Own.of_view_eq (hv : v.ok) (h : w.view = v) : Own v [] [] w := by
  subst h
  refine ⟨List.Perm.refl _, ?_, (fun _ h => nomatch h), rfl, rfl, Nat.le_refl _, hv⟩
  apply List.filter_eq_self.mpr
  intro a ha
  simpa using hv.allocs_lt a ha

theorem Own.frame (hv : v.ok) (p : Own v [] [] w) : Frame v w := by
  refine ⟨?_, p.handles, p.misuse, p.nextId⟩
  have hp : w.view.allocs.Perm v.allocs := p.perm
  rw [← p.old]
  symm
  apply List.filter_eq_self.mpr
  intro a ha
  simpa using hv.allocs_lt a (hp.mem_iff.mp ha)

/-- the handle half of `Own` is a `Plus` over the view that has the present blocks, so what a step does to handles,
    misuse record and ids is taken from the `Plus` kit -/
theorem Own.plusH (p : Own v ex hs w) : Plus { v with allocs := w.view.allocs } [] hs w :=
  ⟨rfl, p.handles, p.misuse, p.nextId, p.ok⟩

theorem Own.of_plusH {hs' : List (Nat × Mode)} {w' : World} (p : Own v ex hs w)
    (q : Plus { v with allocs := w.view.allocs } [] hs' w') : Own v ex hs' w' :=
  ⟨q.allocs ▸ p.perm, q.allocs ▸ p.old, p.fresh, q.handles, q.misuse, q.nextId, q.ok⟩

theorem Own.keep (p : Own v ex hs w) {w' : World} (h : w'.view = w.view) : Own v ex hs w' := p.of_plusH (p.plusH.keep h)

theorem Own.step (p : Own v ex hs w) {w' : World} (f : Frame w.view w') : Own v ex hs w' := p.of_plusH (p.plusH.step f)

theorem Own.reorder (p : Own v ex hs w) (h : ex.Perm ex') : Own v ex' hs w :=
  ⟨p.perm.trans (h.append_right _), p.old, fun a ha => p.fresh a (h.mem_iff.mpr ha), p.handles, p.misuse,
   p.nextId, p.ok⟩

theorem Own.free_top {a : Nat} (p : Own v (a :: ex) hs w) : Own v ex hs (free (some a) w).2 := by
  have hmem : a ∈ w.view.allocs := p.perm.mem_iff.mpr (by simp)
  have hf := free_live_view w a hmem
  have hfr : v.nextId ≤ a := p.fresh a (by simp)
  refine ⟨?_, ?_, fun x hx => p.fresh x (List.mem_cons_of_mem _ hx), ?_, ?_, ?_, ?_⟩
  · rw [hf]; dsimp only
    have := p.perm.erase a
    simpa using this
  · rw [hf]; dsimp only
    rw [← List.erase_filter, List.erase_of_not_mem (by simp; omega)]
    exact p.old
  · rw [hf]; exact p.handles
  · rw [hf]; exact p.misuse
  · rw [hf]; exact p.nextId
  · rw [hf]; exact ok_erase_alloc p.ok a

theorem Own.free_opt {o : Option Nat} (p : Own v (o.toList ++ ex) hs w) : Own v ex hs (free o w).2 := by
  cases o with
  | none => exact p.keep (free_none_view w)
  | some a => exact p.free_top

theorem Own.close_at {id : Nat} {m : Mode} (pre : List (Nat × Mode)) (p : Own v ex (pre ++ (id, m) :: hs) w) :
    Own v ex (pre ++ hs) (Sys.close id w).2 := by
  have hnp : (id, m) ∉ pre := fun hin => by
    have hnd := p.ok.handles_nd
    rw [p.handles, List.append_assoc, List.map_append, List.nodup_append] at hnd
    exact hnd.2.2 id (List.mem_map.mpr ⟨_, hin, rfl⟩) id (by simp) rfl
  have q := p.plusH.close_mem (id := id) (m := m) (by simp)
  rw [List.erase_append_right _ hnp, List.erase_cons_head] at q
  exact p.of_plusH q

theorem Own.close_top {id : Nat} {m : Mode} (p : Own v ex ((id, m) :: hs) w) : Own v ex hs (Sys.close id w).2 :=
  Own.close_at [] p

theorem Own.mem_handles (p : Own v ex hs w) {x : Nat × Mode} (h : x ∈ hs ++ v.handles) : x ∈ w.view.handles := by
  rw [p.handles]; exact h

end kit

/-- `Sys.Hoare` under the name the CHM lemmas use -/
def Spec {α} (P : World → Prop) (x : M α) (Q : α → World → Prop) : Prop := ∀ w, P w → Q (x w).1 (x w).2

theorem Spec.pure {α} {P : World → Prop} {Q : α → World → Prop} {a : α} (h : ∀ w, P w → Q a w) :
    Spec P (Pure.pure a : M α) Q := fun w hw => h w hw

theorem Spec.bind {α β} {P : World → Prop} {R : α → World → Prop} {Q : β → World → Prop} {x : M α} {f : α → M β}
    (hx : Spec P x R) (hf : ∀ a, Spec (R a) (f a) Q) : Spec P (x >>= f) Q := Hoare.bind hx hf

theorem Spec.ite {α} {P : World → Prop} {Q : α → World → Prop} {c : Prop} [Decidable c] {x y : M α}
    (hx : c → Spec P x Q) (hy : ¬c → Spec P y Q) : Spec P (if c then x else y) Q := Hoare.ite hx hy

theorem Spec.conseq {α} {P P' : World → Prop} {Q Q' : α → World → Prop} {x : M α}
    (hP : ∀ w, P' w → P w) (hx : Spec P x Q) (hQ : ∀ a w, Q a w → Q' a w) : Spec P' x Q' :=
  Hoare.post (Hoare.pre hx hP) hQ

theorem Spec.pre {α} {P P' : World → Prop} {Q : α → World → Prop} {x : M α}
    (hP : ∀ w, P' w → P w) (hx : Spec P x Q) : Spec P' x Q := Hoare.pre hx hP

theorem Spec.post {α} {P : World → Prop} {Q Q' : α → World → Prop} {x : M α}
    (hx : Spec P x Q) (hQ : ∀ a w, Q a w → Q' a w) : Spec P x Q' := Hoare.post hx hQ

section prims
variable {v : View} {ex : List Nat} {hs : List (Nat × Mode)}

theorem Spec.reorder {α} {ex' : List Nat} {Q : α → World → Prop} {x : M α}
    (h : ex.Perm ex') (hx : Spec (Own v ex' hs) x Q) : Spec (Own v ex hs) x Q :=
  Spec.pre (fun _ p => p.reorder h) hx

theorem spec_alloc : Spec (Own v ex hs) alloc (fun r => Own v (r.toList ++ ex) hs) := fun w p => by
  rcases alloc_spec w with ⟨a1, a2⟩ | ⟨a1, a2⟩
  · rw [a1]; exact p.keep a2
  · rw [a1]
    have h0 : w.view.nextId = w.nextId := rfl
    have hn := p.nextId
    refine ⟨?_, ?_, ?_, ?_, ?_, ?_, ?_⟩
    · rw [a2]; exact List.Perm.cons _ p.perm
    · rw [a2]; dsimp only
      rw [List.filter_cons]
      have : decide (w.nextId < v.nextId) = false := by simp; omega
      rw [this]; exact p.old
    · intro x hx
      rcases List.mem_cons.mp hx with rfl | hx
      · omega
      · exact p.fresh x hx
    · rw [a2]; exact p.handles
    · rw [a2]; exact p.misuse
    · rw [a2]; dsimp only; omega
    · rw [a2]; exact ok_add_alloc p.ok

theorem spec_free_top {a : Nat} : Spec (Own v (a :: ex) hs) (free (some a)) (fun _ => Own v ex hs) :=
  fun _ p => p.free_top

theorem spec_free_opt {o : Option Nat} : Spec (Own v (o.toList ++ ex) hs) (free o) (fun _ => Own v ex hs) :=
  fun _ p => p.free_opt

theorem spec_open {name : String} {m : Mode} :
    Spec (Own v ex hs) (open_ name m) (fun r => Own v ex (r.toList.map (·, m) ++ hs)) :=
  fun w p => p.of_plusH (Plus.open_ name m w p.plusH)

theorem spec_close_top {id : Nat} {m : Mode} : Spec (Own v ex ((id, m) :: hs)) (Sys.close id) (fun _ => Own v ex hs) :=
  fun _ p => p.close_top

theorem spec_read {fh n : Nat} (h : (fh, Mode.read) ∈ hs ++ v.handles) :
    Spec (Own v ex hs) (read fh n) (fun _ => Own v ex hs) :=
  fun w p => p.keep (read_live_view w p.ok fh n (p.mem_handles h))

theorem spec_write {fh : Nat} {bs : Bytes} (h : (fh, Mode.write) ∈ hs ++ v.handles) :
    Spec (Own v ex hs) (write fh bs) (fun _ => Own v ex hs) :=
  fun w p => p.keep (write_live_view w p.ok fh bs (p.mem_handles h))

theorem spec_seekAbs {fh : Nat} {off : Int} {m : Mode} (h : (fh, m) ∈ hs ++ v.handles) :
    Spec (Own v ex hs) (seekAbs fh off) (fun _ => Own v ex hs) :=
  fun w p => p.keep (seekAbs_live_view w p.ok fh off m (p.mem_handles h))

theorem spec_seekStart {fh off : Nat} {m : Mode} (h : (fh, m) ∈ hs ++ v.handles) :
    Spec (Own v ex hs) (seekStart fh off) (fun _ => Own v ex hs) :=
  fun w p => p.keep (seekStart_live_view w p.ok fh off m (p.mem_handles h))

theorem spec_seekCur {fh : Nat} {off : Int} {m : Mode} (h : (fh, m) ∈ hs ++ v.handles) :
    Spec (Own v ex hs) (seekCur fh off) (fun _ => Own v ex hs) :=
  fun w p => p.keep (seekCur_live_view w p.ok fh off m (p.mem_handles h))

theorem spec_seekEnd {fh : Nat} {m : Mode} (h : (fh, m) ∈ hs ++ v.handles) :
    Spec (Own v ex hs) (seekEnd fh) (fun _ => Own v ex hs) :=
  fun w p => p.keep (seekEnd_live_view w p.ok fh m (p.mem_handles h))

theorem spec_tell {fh : Nat} {m : Mode} (h : (fh, m) ∈ hs ++ v.handles) :
    Spec (Own v ex hs) (tell fh) (fun _ => Own v ex hs) :=
  fun w p => p.keep (tell_live_view w p.ok fh m (p.mem_handles h))

theorem spec_ret {α} {a : α} {Q : α → World → Prop} {P : World → Prop} (h : ∀ w, P w → Q a w) :
    Spec P (Pure.pure a : M α) Q := Spec.pure h

end prims

variable {σ : Type}

def slotBlocks (s : List (Option (Nat × Bytes))) : List Nat := s.flatMap fun o => (o.map (·.1)).toList

def cacheBlocks : Option Cache → List Nat
  | none => []
  | some c => slotBlocks c.slots ++ [c.mem]

/-- the blocks of a header, in the order `chmd_close` gives them back -/
def Hdr.blocks (h : Hdr) : List Nat := h.files ++ (h.sysfiles ++ (cacheBlocks h.cache ++ [h.mem]))

def stBlocks (st : Option (Lzx × σ)) : List Nat := lzxBlocks (st.map (·.1))

def decBlocks : Option (Dec σ) → List Nat
  | none => []
  | some d => stBlocks d.state ++ [d.mem]

def decHandles : Option (Dec σ) → List (Nat × Mode)
  | none => []
  | some d => d.infh.toList.map (·, Mode.read)

section specs
variable {v : View} {ex : List Nat} {hs : List (Nat × Mode)}

theorem lzxdFree_spec (l : Lzx) : Spec (Own v (lzxBlocks (some l) ++ ex) hs) (lzxdFree l) (fun _ => Own v ex hs) := by
  intro w p
  unfold lzxdFree
  simp only [bind_apply]
  exact (Own.free_top (Own.free_top (Own.free_top p)))

theorem lzxdFreeIf_spec (l : Option Lzx) : Spec (Own v (lzxBlocks l ++ ex) hs) (lzxdFreeIf l) (fun _ => Own v ex hs) := by
  cases l with
  | none => exact fun w p => p
  | some l => exact lzxdFree_spec l

theorem lzxFreeSt_spec (st : Option (Lzx × σ)) :
    Spec (Own v (stBlocks st ++ ex) hs) (lzxFreeSt st) (fun _ => Own v ex hs) := lzxdFreeIf_spec _

theorem closeIf_spec (pre : List (Nat × Mode)) (o : Option Nat) (m : Mode) :
    Spec (Own v ex (pre ++ (o.toList.map (·, m) ++ hs))) (closeIf o) (fun _ => Own v ex (pre ++ hs)) := by
  cases o with
  | none => exact fun w p => p
  | some fh => exact fun w p => Own.close_at pre p

theorem dropDec_spec (pre : List (Nat × Mode)) (d : Dec σ) :
    Spec (Own v (decBlocks (some d) ++ ex) (pre ++ (decHandles (some d) ++ hs))) (dropDec d)
      (fun _ => Own v ex (pre ++ hs)) := by
  unfold dropDec
  refine Spec.bind (closeIf_spec pre d.infh .read) fun _ => ?_
  refine Spec.bind (R := fun _ => Own v (d.mem :: ex) (pre ++ hs)) ?_ fun _ => spec_free_top
  refine Spec.pre (fun w p => ?_) (lzxdFreeIf_spec (ex := d.mem :: ex) (d.state.map (·.1)))
  refine p.reorder ?_
  simp only [decBlocks, stBlocks, List.append_assoc, List.singleton_append]
  exact List.Perm.refl _

theorem dropDecIf_spec (pre : List (Nat × Mode)) (d : Option (Dec σ)) :
    Spec (Own v (decBlocks d ++ ex) (pre ++ (decHandles d ++ hs))) (dropDecIf d) (fun _ => Own v ex (pre ++ hs)) := by
  cases d with
  | none => exact fun w p => p
  | some d => exact dropDec_spec pre d

theorem dropDecOf_spec (pre : List (Nat × Mode)) (d : Option (Dec σ)) (chm : Nat) :
    Spec (Own v (decBlocks d ++ ex) (pre ++ (decHandles d ++ hs))) (dropDecOf d chm)
      (fun d' => Own v (decBlocks d' ++ ex) (pre ++ (decHandles d' ++ hs))) :=
  match d with
  | none => .pure fun _ p => p
  | some d => .ite (fun _ => .bind (dropDec_spec pre d) fun _ => .pure fun _ p => p) fun _ => .pure fun _ p => p

theorem freeList_spec (l : List Nat) : Spec (Own v (l ++ ex) hs) (freeList l) (fun _ => Own v ex hs) := by
  induction l with
  | nil => exact fun w p => p
  | cons a as ih =>
    rw [freeList.eq_2]
    exact Spec.bind spec_free_top fun _ => ih

theorem freeSlots_spec (s : List (Option (Nat × Bytes))) :
    Spec (Own v (slotBlocks s ++ ex) hs) (freeSlots s) (fun _ => Own v ex hs) := by
  induction s with
  | nil => exact fun w p => p
  | cons o os ih =>
    rw [freeSlots.eq_2]
    refine Spec.bind (R := fun _ => Own v (slotBlocks os ++ ex) hs) ?_ fun _ => ih
    refine Spec.pre (fun w p => ?_) (spec_free_opt (o := o.map (·.1)) (ex := slotBlocks os ++ ex))
    refine p.reorder ?_
    simp only [slotBlocks, List.flatMap_cons, List.append_assoc]
    exact List.Perm.refl _

theorem freeCache_spec (c : Option Cache) : Spec (Own v (cacheBlocks c ++ ex) hs) (freeCache c) (fun _ => Own v ex hs) := by
  cases c with
  | none => exact fun w p => p
  | some c =>
    unfold freeCache
    refine Spec.bind (R := fun _ => Own v (c.mem :: ex) hs) ?_ fun _ => spec_free_top
    refine Spec.pre (fun w p => ?_) (freeSlots_spec (ex := c.mem :: ex) c.slots)
    refine p.reorder ?_
    simp only [cacheBlocks, List.append_assoc, List.singleton_append]
    exact List.Perm.refl _

theorem close_spec (pre : List (Nat × Mode)) (i : Inst σ) (h : Hdr) :
    Spec (Own v (h.blocks ++ (decBlocks i.d ++ ex)) (pre ++ (decHandles i.d ++ hs))) (close_ i h)
      (fun i' => Own v (decBlocks i'.d ++ ex) (pre ++ (decHandles i'.d ++ hs))) := by
  unfold close_
  refine Spec.reorder (ex' := h.files ++ (h.sysfiles ++ (decBlocks i.d ++ (cacheBlocks h.cache ++ (h.mem :: ex))))) ?_ ?_
  · unfold Hdr.blocks; perm_count
  refine Spec.bind (freeList_spec h.files) fun _ => ?_
  refine Spec.bind (freeList_spec h.sysfiles) fun _ => ?_
  refine Spec.bind (dropDecOf_spec pre i.d h.mem) fun d' => ?_
  refine Spec.reorder (ex' := cacheBlocks h.cache ++ (h.mem :: (decBlocks d' ++ ex))) (by perm_count) ?_
  refine Spec.bind (freeCache_spec h.cache) fun _ => ?_
  refine Spec.bind spec_free_top fun _ => ?_
  exact Spec.pure fun w p => p

theorem lzxBail_spec (win inb : Option Nat) (s : Nat) :
    Spec (Own v (inb.toList ++ (win.toList ++ ((some s).toList ++ ex))) hs)
      (do free win; free inb; free (some s); return none : M (Option Lzx))
      (fun r => Own v (lzxBlocks r ++ ex) hs) := by
  refine Spec.reorder (ex' := win.toList ++ (inb.toList ++ (s :: ex))) ?_ ?_
  · perm_count
  refine Spec.bind spec_free_opt fun _ => ?_
  refine Spec.bind spec_free_opt fun _ => ?_
  refine Spec.bind spec_free_top fun _ => ?_
  exact Spec.pure fun w p => p

theorem lzxdInit_spec (a : LzxArgs) : Spec (Own v ex hs) (lzxdInit a) (fun r => Own v (lzxBlocks r ++ ex) hs) :=
  .ite (fun _ => .pure fun _ p => p) fun _ => .bind spec_alloc fun
    | none => .pure fun _ p => p
    | some s => .bind spec_alloc fun win => .bind spec_alloc fun inb =>
      match win, inb with
      | some _, some _ => .pure fun _ p => p
      | none, none => lzxBail_spec none none s
      | none, some b => lzxBail_spec none (some b) s
      | some wn, none => lzxBail_spec (some wn) none s

/-- the block `read_sys_file` hands to its caller -/
def dataBlock : Except Err (Nat × Bytes) → List Nat
  | .ok (d, _) => [d]
  | .error _ => []

theorem readSysFile_spec (infh : Nat) (o : Int) (f : FileInfo) (hin : (infh, Mode.read) ∈ hs ++ v.handles) :
    Spec (Own v ex hs) (readSysFile infh o f) (fun r => Own v (dataBlock r ++ ex) hs) :=
  .ite (fun _ => .pure fun _ p => p) fun _ => .bind spec_alloc fun
    | none => .pure fun _ p => p
    | some _ => .bind (spec_seekAbs hin) fun _ =>
      .ite (fun _ => .bind spec_free_top fun _ => .pure fun _ p => p) fun _ => .bind (spec_read hin) fun
        | none => .bind spec_free_top fun _ => .pure fun _ p => p
        | some _ => .ite (fun _ => .bind spec_free_top fun _ => .pure fun _ p => p) fun _ => .pure fun _ p => p

theorem slotBlocks_set (buf : Nat) (bs : Bytes) :
    ∀ (s : List (Option (Nat × Bytes))) (n : Nat), s[n]? = some none →
      (slotBlocks (s.set n (some (buf, bs)))).Perm (buf :: slotBlocks s) := fun s n h =>
  (flatMap_set_perm _ (some (buf, bs)) s n none h).trans
    (List.Perm.cons buf (flatMap_eraseIdx_perm (fun o => (o.map (·.1)).toList) s n none h).symm)

theorem readChunkIn_spec (e0 : Err) (h : Hdr) (slots : List (Option (Nat × Bytes))) (fh n : Nat)
    (hfh : (fh, Mode.read) ∈ hs ++ v.handles) :
    Spec (Own v (slotBlocks slots ++ ex) hs) (readChunkIn e0 h slots fh n)
      (fun r => Own v (slotBlocks r.2.2 ++ ex) hs) := by
  unfold readChunkIn
  split
  · exact .pure fun _ p => p
  · exact .pure fun _ p => p
  · rename_i hslot
    exact .bind spec_alloc fun
      | none => .pure fun _ p => p
      | some buf => .bind (spec_seekAbs hfh) fun _ =>
        .ite (fun _ => .bind spec_free_top fun _ => .pure fun _ p => p) fun _ => .bind (spec_read hfh) fun
          | none => .bind spec_free_top fun _ => .pure fun _ p => p
          | some bs => .ite (fun _ => .bind spec_free_top fun _ => .pure fun _ p => p) fun _ =>
            .ite (fun _ => .bind spec_free_top fun _ => .pure fun _ p => p) fun _ =>
            .pure fun _ p => p.reorder ((slotBlocks_set buf bs slots n hslot).symm.append_right ex)

theorem Hdr.blocks_cache (h : Hdr) (c : Option Cache) :
    ({ h with cache := c } : Hdr).blocks = h.files ++ (h.sysfiles ++ (cacheBlocks c ++ [h.mem])) := rfl

theorem readChunk_spec (e0 : Err) (h : Hdr) (fh n : Nat) (hfh : (fh, Mode.read) ∈ hs ++ v.handles) :
    Spec (Own v (h.blocks ++ ex) hs) (readChunk e0 h fh n) (fun r => Own v (r.2.2.blocks ++ ex) hs) := by
  refine .ite (fun _ => .pure fun _ p => p) fun _ => ?_
  split
  · rename_i c hc
    refine Spec.reorder (ex' := slotBlocks c.slots ++ (h.files ++ (h.sysfiles ++ (c.mem :: h.mem :: ex)))) ?_ ?_
    · unfold Hdr.blocks; rw [hc]; unfold cacheBlocks; perm_count
    refine Spec.bind (readChunkIn_spec e0 h c.slots fh n hfh) fun r => ?_
    refine Spec.pure fun w p => ?_
    refine p.reorder ?_
    dsimp only
    rw [Hdr.blocks_cache]; unfold cacheBlocks; perm_count
  · rename_i hc
    refine Spec.bind spec_alloc fun r => ?_
    cases r with
    | none => exact Spec.pure fun w p => p
    | some m =>
      dsimp only
      refine Spec.reorder (ex' := slotBlocks (List.replicate h.numChunks none) ++ (h.files ++ (h.sysfiles ++ (m :: h.mem :: ex)))) ?_ ?_
      · have : slotBlocks (List.replicate h.numChunks none) = [] := by
          unfold slotBlocks
          generalize h.numChunks = k
          induction k with
          | zero => rfl
          | succ k ih => rw [List.replicate_succ, List.flatMap_cons, ih]; rfl
        rw [this]
        unfold Hdr.blocks; rw [hc]; unfold cacheBlocks
        perm_count
      refine Spec.bind (readChunkIn_spec e0 h _ fh n hfh) fun r => ?_
      refine Spec.pure fun w p => ?_
      refine p.reorder ?_
      dsimp only
      rw [Hdr.blocks_cache]; unfold cacheBlocks; perm_count

/-- after a search loop: the loop returned (the handle is closed) or broke (it is still open) -/
def FoundPost (v : View) (ex : List Nat) (fh : Nat) (hs : List (Nat × Mode)) (r : Found × Err × Hdr) (w : World) : Prop :=
  match r.1 with
  | .returned _ => Own v (r.2.2.blocks ++ ex) hs w
  | .broke _ _ => Own v (r.2.2.blocks ++ ex) ((fh, Mode.read) :: hs) w

theorem indexLoop_spec (P : Parse) (fh : Nat) (name : String) :
    ∀ (left n : Nat) (e0 : Err) (h : Hdr),
      Spec (Own v (h.blocks ++ ex) ((fh, Mode.read) :: hs)) (indexLoop P fh name left n e0 h) (FoundPost v ex fh hs)
  | 0, _, _, _ => .bind spec_close_top fun _ => .pure fun _ p => p
  | left + 1, n, e0, h => .bind (readChunk_spec e0 h fh n (List.mem_append_left _ (List.mem_cons_self ..))) fun
    | (none, _, _) => .bind spec_close_top fun _ => .pure fun _ p => p
    | (some _, _, _) => by
      dsimp only
      split
      · exact indexLoop_spec P fh name left _ _ _
      · exact .bind spec_close_top fun _ => .pure fun _ p => p
      · exact .pure fun _ p => p

theorem listLoop_spec (P : Parse) (fh : Nat) (name : String) (last : Nat) :
    ∀ (left n : Nat) (res : Search) (e0 : Err) (h : Hdr),
      Spec (Own v (h.blocks ++ ex) ((fh, Mode.read) :: hs)) (listLoop P fh name last left n res e0 h)
        (FoundPost v ex fh hs)
  | 0, _, _, _, _ => .pure fun _ p => p
  | left + 1, n, _, e0, h => .ite (fun _ => .pure fun _ p => p) fun _ =>
    .bind (readChunk_spec e0 h fh n (List.mem_append_left _ (List.mem_cons_self ..))) fun
      | (none, _, _) => .pure fun _ p => p
      | (some _, _, _) => .ite (fun _ => .pure fun _ p => p) fun _ => .ite (fun _ => .pure fun _ p => p) fun _ =>
        listLoop_spec P fh name last left _ _ _ _

theorem fastFind_spec (P : Parse) (e0 : Err) (h : Hdr) (name : String) :
    Spec (Own v (h.blocks ++ ex) hs) (fastFind P e0 h name) (fun r => Own v (r.2.2.2.blocks ++ ex) hs) :=
  .bind spec_open fun
    | none => .pure fun _ p => p
    | some fh => .bind (R := FoundPost v ex fh hs)
        (.ite (fun _ => indexLoop_spec P fh name _ _ _ _) fun _ => listLoop_spec P fh name _ _ _ _ _ _) fun
      | (.returned _, _, _) => .pure fun _ p => p
      | (.broke _ _, _, _) => .bind spec_close_top fun _ => .pure fun _ p => p

theorem Hdr.link_blocks (h : Hdr) (s : Special) (blk : Nat) (f : FileInfo) :
    (h.link s blk f).blocks = h.files ++ ((blk :: h.sysfiles) ++ (cacheBlocks h.cache ++ [h.mem])) := by
  cases s <;> rfl

theorem findSysFile_spec (P : Parse) (e0 : Err) (h : Hdr) (s : Special) :
    Spec (Own v (h.blocks ++ ex) hs) (findSysFile P e0 h s) (fun r => Own v (r.2.2.blocks ++ ex) hs) := by
  unfold findSysFile
  split
  · exact .pure fun _ p => p
  · exact .bind (fastFind_spec P e0 h s.name) fun
      | (_, none, _, _) => .pure fun _ p => p
      | (_, some _, _, _) => .ite (fun _ => .pure fun _ p => p) fun _ => .bind spec_alloc fun
        | none => .pure fun _ p => p
        | some _ => .pure fun _ p => p.reorder <| by
          dsimp only
          rw [Hdr.link_blocks]; unfold Hdr.blocks
          perm_count

theorem readResetTable_spec (P : Parse) (e0 : Err) (infh : Nat) (h : Hdr) (entry : Nat)
    (hin : (infh, Mode.read) ∈ hs ++ v.handles) :
    Spec (Own v (h.blocks ++ ex) hs) (readResetTable P e0 infh h entry) (fun r => Own v (r.2.2.blocks ++ ex) hs) := by
  refine .bind (findSysFile_spec P e0 h .rtable) fun _ => .ite (fun _ => .pure fun _ p => p) fun _ => ?_
  split
  · exact .pure fun _ p => p
  · exact .ite (fun _ => .pure fun _ p => p) fun _ => .bind (readSysFile_spec infh _ _ hin) fun
      | .error _ => .pure fun _ p => p
      | .ok _ => .bind spec_free_top fun _ => .pure fun _ p => p

theorem readSpaninfo_spec (P : Parse) (e0 : Err) (infh : Nat) (h : Hdr)
    (hin : (infh, Mode.read) ∈ hs ++ v.handles) :
    Spec (Own v (h.blocks ++ ex) hs) (readSpaninfo P e0 infh h) (fun r => Own v (r.2.2.2.blocks ++ ex) hs) := by
  refine .bind (findSysFile_spec P e0 h .spaninfo) fun _ => .ite (fun _ => .pure fun _ p => p) fun _ => ?_
  split
  · exact .pure fun _ p => p
  · exact .ite (fun _ => .pure fun _ p => p) fun _ => .bind (readSysFile_spec infh _ _ hin) fun
      | .error _ => .pure fun _ p => p
      | .ok _ => .bind spec_free_top fun _ => by split <;> exact .pure fun _ p => p

def InitPost (v : View) (ex : List Nat) (hs : List (Nat × Mode)) (r : Err × Option (Lzx × σ) × Pos × Hdr) (w : World) : Prop :=
  Own v (stBlocks r.2.1 ++ (r.2.2.2.blocks ++ ex)) hs w

theorem initDecomp3_spec (D : Decoder σ) (c : Ctl) (e0 : Err) (h : Hdr) (pl : Except Err (Pos × Int)) :
    Spec (Own v (h.blocks ++ ex) hs) (initDecomp3 D c e0 h pl) (InitPost v ex hs) :=
  match pl with
  | .error _ => .pure fun _ p => p
  | .ok _ => .bind (lzxdInit_spec _) fun
    | none => .pure fun _ p => p
    | some _ => .pure fun _ p => p

theorem initDecomp2_spec (D : Decoder σ) (P : Parse) (e0 : Err) (infh : Nat) (h : Hdr) (c : Ctl) (co : Int)
    (hin : (infh, Mode.read) ∈ hs ++ v.handles) :
    Spec (Own v (h.blocks ++ ex) hs) (initDecomp2 D P e0 infh h c co) (InitPost v ex hs) :=
  .bind (readResetTable_spec P e0 infh h c.entry hin) fun
    | (some _, _, _) => initDecomp3_spec D c _ _ _
    | (none, _, _) => .bind (readSpaninfo_spec P _ infh _ hin) fun _ =>
      .ite (fun _ => .pure fun _ p => p) fun _ => initDecomp3_spec D c _ _ _

theorem initDecomp_spec (D : Decoder σ) (P : Parse) (e0 : Err) (infh : Nat) (h : Hdr) (fo : Int)
    (hin : (infh, Mode.read) ∈ hs ++ v.handles) :
    Spec (Own v (h.blocks ++ ex) hs) (initDecomp D P e0 infh h fo) (InitPost v ex hs) := by
  refine .bind (findSysFile_spec P e0 h .content) fun _ => .ite (fun _ => .pure fun _ p => p) fun _ =>
    .bind (findSysFile_spec P _ _ .control) fun _ => .ite (fun _ => .pure fun _ p => p) fun _ => ?_
  split
  · exact .ite (fun _ => .pure fun _ p => p) fun _ => .bind (readSysFile_spec infh _ _ hin) fun
      | .error _ => .pure fun _ p => p
      | .ok _ => .bind spec_free_top fun _ => by
        split
        · exact .pure fun _ p => p
        · exact initDecomp2_spec D P _ infh _ _ _ hin
  · exact .pure fun _ p => p

/-- the frame law for `lzxd_decompress` over `self->d->sys`: whatever its state and the byte count,
    run with a live input handle and (if `d->outfh` is set) a live output handle it leaves live
    blocks, live handles and the misuse record as they were (it calls `sys->read` on the first and,
    through `chmd_sys_write`, `sys->write` on the second) -/
def Lawful (D : Decoder σ) : Prop :=
  ∀ (s : σ) (bytes : Int) (inFh : Nat) (outFh : Option Nat) (w : World), w.view.ok →
    (inFh, Mode.read) ∈ w.view.handles → (∀ o, outFh = some o → (o, Mode.write) ∈ w.view.handles) →
    Frame w.view (D.run s bytes inFh outFh w).2

theorem run_spec (D : Decoder σ) (hD : Lawful D) (s : σ) (bytes : Int) (inFh : Nat) (outFh : Option Nat)
    (hin : (inFh, Mode.read) ∈ hs ++ v.handles) (hout : ∀ o, outFh = some o → (o, Mode.write) ∈ hs ++ v.handles) :
    Spec (Own v ex hs) (D.run s bytes inFh outFh) (fun _ => Own v ex hs) := fun w p =>
  p.step (hD s bytes inFh outFh w p.ok (p.mem_handles hin) (fun o ho => p.mem_handles (hout o ho)))

theorem copy0_spec (infh fh : Nat) (hin : (infh, Mode.read) ∈ hs ++ v.handles)
    (hout : (fh, Mode.write) ∈ hs ++ v.handles) :
    ∀ k length, Spec (Own v ex hs) (copy0 infh fh k length) (fun _ => Own v ex hs)
  | 0, _ => .pure fun _ p => p
  | k + 1, _ => .ite (fun _ => .pure fun _ p => p) fun _ => .bind (spec_read hin) fun
    | none => .pure fun _ p => p
    | some _ => .ite (fun _ => .pure fun _ p => p) fun _ => .bind (spec_write hout) fun
      | none => .pure fun _ p => p
      | some _ => .ite (fun _ => .pure fun _ p => p) fun _ => copy0_spec infh fh hin hout k _

theorem extractSec0_spec (infh fh : Nat) (h : Hdr) (f : FileInfo) (hin : (infh, Mode.read) ∈ hs ++ v.handles)
    (hout : (fh, Mode.write) ∈ hs ++ v.handles) :
    Spec (Own v ex hs) (extractSec0 infh fh h f) (fun _ => Own v ex hs) :=
  .bind (spec_seekAbs hin) fun _ => .ite (fun _ => .pure fun _ p => p) fun _ =>
    .bind (spec_tell hin) fun _ => copy0_spec infh fh hin hout _ _

theorem extractRun_spec (D : Decoder σ) (hD : Lawful D) (infh fh : Nat) (l : Lzx) (s : σ) (pos : Pos) (f : FileInfo)
    (hin : (infh, Mode.read) ∈ hs ++ v.handles) (hout : (fh, Mode.write) ∈ hs ++ v.handles) :
    Spec (Own v (lzxBlocks (some l) ++ ex) hs) (extractRun D infh fh l s pos f)
      (fun r => Own v (stBlocks r.2.1 ++ ex) hs) :=
  .ite (fun _ => .pure fun _ p => p) fun _ => .bind (spec_seekAbs hin) fun _ =>
  .ite (fun _ => .pure fun _ p => p) fun _ =>
  .bind (R := fun _ => Own v (lzxBlocks (some l) ++ ex) hs)
    (.ite (fun _ => run_spec D hD _ _ _ _ hin fun _ h => nomatch h) fun _ => .pure fun _ p => p) fun _ =>
  .bind (R := fun _ => Own v (lzxBlocks (some l) ++ ex) hs)
    (.ite (fun _ => run_spec D hD _ _ _ _ hin fun _ h => Option.some.inj h ▸ hout) fun _ => .pure fun _ p => p) fun _ =>
  .bind (spec_tell hin) fun _ =>
  .ite (fun _ => .bind (lzxdFree_spec l) fun _ => .pure fun _ p => p) fun _ => .pure fun _ p => p

theorem extractSec1_spec (D : Decoder σ) (hD : Lawful D) (P : Parse) (infh fh : Nat) (st : Option (Lzx × σ)) (pos : Pos)
    (h : Hdr) (f : FileInfo)
    (hin : (infh, Mode.read) ∈ hs ++ v.handles) (hout : (fh, Mode.write) ∈ hs ++ v.handles) :
    Spec (Own v (stBlocks st ++ (h.blocks ++ ex)) hs) (extractSec1 D P infh fh st pos h f) (InitPost v ex hs) := by
  unfold extractSec1
  split
  · rename_i l s hst
    have hst' : st = some (l, s) := by
      split at hst
      · cases hst
      · exact hst
    subst hst'
    exact .bind (extractRun_spec D hD infh fh l s pos f hin hout) fun _ => .pure fun _ p => p
  · exact .bind (lzxFreeSt_spec st) fun _ => .bind (initDecomp_spec D P .ok infh h f.offset hin) fun
      | (_, none, _, _) => .pure fun _ p => p
      | (_, some (l, s), pos1, _) => .ite (fun _ => .pure fun _ p => p) fun _ =>
        .bind (extractRun_spec D hD infh fh l s pos1 f hin hout) fun _ => .pure fun _ p => p

def SessPost (v : View) (ex : List Nat) (hs : List (Nat × Mode)) (i : Inst σ) (h : Hdr) (w : World) : Prop :=
  Own v (decBlocks i.d ++ (h.blocks ++ ex)) (decHandles i.d ++ hs) w

theorem extractOut_spec (D : Decoder σ) (hD : Lawful D) (P : Parse) (i : Inst σ) (d : Dec σ) (infh : Nat) (h : Hdr)
    (f : FileInfo) (out : String) (hd : d.infh = some infh) :
    Spec (Own v (decBlocks (some d) ++ (h.blocks ++ ex)) ((infh, Mode.read) :: hs)) (extractOut D P i d infh h f out)
      (fun r => SessPost v ex hs r.2.1 r.2.2) := by
  -- on the exits that leave `d` in the cache as it is, the cache's handle is `infh`
  have back {w} (p : Own v (decBlocks (some d) ++ (h.blocks ++ ex)) ((infh, Mode.read) :: hs) w) :
      Own v (decBlocks (some d) ++ (h.blocks ++ ex)) (decHandles (some d) ++ hs) w := by
    unfold decHandles; dsimp only; rw [hd]; exact p
  exact .bind spec_open fun
    | none => .pure fun _ p => back p
    | some fh =>
      have hin : (infh, Mode.read) ∈ ((fh, Mode.write) :: (infh, Mode.read) :: hs) ++ v.handles :=
        List.mem_append_left _ (List.mem_cons_of_mem _ (List.mem_cons_self ..))
      have hout : (fh, Mode.write) ∈ ((fh, Mode.write) :: (infh, Mode.read) :: hs) ++ v.handles :=
        List.mem_append_left _ (List.mem_cons_self ..)
      .ite (fun _ => .bind spec_close_top fun _ => .pure fun _ p => back p) fun _ =>
      .ite (fun _ => .bind (extractSec0_spec infh fh h f hin hout) fun _ => .bind spec_close_top fun _ =>
        .pure fun _ p => back p) fun _ =>
      .ite (fun _ => .reorder (ex' := stBlocks d.state ++ (h.blocks ++ (d.mem :: ex))) (by unfold decBlocks; perm_count) <|
        .bind (extractSec1_spec D hD P infh fh d.state d.pos h f hin hout) fun _ => .bind spec_close_top fun _ =>
        .pure fun _ p => by
          unfold SessPost decHandles; dsimp only; rw [hd]
          refine Own.reorder p ?_
          unfold decBlocks; dsimp only; perm_count) fun _ =>
      .bind spec_close_top fun _ => .pure fun _ p => back p

theorem extractIn_spec (D : Decoder σ) (hD : Lawful D) (P : Parse) (i : Inst σ) (d : Dec σ) (h : Hdr)
    (f : FileInfo) (out : String) :
    Spec (Own v (decBlocks (some d) ++ (h.blocks ++ ex)) (decHandles (some d) ++ hs)) (extractIn D P i d h f out)
      (fun r => SessPost v ex hs r.2.1 r.2.2) := by
  unfold extractIn
  split
  · rename_i infh hinf
    have hd : d.infh = some infh := by
      split at hinf
      · cases hinf
      · exact hinf
    refine Spec.pre (fun w p => ?_) (extractOut_spec D hD P i d infh h f out hd)
    have : decHandles (some d) = [(infh, Mode.read)] := by simp [decHandles, hd]
    rw [this] at p; exact p
  · refine Spec.bind (closeIf_spec [] d.infh .read) fun _ => ?_
    refine Spec.reorder (ex' := stBlocks d.state ++ (d.mem :: (h.blocks ++ ex))) ?_ ?_
    · unfold decBlocks; perm_count
    refine Spec.bind (lzxFreeSt_spec d.state) fun _ => ?_
    refine Spec.bind spec_open fun r => ?_
    cases r with
    | none =>
      refine Spec.pure fun w p => ?_
      unfold SessPost decBlocks decHandles stBlocks; exact p
    | some infh =>
      dsimp only
      refine Spec.pre (fun w p => ?_) (extractOut_spec D hD P i _ infh h f out rfl)
      unfold decBlocks stBlocks; exact p

theorem extract_spec (D : Decoder σ) (hD : Lawful D) (P : Parse) (i : Inst σ) (h : Hdr) (f : FileInfo) (out : String) :
    Spec (SessPost v ex hs i h) (extract D P i h f out) (fun r => SessPost v ex hs r.2.1 r.2.2) := by
  unfold extract
  split
  · rename_i d hd
    refine Spec.pre (fun w p => ?_) (extractIn_spec D hD P i d h f out)
    unfold SessPost at p; rw [hd] at p; exact p
  · rename_i hd
    refine Spec.pre (P := Own v (h.blocks ++ ex) hs) (fun w p => ?_) ?_
    · unfold SessPost at p; rw [hd] at p; exact p
    refine Spec.bind spec_alloc fun r => ?_
    cases r with
    | none =>
      refine Spec.pure fun w p => ?_
      unfold SessPost; dsimp only; rw [hd]; exact p
    | some m =>
      dsimp only
      refine Spec.pre (fun w p => ?_) (extractIn_spec D hD P i _ h f out)
      unfold decBlocks decHandles stBlocks; exact p

theorem fastFindOp_spec (P : Parse) (i : Inst σ) (h : Hdr) (name : String) :
    Spec (SessPost v ex hs i h) (fastFindOp P i h name) (fun r => SessPost v ex hs r.2.2.1 r.2.2.2) := by
  unfold fastFindOp
  refine Spec.reorder (ex' := h.blocks ++ (decBlocks i.d ++ ex)) (by perm_count) ?_
  refine Spec.bind (fastFind_spec P i.error h name) fun r => ?_
  refine Spec.pure fun w p => ?_
  unfold SessPost; dsimp only
  exact p.reorder (by perm_count)

def walkBlocks (k : Walk) : List Nat := k.files ++ k.sysfiles

theorem Walk.add_blocks (k : Walk) (blk : Nat) (e : Ent) : (walkBlocks (k.add blk e)).Perm (blk :: walkBlocks k) := by
  cases e with
  | file => unfold Walk.add walkBlocks; dsimp only; perm_count
  | sys which f =>
    cases which with
    | none => unfold Walk.add walkBlocks; dsimp only; perm_count
    | some sp => cases sp <;> (unfold Walk.add walkBlocks; dsimp only; perm_count)

/-- after the allocations for one chunk: one failed and `chunk` is gone, or all are linked in -/
def AddPost (v : View) (ex : List Nat) (hs : List (Nat × Mode)) (chunk : Nat) (r : Bool × Walk) (w : World) : Prop :=
  match r.1 with
  | true => Own v (walkBlocks r.2 ++ ex) hs w
  | false => Own v (walkBlocks r.2 ++ (chunk :: ex)) hs w

theorem addEntries_spec (chunk : Nat) :
    ∀ (es : List Ent) (k : Walk),
      Spec (Own v (walkBlocks k ++ (chunk :: ex)) hs) (addEntries chunk es k) (AddPost v ex hs chunk) := by
  intro es
  induction es with
  | nil => intro k; rw [addEntries.eq_1]; exact Spec.pure fun w p => p
  | cons e es ih =>
    intro k
    rw [addEntries.eq_2]
    refine Spec.bind spec_alloc fun r => ?_
    cases r with
    | none =>
      dsimp only
      refine Spec.reorder (ex' := chunk :: (walkBlocks k ++ ex)) (by perm_count) ?_
      exact Spec.bind spec_free_top fun _ => Spec.pure fun w p => p
    | some fi =>
      dsimp only
      refine Spec.reorder (ex' := walkBlocks (k.add fi e) ++ (chunk :: ex)) ?_ (ih _)
      have := (Walk.add_blocks k fi e).symm
      refine List.Perm.trans ?_ (List.Perm.append_right _ this)
      perm_count

theorem readChunks_spec (P : Parse) (fh chunk chunkSize : Nat) (hfh : (fh, Mode.read) ∈ hs ++ v.handles) :
    ∀ (n : Nat) (err : Bool) (errors : Nat) (k : Walk),
      Spec (Own v (walkBlocks k ++ (chunk :: ex)) hs) (readChunks P fh chunk chunkSize n err errors k)
        (fun r => Own v (walkBlocks r.2 ++ ex) hs) := by
  have hfree : ∀ k : Walk, ∀ e : Err,
      Spec (Own v (walkBlocks k ++ (chunk :: ex)) hs) (do free (some chunk); return (e, k) : M (Err × Walk))
        (fun r => Own v (walkBlocks r.2 ++ ex) hs) := by
    intro k e
    refine Spec.reorder (ex' := chunk :: (walkBlocks k ++ ex)) (by perm_count) ?_
    exact Spec.bind spec_free_top fun _ => Spec.pure fun w p => p
  intro n
  induction n with
  | zero => exact fun _ _ k => hfree k _
  | succ n ih => exact fun _ _ k => .bind (spec_read hfh) fun
    | none => hfree k _
    | some _ => .ite (fun _ => hfree k _) fun _ => .ite (fun _ => ih _ _ _) fun _ =>
      .bind (addEntries_spec chunk _ k) fun
        | (true, _) => .pure fun _ p => p
        | (false, _) => ih _ _ _

theorem sysFilelen_spec (fh : Nat) (hfh : (fh, Mode.read) ∈ hs ++ v.handles) :
    Spec (Own v ex hs) (sysFilelen fh) (fun _ => Own v ex hs) :=
  .bind (spec_tell hfh) fun _ => .bind (spec_seekEnd hfh) fun _ => .ite (fun _ => .pure fun _ p => p) fun _ =>
    .bind (spec_tell hfh) fun _ => .bind (spec_seekStart hfh) fun _ => .pure fun _ p => p

theorem Hdr.withWalk_blocks (h : Hdr) (k : Walk) :
    (h.withWalk k).blocks = k.files ++ (k.sysfiles ++ (cacheBlocks h.cache ++ [h.mem])) := rfl

theorem readHeaders3_spec (P : Parse) (fh : Nat) (h : Hdr) (entire : Bool) (hfh : (fh, Mode.read) ∈ hs ++ v.handles)
    (hf : h.files = []) (hsf : h.sysfiles = []) :
    Spec (Own v (h.blocks ++ ex) hs) (readHeaders3 P fh h entire) (fun r => Own v (r.2.blocks ++ ex) hs) :=
  .ite (fun _ => .pure fun _ p => p) fun _ => .ite (fun _ => .pure fun _ p => p) fun _ =>
  .bind (R := fun _ => Own v (h.blocks ++ ex) hs) (.ite (fun _ => spec_seekCur hfh) fun _ => .pure fun _ p => p) fun _ =>
  .ite (fun _ => .pure fun _ p => p) fun _ => .bind spec_alloc fun
    | none => .pure fun _ p => p
    | some chunk =>
      .reorder (ex' := walkBlocks {} ++ (chunk :: (cacheBlocks h.cache ++ (h.mem :: ex))))
        (by unfold Hdr.blocks walkBlocks; rw [hf, hsf]; perm_count) <|
      .bind (readChunks_spec P fh chunk _ hfh _ _ _ _) fun _ => .pure fun _ p => p.reorder <| by
        dsimp only
        rw [Hdr.withWalk_blocks]; unfold walkBlocks; perm_count

theorem readHeaders2_spec (P : Parse) (fh : Nat) (h : Hdr) (entire : Bool) (version : Nat) (o0 o1 o2 : Int)
    (hfh : (fh, Mode.read) ∈ hs ++ v.handles) (hf : h.files = []) (hsf : h.sysfiles = []) :
    Spec (Own v (h.blocks ++ ex) hs) (readHeaders2 P fh h entire version o0 o1 o2)
      (fun r => Own v (r.2.blocks ++ ex) hs) :=
  .bind (spec_seekAbs hfh) fun _ => .ite (fun _ => .pure fun _ p => p) fun _ => .bind (spec_read hfh) fun
    | none => .pure fun _ p => p
    | some _ => .ite (fun _ => .pure fun _ p => p) fun _ => .bind (sysFilelen_spec fh hfh) fun _ =>
      .bind (spec_seekAbs hfh) fun _ => .ite (fun _ => .pure fun _ p => p) fun _ => .bind (spec_read hfh) fun
        | none => .pure fun _ p => p
        | some b4 => .ite (fun _ => .pure fun _ p => p) fun _ => .bind (spec_tell hfh) fun t =>
          readHeaders3_spec P fh (withHs1 h version o2 _ t b4) entire hfh hf hsf

theorem readHeaders_spec (P : Parse) (fh : Nat) (h : Hdr) (entire : Bool)
    (hfh : (fh, Mode.read) ∈ hs ++ v.handles) (hf : h.files = []) (hsf : h.sysfiles = []) :
    Spec (Own v (h.blocks ++ ex) hs) (readHeaders P fh h entire) (fun r => Own v (r.2.blocks ++ ex) hs) :=
  .bind (spec_read hfh) fun
    | none => .pure fun _ p => p
    | some _ => .ite (fun _ => .pure fun _ p => p) fun _ => .ite (fun _ => .pure fun _ p => p) fun _ =>
      .bind (spec_read hfh) fun
        | none => .pure fun _ p => p
        | some _ => .ite (fun _ => .pure fun _ p => p) fun _ => readHeaders2_spec P fh h entire _ _ _ _ hfh hf hsf

def optBlocks : Option Hdr → List Nat
  | none => []
  | some h => h.blocks

theorem realOpen_spec (P : Parse) (i : Inst σ) (name : String) (entire : Bool) :
    Spec (Own v (decBlocks i.d ++ ex) (decHandles i.d ++ hs)) (realOpen P i name entire)
      (fun r => Own v (optBlocks r.2 ++ (decBlocks r.1.d ++ ex)) (decHandles r.1.d ++ hs)) :=
  .bind spec_open fun
    | none => .pure fun _ p => p
    | some fh => .bind spec_alloc fun
      | none => .bind spec_close_top fun _ => .pure fun _ p => p
      | some m =>
        .bind (R := fun r => Own v (r.2.blocks ++ (decBlocks i.d ++ ex)) ((fh, Mode.read) :: (decHandles i.d ++ hs)))
          (readHeaders_spec P fh { mem := m, filename := name } entire
            (List.mem_append_left _ (List.mem_cons_self ..)) rfl rfl) fun r =>
        .ite (fun _ => .bind spec_close_top fun _ => .pure fun _ p => p) fun _ =>
        .ite (fun _ => .bind spec_close_top fun _ => .pure fun _ p => p) fun _ =>
        .bind (close_spec [(fh, Mode.read)] i r.2) fun _ => .bind spec_close_top fun _ => .pure fun _ p => p

def hdrsBlocks (l : List Hdr) : List Nat := l.flatMap Hdr.blocks

def SessOwn (v : View) (s : Sess σ) (w : World) : Prop :=
  Own v (decBlocks s.inst.d ++ (hdrsBlocks s.hdrs ++ [s.self])) (decHandles s.inst.d ++ []) w

theorem runOp_spec (D : Decoder σ) (hD : Lawful D) (P : Parse) (s : Sess σ) (op : Op) :
    Spec (SessOwn v s) (runOp D P s op) (fun s' w => SessOwn v s' w ∧ s'.self = s.self) := by
  cases op with
  | open_ name =>
    rw [runOp.eq_1]
    refine Spec.bind (realOpen_spec P s.inst name true) fun r => Spec.pure fun w p => ⟨?_, rfl⟩
    unfold SessOwn; dsimp only
    refine p.reorder ?_
    cases r.2 <;> (simp only [optBlocks, hdrsBlocks, Option.toList_some, List.cons_append, List.flatMap_cons]; perm_count)
  | fastOpen name =>
    rw [runOp.eq_2]
    refine Spec.bind (realOpen_spec P s.inst name false) fun r => Spec.pure fun w p => ⟨?_, rfl⟩
    unfold SessOwn; dsimp only
    refine p.reorder ?_
    cases r.2 <;> (simp only [optBlocks, hdrsBlocks, Option.toList_some, List.cons_append, List.flatMap_cons]; perm_count)
  | close k =>
    rw [runOp.eq_3]
    split
    · exact Spec.pure fun w p => ⟨p, rfl⟩
    · rename_i h hk
      have hp : (hdrsBlocks s.hdrs).Perm (h.blocks ++ hdrsBlocks (s.hdrs.eraseIdx k)) :=
        flatMap_eraseIdx_perm Hdr.blocks s.hdrs k h hk
      refine Spec.pre (P := Own v (h.blocks ++ (decBlocks s.inst.d ++ (hdrsBlocks (s.hdrs.eraseIdx k) ++ [s.self])))
        ([] ++ (decHandles s.inst.d ++ []))) (fun w p => ?_) ?_
      · refine Own.reorder p ?_
        refine (List.Perm.append_left _ (List.Perm.append_right _ hp)).trans ?_
        perm_count
      refine Spec.bind (close_spec [] s.inst h) fun i' => Spec.pure fun w p => ⟨p, rfl⟩
  | extract k f out =>
    rw [runOp.eq_4]
    split
    · exact Spec.pure fun w p => ⟨p, rfl⟩
    · rename_i h hk
      have hp : (hdrsBlocks s.hdrs).Perm (h.blocks ++ hdrsBlocks (s.hdrs.eraseIdx k)) :=
        flatMap_eraseIdx_perm Hdr.blocks s.hdrs k h hk
      refine Spec.pre (P := SessPost v (hdrsBlocks (s.hdrs.eraseIdx k) ++ [s.self]) [] s.inst h) (fun w p => ?_) ?_
      · refine Own.reorder p ?_
        refine (List.Perm.append_left _ (List.Perm.append_right _ hp)).trans ?_
        perm_count
      refine Spec.bind (extract_spec D hD P s.inst h f out) fun r => Spec.pure fun w p => ⟨?_, rfl⟩
      unfold SessOwn; dsimp only
      refine Own.reorder p ?_
      simp only [hdrsBlocks, List.flatMap_cons]; perm_count
  | fastFind k name =>
    rw [runOp.eq_5]
    split
    · exact Spec.pure fun w p => ⟨p, rfl⟩
    · rename_i h hk
      have hp : (hdrsBlocks s.hdrs).Perm (h.blocks ++ hdrsBlocks (s.hdrs.eraseIdx k)) :=
        flatMap_eraseIdx_perm Hdr.blocks s.hdrs k h hk
      refine Spec.pre (P := SessPost v (hdrsBlocks (s.hdrs.eraseIdx k) ++ [s.self]) [] s.inst h) (fun w p => ?_) ?_
      · refine Own.reorder p ?_
        refine (List.Perm.append_left _ (List.Perm.append_right _ hp)).trans ?_
        perm_count
      refine Spec.bind (fastFindOp_spec P s.inst h name) fun r => Spec.pure fun w p => ⟨?_, rfl⟩
      unfold SessOwn; dsimp only
      refine Own.reorder p ?_
      simp only [hdrsBlocks, List.flatMap_cons]; perm_count

theorem runOps_spec (D : Decoder σ) (hD : Lawful D) (P : Parse) (ops : List Op) :
    ∀ s : Sess σ, Spec (SessOwn v s) (runOps D P ops s) (fun s' w => SessOwn v s' w ∧ s'.self = s.self) := by
  induction ops with
  | nil => intro s; rw [runOps.eq_1]; exact Spec.pure fun w p => ⟨p, rfl⟩
  | cons op ops ih =>
    intro s
    rw [runOps.eq_2]
    refine Spec.bind (runOp_spec D hD P s op) fun s1 => ?_
    intro w p
    have := ih s1 w p.1
    exact ⟨this.1, this.2.trans p.2⟩

theorem closeAll_spec :
    ∀ (l : List Hdr) (i : Inst σ),
      Spec (Own v (decBlocks i.d ++ (hdrsBlocks l ++ ex)) (decHandles i.d ++ [])) (closeAll l i)
        (fun i' => Own v (decBlocks i'.d ++ ex) (decHandles i'.d ++ [])) := by
  intro l
  induction l with
  | nil =>
    intro i
    rw [closeAll.eq_1]
    exact Spec.pure fun w p => p
  | cons h hs' ih =>
    intro i
    rw [closeAll.eq_2]
    refine Spec.pre (P := Own v (h.blocks ++ (decBlocks i.d ++ (hdrsBlocks hs' ++ ex))) ([] ++ (decHandles i.d ++ [])))
      (fun w p => ?_) ?_
    · refine Own.reorder p ?_
      unfold hdrsBlocks; rw [List.flatMap_cons]; perm_count
    exact Spec.bind (close_spec [] i h) fun i' => ih i'

theorem destroy_spec (self : Nat) (i : Inst σ) :
    Spec (Own v (decBlocks i.d ++ [self]) (decHandles i.d ++ [])) (destroy self i) (fun _ => Own v [] []) := by
  unfold destroy
  exact Spec.bind (dropDecIf_spec [] i.d) fun _ => spec_free_top

theorem program_spec (D : Decoder σ) (hD : Lawful D) (P : Parse) (ops : List Op) :
    Spec (Own v [] []) (program D P ops) (fun _ => Own v [] []) := by
  unfold program create
  refine Spec.bind (R := fun (c : Option (Nat × Inst σ)) w =>
    match c with
    | none => Own v [] [] w
    | some x => Own v [x.1] [] w ∧ x.2.d = none) ?_ fun c => ?_
  · refine Spec.bind spec_alloc fun r => ?_
    cases r with
    | none => exact Spec.pure fun w p => p
    | some a => exact Spec.pure fun w p => ⟨p, rfl⟩
  · cases c with
    | none => exact Spec.pure fun w p => p
    | some c =>
      dsimp only
      refine Spec.bind (R := fun s w => SessOwn v s w ∧ s.self = c.1) ?_ fun s => ?_
      · refine Spec.pre (fun w p => ?_) (runOps_spec D hD P ops ⟨c.1, c.2, []⟩)
        unfold SessOwn; dsimp only; rw [p.2]; exact p.1
      · intro w p
        obtain ⟨p, hself⟩ := p
        unfold SessOwn at p
        rw [hself] at p
        exact (Spec.bind (closeAll_spec (ex := [c.1]) s.hdrs s.inst) fun i => destroy_spec c.1 i) w p

end specs

end MsPack.Chm.Api
