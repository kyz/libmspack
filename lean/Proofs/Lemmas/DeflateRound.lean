import Proofs.Lemmas.ZipBounds
import Proofs.Lemmas.Lzss
/-!
# MSZIP round trip, lemmas

What each piece of the inflate model (`MsPack/Zip/Inflate.lean`) does when the unread input starts
with the coding the specification writer (`MsPack/Spec/Deflate.lean`) produces.  The unread input of
a state is seen as a bit stream (`avail`): the bit buffer, then the bits of the buffered bytes, of
what the source still has (`content`), and of the two zero bytes `read_input` invents at the first
end of input.  Every reading primitive is a function of that stream, wherever the refills fall.

`At content st bs out` is the decoder's state as the format sees it: `bs` the unread bit stream, `out` the frame so far.
A piece that reads the coding `c` takes `At content st (c ++ rest) out` to `At content s rest out`, one that writes `w` takes
`At content st bs out` to `At content s bs (out ++ w)`; `AtByte` is the same inside a stored block, in bytes.  Total correctness is
`wp m Q (fun _ _ => False) st` (`Wp.lean`): no exceptional outcome.

The writer's code words are the canonical ones of the fixed lengths (`litCode_decode`, from `Huff.decode_canon`); the
result is `decompress_frame`, one `decompress` call on a frame.
-/
namespace MsPack.Zip
open MsPack.Generated

variable {σ : Type} (S : Src σ) (content : σ → Bytes)

/-- the source contract the round trip needs: a `read` (of at least one byte) never fails, hands out
    a prefix of what the source has, of any length, and an empty one only at the end -/
structure Feeds : Prop where
  read : ∀ s n, 1 ≤ n → ∃ c s', S.read s n = .ok (some c, s') ∧ c ++ content s' = content s ∧
    (c = [] → content s = [])

def remBytes (st : St σ) : Bytes := st.inbuf ++ content st.src ++ (if st.inputEnd then [] else [0, 0])
def avail (st : St σ) : List Bool := st.bits ++ Deflate.bytesBits (remBytes content st)

structure Keep (st s : St σ) : Prop where
  window : s.window = st.window
  posn   : s.windowPosn = st.windowPosn
  bout   : s.bytesOutput = st.bytesOutput
  size   : s.inbufSize = st.inbufSize

theorem Keep.refl (st : St σ) : Keep st st := ⟨rfl, rfl, rfl, rfl⟩
theorem Keep.trans {a b c : St σ} (h1 : Keep a b) (h2 : Keep b c) : Keep a c :=
  ⟨h2.1.trans h1.1, h2.2.trans h1.2, h2.3.trans h1.3, h2.4.trans h1.4⟩

structure InSame (st s : St σ) : Prop where
  bits  : s.bits = st.bits
  inbuf : s.inbuf = st.inbuf
  src   : s.src = st.src
  iend  : s.inputEnd = st.inputEnd
  size  : s.inbufSize = st.inbufSize

theorem InSame.refl (st : St σ) : InSame st st := ⟨rfl, rfl, rfl, rfl, rfl⟩
theorem InSame.rem {st s : St σ} (h : InSame st s) : remBytes content s = remBytes content st := by
  unfold remBytes; rw [h.inbuf, h.src, h.iend]
theorem InSame.avail {st s : St σ} (h : InSame st s) : avail content s = avail content st := by
  unfold Zip.avail; rw [h.rem, h.bits]

/-- the frame so far is `out`: it sits at the start of the window; either nothing has been flushed
    and the write position is its end, or it is a whole frame, flushed, and the position is back at 0 -/
def Has (st : St σ) (out : Bytes) : Prop :=
  st.window.size = zipFRAME_SIZE ∧ st.window.toList.take out.length = out ∧
  ((st.bytesOutput = 0 ∧ st.windowPosn = out.length ∧ out.length < zipFRAME_SIZE) ∨
   (st.bytesOutput = zipFRAME_SIZE ∧ st.windowPosn = 0 ∧ out.length = zipFRAME_SIZE))

/-- the same just before `FLUSH_IF_NEEDED` -/
def HasPre (st : St σ) (out : Bytes) : Prop :=
  st.window.size = zipFRAME_SIZE ∧ st.window.toList.take out.length = out ∧
  st.bytesOutput = 0 ∧ st.windowPosn = out.length ∧ out.length ≤ zipFRAME_SIZE

theorem Has.keep {st s : St σ} {out : Bytes} (h : Has st out) (hk : Keep st s) : Has s out := by
  obtain ⟨h1, h2, h3⟩ := h
  exact ⟨hk.1 ▸ h1, hk.1 ▸ h2, hk.2 ▸ hk.3 ▸ h3⟩

theorem Has.posn {st : St σ} {out : Bytes} (h : Has st out) (hlt : out.length < zipFRAME_SIZE) :
    st.bytesOutput = 0 ∧ st.windowPosn = out.length := by
  rcases h.2.2 with h | h
  · exact ⟨h.1, h.2.1⟩
  · omega

/-- The decoder between two items of the format: `bs` is the unread input as one bit stream, `out` the frame so far.
    At most 23 bits are buffered (`ENSURE_BITS(16)` stops below 16 + 8; `READ_BITS(n)` removes the `n` it ensured):
    a stored block then finds at most two of its four length bytes in the bit buffer. -/
structure At (st : St σ) (bs : List Bool) (out : Bytes) : Prop where
  avail : avail content st = bs
  size  : 1 ≤ st.inbufSize
  bits  : st.bits.length ≤ 23
  has   : Has st out

/-- The decoder inside a stored block, where the C reads bytes past an empty bit buffer: `rem` is the unread input. -/
structure AtByte (st : St σ) (rem : Bytes) (out : Bytes) : Prop where
  rem  : remBytes content st = rem
  bits : st.bits = []
  size : 1 ≤ st.inbufSize
  has  : Has st out

theorem bytesBits_cons (b : UInt8) (rest : Bytes) :
    Deflate.bytesBits (b :: rest) = byteBits b ++ Deflate.bytesBits rest := rfl
theorem bytesBits_append (a b : Bytes) :
    Deflate.bytesBits (a ++ b) = Deflate.bytesBits a ++ Deflate.bytesBits b := by
  simp [Deflate.bytesBits]
theorem bytesBits_length (a : Bytes) : (Deflate.bytesBits a).length = 8 * a.length := by
  induction a with
  | nil => rfl
  | cons b rest ih => rw [bytesBits_cons, List.length_append, byteBits_length, ih, List.length_cons]; omega

variable {S content}

theorem At.read {st s : St σ} {bs rest : List Bool} {out : Bytes} (h : At content st bs out) (hk : Keep st s)
    (hav : Zip.avail content s = rest) (hb : s.bits.length ≤ 23) : At content s rest out :=
  ⟨hav, hk.size ▸ h.size, hb, h.has.keep hk⟩

theorem At.write {st s : St σ} {bs : List Bool} {out out' : Bytes} (h : At content st bs out) (hi : InSame st s)
    (ho : Has s out') : At content s bs out' :=
  ⟨(hi.avail content).trans h.avail, hi.size ▸ h.size, by rw [hi.bits]; exact h.bits, ho⟩

theorem AtByte.read {st s : St σ} {rem rem' out : Bytes} (h : AtByte content st rem out) (hk : Keep st s)
    (hb : s.bits = st.bits) (hr : remBytes content s = rem') : AtByte content s rem' out :=
  ⟨hr, hb.trans h.bits, hk.size ▸ h.size, h.has.keep hk⟩

theorem AtByte.at {st : St σ} {rem out : Bytes} (h : AtByte content st rem out) :
    At content st (Deflate.bytesBits rem) out :=
  ⟨by rw [avail, h.bits, h.rem]; rfl, h.size, by rw [h.bits]; exact Nat.zero_le _, h.has⟩

theorem readInput_tot (hF : Feeds S content) (st : St σ) (hb : 1 ≤ st.inbufSize) (he : st.inbuf = [])
    (hne : remBytes content st ≠ []) :
    wp (readInput S) (fun _ s => Keep st s ∧ s.bits = st.bits ∧ s.inbuf ≠ [] ∧ remBytes content s = remBytes content st)
      (fun _ _ => False) st := by
  obtain ⟨c, s', hr, hc, hz⟩ := hF.read st.src st.inbufSize hb
  unfold readInput
  wp_step
  rw [hr]
  cases c with
  | nil =>
    have hcs : content st.src = [] := hz rfl
    have hcs' : content s' = [] := by simpa [hcs] using hc
    dsimp only
    cases hie : st.inputEnd with
    | true => simp [remBytes, he, hcs, hie] at hne
    | false =>
      simp only [Bool.false_eq_true, ↓reduceIte]
      rw [wp_set]
      refine ⟨⟨rfl, rfl, rfl, rfl⟩, rfl, by simp, ?_⟩
      simp [remBytes, he, hcs, hcs', hie]
  | cons x xs =>
    dsimp only
    rw [wp_set]
    refine ⟨⟨rfl, rfl, rfl, rfl⟩, rfl, by simp, ?_⟩
    simp only [remBytes, he, List.nil_append]
    rw [← hc]

/-- `READ_IF_NEEDED` while the stream (the two made-up bytes included) is not at its end; `k` is what follows,
    which `do` copies into both branches -/
theorem refill_tot {β : Type} (hF : Feeds S content) (st : St σ) (hb : 1 ≤ st.inbufSize) (hne : remBytes content st ≠ [])
    {k : PUnit → ZM σ β} {Q : β → St σ → Prop}
    (hk : ∀ s, Keep st s → s.bits = st.bits → s.inbuf ≠ [] → remBytes content s = remBytes content st →
      wp (k ⟨⟩) Q (fun _ _ => False) s) :
    wp (if st.inbuf.isEmpty then readInput S >>= k else k ⟨⟩) Q (fun _ _ => False) st := by
  by_cases he : st.inbuf = []
  · rw [if_pos (List.isEmpty_iff.mpr he)]
    exact wp.bind_of (readInput_tot hF st hb he hne) fun _ s ⟨a, b, c, d⟩ => hk s a b c d
  · rw [if_neg (mt List.isEmpty_iff.mp he)]
    exact hk st (Keep.refl _) rfl he rfl

theorem nextByte_tot (hF : Feeds S content) (st : St σ) (hb : 1 ≤ st.inbufSize) (b : UInt8) (rest : Bytes)
    (h : remBytes content st = b :: rest) :
    wp (nextByte S) (fun a s => a = b ∧ Keep st s ∧ s.bits = st.bits ∧ remBytes content s = rest) (fun _ _ => False) st := by
  unfold nextByte
  wp_step
  refine refill_tot hF st hb (by rw [h]; exact List.cons_ne_nil _ _) ?_
  intro s hk hbits hne hrem
  wp_step
  cases hi : s.inbuf with
  | nil => exact absurd hi hne
  | cons x xs =>
    dsimp only
    wp_step
    have hrem := hrem.trans h
    simp only [remBytes, hi, List.cons_append, List.cons.injEq] at hrem
    exact ⟨hrem.1, ⟨hk.1, hk.2, hk.3, hk.4⟩, hbits, hrem.2⟩

theorem prefix_split {A X bs rest : List Bool} {n : Nat} (h : A ++ X = bs ++ rest) (hl : bs.length = n)
    (hn : n ≤ A.length) : A.take n = bs ∧ A.drop n ++ X = rest := by
  constructor
  · have := congrArg (List.take n) h
    rwa [List.take_append_of_le_length hn, List.take_left' hl] at this
  · have := congrArg (List.drop n) h
    rwa [List.drop_append_of_le_length hn, List.drop_left' hl] at this

theorem ensureBits_tot (hF : Feeds S content) (n : Nat) : ∀ (fuel : Nat) (st : St σ), 1 ≤ st.inbufSize →
    n ≤ (avail content st).length → n ≤ st.bits.length + 8 * fuel →
    wp (ensureBits S n fuel) (fun _ s => Keep st s ∧ avail content s = avail content st ∧
      n ≤ s.bits.length ∧ s.bits.length ≤ max st.bits.length (n + 7)) (fun _ _ => False) st := by
  intro fuel
  induction fuel with
  | zero =>
    intro st hb hav hfuel
    rw [ensureBits.eq_1, wp_pure]
    exact ⟨Keep.refl _, rfl, by omega, Nat.le_max_left ..⟩
  | succ fuel ih =>
    intro st hb hav hfuel
    rw [ensureBits.eq_2]
    wp_step
    split
    · rename_i hlt
      cases hrem : remBytes content st with
      | nil =>
        exfalso
        simp only [avail, hrem, Deflate.bytesBits, List.flatMap_nil, List.append_nil] at hav
        omega
      | cons b rest =>
        refine wp.bind_of (nextByte_tot hF st hb b rest hrem) ?_
        intro a s ⟨ha, hk, hbits, hr⟩
        subst ha
        rw [wp_modify_bind]
        have hav' : avail content { s with bits := s.bits ++ byteBits a } = avail content st := by
          show (s.bits ++ byteBits a) ++ Deflate.bytesBits (remBytes content s) = _
          rw [hr, hbits, avail, hrem, bytesBits_cons, List.append_assoc]
        have hlen : ({ s with bits := s.bits ++ byteBits a } : St σ).bits.length = st.bits.length + 8 := by
          show (s.bits ++ byteBits a).length = _
          rw [List.length_append, byteBits_length, hbits]
        refine (ih { s with bits := s.bits ++ byteBits a } (hk.size ▸ hb) (hav' ▸ hav) (by rw [hlen]; omega)).mono
          ?_ (fun _ _ h => h)
        intro _ s' ⟨hk', hav'', hn, hmax⟩
        refine ⟨Keep.trans hk ⟨hk'.1, hk'.2, hk'.3, hk'.4⟩, hav''.trans hav', hn, ?_⟩
        rw [hlen] at hmax
        omega
    · rename_i hge
      rw [wp_pure]
      exact ⟨Keep.refl _, rfl, by omega, Nat.le_max_left ..⟩

theorem readBits_at (hF : Feeds S content) (n : Nat) (hn : n ≤ 24) {st : St σ} (bs : List Bool) {rest : List Bool}
    {out : Bytes} (h : At content st (bs ++ rest) out) (hl : bs.length = n) :
    wp (readBits S n) (fun v s => v = bitsVal bs ∧ At content s rest out) (fun _ _ => False) st := by
  unfold readBits
  refine wp.bind_of (ensureBits_tot hF n 3 st h.size (by rw [h.avail, List.length_append]; omega) (by omega)) ?_
  intro _ s ⟨hk, havs, hns, hmax⟩
  wp_step
  unfold removeBits
  rw [wp_modify_bind, wp_pure]
  obtain ⟨h1, h2⟩ := prefix_split (havs.trans h.avail) hl hns
  refine ⟨by rw [h1], h.read ⟨hk.1, hk.2, hk.3, hk.4⟩ h2 ?_⟩
  show (s.bits.drop n).length ≤ _
  have := h.bits
  rw [List.length_drop]; omega

theorem readHuffSym_at (hF : Feeds S content) (c : Huff.Canon) {st : St σ} (code : List Bool) {rest : List Bool}
    {out : Bytes} (sym : Nat) (h : At content st (code ++ rest) out) (h16 : 16 ≤ (code ++ rest).length)
    (hc : code.length ≤ 16) (hdec : ∀ tail, Huff.decode c (code ++ tail) = some (sym, code.length)) :
    wp (readHuffSym S c) (fun v s => v = sym ∧ At content s rest out) (fun _ _ => False) st := by
  unfold readHuffSym
  refine wp.bind_of (ensureBits_tot hF 16 3 st h.size (by rw [h.avail]; exact h16) (by omega)) ?_
  intro _ s ⟨hk, havs, hns, hmax⟩
  wp_step
  obtain ⟨h1, h2⟩ := prefix_split (havs.trans h.avail) rfl (Nat.le_trans hc hns)
  have hd : Huff.decode c s.bits = some (sym, code.length) := by
    rw [← List.take_append_drop code.length s.bits, h1]; exact hdec _
  rw [hd]
  dsimp only
  unfold removeBits
  rw [wp_modify_bind, wp_pure]
  refine ⟨rfl, h.read ⟨hk.1, hk.2, hk.3, hk.4⟩ h2 ?_⟩
  show (s.bits.drop code.length).length ≤ _
  have := h.bits
  rw [List.length_drop]; omega

theorem natBits_succ (n v : Nat) : Deflate.natBits (n + 1) v = v.testBit 0 :: Deflate.natBits n (v / 2) := by
  simp only [Deflate.natBits, List.range_succ_eq_map, List.map_cons, List.map_map]
  congr 1
  apply List.map_congr_left
  intro i _
  simp [Nat.testBit_succ]

theorem bitsVal_cons (b : Bool) (bs : List Bool) : bitsVal (b :: bs) = bitsVal bs * 2 + (if b then 1 else 0) := rfl

theorem bitsVal_natBits (n v : Nat) : bitsVal (Deflate.natBits n v) = v % 2 ^ n := by
  rw [bitsVal_eq]; exact (congrArg Lzx.bitsVal (codeBits_eq_msbBits n v)).trans (Lzx.bitsVal_msbBits n v)

theorem natBits_length (n v : Nat) : (Deflate.natBits n v).length = n := by simp [Deflate.natBits]
theorem bitsVal_byteBits (b : UInt8) : bitsVal (byteBits b) = b.toNat := by
  show bitsVal (Deflate.natBits 8 b.toNat) = _
  rw [bitsVal_natBits]
  exact Nat.mod_eq_of_lt b.toNat_lt

theorem byteBits_inj {a b : UInt8} (h : byteBits a = byteBits b) : a = b := by
  have := congrArg bitsVal h
  rw [bitsVal_byteBits, bitsVal_byteBits] at this
  exact UInt8.toNat_inj.mp this

theorem bytesBits_prefix : ∀ (X A : Bytes) (R : List Bool), Deflate.bytesBits A = Deflate.bytesBits X ++ R →
    ∃ Y, A = X ++ Y ∧ Deflate.bytesBits Y = R
  | [], A, R, h => ⟨A, rfl, h⟩
  | x :: X, [], R, h => by
    have := congrArg List.length h
    simp only [bytesBits_cons, List.length_append, byteBits_length] at this
    simp [Deflate.bytesBits] at this
    omega
  | x :: X, a :: A, R, h => by
    rw [bytesBits_cons, bytesBits_cons, List.append_assoc] at h
    obtain ⟨h1, h2⟩ := List.append_inj h (by rw [byteBits_length, byteBits_length])
    obtain ⟨Y, hy, hr⟩ := bytesBits_prefix X A R h2
    exact ⟨Y, by rw [byteBits_inj h1, hy]; rfl, hr⟩

theorem bitbuf_bytes (B : List Bool) (A X : Bytes) (R : List Bool) (j : Nat) (hB : B.length = 8 * j)
    (hj : j ≤ X.length) (h : B ++ Deflate.bytesBits A = Deflate.bytesBits X ++ R) :
    B = Deflate.bytesBits (X.take j) ∧ Deflate.bytesBits A = Deflate.bytesBits (X.drop j) ++ R := by
  rw [← List.take_append_drop j X, bytesBits_append, List.append_assoc] at h
  have := List.append_inj h (by rw [hB, bytesBits_length, List.length_take, Nat.min_eq_left hj])
  exact this

/-- the C's extraction of whole bytes from the bit buffer -/
theorem fromBits_bytes : ∀ (Z : Bytes) (j : Nat), Z.length = j →
    (List.range j).map (fun i => UInt8.ofNat (bitsVal (((Deflate.bytesBits Z).drop (8 * i)).take 8))) = Z
  | [], _, h => by subst h; rfl
  | z :: Z, j, h => by
    obtain ⟨k, rfl⟩ : ∃ k, j = k + 1 := ⟨Z.length, by simpa using h.symm⟩
    rw [List.range_succ_eq_map, List.map_cons, List.map_map]
    have h0 : UInt8.ofNat (bitsVal (((Deflate.bytesBits (z :: Z)).drop (8 * 0)).take 8)) = z := by
      rw [bytesBits_cons, Nat.mul_zero, List.drop_zero, List.take_left' (byteBits_length z), bitsVal_byteBits]
      exact UInt8.ofNat_toNat
    rw [h0]
    congr 1
    rw [← fromBits_bytes Z k (by simpa using h)]
    apply List.map_congr_left
    intro i _
    simp only [Function.comp]
    rw [bytesBits_cons, show 8 * (i + 1) = 8 * i + (byteBits z).length by rw [byteBits_length]; omega,
      Nat.add_comm, ← List.drop_drop, List.drop_left]
    rw [fromBits_bytes Z k (by simpa using h)]

theorem flushIfNeeded_out (st : St σ) (out : Bytes) (h : HasPre st out) :
    wp flushIfNeeded (fun _ s => Has s out ∧ InSame st s) (fun _ _ => False) st := by
  obtain ⟨h1, h2, h3, h4, h5⟩ := h
  unfold flushIfNeeded
  wp_step
  split
  · rename_i heq
    unfold flushWindow
    wp_step
    rw [h3, Nat.zero_add, if_neg (Nat.lt_irrefl _)]
    simp only [pure_bind]
    rw [wp_modify]
    exact ⟨⟨h1, h2, .inr ⟨rfl, rfl, by rw [← h4]; exact heq⟩⟩, ⟨rfl, rfl, rfl, rfl, rfl⟩⟩
  · rename_i hne
    rw [wp_pure]
    exact ⟨⟨h1, h2, .inl ⟨h3, h4, by rw [h4] at hne; omega⟩⟩, InSame.refl _⟩

theorem putByte_at (b : UInt8) {st : St σ} {bs : List Bool} {out : Bytes} (h : At content st bs out)
    (hlt : out.length < zipFRAME_SIZE) :
    wp (putByte b) (fun _ s => At content s bs (out ++ [b])) (fun _ _ => False) st := by
  obtain ⟨hbo, hwp⟩ := h.has.posn hlt
  obtain ⟨h1, h2, _⟩ := h.has
  unfold putByte
  wp_step
  split
  · rename_i hp
    wp_step
    refine (flushIfNeeded_out _ (out ++ [b]) ⟨?_, ?_, ?_, ?_, ?_⟩).post ?_
    · simp only [Array.size_set]; exact h1
    · show (st.window.set st.windowPosn b hp).toList.take (out ++ [b]).length = _
      rw [Array.toList_set, List.length_append, List.length_singleton, ← hwp, take_set_succ _ _ _ (by simpa using hp),
        hwp, h2]
    · exact hbo
    · show st.windowPosn + 1 = _
      rw [List.length_append, List.length_singleton, hwp]
    · rw [List.length_append, List.length_singleton]; omega
    · exact fun _ _ ⟨ho, hi⟩ => h.write ⟨hi.1, hi.2, hi.3, hi.4, hi.5⟩ ho
  · rename_i hp
    exact absurd (by omega) hp

theorem foldl_chunk (chunk : List UInt8) : ∀ (w : Array UInt8) (p : Nat), p + chunk.length ≤ w.size →
    (chunk.foldl (fun (acc : Array UInt8 × Nat) b => (acc.1.setIfInBounds acc.2 b, acc.2 + 1)) (w, p)).1.toList.take
      (p + chunk.length) = w.toList.take p ++ chunk := by
  induction chunk with
  | nil => intro w p _; simp
  | cons b rest ih =>
    intro w p hle
    rw [List.foldl_cons]
    show (List.foldl _ (w.setIfInBounds p b, p + 1) rest).1.toList.take _ = _
    have hl : p + (b :: rest).length = (p + 1) + rest.length := by rw [List.length_cons]; omega
    rw [hl, ih _ _ (by rw [Array.size_setIfInBounds]; omega), Array.toList_setIfInBounds,
      take_set_succ _ _ _ (by rw [Array.length_toList]; rw [List.length_cons] at hle; omega), List.append_assoc]
    rfl

theorem copyStored_at (hF : Feeds S content) : ∀ (fuel length : Nat) {st : St σ} {out : Bytes} (data : Bytes)
    {rest : Bytes}, AtByte content st (data ++ rest) out → data.length = length →
    out.length + length ≤ zipFRAME_SIZE → length + 1 ≤ fuel →
    wp (copyStored S fuel length) (fun _ s => AtByte content s rest (out ++ data)) (fun _ _ => False) st := by
  intro fuel
  induction fuel with
  | zero => intro length st out data rest _ _ _ hf; omega
  | succ fuel ih =>
    intro length st out data rest h hlen hfit hfuel
    rw [copyStored.eq_2]
    split
    · rename_i h0
      rw [wp_pure]
      have : data = [] := List.eq_nil_of_length_eq_zero (hlen.trans h0)
      subst this
      rw [List.append_nil]; exact h
    · rename_i hpos
      wp_step
      refine refill_tot hF st h.size (fun hc => hpos ?_) ?_
      · rw [← hlen, (List.append_eq_nil_iff.mp (h.rem.symm.trans hc)).1]; rfl
      intro s hk hbits hne hrem
      have hs := h.read hk hbits (hrem.trans h.rem)
      obtain ⟨hbo, hwp⟩ := hs.has.posn (by omega)
      have hil : 0 < s.inbuf.length := List.length_pos_iff.mpr hne
      wp_step
      generalize hrun : min (min length s.inbuf.length) (zipFRAME_SIZE - s.windowPosn) = run
      obtain ⟨hr1, hr2, hr3⟩ : 1 ≤ run ∧ run ≤ s.inbuf.length ∧ run ≤ data.length := by omega
      have hchunk : s.inbuf.take run = data.take run := by
        have := congrArg (List.take run) hs.rem
        rwa [remBytes, List.append_assoc, List.take_append_of_le_length hr2, List.take_append_of_le_length hr3] at this
      have hdrop : s.inbuf.drop run ++ content s.src ++ (if s.inputEnd then [] else [0, 0]) = data.drop run ++ rest := by
        have := congrArg (List.drop run) hs.rem
        rwa [remBytes, List.append_assoc, List.drop_append_of_le_length hr2, List.drop_append_of_le_length hr3,
          ← List.append_assoc] at this
      rw [hchunk]
      have hl : (out ++ data.take run).length = s.windowPosn + (data.take run).length := by
        rw [List.length_append, hwp]
      refine wp.bind_of (flushIfNeeded_out _ (out ++ data.take run) ⟨?_, ?_, hbo, ?_, ?_⟩) ?_
      · dsimp only
        rw [foldl_set_size]; exact hs.has.1
      · dsimp only
        rw [hl, foldl_chunk _ _ _ (by rw [List.length_take, hs.has.1, hwp]; omega), hwp, hs.has.2.1]
      · rw [hl, List.length_take, Nat.min_eq_left hr3]
      · rw [hl, List.length_take]; omega
      · intro _ s2 ⟨ho2, hi2⟩
        have := ih (length - run) (data.drop run) (rest := rest)
          ⟨(hi2.rem content).trans hdrop, hi2.bits.trans hs.bits, hi2.size ▸ hs.size, ho2⟩
          (by rw [List.length_drop, hlen]) (by rw [hl, List.length_take]; omega) (by omega)
        rwa [List.append_assoc, List.take_append_drop] at this

/-- the length bytes of a stored block that are not in the bit buffer -/
theorem more_at (hF : Feeds S content) : ∀ (k : Nat) (acc : List UInt8) {st : St σ} (bs : Bytes) {rest out : Bytes},
    AtByte content st (bs ++ rest) out → bs.length = k →
    wp (inflate.more S k acc) (fun r s => r = acc ++ bs ∧ AtByte content s rest out) (fun _ _ => False) st := by
  intro k
  induction k with
  | zero =>
    intro acc st bs rest out h hl
    have : bs = [] := List.eq_nil_of_length_eq_zero hl
    subst this
    rw [inflate.more.eq_1, wp_pure]
    exact ⟨(List.append_nil _).symm, h⟩
  | succ k ih =>
    intro acc st bs rest out h hl
    cases bs with
    | nil => simp at hl
    | cons b bs =>
      rw [inflate.more.eq_2]
      refine wp.bind_of (nextByte_tot hF st h.size b (bs ++ rest) h.rem) ?_
      intro a s ⟨ha, hk, hbits, hr⟩
      subst ha
      refine (ih (acc ++ [a]) bs (h.read hk hbits hr) (by simpa using hl)).post ?_
      intro r s' ⟨h1, h2⟩
      exact ⟨by rw [h1, List.append_assoc]; rfl, h2⟩

/-- the byte alignment of a stored block, on lists: `bits` is the bit buffer after the three header
    bits, `A` the bytes behind it; the stream is `k` padding bits, the bytes `hdr ++ data`, then `R` -/
theorem stored_align (bits : List Bool) (A hdr data : Bytes) (k : Nat) (R : List Bool)
    (h : bits ++ Deflate.bytesBits A = List.replicate k false ++ (Deflate.bytesBits (hdr ++ data) ++ R))
    (hk : k < 8) (hR : R.length % 8 = 0) (hb : bits.length ≤ 23) (hX : hdr.length = 4) :
    ∃ j Y, j ≤ 2 ∧ (bits.drop (bits.length % 8)).length / 8 = j ∧
      (List.range j).map (fun i => UInt8.ofNat (bitsVal (((bits.drop (bits.length % 8)).drop (8 * i)).take 8)))
        = hdr.take j ∧
      A = hdr.drop j ++ (data ++ Y) ∧ Deflate.bytesBits Y = R := by
  have hlen := congrArg List.length h
  simp only [List.length_append, bytesBits_length, List.length_replicate] at hlen
  obtain ⟨j, hj, hj2⟩ : ∃ j, bits.length = k + 8 * j ∧ j ≤ 2 := ⟨(bits.length - k) / 8, by omega, by omega⟩
  have hjh : j ≤ hdr.length := by omega
  rw [hj, Nat.add_mul_mod_self_left, Nat.mod_eq_of_lt hk]
  obtain ⟨_, h2⟩ := prefix_split h (List.length_replicate ..) (hj ▸ Nat.le_add_right k _)
  have hdl : (bits.drop k).length = 8 * j := by rw [List.length_drop, hj, Nat.add_sub_cancel_left]
  obtain ⟨hB, hA⟩ := bitbuf_bytes _ _ _ _ _ hdl (by rw [List.length_append]; omega) h2
  obtain ⟨Y, hy, hr⟩ := bytesBits_prefix _ _ _ hA
  refine ⟨j, Y, hj2, by rw [hdl, Nat.mul_div_cancel_left _ (by decide)], ?_, ?_, hr⟩
  · rw [hB, List.take_append_of_le_length hjh]
    exact fromBits_bytes _ _ (by rw [List.length_take, Nat.min_eq_left hjh])
  · rw [hy, List.drop_append_of_le_length hjh, List.append_assoc]

theorem le16_putLE16 (a b : Nat) (ha : a < 65536) (hb : b < 65536) :
    ((putLE16 a ++ putLE16 b).getD 0 0).toNat + ((putLE16 a ++ putLE16 b).getD 1 0).toNat * 256 = a ∧
    ((putLE16 a ++ putLE16 b).getD 2 0).toNat + ((putLE16 a ++ putLE16 b).getD 3 0).toNat * 256 = b := by
  simp only [putLE16, List.cons_append, List.nil_append, List.getD_cons_zero, List.getD_cons_succ, UInt8.toNat_ofNat']
  omega

def Done (st : St σ) (data : Bytes) : Prop :=
  st.window.size = zipFRAME_SIZE ∧ st.window.toList.take data.length = data ∧ st.bytesOutput = data.length

theorem finish_tot (st : St σ) (out : Bytes) (h : Has st out) :
    wp (do
      let st ← get
      if st.windowPosn ≠ 0 then flushWindow st.windowPosn else pure ()) (fun _ s => Done s out) (fun _ _ => False) st := by
  obtain ⟨h1, h2, h3⟩ := h
  wp_step
  split
  · rename_i hne
    rcases h3 with h3 | h3
    · unfold flushWindow
      wp_step
      rw [h3.1, Nat.zero_add, if_neg (by rw [h3.2.1]; omega)]
      rw [wp_pure]
      exact ⟨h1, h2, h3.2.1⟩
    · exact absurd h3.2.1 hne
  · rename_i he
    rw [wp_pure]
    rcases h3 with h3 | h3
    · exact ⟨h1, h2, by rw [h3.1, ← h3.2.1]; omega⟩
    · exact ⟨h1, h2, by rw [h3.1, h3.2.2]⟩

theorem copyFrom_length (dist : Nat) : ∀ (n : Nat) (out : Bytes), (Deflate.copyFrom dist n out).length = out.length + n
  | 0, _ => rfl
  | n + 1, out => by rw [Deflate.copyFrom, copyFrom_length dist n, List.length_append, List.length_singleton]; omega

theorem apply_length_le (out : Bytes) (t : Deflate.Tok) : out.length ≤ (t.apply out).length := by
  cases t with
  | lit b => simp [Deflate.Tok.apply]
  | mat len dist => simp only [Deflate.Tok.apply, copyFrom_length]; omega

theorem expand_length_le : ∀ (toks : List Deflate.Tok) (out : Bytes), out.length ≤ (Deflate.expand toks out).length
  | [], _ => Nat.le_refl _
  | t :: ts, out => Nat.le_trans (apply_length_le out t) (expand_length_le ts (t.apply out))

theorem blockApply_length_le (out : Bytes) (b : Deflate.Block) : out.length ≤ (b.apply out).length := by
  cases b with
  | stored d => simp [Deflate.Block.apply]
  | fixed toks => exact expand_length_le toks out

theorem blocksData_length_le : ∀ (bs : List Deflate.Block) (out : Bytes), out.length ≤ (Deflate.blocksData bs out).length
  | [], _ => Nat.le_refl _
  | b :: bs, out => Nat.le_trans (blockApply_length_le out b) (blocksData_length_le bs (b.apply out))

open MsPack.Spec

theorem len_tabs : ∀ c < 29, zipLitLengths.getD c 0 = zipLenBase c ∧ zipLitExtrabits.getD c 0 = zipLenExtra c ∧
    zipLenExtra c ≤ 24 ∧ (c < 28 → zipLenBase (c + 1) ≤ zipLenBase c + 2 ^ zipLenExtra c) := by decide +kernel
theorem dist_tabs : ∀ d < 30, zipDistOffsets.getD d 0 = zipDistBase d ∧ zipDistExtrabits.getD d 0 = zipDistExtra d ∧
    zipDistExtra d ≤ 24 := by decide +kernel
theorem base_ends : zipLenBase 0 = 3 ∧ zipLenBase 28 = 258 ∧ zipDistBase 0 = 1 ∧ zipDistBase 30 = 32769 := by decide +kernel

theorem filter_run (l x n : Nat) (rest : List Nat) (k : Nat) :
    (List.range' k (List.replicate n x ++ rest).length).filter
        (fun i => (List.replicate n x ++ rest).getD (i - k) 0 = l) =
      (if x = l then List.range' k n else []) ++
        (List.range' (k + n) rest.length).filter (fun i => rest.getD (i - (k + n)) 0 = l) := by
  rw [List.length_append, List.length_replicate, ← List.range'_append_1, List.filter_append]
  congr 1
  · have h : ∀ i ∈ List.range' k n, (List.replicate n x ++ rest).getD (i - k) 0 = x := by
      intro i hi
      have := List.mem_range'_1.mp hi
      rw [List.getD_eq_getElem?_getD, List.getElem?_append_left (by rw [List.length_replicate]; omega),
        List.getElem?_replicate_of_lt (by omega)]
      rfl
    split
    · rename_i hx
      exact List.filter_eq_self.mpr fun i hi => by rw [h i hi]; exact decide_eq_true hx
    · rename_i hx
      exact List.filter_eq_nil_iff.mpr fun i hi => by rw [h i hi]; simpa using hx
  · apply List.filter_congr
    intro i hi
    have := List.mem_range'_1.mp hi
    rw [List.getD_eq_getElem?_getD, List.getElem?_append_right (by rw [List.length_replicate]; omega),
      List.length_replicate, List.getD_eq_getElem?_getD, Nat.sub_add_eq]

theorem symsOfLen_fixedLit (l : Nat) : Huff.symsOfLen fixedLitLens l =
    ((if 8 = l then List.range' 0 144 else []) ++ ((if 9 = l then List.range' 144 112 else []) ++
      ((if 7 = l then List.range' 256 24 else []) ++ (if 8 = l then List.range' 280 8 else [])))).toArray := by
  have e : fixedLitLens = List.replicate 144 8 ++ (List.replicate 112 9 ++ (List.replicate 24 7 ++
      (List.replicate 8 8 ++ []))) := by rw [List.append_nil, fixedLitLens, List.append_assoc, List.append_assoc]
  unfold Huff.symsOfLen
  rw [List.range_eq_range', e]
  refine congrArg _ ((filter_run l 8 144 _ 0).trans ?_)
  rw [filter_run l 9 112, filter_run l 7 24, filter_run l 8 8]
  simp only [List.length_nil, List.range'_zero, List.filter_nil, List.append_nil, Nat.zero_add, Nat.reduceAdd]

theorem range'_getD (s n i : Nat) (h : i < n) : (List.range' s n).toArray.getD i 0 = s + i := by
  simp [Array.getD, h]

theorem fixedLit_sym8 (i : Nat) (h : i < 152) :
    (List.range' 0 144 ++ List.range' 280 8).toArray.getD i 0 = if i < 144 then i else i + 136 := by
  simp [Array.getD, h, List.getElem_append]
  split <;> omega

theorem fixedLit_syms : Huff.symsOfLen fixedLitLens 7 = (List.range' 256 24).toArray ∧
    Huff.symsOfLen fixedLitLens 8 = (List.range' 0 144 ++ List.range' 280 8).toArray ∧
    Huff.symsOfLen fixedLitLens 9 = (List.range' 144 112).toArray := by
  simp [symsOfLen_fixedLit]

theorem fixedLit_first : Huff.firstCode fixedLitLens 6 = 0 ∧ Huff.firstCode fixedLitLens 7 = 48 ∧
    Huff.firstCode fixedLitLens 8 = 400 := by
  -- `firstCode` is unfolded on a variable: of a closed term the kernel computes the value, through `symsOfLen`
  have key (L : List Nat) (z : ∀ j < 6, (Huff.symsOfLen L (j + 1)).size = 0) (h7 : (Huff.symsOfLen L 7).size = 24)
      (h8 : (Huff.symsOfLen L 8).size = 152) :
      Huff.firstCode L 6 = 0 ∧ Huff.firstCode L 7 = 48 ∧ Huff.firstCode L 8 = 400 := by
    have f6 := Huff.firstCode_zero L 6 z
    have f7 : Huff.firstCode L 7 = 48 := by rw [Huff.firstCode, f6, h7]
    exact ⟨f6, f7, by rw [Huff.firstCode, f7, h8]⟩
  refine key _ (fun j hj => ?_) (by rw [fixedLit_syms.1]; rfl) (by rw [fixedLit_syms.2.1]; rfl)
  rw [symsOfLen_fixedLit, if_neg (by omega), if_neg (by omega), if_neg (by omega), if_neg (by omega)]
  rfl

/-- the four ranges of `litCode` are the canonical code words of the fixed lengths: `first code of the length + rank` -/
theorem litCode_decode (lit : Huff.Canon) (hlit : Huff.build zipLITERAL_TABLEBITS fixedLitLens = some lit)
    (sym : Nat) (hs : sym < 288) (tail : List Bool) :
    Huff.decode lit (Deflate.litCode sym ++ tail) = some (sym, (Deflate.litCode sym).length) := by
  have hc := fun l k => Huff.decode_canon (show zipLITERAL_TABLEBITS ≤ 16 by decide) hlit l k (t := tail)
  obtain ⟨f7, f8, f9⟩ := fixedLit_first
  obtain ⟨s7, s8, s9⟩ := fixedLit_syms
  have z8 : ((List.range' 0 144 ++ List.range' 280 8).toArray).size = 152 := by
    rw [List.size_toArray, List.length_append, List.length_range', List.length_range']
  unfold Deflate.litCode
  split
  · have := hc 8 sym (by decide) (by decide) (by rw [s8, z8]; omega)
    rw [f8, s8, fixedLit_sym8 _ (by omega), if_pos (by omega)] at this
    rw [this, codeBits_length]
  split
  · have := hc 9 (sym - 144) (by decide) (by decide) (by rw [s9, List.size_toArray, List.length_range']; omega)
    rw [f9, s9, range'_getD _ _ _ (by omega), Nat.add_sub_cancel' (by omega)] at this
    rw [this, codeBits_length]
  split
  · have := hc 7 (sym - 256) (by decide) (by decide) (by rw [s7, List.size_toArray, List.length_range']; omega)
    rw [f7, Nat.zero_add, s7, range'_getD _ _ _ (by omega), Nat.add_sub_cancel' (by omega)] at this
    rw [this, codeBits_length]
  · have := hc 8 (sym - 136) (by decide) (by decide) (by rw [s8, z8]; omega)
    rw [f8, s8, fixedLit_sym8 _ (by omega), if_neg (by omega), Nat.sub_add_cancel (by omega)] at this
    rw [show 0xC0 + (sym - 280) = 48 + (sym - 136) by omega, this, codeBits_length]

theorem distCode_decode (dist : Huff.Canon) (hdist : Huff.build zipDISTANCE_TABLEBITS fixedDistLens = some dist)
    (d : Nat) (hd : d < 32) (tail : List Bool) :
    Huff.decode dist (Deflate.distCode d ++ tail) = some (d, (Deflate.distCode d).length) := by
  rw [Deflate.distCode, codeBits_length]
  exact Huff.decode_flat (by decide) hdist (by decide) (by decide) d hd tail

theorem slotOf_spec (base : Nat → Nat) (v : Nat) (h0 : base 0 ≤ v) : ∀ c : Nat,
    Deflate.slotOf base v c ≤ c ∧ base (Deflate.slotOf base v c) ≤ v ∧
      (Deflate.slotOf base v c < c → v < base (Deflate.slotOf base v c + 1))
  | 0 => ⟨Nat.le_refl _, h0, fun h => absurd h (Nat.lt_irrefl _)⟩
  | c + 1 => by
    rw [Deflate.slotOf]
    split
    · rename_i h; exact ⟨Nat.le_refl _, h, fun h => absurd h (Nat.lt_irrefl _)⟩
    · rename_i h
      obtain ⟨a, b, d⟩ := slotOf_spec base v h0 c
      refine ⟨by omega, b, fun _ => ?_⟩
      by_cases hc : Deflate.slotOf base v c < c
      · exact d hc
      · have : Deflate.slotOf base v c = c := by omega
        rw [this]; omega

theorem lenIdx_spec (len : Nat) (h3 : 3 ≤ len) (h258 : len ≤ 258) :
    Deflate.lenIdx len < 29 ∧ zipLitLengths.getD (Deflate.lenIdx len) 0 = zipLenBase (Deflate.lenIdx len) ∧
    zipLitExtrabits.getD (Deflate.lenIdx len) 0 = zipLenExtra (Deflate.lenIdx len) ∧
    zipLenExtra (Deflate.lenIdx len) ≤ 24 ∧ zipLenBase (Deflate.lenIdx len) ≤ len ∧
    len - zipLenBase (Deflate.lenIdx len) < 2 ^ zipLenExtra (Deflate.lenIdx len) := by
  obtain ⟨a, b, c⟩ := slotOf_spec zipLenBase len (by rw [base_ends.1]; exact h3) 28
  have hlt : Deflate.lenIdx len < 29 := Nat.lt_succ_of_le a
  obtain ⟨t1, t2, t3, t4⟩ := len_tabs _ hlt
  refine ⟨hlt, t1, t2, t3, b, ?_⟩
  by_cases h28 : Deflate.lenIdx len < 28
  · have := c h28
    have := t4 h28
    show len - zipLenBase (Deflate.slotOf zipLenBase len 28) < 2 ^ zipLenExtra (Deflate.slotOf zipLenBase len 28)
    unfold Deflate.lenIdx at *
    omega
  · have h : Deflate.lenIdx len = 28 := by omega
    rw [h, base_ends.2.1]
    have : len - 258 = 0 := by omega
    rw [this]
    exact Nat.pow_pos (by decide)

theorem distIdx_spec (d : Nat) (h1 : 1 ≤ d) (h2 : d ≤ 32768) :
    Deflate.distIdx d < 30 ∧ zipDistOffsets.getD (Deflate.distIdx d) 0 = zipDistBase (Deflate.distIdx d) ∧
    zipDistExtrabits.getD (Deflate.distIdx d) 0 = zipDistExtra (Deflate.distIdx d) ∧
    zipDistExtra (Deflate.distIdx d) ≤ 24 ∧ zipDistBase (Deflate.distIdx d) ≤ d ∧
    d - zipDistBase (Deflate.distIdx d) < 2 ^ zipDistExtra (Deflate.distIdx d) := by
  obtain ⟨a, b, c⟩ := slotOf_spec zipDistBase d (by rw [base_ends.2.2.1]; exact h1) 29
  have hlt : Deflate.distIdx d < 30 := Nat.lt_succ_of_le a
  obtain ⟨t1, t2, t3⟩ := dist_tabs _ hlt
  refine ⟨hlt, t1, t2, t3, b, ?_⟩
  have hnext : d < zipDistBase (Deflate.distIdx d + 1) := by
    by_cases h29 : Deflate.distIdx d < 29
    · exact c h29
    · have h : Deflate.distIdx d = 29 := by omega
      rw [h, base_ends.2.2.2]; omega
  rw [zipDistBase] at hnext
  unfold Deflate.distIdx at *
  omega

theorem window_getD {st : St σ} {out : Bytes} (h : Has st out) (i : Nat) (hi : i < out.length) :
    st.window.getD i 0 = out.getD i 0 := by
  obtain ⟨_, h2, _⟩ := h
  have := congrArg (fun l => l.getD i 0) h2
  simp only [List.getD_eq_getElem?_getD, List.getElem?_take, hi, ↓reduceIte, Array.getElem?_toList] at this
  simp only [Array.getD_eq_getD_getElem?, List.getD_eq_getElem?_getD, this]

theorem copyMatch_at (dist : Nat) (hd1 : 1 ≤ dist) : ∀ (n : Nat) {st : St σ} {bs : List Bool} {out : Bytes},
    At content st bs out → dist ≤ out.length → out.length + n ≤ zipFRAME_SIZE →
    wp (copyMatch n (out.length - dist)) (fun _ s => At content s bs (Deflate.copyFrom dist n out))
      (fun _ _ => False) st := by
  intro n
  induction n with
  | zero =>
    intro st bs out h _ _
    rw [copyMatch.eq_1, wp_pure]
    exact h
  | succ n ih =>
    intro st bs out h hd hfit
    rw [copyMatch.eq_2]
    wp_step
    rw [window_getD h.has _ (by omega)]
    refine wp.bind_of (putByte_at _ h (by omega)) ?_
    intro _ s hs
    have hmp : (out.length - dist + 1) % zipFRAME_SIZE = (out ++ [out.getD (out.length - dist) 0]).length - dist := by
      rw [List.length_append, List.length_singleton, Nat.mod_eq_of_lt (by omega)]
      omega
    rw [hmp]
    exact ih hs (by rw [List.length_append]; omega) (by rw [List.length_append, List.length_singleton]; omega)

theorem litCode_length_le (sym : Nat) : (Deflate.litCode sym).length ≤ 16 := by
  unfold Deflate.litCode
  repeat' split
  all_goals rw [codeBits_length]; decide

theorem copyCoded_at (hF : Feeds S content) (dist : Huff.Canon)
    (hdist : Huff.build zipDISTANCE_TABLEBITS fixedDistLens = some dist) {st : St σ} {rest : List Bool} {out : Bytes}
    (len dd : Nat) (hwf : Deflate.Tok.wf out (.mat len dd)) (hfit : out.length + len ≤ zipFRAME_SIZE)
    (h : At content st (Deflate.natBits (zipLenExtra (Deflate.lenIdx len)) (len - zipLenBase (Deflate.lenIdx len)) ++
      (Deflate.distCode (Deflate.distIdx dd) ++
        (Deflate.natBits (zipDistExtra (Deflate.distIdx dd)) (dd - zipDistBase (Deflate.distIdx dd)) ++ rest))) out)
    (h16 : 16 ≤ rest.length) :
    wp (copyCoded S dist (Deflate.lenIdx len)) (fun _ s => At content s rest (Deflate.copyFrom dd len out))
      (fun _ _ => False) st := by
  obtain ⟨w1, w2, w3, w4, w5⟩ := hwf
  obtain ⟨l1, l2, l3, l4, l5, l6⟩ := lenIdx_spec len w1 w2
  obtain ⟨d1, d2, d3, d4, d5, d6⟩ := distIdx_spec dd w3 w4
  generalize Deflate.lenIdx len = c at *
  generalize Deflate.distIdx dd = d at *
  unfold copyCoded
  rw [if_neg (by omega)]
  wp_step
  rw [l2, l3]
  refine wp.bind_of (readBits_at hF _ l4 _ h (natBits_length _ _)) ?_
  intro ev s2 ⟨hv2, h2⟩
  rw [bitsVal_natBits, Nat.mod_eq_of_lt l6] at hv2
  subst hv2
  rw [Nat.sub_add_cancel l5]
  have hdl : (Deflate.distCode d).length ≤ 16 := by rw [Deflate.distCode, codeBits_length]; decide
  refine wp.bind_of (readHuffSym_at hF dist _ d h2 (by simp only [List.length_append]; omega) hdl
    (distCode_decode dist hdist d (by omega))) ?_
  intro dc s3 ⟨hv3, h3⟩
  subst hv3
  rw [if_neg (by omega)]
  wp_step
  rw [d2, d3]
  refine wp.bind_of (readBits_at hF _ d4 _ h3 (natBits_length _ _)) ?_
  intro dv s4 ⟨hv4, h4⟩
  rw [bitsVal_natBits, Nat.mod_eq_of_lt d6] at hv4
  subst hv4
  rw [Nat.sub_add_cancel d5]
  wp_step
  rw [(h4.has.posn (by omega)).2, if_neg (by omega), Nat.zero_add]
  exact copyMatch_at dd w3 len h4 w5 hfit

theorem huffBlock_at (hF : Feeds S content) (lit dist : Huff.Canon)
    (hlit : Huff.build zipLITERAL_TABLEBITS fixedLitLens = some lit)
    (hdist : Huff.build zipDISTANCE_TABLEBITS fixedDistLens = some dist) (rest : List Bool) (h16 : 16 ≤ rest.length) :
    ∀ (toks : List Deflate.Tok) (fuel : Nat) (st : St σ) (out : Bytes), toks.length + 1 ≤ fuel →
    Deflate.WF out toks → (Deflate.expand toks out).length ≤ zipFRAME_SIZE →
    At content st (toks.flatMap Deflate.Tok.bits ++ Deflate.litCode 256 ++ rest) out →
    wp (huffBlock S lit dist fuel) (fun _ s => At content s rest (Deflate.expand toks out)) (fun _ _ => False) st := by
  intro toks
  induction toks with
  | nil =>
    intro fuel st out hfuel _ _ h
    obtain ⟨fuel, rfl⟩ : ∃ f, fuel = f + 1 := ⟨fuel - 1, by simp at hfuel; omega⟩
    rw [huffBlock_succ]
    refine wp.bind_of (readHuffSym_at hF lit _ 256 h (by rw [List.length_append]; omega)
      (litCode_length_le 256) (litCode_decode lit hlit 256 (by omega))) ?_
    intro code s ⟨hc, hs⟩
    subst hc
    simp only [Nat.lt_irrefl, ↓reduceIte]
    rw [wp_pure]
    exact hs
  | cons t ts ih =>
    intro fuel st out hfuel hwf hfit h
    obtain ⟨fuel, rfl⟩ : ∃ f, fuel = f + 1 := ⟨fuel - 1, by simp at hfuel; omega⟩
    rw [huffBlock_succ]
    simp only [List.flatMap_cons, List.append_assoc] at h
    have hfit' : (Deflate.expand ts (t.apply out)).length ≤ zipFRAME_SIZE := hfit
    have hlen1 := expand_length_le ts (t.apply out)
    have next := fun s hs => ih fuel s (t.apply out) (by simpa using hfuel) hwf.2 hfit'
      (by rw [List.append_assoc]; exact hs)
    cases t with
    | lit b =>
      refine wp.bind_of (readHuffSym_at hF lit _ b.toNat h (by simp only [List.length_append]; omega)
        (litCode_length_le _) (litCode_decode lit hlit _ (by have := b.toNat_lt; omega))) ?_
      intro code s ⟨hc, hs⟩
      subst hc
      rw [if_pos b.toNat_lt, UInt8.ofNat_toNat]
      have hlen2 : (Deflate.Tok.apply out (.lit b)).length = out.length + 1 := by simp [Deflate.Tok.apply]
      exact wp.bind_of (putByte_at b hs (by omega)) fun _ s2 hs2 => next s2 hs2
    | mat len dd =>
      have hl := (lenIdx_spec len hwf.1.1 hwf.1.2.1).1
      simp only [Deflate.Tok.bits, List.append_assoc] at h
      refine wp.bind_of (readHuffSym_at hF lit _ (257 + Deflate.lenIdx len) h (by simp only [List.length_append]; omega)
        (litCode_length_le _) (litCode_decode lit hlit _ (by omega))) ?_
      intro code s ⟨hc, hs⟩
      subst hc
      rw [if_neg (by omega), if_neg (by omega), Nat.add_sub_cancel_left]
      have hlen2 : (Deflate.Tok.apply out (.mat len dd)).length = out.length + len := by
        simp only [Deflate.Tok.apply, copyFrom_length]
      exact wp.bind_of (copyCoded_at hF dist hdist len dd hwf.1 (by omega) hs
        (by simp only [List.length_append]; omega)) fun _ s2 hs2 => next s2 hs2

/-- iterations of the symbol loop a block needs -/
def blockCost : Deflate.Block → Nat
  | .stored _ => 0
  | .fixed toks => toks.length + 1

theorem fixedLit_some : (Huff.build zipLITERAL_TABLEBITS fixedLitLens).isSome = true := by decide +kernel
theorem fixedDist_some : (Huff.build zipDISTANCE_TABLEBITS fixedDistLens).isSome = true := by decide +kernel

theorem storedBlock_at (hF : Feeds S content) (fuel : Nat) {st : St σ} {out : Bytes} (data : Bytes) (k : Nat)
    (R : List Bool) (h : At content st (List.replicate k false ++
      (Deflate.bytesBits (putLE16 data.length ++ putLE16 (65535 - data.length) ++ data) ++ R)) out)
    (hk : k < 8) (hR : R.length % 8 = 0) (hdl : data.length ≤ 65535) (hfit : out.length + data.length ≤ zipFRAME_SIZE) :
    wp (inflateBlock S 0 fuel) (fun _ s => At content s R (out ++ data)) (fun _ _ => False) st := by
  unfold inflateBlock storedBlock
  rw [if_pos rfl]
  wp_step
  obtain ⟨j, Y, hj, hnb, hfrom, hA, hY⟩ := stored_align st.bits (remBytes content st) _ data k R h.avail hk hR h.bits rfl
  rw [hnb, hfrom, if_neg (by omega)]
  wp_step
  obtain ⟨hL, hC⟩ := le16_putLE16 data.length (65535 - data.length) (by omega) (by omega)
  have hh4 : (putLE16 data.length ++ putLE16 (65535 - data.length)).length = 4 := rfl
  generalize putLE16 data.length ++ putLE16 (65535 - data.length) = hdr at hL hC hh4 hA
  refine wp.bind_of (more_at hF (4 - j) (hdr.take j) (hdr.drop j) ⟨hA, rfl, h.size, h.has⟩
    (by rw [List.length_drop, hh4])) ?_
  intro lb s3 ⟨hlb, h3⟩
  rw [List.take_append_drop] at hlb
  subst hlb
  rw [hL, hC, Nat.sub_sub_self hdl, if_neg (fun h => h rfl)]
  wp_step
  refine (copyStored_at hF _ _ data h3 rfl hfit (by omega)).post ?_
  intro _ s4 h4
  exact hY ▸ h4.at

theorem fixedBlock_at (hF : Feeds S content) (fuel : Nat) {st : St σ} {out : Bytes} (toks : List Deflate.Tok)
    (R : List Bool) (h : At content st (toks.flatMap Deflate.Tok.bits ++ Deflate.litCode 256 ++ R) out)
    (h16 : 16 ≤ R.length) (hfuel : toks.length + 1 ≤ fuel) (hwf : Deflate.WF out toks)
    (hfit : (Deflate.expand toks out).length ≤ zipFRAME_SIZE) :
    wp (inflateBlock S 1 fuel) (fun _ s => At content s R (Deflate.expand toks out)) (fun _ _ => False) st := by
  obtain ⟨lit, hlit⟩ := Option.isSome_iff_exists.mp fixedLit_some
  obtain ⟨dist, hdist⟩ := Option.isSome_iff_exists.mp fixedDist_some
  unfold inflateBlock codedBlock
  rw [if_neg (by decide), if_pos (.inl rfl), if_pos rfl]
  wp_step
  rw [hlit]
  dsimp only
  rw [hdist]
  exact huffBlock_at hF lit dist hlit hdist R h16 toks fuel _ out hfuel hwf hfit ⟨h.avail, h.size, h.bits, h.has⟩

/-- `pos` is the bit position mod 8 of the head of the stream, which is what `hpos`
    says: a stored block pads to the byte boundary.
    `16 ≤ R.length`: `READ_HUFFSYM` asks for 16 bits before it decodes, also for the end-of-block code; at the end
    of a file these are the two zero bytes `read_input` makes up. -/
theorem block_at (hF : Feeds S content) (b : Deflate.Block) (final : Bool) (pos fuel : Nat) {st : St σ} {out : Bytes}
    (R : List Bool) (h : At content st (b.bits pos final ++ R) out)
    (hpos : (pos + (b.bits pos final ++ R).length) % 8 = 0) (h16 : 16 ≤ R.length) (hcost : blockCost b ≤ fuel)
    (hwf : b.wf out) (hfit : (b.apply out).length ≤ zipFRAME_SIZE) :
    wp (inflateOne S fuel) (fun l s => l = bitsVal [final] ∧ At content s R (b.apply out)) (fun _ _ => False) st := by
  unfold inflateOne
  cases b with
  | stored data =>
    simp only [Deflate.Block.bits, Deflate.encStored, List.append_assoc] at h hpos
    refine wp.bind_of (readBits_at hF 1 (by omega) [final] h rfl) ?_
    intro lastBlock s1 ⟨hv1, h1⟩
    refine wp.bind_of (readBits_at hF 2 (by omega) [false, false] h1 rfl) ?_
    intro bt s2 ⟨hv2, h2⟩
    subst hv2
    refine wp.bind_of (storedBlock_at hF fuel data _ R h2 (by omega) ?_ hwf ?_) fun _ _ h3 => (wp_pure ..).mpr ⟨hv1, h3⟩
    · simp only [List.length_append, bytesBits_length, List.length_replicate, List.length_cons, List.length_nil] at hpos
      omega
    · exact (List.length_append ▸ hfit :)
  | fixed toks =>
    simp only [Deflate.Block.bits, Deflate.encFixed, List.append_assoc] at h
    refine wp.bind_of (readBits_at hF 1 (by omega) [final] h rfl) ?_
    intro lastBlock s1 ⟨hv1, h1⟩
    refine wp.bind_of (readBits_at hF 2 (by omega) [true, false] h1 rfl) ?_
    intro bt s2 ⟨hv2, h2⟩
    subst hv2
    exact wp.bind_of (fixedBlock_at hF fuel toks R (by rw [List.append_assoc]; exact h2) h16 hcost hwf hfit)
      fun _ _ h3 => (wp_pure ..).mpr ⟨hv1, h3⟩

theorem inflate_blocks (hF : Feeds S content) (trailer : List Bool) (htr : 16 ≤ trailer.length) :
    ∀ (blocks : List Deflate.Block) (fuel : Nat) (st : St σ) (out : Bytes) (pos : Nat),
    blocks ≠ [] → (∀ b ∈ blocks, blocks.length + blockCost b ≤ fuel) →
    At content st (Deflate.encBlocks pos blocks ++ trailer) out →
    (pos + (Deflate.encBlocks pos blocks ++ trailer).length) % 8 = 0 →
    Deflate.BlocksWF out blocks → (Deflate.blocksData blocks out).length ≤ zipFRAME_SIZE →
    wp (inflate S fuel) (fun _ s => Done s (Deflate.blocksData blocks out)) (fun _ _ => False) st := by
  intro blocks
  induction blocks with
  | nil => intro _ _ _ _ h; exact absurd rfl h
  | cons b bs ih =>
    intro fuel st out pos _ hfuel h hpos hwf hfit
    have hcost := hfuel b (List.mem_cons_self ..)
    rw [List.length_cons] at hcost
    obtain ⟨fuel, rfl⟩ : ∃ f, fuel = f + 1 := ⟨fuel - 1, by omega⟩
    rw [Deflate.encBlocks, List.append_assoc] at h hpos
    rw [inflate_one]
    refine wp.bind_of (block_at hF b bs.isEmpty pos fuel _ h hpos (by rw [List.length_append]; omega) (by omega) hwf.1
      (Nat.le_trans (blocksData_length_le bs _) hfit)) ?_
    intro lastBlock s ⟨hl, hs⟩
    subst hl
    unfold inflateNext
    cases bs with
    | nil =>
      rw [if_neg (by decide)]
      exact finish_tot s _ hs.has
    | cons b' bs' =>
      rw [if_pos (show bitsVal [(b' :: bs').isEmpty] = 0 from rfl)]
      refine ih fuel s (b.apply out) _ (by simp) ?_ hs ?_ hwf.2 hfit
      · intro b2 hb2
        have := hfuel b2 (List.mem_cons_of_mem _ hb2)
        rw [List.length_cons] at this
        omega
      · rw [List.length_append] at hpos
        omega

theorem natBits_zero_val (n : Nat) : Deflate.natBits n 0 = List.replicate n false := by
  induction n with
  | zero => rfl
  | succ n ih => rw [natBits_succ, Nat.zero_div, ih]; rfl

theorem natBits_bitsVal : ∀ (c : List Bool) (n : Nat), c.length ≤ n →
    Deflate.natBits n (bitsVal c) = c ++ List.replicate (n - c.length) false
  | [], n, _ => by simpa [bitsVal] using natBits_zero_val n
  | b :: c, 0, h => by simp at h
  | b :: c, n + 1, h => by
    rw [natBits_succ, bitsVal_cons, Nat.testBit_zero]
    have h1 : (bitsVal c * 2 + (if b then 1 else 0)) / 2 = bitsVal c := by cases b <;> simp <;> omega
    have h2 : decide ((bitsVal c * 2 + (if b then 1 else 0)) % 2 = 1) = b := by cases b <;> simp <;> omega
    rw [h1, h2, natBits_bitsVal c n (by simpa using h)]
    simp

theorem byteBits_ofNat_bitsVal (c : List Bool) (hc : c.length ≤ 8) :
    byteBits (UInt8.ofNat (bitsVal c)) = c ++ List.replicate (8 - c.length) false := by
  show Deflate.natBits 8 (UInt8.ofNat (bitsVal c)).toNat = _
  have : bitsVal c < 256 := Nat.lt_of_lt_of_le (bitsVal_lt c) (Nat.pow_le_pow_right (by decide) hc)
  rw [UInt8.toNat_ofNat', Nat.mod_eq_of_lt this]
  exact natBits_bitsVal c 8 hc

theorem packAux_bits : ∀ (fuel : Nat) (bs : List Bool), bs.length ≤ fuel →
    Deflate.bytesBits (Deflate.packAux fuel bs) = bs ++ List.replicate ((8 - bs.length % 8) % 8) false :=
  pack_bits (byteOf := fun c => UInt8.ofNat (Deflate.bitsVal c)) (bitsOf := byteBits) byteBits_ofNat_bitsVal
    (fun _ => rfl) (fun _ _ => rfl)

theorem packBits_bits (bs : List Bool) :
    Deflate.bytesBits (Deflate.packBits bs) = bs ++ List.replicate ((8 - bs.length % 8) % 8) false :=
  packAux_bits _ bs (Nat.le_refl _)

theorem scanCK_at (hF : Feeds S content) (fuel : Nat) {st : St σ} {rest : List Bool} {out : Bytes}
    (h : At content st (Deflate.bytesBits [0x43, 0x4B] ++ rest) out) :
    wp (scanCK S (fuel + 2) 0) (fun _ s => At content s rest out) (fun _ _ => False) st := by
  rw [bytesBits_cons, bytesBits_cons, List.append_assoc, List.append_assoc] at h
  rw [scanCK.eq_2]
  refine wp.bind_of (readBits_at hF 8 (by omega) _ h (byteBits_length _)) ?_
  intro i s1 ⟨hv1, h1⟩
  rw [bitsVal_byteBits] at hv1
  have : i = 0x43 := hv1
  subst this
  simp only [↓reduceIte, Nat.reduceEqDiff]
  rw [scanCK.eq_2]
  refine wp.bind_of (readBits_at hF 8 (by omega) _ h1 (byteBits_length _)) ?_
  intro i s2 ⟨hv2, h2⟩
  rw [bitsVal_byteBits] at hv2
  have : i = 0x4B := hv2
  subst this
  simp only [↓reduceIte, Nat.reduceEqDiff, and_self]
  rw [wp_pure]
  exact h2

theorem decompressLoop_step (fuel n : Nat) (st s1 s2 : St σ) (outBytes : Nat) (w : Bytes) (hob : outBytes ≠ 0)
    (h1 : exec (scanCK S fuel 0) { st with bits := st.bits.drop (st.bits.length % 8) } = (.ok (), s1))
    (h2 : exec (inflate S fuel) { s1 with windowPosn := 0, bytesOutput := 0 } = (.ok (), s2)) :
    decompressLoop S fuel (n + 1) st outBytes w =
      decompressLoop S fuel n
        { s2 with pending := (s2.window.toList.take s2.bytesOutput).drop (min outBytes s2.bytesOutput) }
        (outBytes - min outBytes s2.bytesOutput)
        (w ++ (s2.window.toList.take s2.bytesOutput).take (min outBytes s2.bytesOutput)) := by
  unfold exec at h1 h2
  rw [decompressLoop.eq_2, if_neg hob]
  dsimp only
  rw [h1]
  dsimp only
  rw [runInflate_eq S h2]
  simp only [ne_eq, not_true_eq_false, false_and, ↓reduceIte]

theorem decompress_frame (hF : Feeds S content) (blocks : List Deflate.Block) (extra : Bytes) (fuel : Nat) (st : St σ)
    (hne : blocks ≠ []) (hfuel : ∀ b ∈ blocks, blocks.length + blockCost b ≤ fuel + 2)
    (hwf : Deflate.BlocksWF [] blocks) (hfit : (Deflate.blocksData blocks []).length ≤ zipFRAME_SIZE)
    (hpos : 0 < (Deflate.blocksData blocks []).length)
    (herr : st.error = .ok) (hpend : st.pending = []) (hbits : st.bits = [])
    (h : At content st (Deflate.bytesBits (Deflate.encFrame blocks ++ extra ++ [0, 0])) []) :
    ∃ st', decompress S (fuel + 2) st (Deflate.blocksData blocks []).length =
      .ok ⟨.ok, Deflate.blocksData blocks [], st'⟩ := by
  generalize hdata : Deflate.blocksData blocks [] = data at *
  generalize hE : Deflate.encBlocks 0 blocks = E at *
  -- the state the `CK` scan starts from
  generalize hst0 : ({ st with pending := st.pending.drop (min st.pending.length data.length) } : St σ) = st0
  have hA : At content ({ st0 with bits := st0.bits.drop (st0.bits.length % 8) } : St σ)
      (Deflate.bytesBits [0x43, 0x4B] ++ Deflate.bytesBits (Deflate.packBits E ++ (extra ++ [0, 0]))) [] := by
    subst hst0
    refine ⟨?_, h.size, ?_, h.has⟩
    · show st.bits.drop _ ++ Deflate.bytesBits (remBytes content st) = _
      rw [hbits, ← bytesBits_append, ← hE, ← List.append_assoc, ← List.append_assoc]
      exact (congrArg (· ++ _) hbits.symm).trans h.avail
    · show (st.bits.drop _).length ≤ 23
      rw [hbits]; exact Nat.zero_le _
  obtain ⟨_, s1, hr1, h1⟩ := wp.total (scanCK_at hF fuel hA)
  have hB : At content ({ s1 with windowPosn := 0, bytesOutput := 0 } : St σ)
      (E ++ (List.replicate ((8 - E.length % 8) % 8) false ++ Deflate.bytesBits (extra ++ [0, 0]))) [] :=
    ⟨by show avail content s1 = _; rw [h1.avail, bytesBits_append, packBits_bits, List.append_assoc], h1.size, h1.bits,
      h1.has.1, rfl, .inl ⟨rfl, rfl, by decide⟩⟩
  obtain ⟨_, s2, hr2, hd1, hd2, hd3⟩ := wp.total (inflate_blocks hF _
    (by simp only [List.length_append, bytesBits_length, List.length_replicate, List.length_cons, List.length_nil]; omega)
    blocks (fuel + 2) _ [] 0 hne hfuel (hE ▸ hB)
    (by simp only [hE, List.length_append, bytesBits_length, List.length_replicate]; omega) hwf (hdata ▸ hfit))
  rw [hdata] at hd2 hd3
  unfold decompress
  rw [if_neg (by rw [herr]; simp)]
  dsimp only
  rw [hst0, hpend, List.length_nil, Nat.zero_min, Nat.sub_zero, List.take_zero, if_neg (by omega)]
  rw [decompressLoop_step (fuel + 2) (fuel + 1) st0 s1 s2 _ _ (by omega) hr1 hr2]
  rw [hd3, Nat.min_self, Nat.sub_self, decompressLoop.eq_2, if_pos rfl, hd2, List.nil_append,
    List.take_of_length_le (Nat.le_refl _)]
  exact ⟨_, rfl⟩

end MsPack.Zip
