import MsPack.IO
/-! Lengths of what `Rd.read` / `Rd.readExact` deliver, the file of the handle they hand back, and when `Rd.readExact` succeeds. -/
namespace MsPack

theorem Rd.read_length_le (r : Rd) (n : Nat) : (r.read n).1.length ≤ n := by
  simp only [Rd.read, List.length_take]; omega

theorem Rd.read_file (r : Rd) (n : Nat) : (r.read n).2.file = r.file := rfl

/-- `readExact` succeeds exactly when `n` bytes are left after `pos` (`pos + n ≤ length` would be wrong: past the end
    of the file a read of no bytes succeeds) -/
theorem Rd.readExact_eq_some_iff {r r' : Rd} {n : Nat} {c : Bytes} :
    r.readExact n = some (c, r') ↔
      n ≤ r.file.length - r.pos ∧ c = (r.file.drop r.pos).take n ∧ r' = ⟨r.file, r.pos + n⟩ := by
  have hl : ((r.file.drop r.pos).take n).length = n ↔ n ≤ r.file.length - r.pos := by
    rw [List.length_take, List.length_drop]; omega
  unfold Rd.readExact Rd.read
  dsimp only
  constructor
  · intro h
    split at h
    next hc => cases h; exact ⟨hl.1 hc, rfl, by rw [hc]⟩
    · cases h
  · rintro ⟨hn, rfl, rfl⟩
    rw [if_pos (hl.2 hn), hl.2 hn]

theorem Rd.readExact_file {r r' : Rd} {n : Nat} {c : Bytes} (h : r.readExact n = some (c, r')) :
    r'.file = r.file := by
  rw [(Rd.readExact_eq_some_iff.1 h).2.2]

theorem Rd.readExact_length {r : Rd} {n : Nat} {c : Bytes} {r' : Rd} (h : r.readExact n = some (c, r')) :
    c.length = n := by
  obtain ⟨hn, rfl, _⟩ := Rd.readExact_eq_some_iff.1 h
  rw [List.length_take, List.length_drop]; omega

/-- reading a part the layout names: the handle is described by what follows it, before and after.  The length read is a
    variable (`hl` is a length lemma of the encoder), so no concrete buffer has to be measured at the call. -/
theorem Rd.readExact_at {file : Bytes} {pos n : Nat} {a rest : Bytes} (h : file.drop pos = a ++ rest) (hl : a.length = n) :
    (⟨file, pos⟩ : Rd).readExact n = some (a, ⟨file, pos + n⟩) ∧ file.drop (pos + n) = rest := by
  subst hl
  refine ⟨Rd.readExact_eq_some_iff.2 ⟨?_, ?_, rfl⟩, ?_⟩
  · show a.length ≤ file.length - pos
    rw [← List.length_drop, h, List.length_append]; omega
  · show a = (file.drop pos).take a.length
    rw [h, List.take_left]
  · rw [← List.drop_drop, h, List.drop_left]

end MsPack
