import Proofs.Lemmas.CabEncode
import Proofs.Lemmas.BlockBounds
import Proofs.Lemmas.Count
/-
CAB data area, stored folders: the writer's layout of CFDATA blocks (`encData`) and what the block
reader, the feeder and the stored-data decoder of the model do on it; at the end, on a run of such blocks followed by a
damaged one (C12).
-/
namespace MsPack.Cab
open MsPack.Generated
open MsPack.Oab (enc32)

/-- one CFDATA block of a stored folder: payload and checksum field (0 = none) -/
structure DataBlk where
  payload : Bytes
  ck      : Nat

/-- both size fields of a stored block are the payload length -/
def encData (b : DataBlk) : Bytes :=
  enc32 b.ck ++ enc16 b.payload.length ++ enc16 b.payload.length ++ b.payload

/-- the checksum the format prescribes for a block (libmspack's `cabd_checksum` over the payload, then over the
    two size fields) -/
def DataBlk.sum (b : DataBlk) : Nat :=
  cksum (enc16 b.payload.length ++ enc16 b.payload.length) (cksum b.payload 0)

def DataBlk.wf (b : DataBlk) : Prop :=
  0 < b.payload.length ∧ b.payload.length ≤ 32768 ∧ b.ck < 4294967296 ∧ (b.ck = 0 ∨ b.ck = b.sum)

theorem data_hdr_fields (b : DataBlk) (h : b.wf) :
    (enc32 b.ck ++ enc16 b.payload.length ++ enc16 b.payload.length).length = 8 ∧
    u32At (enc32 b.ck ++ enc16 b.payload.length ++ enc16 b.payload.length) 0 = b.ck ∧
    u16At (enc32 b.ck ++ enc16 b.payload.length ++ enc16 b.payload.length) 4 = b.payload.length ∧
    u16At (enc32 b.ck ++ enc16 b.payload.length ++ enc16 b.payload.length) 6 = b.payload.length ∧
    (enc32 b.ck ++ enc16 b.payload.length ++ enc16 b.payload.length).drop 4 = enc16 b.payload.length ++ enc16 b.payload.length := by
  obtain ⟨_, hl, hc, _⟩ := h
  have hl : b.payload.length < 65536 := by omega
  refine ⟨?_, ?_, ?_, ?_, rfl⟩ <;>
  simp only [List.append_assoc, List.length_append, enc32_length, enc16_length, u16At_skip, Nat.reduceLeDiff, Nat.reduceSub,
    u16At_enc16, u16At_enc16_nil, u32At_enc32, hl, hc]

theorem readBlock_stored (files : Files) (ic ib : Bool) (fuel : Nat) (bytes : Bytes) (pos : Nat) (part : Part) (more : List Part)
    (b : DataBlk) (hwf : b.wf) (rest : Bytes) (hres : part.blockResv = 0) (hd : bytes.drop pos = encData b ++ rest) :
    readBlock files ic ib (fuel + 1) (some ⟨bytes, pos⟩) (part :: more) [] =
      .ok b.payload b.payload.length (some ⟨bytes, pos + 8 + b.payload.length⟩) (part :: more) := by
  obtain ⟨hl8, f0, f4, f6, fdrop⟩ := data_hdr_fields b hwf
  obtain ⟨hpos, hle, hck, hsum⟩ := hwf
  obtain ⟨hre, hd2⟩ := Rd.readExact_at (show bytes.drop pos =
      (enc32 b.ck ++ enc16 b.payload.length ++ enc16 b.payload.length) ++ (b.payload ++ rest) by
    rw [hd]; simp [encData, List.append_assoc]) hl8
  have hre2 := (Rd.readExact_at hd2 rfl).1
  generalize enc32 b.ck ++ enc16 b.payload.length ++ enc16 b.payload.length = hdr at f0 f4 f6 fdrop hre
  rw [readBlock_hdr hre, f4, f6, if_neg (by simp only [cabINPUTMAX, List.length_nil]; omega),
    if_neg (by simp only [cabBLOCKMAX]; omega), Part.skip_of_zero hres, hre2]
  refine (if_neg fun h => ?_).trans (if_pos (by omega))
  rw [f0, fdrop] at h
  exact hsum.elim h.1 fun e => h.2.2 e.symm

def plainOf (blks : List DataBlk) : Bytes := blks.flatMap (·.payload)

/-- where a run of well-formed blocks lies: the cabinet file, the bytes that follow the run, the number of blocks
    in the run -/
structure Lay where
  file  : Bytes
  tail  : Bytes
  total : Nat

/-- the feeder stands in a stored folder of one cabinet file: `blks` are the blocks of the run not yet read, `R` the
    plaintext not yet handed out (what is buffered, then the remaining payloads); the folder may declare more
    blocks than the run has (what follows the run is `L.tail`) -/
structure FeedInv (L : Lay) (fd : Feeder) (blks : List DataBlk) (R : Bytes) : Prop where
  rd     : ∃ pos, fd.rd = some ⟨L.file, pos⟩ ∧ L.file.drop pos = blks.flatMap encData ++ L.tail
  parts  : ∃ part more, fd.parts = part :: more ∧ part.blockResv = 0
  count  : fd.block + blks.length = L.total ∧ L.total ≤ fd.numBlocks
  comp   : compMask fd.compType = 0
  wf     : ∀ b ∈ blks, b.wf
  rest   : R = fd.buf ++ plainOf blks

theorem serve_split (a P : Bytes) (todo : Nat) :
    (a ++ P).take todo = a.take todo ++ ((a.drop todo) ++ P).take (todo - (a.take todo).length) ∧
    ((a.drop todo) ++ P).drop (todo - (a.take todo).length) = (a ++ P).drop todo ∧
    (todo ≤ (a ++ P).length → todo - (a.take todo).length ≤ ((a.drop todo) ++ P).length) := by
  by_cases hc : todo ≤ a.length
  · have h1 : (a.take todo).length = todo := by rw [List.length_take]; omega
    refine ⟨?_, ?_, fun _ => by omega⟩
    · rw [h1, Nat.sub_self, List.take_zero, List.append_nil, List.take_append_of_le_length hc]
    · rw [h1, Nat.sub_self, List.drop_zero, List.drop_append_of_le_length hc]
  · have hge : a.length ≤ todo := by omega
    have h1 : a.take todo = a := List.take_of_length_le hge
    have h2 : a.drop todo = [] := List.drop_of_length_le hge
    refine ⟨?_, ?_, fun h => ?_⟩
    · rw [h1, h2, List.nil_append, List.take_append]; rw [h1]
    · rw [h1, h2, List.nil_append, List.drop_append]; rw [h2]; rfl
    · rw [h1, h2, List.nil_append]; rw [List.length_append] at h; omega

theorem encData_length (b : DataBlk) : (encData b).length = 8 + b.payload.length := by
  simp only [encData, List.length_append, enc32_length, enc16_length]

theorem feederRead_next (files : Files) (L : Lay) (fuel : Nat) (fd : Feeder) (b : DataBlk) (bs : List DataBlk) (R : Bytes)
    (todo : Nat) (got : Bytes) (inv : FeedInv L fd (b :: bs) R) (hb : fd.buf = []) (h0 : todo ≠ 0) :
    ∃ fd1, feederRead files (fuel + 1) fd todo got = feederRead files fuel fd1 todo got ∧ FeedInv L fd1 bs R ∧
      fd1.buf ≠ [] ∧ fd1.numBlocks = fd.numBlocks ∧ fd1.salvage = fd.salvage := by
  obtain ⟨pos, hrd, hdrop⟩ := inv.rd
  obtain ⟨part, more, hparts, hres⟩ := inv.parts
  have hcount := inv.count
  have hbwf := inv.wf b (List.mem_cons_self ..)
  have hdrop1 : L.file.drop pos = encData b ++ (bs.flatMap encData ++ L.tail) := by
    rw [hdrop]; simp [List.append_assoc]
  have hnb : fd.nextBlock files =
      .ok b.payload b.payload.length (some ⟨L.file, pos + 8 + b.payload.length⟩) (part :: more) := by
    unfold Feeder.nextBlock
    rw [hrd, hparts, List.length_cons]
    exact readBlock_stored files _ _ _ _ pos part more b hbwf _ hres hdrop1
  have hbuf : (fd.takeBlock b.payload b.payload.length (some ⟨L.file, pos + 8 + b.payload.length⟩) (part :: more)).buf
      = b.payload := if_neg (by rw [inv.comp]; decide)
  refine ⟨fd.takeBlock b.payload b.payload.length (some ⟨L.file, pos + 8 + b.payload.length⟩) (part :: more), ?_,
    ⟨⟨_, rfl, ?_⟩, ⟨part, more, rfl, hres⟩, ?_,
    inv.comp, fun x hx => inv.wf x (List.mem_cons_of_mem _ hx), ?_⟩, ?_, rfl, rfl⟩
  · rw [feederRead_succ, if_neg h0, if_neg (fun h => h hb),
      if_neg (by simp only [List.length_cons] at hcount; omega), hnb]
    rfl
  · have := (Rd.readExact_at hdrop1 (encData_length b)).2
    rwa [← Nat.add_assoc] at this
  · show fd.block + 1 + bs.length = L.total ∧ L.total ≤ fd.numBlocks
    simp only [List.length_cons] at hcount; omega
  · rw [hbuf, inv.rest, hb]; simp [plainOf]
  · rw [hbuf]; intro hnil; have := hbwf.1; rw [hnil] at this; simp at this

theorem feederRead_stored (files : Files) (L : Lay) : ∀ (fuel : Nat) (fd : Feeder) (blks : List DataBlk) (R : Bytes) (todo : Nat) (got : Bytes),
    FeedInv L fd blks R → todo ≤ R.length → ((todo = 0 ∧ 1 ≤ fuel) ∨ 2 * blks.length + (if fd.buf = [] then 1 else 2) ≤ fuel) →
    ∃ fd' blks', feederRead files fuel fd todo got = .ok (some (got ++ R.take todo), fd') ∧ FeedInv L fd' blks' (R.drop todo) := by
  intro fuel
  induction fuel with
  | zero => intro fd blks R todo got _ _ hf; rcases hf with ⟨_, h⟩ | hf
            · omega
            · split at hf <;> omega
  | succ fuel ih =>
    intro fd blks R todo got inv htodo hf
    by_cases h0 : todo = 0
    · subst h0; rw [feederRead_succ, if_pos rfl]
      exact ⟨fd, blks, by simp, by simpa using inv⟩
    · have hf : 2 * blks.length + (if fd.buf = [] then 1 else 2) ≤ fuel + 1 := by
        rcases hf with ⟨h, _⟩ | hf
        · exact absurd h h0
        · exact hf
      by_cases hb : fd.buf = []
      · cases blks with
        | nil =>
          have : R = [] := by rw [inv.rest, hb]; rfl
          rw [this] at htodo; simp at htodo; exact absurd htodo h0
        | cons b bs =>
          obtain ⟨fd1, e, inv1, hne, _⟩ := feederRead_next files L fuel fd b bs R todo got inv hb h0
          rw [e]
          refine ih fd1 bs R todo got inv1 htodo (Or.inr ?_)
          simp only [hne, ↓reduceIte]; simp only [List.length_cons, hb, ↓reduceIte] at hf; omega
      · rw [feederRead_succ, if_neg h0, if_pos hb]
        have inv1 : FeedInv L (fd.serve todo) blks (fd.buf.drop todo ++ plainOf blks) :=
          ⟨inv.rd, inv.parts, inv.count, inv.comp, inv.wf, rfl⟩
        have hR : R = fd.buf ++ plainOf blks := inv.rest
        obtain ⟨sp1, sp2, sp3⟩ := serve_split fd.buf (plainOf blks) todo
        have hf1 : (todo - (fd.buf.take todo).length = 0 ∧ 1 ≤ fuel) ∨
            2 * blks.length + (if fd.buf.drop todo = [] then 1 else 2) ≤ fuel := by
          simp only [hb, ↓reduceIte] at hf
          by_cases hb1 : fd.buf.drop todo = []
          · right; rw [if_pos hb1]; omega
          · left
            have : todo < fd.buf.length := by
              apply Nat.lt_of_not_le; intro hle
              exact hb1 (List.drop_eq_nil_iff.mpr hle)
            rw [List.length_take]; omega
        obtain ⟨fd', blks', e, i'⟩ := ih _ blks _ _ (got ++ fd.buf.take todo) inv1 (sp3 (hR ▸ htodo)) hf1
        refine ⟨fd', blks', ?_, ?_⟩
        · rw [e, hR, sp1, List.append_assoc]
        · rw [hR, ← sp2]; exact i'

theorem feedInv_fuel (L : Lay) (fd : Feeder) (blks : List DataBlk) (R : Bytes) (inv : FeedInv L fd blks R) :
    2 * blks.length + (if fd.buf = [] then 1 else 2) ≤ feederFuel fd := by
  have := inv.count
  simp only [feederFuel]; split <;> omega

theorem noned_stored (files : Files) (L : Lay) (bs : Nat) (hbs : 0 < bs) : ∀ (fuel : Nat) (fd : Feeder) (blks : List DataBlk) (R : Bytes) (bytes : Nat) (w : Bytes),
    FeedInv L fd blks R → bytes ≤ R.length → ((bytes = 0 ∧ 1 ≤ fuel) ∨ bytes / bs + 2 ≤ fuel) →
    ∃ fd' blks', nonedDecompress files bs fuel fd bytes w = .ok ⟨.ok, w ++ R.take bytes, .none bs .ok, fd'⟩ ∧
      FeedInv L fd' blks' (R.drop bytes) ∧ fd'.numBlocks = fd.numBlocks ∧ fd'.salvage = fd.salvage := by
  intro fuel
  induction fuel with
  | zero =>
    intro fd blks R bytes w _ _ hf
    have := Nat.zero_le (bytes / bs)
    rcases hf with ⟨_, h⟩ | h <;> omega
  | succ fuel ih =>
    intro fd blks R bytes w inv hb hf
    rw [nonedDecompress.eq_2]
    by_cases h0 : bytes = 0
    · subst h0; rw [if_pos rfl]; exact ⟨fd, blks, by simp, by simpa using inv, rfl, rfl⟩
    · rw [if_neg h0]
      have hf : bytes / bs + 2 ≤ fuel + 1 := by
        rcases hf with ⟨h, _⟩ | h
        · exact absurd h h0
        · exact h
      simp only
      generalize hrun : (if bytes > bs then bs else bytes) = run
      have hrl : run ≤ bytes := by rw [← hrun]; split <;> omega
      obtain ⟨fd1, blks1, e1, inv1⟩ := feederRead_stored files L (feederFuel fd) fd blks R run [] inv (by omega)
        (Or.inr (feedInv_fuel L fd blks R inv))
      obtain ⟨hs1, _, hn1, _⟩ := feederRead_frame _ _ _ _ _ _ _ e1
      rw [e1]
      simp only [List.nil_append]
      have hlen : (R.take run).length = run := by rw [List.length_take]; omega
      rw [if_neg (by rw [hlen]; simp)]
      have hf1 : (bytes - run = 0 ∧ 1 ≤ fuel) ∨ (bytes - run) / bs + 2 ≤ fuel := by
        by_cases hc : bytes > bs
        · right
          have : run = bs := by rw [← hrun, if_pos hc]
          rw [this]
          have := Nat.div_eq_sub_div hbs (Nat.le_of_lt hc)
          omega
        · left
          have : run = bytes := by rw [← hrun, if_neg hc]
          have := Nat.zero_le (bytes / bs)
          omega
      obtain ⟨fd2, blks2, e2, inv2, hn2, hs2⟩ := ih fd1 blks1 (R.drop run) (bytes - run) (w ++ R.take run) inv1
        (by rw [List.length_drop]; omega) hf1
      refine ⟨fd2, blks2, ?_, ?_, hn2.trans hn1, hs2.trans hs1⟩
      · rw [e2, List.append_assoc, ← List.take_add, Nat.add_sub_cancel' hrl]
      · rw [List.drop_drop] at inv2
        have : run + (bytes - run) = bytes := by omega
        rw [this] at inv2; exact inv2

theorem plain_length_le (blks : List DataBlk) (hwf : ∀ b ∈ blks, b.wf) : (plainOf blks).length ≤ blks.length * 32768 := by
  induction blks with
  | nil => simp [plainOf]
  | cons b bs ih =>
    have := (hwf b (List.mem_cons_self ..)).2.1
    have := ih (fun x hx => hwf x (List.mem_cons_of_mem _ hx))
    simp only [plainOf, List.flatMap_cons, List.length_append, List.length_cons] at *
    omega

theorem runPhase_stored (files : Files) (L : Lay) (ds : DState) (bs : Nat) (hbs : 0 < bs) (blks : List DataBlk) (R : Bytes)
    (inv : FeedInv L ds.feeder blks R) (n : Nat) (hn : n ≤ R.length) :
    ∃ ds' blks', runPhase files ds (.none bs .ok) n = .ran .ok (R.take n) ds' ∧ FeedInv L ds'.feeder blks' (R.drop n) ∧
      ds'.dec = some (.none bs .ok) ∧ ds'.offset = ds.offset + n ∧ ds'.feeder.numBlocks = ds.feeder.numBlocks ∧
      ds'.feeder.salvage = ds.feeder.salvage ∧ ds'.folder = ds.folder := by
  have hfuel : (n = 0 ∧ 1 ≤ n / max bs 1 + 2) ∨ n / bs + 2 ≤ n / max bs 1 + 2 := by
    right; rw [Nat.max_eq_left hbs]; exact Nat.le_refl _
  obtain ⟨fd', blks', e, inv', hn', hs'⟩ := noned_stored files L bs hbs (n / max bs 1 + 2) ds.feeder blks R n [] inv hn hfuel
  refine ⟨{ ds with offset := ds.offset + (R.take n).length, feeder := fd', dec := some (.none bs .ok) }, blks', ?_, inv', rfl, ?_, hn', hs', rfl⟩
  · rw [runPhase_of_ok (decompress_ok_iff.2 (Or.inr ⟨rfl, e⟩))]; rfl
  · simp only [List.length_take]; omega

/-- the member record `cabd_extract` sees for a file of a stored folder that lives in one cabinet file -/
def storedMember (fname : String) (off nblocks key o l ctHigh : Nat) : Member :=
  { length := l, offset := o, folderKey := some key, mergePrev := false, numBlocks := nblocks,
    compType := ctHigh * 16, parts := [⟨fname, 0, off⟩] }

theorem memberCheck_stored (p : Params) (fname : String) (off nblocks key o l ctHigh : Nat) (hmax : o + l ≤ cabLENGTHMAX)
    (hdecl : o + l ≤ nblocks * cabBLOCKMAX) :
    memberCheck p (storedMember fname off nblocks key o l ctHigh) = .ok (l, key) :=
  memberCheck_pass p rfl rfl hmax hdecl

def storedFresh (p : Params) (fname : String) (bytes : Bytes) (off nblocks key ctHigh : Nat) : DState :=
  { folder := key, offset := 0, dec := some (.none p.bufSize .ok),
    feeder := { rd := some ⟨bytes, off⟩, parts := [⟨fname, 0, off⟩], block := 0, numBlocks := nblocks, outlen := 0, buf := [],
                compType := ctHigh * 16, readError := .ok, lzxLen := none, salvage := p.salvage, fixMszip := p.fixMszip } }

theorem freshDState_stored (files : Files) (fname : String) (bytes : Bytes) (hlook : files.lookup fname = some bytes) (p : Params)
    (off nblocks key o l ctHigh : Nat) (hct : compMask (ctHigh * 16) = 0) :
    freshDState files p (storedMember fname off nblocks key o l ctHigh) key = .ok (storedFresh p fname bytes off nblocks key ctHigh) :=
  freshDState_eq (part := ⟨fname, 0, off⟩) rfl hlook (by simp only [initDec, storedMember, hct]) key

theorem feedInv_stored (p : Params) (fname : String) (bytes : Bytes) (off nblocks key ctHigh : Nat)
    (hct : compMask (ctHigh * 16) = 0) (blks : List DataBlk) (hwf : ∀ b ∈ blks, b.wf) (rest : Bytes)
    (hd : bytes.drop off = blks.flatMap encData ++ rest) (hnb : blks.length ≤ nblocks) :
    FeedInv ⟨bytes, rest, blks.length⟩ (storedFresh p fname bytes off nblocks key ctHigh).feeder blks (plainOf blks) :=
  ⟨⟨off, rfl, hd⟩, ⟨⟨fname, 0, off⟩, [], rfl, rfl⟩, ⟨by simp [storedFresh], hnb⟩, hct, hwf, by simp [storedFresh]⟩

def StoredAt (L : Lay) (key bs : Nat) (plain : Bytes) (ds : DState) : Prop :=
  ds.folder = key ∧ ds.dec = some (.none bs .ok) ∧ ∃ blks, FeedInv L ds.feeder blks (plain.drop ds.offset)

/-- the cached `self->d` between calls -/
def StoredCache (L : Lay) (key bs : Nat) (plain : Bytes) (d : Option DState) : Prop :=
  d = none ∨ ∃ ds, d = some ds ∧ StoredAt L key bs plain ds ∧ ds.offset ≤ plain.length

theorem stored_slices (files : Files) (L : Lay) (bs : Nat) (hbs : 0 < bs) (plain : Bytes) (key : Nat) :
    Slices files (StoredAt L key bs plain) plain.length plain where
  dec := fun h => ⟨_, h.2.1⟩
  phase := fun {ds dec} k ⟨hfol, hdec', blks, inv⟩ hdec hk => by
    cases hdec.symm.trans hdec'
    obtain ⟨ds', blks', e, inv', hdec1, hoff', _, _, hfol'⟩ :=
      runPhase_stored files L ds bs hbs blks _ inv k (by rw [List.length_drop]; omega)
    rw [List.drop_drop, ← hoff'] at inv'
    exact ⟨ds', e, ⟨hfol'.trans hfol, hdec1, blks', inv'⟩, hoff'⟩

theorem extract_stored_cached (files : Files) (fname : String) (bytes : Bytes) (hlook : files.lookup fname = some bytes)
    (off : Nat) (blks : List DataBlk) (hwf : ∀ b ∈ blks, b.wf) (rest : Bytes)
    (hd : bytes.drop off = blks.flatMap encData ++ rest)
    (p : Params) (hbs : 0 < p.bufSize) (key : Nat) (ctHigh : Nat) (hct : compMask (ctHigh * 16) = 0)
    (nblocks : Nat) (hnb : blks.length ≤ nblocks)
    (d : Option DState) (hcache : StoredCache ⟨bytes, rest, blks.length⟩ key p.bufSize (plainOf blks) d)
    (o l : Nat) (hfit : o + l ≤ (plainOf blks).length) (hmax : o + l ≤ cabLENGTHMAX) :
    ∃ d', extract files p d (storedMember fname off nblocks key o l ctHigh) =
        .done .ok (some (((plainOf blks).drop o).take l)) d' ∧
      StoredCache ⟨bytes, rest, blks.length⟩ key p.bufSize (plainOf blks) d' := by
  have hcheck := memberCheck_stored p fname off nblocks key o l ctHigh hmax (by
    have := plain_length_le blks hwf
    simp only [cabBLOCKMAX]; omega)
  obtain ⟨d', e, h⟩ := extract_slices (stored_slices files ⟨bytes, rest, blks.length⟩ p.bufSize hbs (plainOf blks) key) hcheck
    (freshDState_stored files fname bytes hlook p off nblocks key o l ctHigh hct)
    ⟨rfl, rfl, blks, feedInv_stored p fname bytes off nblocks key ctHigh hct blks hwf rest hd hnb⟩ (d := d)
    (fun ds hds => by
      obtain hn | ⟨_, h, hs, _⟩ := hcache
      · cases hn.symm.trans hds
      · cases h.symm.trans hds; exact hs) hfit
  exact ⟨d', e, match d', h with
    | none, _ => .inl rfl
    | some ds, h => .inr ⟨ds, rfl, h ds rfl⟩⟩

def BadTail (files : Files) (L : Lay) (e : Err) : Prop :=
  ∀ (pos fuel : Nat) (part : Part) (more : List Part), part.blockResv = 0 → L.file.drop pos = L.tail →
    ∃ rd' parts', readBlock files false false (fuel + 1) (some ⟨L.file, pos⟩) (part :: more) [] = .err e rd' parts'

theorem feederRead_bad (files : Files) (L : Lay) (e : Err) (hbad : BadTail files L e) :
    ∀ (fuel : Nat) (fd : Feeder) (blks : List DataBlk) (R : Bytes) (todo : Nat) (got : Bytes),
    FeedInv L fd blks R → fd.salvage = false → L.total < fd.numBlocks → R.length < todo →
    2 * blks.length + (if fd.buf = [] then 1 else 2) ≤ fuel →
    ∃ fd', feederRead files fuel fd todo got = .ok (none, fd') ∧ fd'.readError = e := by
  intro fuel
  induction fuel with
  | zero => intro fd blks R todo got _ _ _ _ hf; split at hf <;> omega
  | succ fuel ih =>
    intro fd blks R todo got inv hsal htot htodo hf
    have h0 : todo ≠ 0 := by omega
    by_cases hb : fd.buf = []
    · cases blks with
      | nil =>
        -- the run is used up: the next block is the refused one
        obtain ⟨pos, hrd, hdrop⟩ := inv.rd
        obtain ⟨part, more, hparts, hres⟩ := inv.parts
        have hcount := inv.count
        obtain ⟨rd', parts', hr⟩ := hbad pos (more.length + 1) part more hres (by simpa using hdrop)
        have hnb : fd.nextBlock files = .err e rd' parts' := by
          unfold Feeder.nextBlock
          rw [hrd, hparts, List.length_cons, hsal, inv.comp, show ((0 : Nat) == 1) = false from rfl, Bool.and_false]
          exact hr
        rw [feederRead_succ, if_neg h0, if_neg (fun h => h hb),
          if_neg (by simp only [List.length_nil] at hcount; omega), hnb]
        exact ⟨_, rfl, rfl⟩
      | cons b bs =>
        obtain ⟨fd1, e, inv1, hne, n1, s1⟩ := feederRead_next files L fuel fd b bs R todo got inv hb h0
        rw [e]
        refine ih fd1 bs R todo got inv1 (s1.trans hsal) (n1 ▸ htot) htodo ?_
        simp only [hne, ↓reduceIte]; simp only [List.length_cons, hb, ↓reduceIte] at hf; omega
    · rw [feederRead_succ, if_neg h0, if_pos hb]
      have hR : R = fd.buf ++ plainOf blks := inv.rest
      have hlen : fd.buf.length ≤ todo := by rw [hR, List.length_append] at htodo; omega
      have hb1 : fd.buf.drop todo = [] := List.drop_eq_nil_iff.mpr hlen
      have inv1 : FeedInv L (fd.serve todo) blks (plainOf blks) :=
        ⟨inv.rd, inv.parts, inv.count, inv.comp, inv.wf, by rw [Feeder.serve, hb1]; rfl⟩
      have htk : (fd.buf.take todo).length = fd.buf.length := by rw [List.length_take]; omega
      have htodo1 : (plainOf blks).length < todo - (fd.buf.take todo).length := by
        rw [htk]; rw [hR, List.length_append] at htodo; omega
      have hf1 : 2 * blks.length + (if fd.buf.drop todo = [] then 1 else 2) ≤ fuel := by
        rw [if_pos hb1]; simp only [hb, ↓reduceIte] at hf; omega
      exact ih _ blks _ _ _ inv1 hsal htot htodo1 hf1

theorem noned_bad (files : Files) (L : Lay) (e : Err) (hbad : BadTail files L e) (bs : Nat) (hbs : 0 < bs) :
    ∀ (fuel : Nat) (fd : Feeder) (blks : List DataBlk) (R : Bytes) (bytes : Nat) (w : Bytes),
    FeedInv L fd blks R → fd.salvage = false → L.total < fd.numBlocks → R.length < bytes → bytes / bs + 2 ≤ fuel →
    ∃ w' fd', nonedDecompress files bs fuel fd bytes w = .ok ⟨.read, w', .none bs .read, fd'⟩ ∧ fd'.readError = e := by
  intro fuel
  induction fuel with
  | zero => intro fd blks R bytes w _ _ _ _ hf; have := Nat.zero_le (bytes / bs); omega
  | succ fuel ih =>
    intro fd blks R bytes w inv hsal htot hb hf
    rw [nonedDecompress.eq_2]
    have h0 : bytes ≠ 0 := by omega
    rw [if_neg h0]
    simp only
    generalize hrun : (if bytes > bs then bs else bytes) = run
    by_cases hfit : run ≤ R.length
    · -- this chunk is still there
      obtain ⟨fd1, blks1, e1, inv1⟩ := feederRead_stored files L (feederFuel fd) fd blks R run [] inv hfit
        (Or.inr (feedInv_fuel L fd blks R inv))
      obtain ⟨hs1, _, hn1, _⟩ := feederRead_frame _ _ _ _ _ _ _ e1
      rw [e1]
      simp only [List.nil_append]
      have hlen : (R.take run).length = run := by rw [List.length_take]; omega
      rw [if_neg (by rw [hlen]; simp)]
      have hgt : bytes > bs := by
        apply Nat.lt_of_not_le; intro hc
        have : run = bytes := by rw [← hrun, if_neg (by omega)]
        omega
      have hrbs : run = bs := by rw [← hrun, if_pos hgt]
      have hf1 : (bytes - run) / bs + 2 ≤ fuel := by
        rw [hrbs]; have := Nat.div_eq_sub_div hbs (Nat.le_of_lt hgt); omega
      exact ih fd1 blks1 (R.drop run) (bytes - run) (w ++ R.take run) inv1 (hs1.trans hsal) (by rw [hn1]; exact htot)
        (by rw [List.length_drop]; omega) hf1
    · obtain ⟨fd1, e1, hre⟩ := feederRead_bad files L e hbad (feederFuel fd) fd blks R run [] inv hsal htot (by omega)
        (feedInv_fuel L fd blks R inv)
      rw [e1]
      exact ⟨w, fd1, rfl, hre⟩

theorem runPhase_bad (files : Files) (L : Lay) (e : Err) (hbad : BadTail files L e) (ds : DState) (bs : Nat) (hbs : 0 < bs)
    (blks : List DataBlk) (R : Bytes) (inv : FeedInv L ds.feeder blks R) (hsal : ds.feeder.salvage = false)
    (htot : L.total < ds.feeder.numBlocks) (n : Nat) (hn : R.length < n) :
    ∃ w ds', runPhase files ds (.none bs .ok) n = .ran e w ds' := by
  obtain ⟨w', fd', h, hre⟩ := noned_bad files L e hbad bs hbs (n / max bs 1 + 2) ds.feeder blks R n [] inv hsal htot hn
    (by rw [Nat.max_eq_left hbs]; exact Nat.le_refl _)
  refine ⟨w', { ds with offset := ds.offset + w'.length, feeder := fd', dec := some (.none bs .read) }, ?_⟩
  rw [runPhase_of_ok (decompress_ok_iff.2 (Or.inr ⟨rfl, h⟩)), if_pos rfl, hre]

end MsPack.Cab
