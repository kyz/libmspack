import Proofs.Lemmas.Find
import Proofs.Lemmas.Headers
import Proofs.Lemmas.Fields
/-
Completeness of the signature scanner: junk that does not contain the four signature bytes, then a header —
the scanner reports exactly that header's offset and length fields, whatever state the junk left it in.
-/
namespace MsPack.Cab

/-- "MSCF" -/
def sig : Bytes := [0x4D, 0x53, 0x43, 0x46]

theorem u8_of_toNat {b : UInt8} {n : Nat} (hn : n < 256) (h : b.toNat = n) : b = UInt8.ofNat n := by
  apply UInt8.toNat_inj.mp
  rw [h]; simp [Nat.mod_eq_of_lt hn]

theorem scanByte_sig (st : ScanSt) (b : UInt8) (hst : st.state ≤ 3) :
    ∃ k pre, scanByte st b = .cont { st with state := k } ∧ sig.take st.state ++ [b] = pre ++ sig.take k := by
  obtain ⟨s, cl, fo⟩ := st
  have hs : s = 0 ∨ s = 1 ∨ s = 2 ∨ s = 3 := by simp only at hst; omega
  rcases hs with rfl | rfl | rfl | rfl <;> simp only [scanByte]
  · by_cases h : b.toNat = 0x4D
    · exact ⟨1, [], by rw [if_pos h], by rw [u8_of_toNat (by decide) h]; rfl⟩
    · exact ⟨0, [b], by rw [if_neg h], rfl⟩
  · by_cases h : b.toNat = 0x53
    · exact ⟨2, [], by rw [if_pos h], by rw [u8_of_toNat (by decide) h]; rfl⟩
    · by_cases h2 : b.toNat = 0x4D
      · exact ⟨1, [0x4D], by rw [if_neg h, if_pos h2], by rw [u8_of_toNat (by decide) h2]; rfl⟩
      · exact ⟨0, [0x4D, b], by rw [if_neg h, if_neg h2], rfl⟩
  · by_cases h : b.toNat = 0x43
    · exact ⟨3, [], by rw [if_pos h], by rw [u8_of_toNat (by decide) h]; rfl⟩
    · by_cases h2 : b.toNat = 0x4D
      · exact ⟨1, [0x4D, 0x53], by rw [if_neg h, if_pos h2], by rw [u8_of_toNat (by decide) h2]; rfl⟩
      · exact ⟨0, [0x4D, 0x53, b], by rw [if_neg h, if_neg h2], rfl⟩
  · by_cases h : b.toNat = 0x46
    · exact ⟨4, [], by rw [if_pos h], by rw [u8_of_toNat (by decide) h]; rfl⟩
    · by_cases h2 : b.toNat = 0x4D
      · exact ⟨1, [0x4D, 0x53, 0x43], by rw [if_neg h, if_pos h2], by rw [u8_of_toNat (by decide) h2]; rfl⟩
      · exact ⟨0, [0x4D, 0x53, 0x43, b], by rw [if_neg h, if_neg h2], rfl⟩

/-- the junk holds no signature, not even one completed by what was matched before it -/
theorem scan_junk : ∀ (junk : Bytes) (pos : Nat) (st : ScanSt), st.state ≤ 3 → ¬ sig <:+: (sig.take st.state ++ junk) →
    ∃ st', scanBuf junk pos st = .inl st' ∧ st'.state ≤ 3 := by
  intro junk
  induction junk with
  | nil => intro pos st h _; exact ⟨st, rfl, h⟩
  | cons b rest ih =>
    intro pos st hst hno
    obtain ⟨k, pre, hk, hpre⟩ := scanByte_sig st b hst
    have hsplit : sig.take st.state ++ b :: rest = pre ++ (sig.take k ++ rest) := by
      rw [← List.append_assoc, ← hpre, List.append_assoc]; rfl
    rw [scanBuf, hk]
    refine ih _ _ (Nat.le_of_not_lt fun h4 => hno ?_) fun hin =>
      hno (hsplit ▸ hin.trans (List.suffix_append pre _).isInfix)
    rw [hsplit, List.take_of_length_le (show sig.length ≤ k from h4)]
    exact ⟨pre, rest, (List.append_assoc ..).symm ▸ rfl⟩

theorem scan_sig (rest : Bytes) (pos : Nat) (st : ScanSt) (hst : st.state ≤ 3) :
    scanBuf (0x4D :: 0x53 :: 0x43 :: 0x46 :: rest) pos st = scanBuf rest (pos + 4) ⟨4, st.cablen, st.foffset⟩ := by
  obtain ⟨s, cl, fo⟩ := st
  have hs : s = 0 ∨ s = 1 ∨ s = 2 ∨ s = 3 := by simp only at hst; omega
  rcases hs with rfl | rfl | rfl | rfl <;> rfl

/-- states 4..19: the sixteen bytes after the signature, with the two length fields at 8 and 16 -/
theorem scan_fields (b4 b5 b6 b7 b8 b9 b10 b11 b12 b13 b14 b15 b16 b17 b18 b19 : UInt8) (tail : Bytes)
    (pos cl fo : Nat) :
    scanBuf (b4 :: b5 :: b6 :: b7 :: b8 :: b9 :: b10 :: b11 :: b12 :: b13 :: b14 :: b15 :: b16 :: b17 :: b18 ::
      b19 :: tail) (pos + 4) ⟨4, cl, fo⟩ = .inr ⟨pos, le32 b8 b9 b10 b11, le32 b16 b17 b18 b19⟩ := rfl

theorem scan_header (hdr : Bytes) (hlen : 20 ≤ hdr.length) (hsig : u32At hdr 0 = 0x4643534D) (pos : Nat) (st : ScanSt)
    (hst : st.state ≤ 3) :
    scanBuf hdr pos st = .inr ⟨pos, u32At hdr 8, u32At hdr 16⟩ := by
  rcases hdr with _ | ⟨b0, _ | ⟨b1, _ | ⟨b2, _ | ⟨b3, _ | ⟨b4, _ | ⟨b5, _ | ⟨b6, _ | ⟨b7, _ | ⟨b8, _ | ⟨b9, _ | ⟨b10, _ | ⟨b11, _ | ⟨b12, _ | ⟨b13, _ | ⟨b14, _ | ⟨b15, _ | ⟨b16, _ | ⟨b17, _ | ⟨b18, _ | ⟨b19, tail⟩⟩⟩⟩⟩⟩⟩⟩⟩⟩⟩⟩⟩⟩⟩⟩⟩⟩⟩⟩
  all_goals first | exact absurd hlen (of_decide_eq_false rfl) | skip
  have h0 := b0.toNat_lt; have h1 := b1.toNat_lt; have h2 := b2.toNat_lt; have h3 := b3.toNat_lt
  have hsig : b0.toNat + b1.toNat * 256 + b2.toNat * 65536 + b3.toNat * 16777216 = 0x4643534D := hsig
  have e : b0.toNat = 0x4D ∧ b1.toNat = 0x53 ∧ b2.toNat = 0x43 ∧ b3.toNat = 0x46 := by omega
  obtain rfl : b0 = 0x4D := u8_of_toNat (by decide) e.1
  obtain rfl : b1 = 0x53 := u8_of_toNat (by decide) e.2.1
  obtain rfl : b2 = 0x43 := u8_of_toNat (by decide) e.2.2.1
  obtain rfl : b3 = 0x46 := u8_of_toNat (by decide) e.2.2.2
  rw [scan_sig _ _ _ hst]
  exact scan_fields ..

theorem scanAll_seg (file junk cab rest : Bytes) (start : Nat) (hd : file.drop start = junk ++ (cab ++ rest))
    (hj : ¬ sig <:+: junk) (h20 : 20 ≤ cab.length) (hsig : u32At (cab ++ rest) 0 = 0x4643534D) :
    scanAll file start {} = some ⟨start + junk.length, u32At cab 8, u32At cab 16⟩ := by
  obtain ⟨st', hs1, hst'⟩ := scan_junk junk start {} (by simp) (by simpa using hj)
  have hs2 := scan_header (cab ++ rest) (by rw [List.length_append]; omega) hsig (start + junk.length) st' hst'
  rw [u32At_append_left _ _ 8 (by omega), u32At_append_left _ _ 16 (by omega)] at hs2
  unfold scanAll
  rw [hd, scanBuf_append, hs1]
  simp only [hs2]

theorem atHit_ok (sv : Bool) (file : Bytes) (hit : Hit) (acc : List Cabinet) (c : Cabinet)
    (hpl : plausible file.length sv hit = true) (hc : readHeaders file hit.caboff sv = .ok c) :
    atHit sv file hit acc = (hit.caboff + hit.cablen, c :: acc) := by
  unfold atHit
  rw [if_pos hpl, hc]

theorem atHit_acc (sv : Bool) (file : Bytes) (hit : Hit) (acc : List Cabinet) :
    ∃ pre, (atHit sv file hit acc).2 = pre ++ acc := by
  unfold atHit
  split
  · split
    · exact ⟨[_], rfl⟩
    · exact ⟨[], rfl⟩
  · exact ⟨[], rfl⟩

theorem findLoop_acc (n : Nat) (sv : Bool) (file : Bytes) (start : Nat) (acc : List Cabinet) :
    ∃ tail, (findLoop n sv file start acc).1 = acc.reverse ++ tail := by
  obtain ⟨acc', e, pre, h⟩ := findLoop_inv n sv file (fun a => ∃ pre, a = pre ++ acc)
    (fun hit a ⟨p, ha⟩ => let ⟨q, hq⟩ := atHit_acc sv file hit a; ⟨q ++ p, by rw [hq, ha, List.append_assoc]⟩) start acc ⟨[], rfl⟩
  exact ⟨pre.reverse, by rw [e, h, List.reverse_append]⟩

theorem findLoop_hit (n : Nat) (sv : Bool) (file : Bytes) (start : Nat) (acc : List Cabinet) (hit : Hit)
    (h : scanChunks n file start {} = some hit) :
    ∃ tail, (findLoop n sv file start acc).1 = (atHit sv file hit acc).2.reverse ++ tail := by
  rcases hat : atHit sv file hit acc with ⟨off', acc'⟩
  rw [findLoop_step n sv file start acc hit off' acc' h hat]
  by_cases h1 : off' ≥ file.length
  · rw [if_pos h1]; exact ⟨[], (List.append_nil _).symm⟩
  · rw [if_neg h1]
    by_cases h2 : start < off'
    · rw [if_pos h2]; exact findLoop_acc n sv file off' acc'
    · rw [if_neg h2]; exact ⟨[], (List.append_nil _).symm⟩

end MsPack.Cab
