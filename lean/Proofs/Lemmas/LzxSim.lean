import Proofs.Lemmas.Sim
import Proofs.Lemmas.LzxPieces
/-!
# The LZX decoder in two runs

The LZX model consults its source in `readInput` only; apart from the length tables, the block header,
`resetState` and the output stage, no helper looks at the `src` field or at the cells that fresh memory may fill
differently (`Fill.Loose`: the length arrays, `e8Buf`, `blockLength`, `lengthEmpty`).  So for any relation `R`
between states that differ at most there and that looks at nothing else those helpers touch (`Walk2.split`,
`Walk2.same`), a simulation of `readInput` gives the same simulation of every such helper, up to `frameBody`; the
functions left out enter as hypotheses (`hdr`, `he8`, `hrs`).  `Walk2.frameLoop`, `Walk2.decompress` carry a
simulation of `frameBody` through the frame loop to what two calls of `lzxd_decompress` return (`Out2`).  Two instances:
* `LzxSim.Walk.walk2`: two sources, the states differ in `src` only, by `Q`, and the first run's state satisfies
  `I`; the functions left out are one `sim_auto` each;
* `Lzx.Fill.walk2` (`FillSimLzx.lean`): one source, the states differ in the loose cells; there the functions
  left out are where the work is.
-/
namespace MsPack.CabLift.LzxMild
open MsPack.Lzx

theorem _root_.MsPack.Lzx.Fits.mild {sz : Nat} {b : Prop} {r : Except Fault (Array UInt8)} {f : Fault} (h : Fits sz b r)
    (hr : r = .error f) : Mild f := .inl (h.oob hr)

theorem e8Loop_mild (dataend : Nat) (filesize : Int) : ∀ fuel p curpos (buf : Array UInt8) f,
    e8Loop dataend filesize fuel p curpos buf = .error f → Mild f := by
  intro fuel p curpos buf f h
  rcases e8Loop_cases dataend filesize fuel p curpos buf rfl with ⟨_, h', _⟩ | ⟨h', _⟩ | ⟨h', _⟩ <;> rw [h'] at h <;> cases h
  · exact .hang
  · exact .oob _

end MsPack.CabLift.LzxMild

namespace MsPack.Lzx
open MsPack.CountLaws MsPack.CabLift.LzxMild
variable {σ : Type}

structure Fill.Loose where
  blockLength : Nat
  lengthEmpty : Bool
  pretreeLen : Array UInt8
  maintreeLen : Array UInt8
  lengthLen : Array UInt8
  alignedLen : Array UInt8
  e8Buf : Array UInt8

abbrev St.loose (a : St σ) : Fill.Loose :=
  ⟨a.blockLength, a.lengthEmpty, a.pretreeLen, a.maintreeLen, a.lengthLen, a.alignedLen, a.e8Buf⟩

abbrev St.put (a : St σ) (x : Fill.Loose) : St σ :=
  { a with blockLength := x.blockLength, lengthEmpty := x.lengthEmpty, pretreeLen := x.pretreeLen,
           maintreeLen := x.maintreeLen, lengthLen := x.lengthLen, alignedLen := x.alignedLen,
           e8Buf := x.e8Buf }

/-- the other fields `Fill.Sim` mentions (an `abbrev`, like `loose`: the kernel then compares `(f t).view`
    with `t.view` field by field; for a `def` it first tries `f t =?= t`, which evaluates whatever
    `f` stores, e.g. `le32 …`, with `* 16777216` in unary) -/
abbrev St.view (a : St σ) : Fill.Loose × Nat × Bool × Nat × Nat :=
  (a.loose, a.numOffsets, a.oInE8, a.oEnd, a.blockType)

abbrev St.put2 (a : St σ) (x : σ) (l : Fill.Loose) : St σ := { a.put l with src := x }

/-- the fields some relation of the development looks at -/
abbrev St.view2 (a : St σ) := (a.view, a.src, a.error, a.inbufSize)

/-- What the walk asks of a relation between the states of two runs (over `S₁`, `S₂`), of `E` and of `X`: the states
    differ at most in `src` and the loose cells (`split` gives the second state in that form, so that both runs
    test literally the same conditions); `R` looks at nothing but `view2`; the model's own faults, `fail` and
    `read_input` are simulated. -/
structure Walk2 (lock : Prop) (R : St σ → St σ → Prop) (E : Halt → St σ → Prop) (X : Halt → St σ → St σ → Prop)
    (S1 S2 : Src σ) : Prop where
  split : ∀ {a b}, R a b → ∃ x l, b = a.put2 x l
  same : ∀ {a a' : St σ} {x l}, R a (a.put2 x l) → a'.view2 = a.view2 → R a' (a'.put2 x l)
  fault : ∀ {α : Type} (f : Fault), Mild f → Sim2 lock R R E X (throw (.fault f) : LM σ α) (throw (.fault f))
  fail : ∀ {α : Type}, Sim2 lock R R E X (fail (σ := σ) (α := α) .decrunch) (fail .decrunch)
  read : Sim2 lock R R E X (readInput S1) (readInput S2)

variable {lock : Prop} {R : St σ → St σ → Prop} {E : Halt → St σ → Prop} {X : Halt → St σ → St σ → Prop} {S1 S2 : Src σ}
  (W : Walk2 lock R E X S1 S2)
include W

theorem Walk2.get_bind {α : Type} {f1 f2 : St σ → LM σ α}
    (hf : ∀ r x l, R r (r.put2 x l) → Sim2 lock R R E X (f1 r) (f2 (r.put2 x l))) :
    Sim2 lock R R E X (MonadState.get >>= f1) (MonadState.get >>= f2) :=
  .get_bind fun r1 r2 hr => by obtain ⟨x, l, rfl⟩ := W.split hr; exact hf r1 x l hr

theorem Walk2.set {a a' : St σ} {x l} (h : R a (a.put2 x l)) (hv : a'.view2 = a.view2 := by with_reducible rfl) :
    Sim2 lock R R E X (set a' : LM σ PUnit) (set (a'.put2 x l)) :=
  .set (W.same h hv)

theorem Walk2.modify {g : St σ → St σ} (hg : ∀ t x l, g (t.put2 x l) = (g t).put2 x l := by intros; with_reducible rfl)
    (hv : ∀ t, (g t).view2 = t.view2 := by intros; with_reducible rfl) :
    Sim2 lock R R E X (modify g : LM σ PUnit) (modify g) :=
  .modify fun a b h => by obtain ⟨x, l, rfl⟩ := W.split h; rw [hg]; exact W.same h (hv a)

/-- the relation hypothesis used for the state written is the latest one in the context: the state the last `get`
    returned -/
local macro_rules | `(tactic| sim_get) => `(tactic| ((with_reducible refine Walk2.get_bind ‹_› ?_); intro _ _ _ _; try dsimp -zeta only))
local macro_rules | `(tactic| sim_put) => `(tactic| first | exact Walk2.set ‹_› ‹_› | exact Walk2.modify ‹_›)

theorem Walk2.nextByte : Sim2 lock R R E X (nextByte S1) (nextByte S2) := by
  unfold Lzx.nextByte; sim_auto [W.read, W.fault _ (.oob _)]

theorem Walk2.ensureBits (n : Nat) : ∀ fuel, Sim2 lock R R E X (ensureBits S1 n fuel) (ensureBits S2 n fuel) := by
  intro fuel
  induction fuel with
  | zero => rw [ensureBits.eq_1, ensureBits.eq_1]; sim_auto [W.fault _ .hang]
  | succ fuel ih => rw [ensureBits.eq_2, ensureBits.eq_2]; sim_auto [W.nextByte]

theorem Walk2.removeBits (n : Nat) : Sim2 lock R R E X (removeBits (σ := σ) n) (removeBits n) := by
  unfold Lzx.removeBits; sim_auto

theorem Walk2.peekBits (n : Nat) : Sim2 lock R R E X (peekBits (σ := σ) n) (peekBits n) := by
  unfold Lzx.peekBits; sim_auto

theorem Walk2.readBits (n : Nat) : Sim2 lock R R E X (readBits S1 n) (readBits S2 n) := by
  unfold Lzx.readBits; sim_auto [W.ensureBits, W.removeBits, W.peekBits]

theorem Walk2.readHuffSym (t : Option Huff.Canon) (name : String) :
    Sim2 lock R R E X (readHuffSym S1 t name) (readHuffSym S2 t name) := by
  unfold Lzx.readHuffSym; sim_auto [W.ensureBits, W.removeBits, W.fail, W.fault _ (.uninit _)]

theorem Walk2.readRaw : ∀ k acc, Sim2 lock R R E X (readRaw S1 k acc) (readRaw S2 k acc) := by
  intro k
  induction k with
  | zero => intro acc; rw [readRaw.eq_1, readRaw.eq_1]; sim_auto
  | succ k ih => intro acc; rw [readRaw.eq_2, readRaw.eq_2]; sim_auto [W.nextByte]

theorem Walk2.winCopy (n src dst : Nat) : Sim2 lock R R E X (winCopy (σ := σ) n src dst) (winCopy n src dst) := by
  unfold Lzx.winCopy
  refine Sim2.modifyGet_bind (fun r => ∀ f, r = some f → Mild f) (fun a b h => ?_) (fun r hr => ?_)
  · obtain ⟨x, l, rfl⟩ := W.split h
    dsimp only
    split
    · exact ⟨rfl, W.same h rfl, fun f h => nomatch h⟩
    · rename_i f hf
      exact ⟨rfl, W.same h rfl, fun f' h => by cases h; exact (copyFwd_fits ..).mild hf⟩
  · cases r with
    | none => exact Sim2.pure _
    | some f => exact W.fault f (hr f rfl)

theorem Walk2.putLiteral (b : UInt8) : Sim2 lock R R E X (putLiteral (σ := σ) b) (putLiteral b) := by
  unfold Lzx.putLiteral
  refine Sim2.modifyGet_bind (fun _ => True) (fun a b h => ?_) (fun r _ => ?_)
  · obtain ⟨x, l, rfl⟩ := W.split h
    dsimp only
    split <;> exact ⟨rfl, W.same h rfl, trivial⟩
  · sim_auto [W.fault _ (.oob _)]

theorem Walk2.copyMatch (c : RunCtx) (mo ml : Nat) :
    Sim2 lock R R E X (copyMatch (σ := σ) c mo ml) (copyMatch c mo ml) := by
  unfold Lzx.copyMatch; sim_auto [W.winCopy, W.fail, W.fault _ (.oob _)]

theorem Walk2.readOffset (c : RunCtx) (slot : Nat) : Sim2 lock R R E X (readOffset S1 c slot) (readOffset S2 c slot) := by
  unfold Lzx.readOffset; sim_auto [W.readBits, W.readHuffSym, W.fault _ (.oob _)]

theorem Walk2.readExtraLen : Sim2 lock R R E X (readExtraLen S1) (readExtraLen S2) := by
  unfold Lzx.readExtraLen
  sim_auto [W.ensureBits, W.peekBits, W.removeBits, W.readBits]

theorem Walk2.decodeRun (c : RunCtx) : ∀ fuel r, Sim2 lock R R E X (decodeRun S1 c fuel r) (decodeRun S2 c fuel r) := by
  intro fuel
  induction fuel with
  | zero => intro r; rw [decodeRun.eq_1, decodeRun.eq_1]; sim_auto [W.fault _ .hang]
  | succ fuel ih =>
    intro r; rw [decodeRun.eq_2, decodeRun.eq_2]
    sim_auto [W.readHuffSym, W.putLiteral, W.fail, W.readOffset, W.readExtraLen, W.copyMatch]

theorem Walk2.copyRaw : ∀ fuel dest r, Sim2 lock R R E X (copyRaw S1 fuel dest r) (copyRaw S2 fuel dest r) := by
  intro fuel
  induction fuel with
  | zero => intro dest r; rw [copyRaw.eq_1, copyRaw.eq_1]; sim_auto [W.fault _ .hang]
  | succ fuel ih =>
    intro dest r; rw [copyRaw.eq_2, copyRaw.eq_2]
    sim_auto [W.read]
    refine Sim2.modifyGet_bind (fun r => ∀ f, r = Except.error f → Mild f) (fun a b h => ?_) (fun a ha => ?_)
    · obtain ⟨x, l, rfl⟩ := W.split h
      dsimp only
      split
      · rename_i f hf
        exact ⟨rfl, W.same h rfl, fun f' h => by cases h; exact (writeBytes_fits ..).mild hf⟩
      · exact ⟨rfl, W.same h rfl, fun f h => nomatch h⟩
    · cases a with
      | error f => exact W.fault f (ha f rfl)
      | ok n => exact ih _ _

theorem Walk2.fbAlign (he8 : ∀ fs ob, Sim2 lock R R E X (fbE8 (σ := σ) fs ob) (fbE8 fs ob)) (fs ob : Nat) :
    Sim2 lock R R E X (fbAlign S1 fs ob) (fbAlign S2 fs ob) := by
  unfold Lzx.fbAlign
  sim_auto [W.ensureBits, W.removeBits, he8]

section frame
variable (hdr : ∀ fuel, Sim2 lock R R E X (readBlockHeader S1 fuel) (readBlockHeader S2 fuel))
  (hle : ∀ (a : St σ) x l, R a (a.put2 x l) → a.blockType = 1 ∨ a.blockType = 2 → l.lengthEmpty = a.lengthEmpty)
include hdr hle

/-- `blockLoop` hands a loose cell on: `lengthEmpty`, as part of the `RunCtx` of `decodeRun`, in verbatim and aligned
    blocks.  `hle`: there the two runs agree on it. -/
theorem Walk2.blockLoop : ∀ fuel b, Sim2 lock R R E X (blockLoop S1 fuel b) (blockLoop S2 fuel b) := by
  intro fuel
  induction fuel with
  | zero => intro b; rw [blockLoop.eq_1, blockLoop.eq_1]; sim_auto [W.fault _ .hang]
  | succ fuel ih =>
    intro b; rw [blockLoop.eq_2, blockLoop.eq_2]
    sim_auto [hdr, W.decodeRun, W.copyRaw, W.fail]
    -- left: the `decodeRun` call, whose context carries `lengthEmpty` of each run's own state
    have e := hle _ _ _ (by assumption) ‹_ ∨ _›
    dsimp only
    rw [e]
    exact W.decodeRun _ _ _

variable (he8 : ∀ fs ob, Sim2 lock R R E X (fbE8 (σ := σ) fs ob) (fbE8 fs ob))
include he8

theorem Walk2.fbDecode (fuel ob : Nat) : Sim2 lock R R E X (fbDecode S1 fuel ob) (fbDecode S2 fuel ob) := by
  unfold Lzx.fbDecode
  sim_auto [W.blockLoop hdr hle, W.fail, W.fbAlign he8]

theorem Walk2.fbLen (fuel ob : Nat) : Sim2 lock R R E X (fbLen S1 fuel ob) (fbLen S2 fuel ob) := by
  unfold Lzx.fbLen
  sim_auto [W.read, W.fbDecode hdr hle he8]

theorem Walk2.fbHeader (fuel ob : Nat) : Sim2 lock R R E X (fbHeader S1 fuel ob) (fbHeader S2 fuel ob) := by
  unfold Lzx.fbHeader
  sim_auto [W.readBits, W.fbLen hdr hle he8]

theorem Walk2.fbDelta (fuel ob : Nat) : Sim2 lock R R E X (fbDelta S1 fuel ob) (fbDelta S2 fuel ob) := by
  unfold Lzx.fbDelta
  sim_auto [W.ensureBits, W.removeBits, W.fbHeader hdr hle he8]

theorem Walk2.frameBody (hrs : ∀ a b, R a b → R (resetState a) (resetState b)) (fuel ob : Nat) :
    Sim2 lock R R E X (frameBody S1 fuel ob) (frameBody S2 fuel ob) := by
  rw [frameBody_eq, frameBody_eq]
  sim_auto [Sim2.modify hrs, W.fbDelta hdr hle he8]

end frame

/-- `Sim2 lock R R E X` one level up, for two results of `frameLoop`/`decompress` -/
def Out2 (lock : Prop) (R : St σ → St σ → Prop) (E : Halt → St σ → Prop) (X : Halt → St σ → St σ → Prop)
    (r1 r2 : Except Fault (DecodeOut (St σ))) : Prop :=
  match r1 with
  | .ok o1 =>
    (o1.err = .ok → ∃ o2, r2 = .ok o2 ∧ o2.err = .ok ∧ o2.written = o1.written ∧ R o1.st o2.st) ∧
    (o1.err ≠ .ok → E (.sys o1.err) o1.st ∧
      (lock → ∃ o2, r2 = .ok o2 ∧ o2.err = o1.err ∧ o2.written = o1.written ∧ X (.sys o1.err) o1.st o2.st))
  | .error f => (∃ t, E (.fault f) t) ∧ (lock → r2 = .error f)

/-- the two ways the frame loop stops by itself (its own DECRUNCH sets the sticky error like `fail`) -/
theorem Walk2.stop {s1 s2 : St σ} (hr : R s1 s2) (outBytes : Nat) (acc : Array UInt8) {d : Decidable (outBytes ≠ 0)} :
    Out2 lock R E X
      (@ite _ (outBytes ≠ 0) d (.ok ⟨.decrunch, acc.toList, { s1 with error := .decrunch }⟩) (.ok ⟨.ok, acc.toList, s1⟩))
      (@ite _ (outBytes ≠ 0) d (.ok ⟨.decrunch, acc.toList, { s2 with error := .decrunch }⟩) (.ok ⟨.ok, acc.toList, s2⟩)) := by
  by_cases hc : outBytes ≠ 0
  · rw [if_pos hc, if_pos hc]
    have run (st : St σ) : (Lzx.fail (σ := σ) (α := Unit) .decrunch).run.run st =
        (.error (.sys .decrunch), { st with error := .decrunch }) := rfl
    have := W.fail.err s1 s2 hr _ _ (run s1)
    refine ⟨fun h => (nomatch h), fun _ => ⟨this.1, fun hl => ?_⟩⟩
    obtain ⟨t2, h2, hx⟩ := this.2 hl
    rw [run] at h2; cases h2
    exact ⟨_, rfl, rfl, rfl, hx⟩
  · rw [if_neg hc, if_neg hc]
    exact ⟨fun _ => ⟨_, rfl, rfl, rfl, hr⟩, fun h => absurd rfl h⟩

section calls
variable (hfb : ∀ fuel ob, Sim2 lock R R E X (Lzx.frameBody S1 fuel ob) (Lzx.frameBody S2 fuel ob))
  (hsys : ∀ fuel ob s1 s2, R s1 s2 → ∀ t, (Lzx.frameBody S1 fuel ob).run.run s1 ≠ (.error (.sys .ok), t))
include hfb hsys

theorem Walk2.frameLoop (fuel endFrame : Nat) : ∀ (n : Nat) (s1 s2 : St σ) (outBytes : Nat) (acc : Array UInt8),
    R s1 s2 → Out2 lock R E X (frameLoop S1 fuel endFrame n s1 outBytes acc)
      (frameLoop S2 fuel endFrame n s2 outBytes acc) := by
  intro n
  induction n with
  | zero =>
    intro s1 s2 outBytes acc hr
    obtain ⟨x, l, rfl⟩ := W.split hr
    rw [frameLoop.eq_1, frameLoop.eq_1]
    dsimp only
    by_cases hc : s1.frame < endFrame
    · rw [if_pos hc, if_pos hc]
      exact ⟨⟨s1, ((W.fault (α := Unit) _ .hang).err _ _ hr _ _ rfl).1⟩, fun _ => rfl⟩
    · rw [if_neg hc, if_neg hc]; exact W.stop hr outBytes acc
  | succ n ih =>
    intro s1 s2 outBytes acc hr
    obtain ⟨x, l, rfl⟩ := W.split hr
    rw [frameLoop.eq_2, frameLoop.eq_2]
    dsimp only
    by_cases hc : s1.frame < endFrame ∧ ¬ (s1.length ≠ 0 ∧ s1.offset ≥ s1.length)
    · simp only [if_pos hc]
      generalize hm : (Lzx.frameBody S1 fuel outBytes).run.run s1 = rs
      obtain ⟨r, t1⟩ := rs
      cases r with
      | ok chunk =>
        obtain ⟨t2, h2, hr2⟩ := (hfb fuel outBytes).ok s1 _ hr chunk t1 hm
        rw [h2]
        exact ih _ _ _ _ hr2
      | error e =>
        obtain ⟨he, hl⟩ := (hfb fuel outBytes).err s1 _ hr e t1 hm
        cases e with
        | fault f => exact ⟨⟨t1, he⟩, fun l => by obtain ⟨t2, h2, _⟩ := hl l; rw [h2]⟩
        | sys e =>
          refine ⟨fun (h0 : e = .ok) => absurd (h0 ▸ hm) (hsys _ _ _ _ hr _), fun _ => ⟨he, fun l => ?_⟩⟩
          obtain ⟨t2, h2, hx⟩ := hl l
          rw [h2]
          exact ⟨_, rfl, rfl, rfl, hx⟩
    · simp only [if_neg hc]
      exact W.stop hr outBytes acc

/-- `hos`: the pending output lies in cells on which the two states agree -/
theorem Walk2.decompress
    (hos : ∀ a b n, R a b → outSlice b (min (a.oEnd - a.oPtr) n) = outSlice a (min (a.oEnd - a.oPtr) n))
    (fuel n : Nat) {s1 s2 : St σ} (hr : R s1 s2) (he : s1.error = .ok) :
    Out2 lock R E X (Lzx.decompress S1 fuel s1 n) (Lzx.decompress S2 fuel s2 n) := by
  have ho := hos s1 s2 n hr
  obtain ⟨x, l, rfl⟩ := W.split hr
  unfold Lzx.decompress
  dsimp only at ho ⊢
  rw [if_neg (not_not_intro he), if_neg (not_not_intro he), ho]
  cases ho : outSlice s1 (min (s1.oEnd - s1.oPtr) n) with
  | error f => exact ⟨⟨s1, ((W.fault (α := Unit) f ((outSlice_fits ..).mild ho)).err _ _ hr _ _ rfl).1⟩, fun _ => rfl⟩
  | ok chunk =>
    dsimp only
    have hr2 : R { s1 with oPtr := s1.oPtr + min (s1.oEnd - s1.oPtr) n, offset := s1.offset + min (s1.oEnd - s1.oPtr) n }
        (St.put2 { s1 with oPtr := s1.oPtr + min (s1.oEnd - s1.oPtr) n, offset := s1.offset + min (s1.oEnd - s1.oPtr) n } x l) :=
      W.same hr rfl
    by_cases h0 : n - min (s1.oEnd - s1.oPtr) n = 0
    · rw [if_pos h0, if_pos h0]
      exact ⟨fun _ => ⟨_, rfl, rfl, rfl, hr2⟩, fun h => absurd rfl h⟩
    · rw [if_neg h0, if_neg h0]
      exact W.frameLoop hfb hsys fuel _ _ _ _ _ _ hr2

end calls

end MsPack.Lzx

namespace MsPack.CabLift.LzxSim
open MsPack.CountLaws MsPack.Lzx MsPack.CabLift.LzxMild

variable {σ : Type}

def SR (Q : σ → σ → Prop) (I : Lzx.St σ → Prop) (a b : Lzx.St σ) : Prop :=
  I a ∧ ∃ x, Q a.src x ∧ b = { a with src := x }

def HE (F : Fault → Prop) : Lzx.Halt → Lzx.St σ → Prop
  | .fault f, _ => Mild f ∨ F f
  | .sys _, st => st.error ≠ .ok

theorem outSlice_src (st : Lzx.St σ) (x : σ) (n : Nat) : outSlice { st with src := x } n = outSlice st n := rfl

/-- What the walk asks of the invariant `I` of the first run and the exception condition `E`.  Only `read_input`
    and `fail` touch `src`, `error` and `inbufSize`, so an `I` that looks at nothing else survives every other step
    (`frame`); the model's own faults may come at any point; under `lock` the two runs start from one state;
    `read_input` over the two sources is the hypothesis `read`. -/
structure Walk (lock : Prop) (Q : σ → σ → Prop) (I : Lzx.St σ → Prop) (E : Lzx.Halt → Lzx.St σ → Prop)
    (S1 S2 : Src σ) : Prop where
  frame : ∀ {a b : Lzx.St σ}, I a → b.src = a.src → b.error = a.error → b.inbufSize = a.inbufSize → I b
  lock_eq : lock → ∀ a x, I a → Q a.src x → x = a.src
  fault : ∀ f a, I a → Mild f → E (.fault f) a
  fail : ∀ a, I a → E (.sys .decrunch) { a with error := .decrunch }
  read : Sim lock (SR Q I) E (readInput S1) (readInput S2)

theorem walk_HE {lock : Prop} {Q : σ → σ → Prop} {F : Fault → Prop} {S1 S2 : Src σ}
    (hlk : lock → ∀ a b, Q a b → b = a)
    (hrd : Sim lock (SR Q fun _ => True) (HE F) (readInput S1) (readInput S2)) :
    Walk lock Q (fun _ => True) (HE F) S1 S2 :=
  ⟨fun _ _ _ _ => trivial, fun hl _ _ _ hx => hlk hl _ _ hx, fun _ _ _ hm => Or.inl hm, fun _ _ => nofun, hrd⟩

variable {lock : Prop} {Q : σ → σ → Prop} {I : Lzx.St σ → Prop} {E : Lzx.Halt → Lzx.St σ → Prop} {S1 S2 : Src σ}
  (W : Walk lock Q I E S1 S2)
include W

theorem SR.eq_of_lock (hl : lock) {a b : Lzx.St σ} (h : SR Q I a b) : b = a := by
  obtain ⟨hi, x, hx, rfl⟩ := h
  rw [W.lock_eq hl a x hi hx]

section rules
variable {α β : Type}

omit W in
theorem SR.get_bind {f1 f2 : Lzx.St σ → LM σ β}
    (hf : ∀ r x, I r → Q r.src x → Sim lock (SR Q I) E (f1 r) (f2 { r with src := x })) :
    Sim lock (SR Q I) E (MonadState.get >>= f1) (MonadState.get >>= f2) :=
  Sim2.get_bind fun r1 _ ⟨hi, x, hx, he⟩ => he ▸ hf r1 x hi hx

omit W in
theorem SR.modify {g : Lzx.St σ → Lzx.St σ}
    (hf : ∀ a b : Lzx.St σ, I a → b.src = a.src → b.error = a.error → b.inbufSize = a.inbufSize → I b)
    (hg : ∀ r x, g { r with src := x } = { g r with src := x })
    (hs : ∀ r, (g r).src = r.src) (he : ∀ r, (g r).error = r.error) (hb : ∀ r, (g r).inbufSize = r.inbufSize) :
    Sim lock (SR Q I) E (modify g : LM σ PUnit) (modify g) :=
  Sim2.modify fun a _ ⟨hi, x, hx, h⟩ => ⟨hf _ _ hi (hs a) (he a) (hb a), x, hs a ▸ hx, h ▸ hg a x⟩

theorem fault_sim {f : Fault} (hm : Mild f) : Sim lock (SR Q I) E (throw (.fault f) : LM σ α) (throw (.fault f)) :=
  Sim2.throw fun a _ h => ⟨W.fault f a h.1 hm, fun hl => SR.eq_of_lock W hl h⟩

theorem oob_sim (w : String) : Sim lock (SR Q I) E (throw (.fault (.oob w)) : LM σ α) (throw (.fault (.oob w))) :=
  fault_sim W (.oob w)
theorem hang_sim : Sim lock (SR Q I) E (throw (.fault .hang) : LM σ α) (throw (.fault .hang)) :=
  fault_sim W .hang

theorem fail_sim : Sim lock (SR Q I) E (fail (σ := σ) (α := α) .decrunch) (fail .decrunch) := by
  have run (st : Lzx.St σ) : (fail (σ := σ) (α := α) .decrunch).run.run st =
      (.error (.sys .decrunch), { st with error := .decrunch }) := rfl
  refine ⟨fun s1 _ _ _ _ h => ?_, fun s1 s2 hr e t1 h => ?_⟩
  · rw [run] at h; cases h
  · rw [run] at h; cases h
    exact ⟨W.fail s1 hr.1, fun hl => ⟨_, by rw [run, SR.eq_of_lock W hl hr], rfl⟩⟩

end rules

/-- the `I` hypothesis used for the state written is the latest one in the context: the state the last `get`
    returned -/
local macro_rules | `(tactic| sim_get) => `(tactic| ((with_reducible refine SR.get_bind ?_); intro _ _ _ _; dsimp -zeta only [outSlice_src]))
local macro_rules | `(tactic| sim_put) => `(tactic| first
  | ((with_reducible refine Sim2.set ?_); exact ⟨by (refine Walk.frame ‹_› ‹_› ?_ ?_ ?_ <;> with_reducible rfl), _,
      by assumption, by with_reducible rfl⟩)
  | ((with_reducible refine SR.modify ?_ ?_ ?_ ?_ ?_) <;> first | exact (fun _ _ => Walk.frame ‹_›) | (intros; with_reducible rfl)))

theorem Walk.walk2 : Walk2 lock (SR Q I) E (fun _ a b => b = a) S1 S2 where
  split := fun {a b} ⟨_, x, _, h⟩ => ⟨x, a.loose, h⟩
  same := fun {a a' x l} ⟨hi, y, hy, h⟩ hv => by
    have hl : l = a.loose := congrArg St.loose h
    have hx : x = y := congrArg St.src h
    have hv1 : a'.loose = a.loose := congrArg (fun v => v.1.1) hv
    subst hl hx
    refine ⟨W.frame hi (congrArg (fun v => v.2.1) hv) (congrArg (fun v => v.2.2.1) hv) (congrArg (fun v => v.2.2.2) hv),
      x, (congrArg (fun v => v.2.1) hv : a'.src = a.src) ▸ hy, ?_⟩
    rw [← hv1]
  fault := fun _ hm => fault_sim W hm
  fail := fail_sim W
  read := W.read

theorem getLen_sim (t : Tree) (x : Nat) : Sim lock (SR Q I) E (getLen (σ := σ) t x) (getLen t x) := by
  unfold getLen; sim_auto [oob_sim W]

theorem setLen_sim (t : Tree) (x : Nat) (v : UInt8) : Sim lock (SR Q I) E (setLen (σ := σ) t x v) (setLen t x v) := by
  unfold setLen; sim_auto [oob_sim W]

theorem fillLens_sim (t : Tree) (v : UInt8) : ∀ y x, Sim lock (SR Q I) E (fillLens (σ := σ) t v y x) (fillLens t v y x) := by
  intro y
  induction y with
  | zero => intro x; rw [fillLens.eq_1]; sim_auto
  | succ y ih => intro x; rw [fillLens.eq_2]; sim_auto [setLen_sim W]

theorem readLensLoop_sim (t : Tree) (pre : Huff.Canon) (last : Nat) : ∀ fuel x,
    Sim lock (SR Q I) E (readLensLoop S1 t pre last fuel x) (readLensLoop S2 t pre last fuel x) := by
  intro fuel
  induction fuel with
  | zero => intro x; rw [readLensLoop.eq_1, readLensLoop.eq_1]; sim_auto [hang_sim W]
  | succ fuel ih =>
    intro x; rw [readLensLoop.eq_2, readLensLoop.eq_2]
    sim_auto [W.walk2.readHuffSym, W.walk2.readBits, fillLens_sim W, getLen_sim W, setLen_sim W]

theorem readPretreeLens_sim : ∀ k x, Sim lock (SR Q I) E (readPretreeLens S1 k x) (readPretreeLens S2 k x) := by
  intro k
  induction k with
  | zero => intro x; rw [readPretreeLens.eq_1, readPretreeLens.eq_1]; sim_auto
  | succ k ih =>
    intro x; rw [readPretreeLens.eq_2, readPretreeLens.eq_2]; sim_auto [W.walk2.readBits, oob_sim W]

theorem readLengths_sim (fuel : Nat) (t : Tree) (first last : Nat) :
    Sim lock (SR Q I) E (readLengths S1 fuel t first last) (readLengths S2 fuel t first last) := by
  unfold readLengths
  sim_auto [readPretreeLens_sim W, readLensLoop_sim W, fail_sim W]

theorem readAlignedLens_sim : ∀ k x, Sim lock (SR Q I) E (readAlignedLens S1 k x) (readAlignedLens S2 k x) := by
  intro k
  induction k with
  | zero => intro x; rw [readAlignedLens.eq_1, readAlignedLens.eq_1]; sim_auto
  | succ k ih =>
    intro x; rw [readAlignedLens.eq_2, readAlignedLens.eq_2]; sim_auto [W.walk2.readBits, oob_sim W]

theorem readBlockHeader_sim (fuel : Nat) : Sim lock (SR Q I) E (readBlockHeader S1 fuel) (readBlockHeader S2 fuel) := by
  unfold readBlockHeader
  sim_auto [W.walk2.nextByte, W.walk2.readBits, readAlignedLens_sim W,
    readLengths_sim W, getLen_sim W, W.walk2.ensureBits, W.walk2.readRaw,
    fail_sim W, oob_sim W]

theorem fbWrite_sim (fs ob : Nat) : Sim lock (SR Q I) E (fbWrite (σ := σ) fs ob) (fbWrite fs ob) := by
  unfold fbWrite
  sim_auto
  rename_i h
  exact fault_sim W ((outSlice_fits ..).mild h)

theorem fbE8_sim (fs ob : Nat) : Sim lock (SR Q I) E (fbE8 (σ := σ) fs ob) (fbE8 fs ob) := by
  unfold fbE8
  sim_auto [fail_sim W, fbWrite_sim W]
  all_goals (rename_i h; refine fault_sim W ?_; first
    | exact (copyAcross_fits ..).mild h
    | exact e8Loop_mild _ _ _ _ _ _ _ h)

theorem SR.resetState (a b : Lzx.St σ) : SR Q I a b → SR Q I (resetState a) (resetState b)
  | ⟨hi, x, hx, h⟩ => ⟨W.frame hi (by unfold Lzx.resetState; dsimp only) (by unfold Lzx.resetState; dsimp only)
      (by unfold Lzx.resetState; dsimp only), x, by unfold Lzx.resetState; exact hx, by subst h; unfold Lzx.resetState; dsimp only⟩

omit W in
theorem SR.lengthEmpty (a : Lzx.St σ) (x : σ) (l : Fill.Loose) : SR Q I a (a.put2 x l) →
    a.blockType = 1 ∨ a.blockType = 2 → l.lengthEmpty = a.lengthEmpty
  | ⟨_, _, _, h⟩, _ => congrArg Lzx.St.lengthEmpty h

theorem frameBody_sim (fuel outBytes : Nat) :
    Sim lock (SR Q I) E (frameBody S1 fuel outBytes) (frameBody S2 fuel outBytes) :=
  W.walk2.frameBody (readBlockHeader_sim W) SR.lengthEmpty (fbE8_sim W) (SR.resetState W) fuel outBytes

end MsPack.CabLift.LzxSim
