import MsPack.Lzx.Decoder
/-!
# LZX decoder: the three large functions cut into named pieces

The do-notation inlines the rest of a block into every branch before it (`if c then x` followed by
more); `readBlockHeader`, `blockLoop` and `frameBody` are long enough for that to matter.  Each piece
below is one stretch of such a function ending in a call of the next piece, so that the copies have a
name and every proof about the function can go piece by piece.

Also how the bounds-checked array helpers and the E8 loop can end (`Fits`, `e8Loop_cases`).
-/
namespace MsPack.Lzx
open MsPack.Generated
variable {σ : Type} (S : Src σ)

def hdrLength (fuel : Nat) : LM σ Unit := do
  readLengths S fuel .length 0 lzxNUM_SECONDARY_LENGTHS
  modify fun st => { st with lengthEmpty := false }
  let ll := lensOf (← get).lengthLen lzxLENGTH_MAXSYMBOLS
  match Huff.build lzxLENGTH_TABLEBITS ll with
  | some c => modify fun st => { st with lengthTbl := some c }
  | none =>
    modify fun st => { st with lengthTbl := none }
    if ll.any (· > 0) then fail .decrunch
    modify fun st => { st with lengthEmpty := true }

def hdrIntel (fuel : Nat) : LM σ Unit := do
  if (← getLen .main 0xE8) ≠ 0 then modify fun st => { st with intelStarted := true }
  hdrLength S fuel

def hdrMain (fuel : Nat) : LM σ Unit := do
  readLengths S fuel .main 0 256
  readLengths S fuel .main 256 (lzxNUM_CHARS + (← get).numOffsets)
  match Huff.build lzxMAINTREE_TABLEBITS (lensOf (← get).maintreeLen lzxMAINTREE_MAXSYMBOLS) with
  | none => modify (fun st => { st with maintreeTbl := none }); fail .decrunch
  | some c => modify fun st => { st with maintreeTbl := some c }
  hdrIntel S fuel

def hdrAligned (fuel : Nat) : LM σ Unit := do
  readAlignedLens S lzxALIGNED_MAXSYMBOLS 0
  match Huff.build lzxALIGNED_TABLEBITS (lensOf (← get).alignedLen lzxALIGNED_MAXSYMBOLS) with
  | none => modify (fun st => { st with alignedTbl := none }); fail .decrunch
  | some c => modify fun st => { st with alignedTbl := some c }
  hdrMain S fuel

def hdrRaw : LM σ Unit := do
  modify fun st => { st with bits := [] }
  let buf ← readRaw S 12 []
  match buf with
  | [a0, a1, a2, a3, b0, b1, b2, b3, c0, c1, c2, c3] =>
    modify fun st => { st with r0 := le32 a0 a1 a2 a3, r1 := le32 b0 b1 b2 b3, r2 := le32 c0 c1 c2 c3 }
  | _ => throw (.fault (.oob "buf"))

def hdrBody (fuel : Nat) : LM σ Unit := do
  let bt ← readBits S 3
  modify fun st => { st with blockType := bt }
  let i ← readBits S 16
  let j ← readBits S 8
  let len := i * 256 + j
  modify fun st => { st with blockRemaining := len, blockLength := len }
  if bt = 1 ∨ bt = 2 then
    if bt = 2 then hdrAligned S fuel else hdrMain S fuel
  else if bt = 3 then
    modify fun st => { st with intelStarted := true }
    if (← get).bits.isEmpty then ensureBits S 16 3
    hdrRaw S
  else fail .decrunch

theorem readBlockHeader_eq (fuel : Nat) : readBlockHeader S fuel = (do
    let st ← get
    if st.blockType = 3 ∧ st.blockLength % 2 = 1 then
      let _ ← nextByte S
    hdrBody S fuel) := rfl

def blockAfter (fuel : Nat) (bytesTodo left : Int) : LM σ Unit := do
  if left < 0 then
    let over := (-left).toNat
    if over > (← get).blockRemaining then fail .decrunch
    modify fun st => { st with blockRemaining := st.blockRemaining - over }
  blockLoop S fuel bytesTodo

def blockRest (fuel : Nat) (bytesTodo : Int) : LM σ Unit := do
  let st ← get
  let thisRun : Int := if (st.blockRemaining : Int) > bytesTodo then bytesTodo else st.blockRemaining
  let bytesTodo := bytesTodo - thisRun
  let bt := st.blockType
  let c : RunCtx := { main := st.maintreeTbl, len := st.lengthTbl, aligned := st.alignedTbl,
                      isAligned := bt = 2, isDelta := st.isDelta, lengthEmpty := st.lengthEmpty,
                      windowSize := st.windowSize, refDataSize := st.refDataSize, offset := st.offset }
  let wp := st.windowPosn
  set { st with blockRemaining := st.blockRemaining - thisRun.toNat }
  let left : Int ←
    if bt = 1 ∨ bt = 2 then decodeRun S c fuel thisRun
    else if bt = 3 then do
      modify fun st => { st with windowPosn := st.windowPosn + thisRun.toNat }
      copyRaw S fuel wp thisRun.toNat
      pure 0
    else fail .decrunch
  blockAfter S fuel bytesTodo left

theorem blockLoop_eq (fuel : Nat) (bytesTodo : Int) : blockLoop S (fuel + 1) bytesTodo =
    (if bytesTodo ≤ 0 then pure () else do
      if (← get).blockRemaining = 0 then readBlockHeader S fuel
      blockRest S fuel bytesTodo) := by
  rw [blockLoop]; rfl

def fbWrite (frameSize outBytes : Nat) : LM σ (Array UInt8) := do
  let i := if outBytes < frameSize then outBytes else frameSize
  let st ← get
  match outSlice st i with
  | .error f => throw (.fault f)
  | .ok chunk =>
    let framePosn := (st.framePosn + frameSize) % 4294967296
    set { st with oPtr := st.oPtr + i, offset := st.offset + i,
                  framePosn := if framePosn = st.windowSize then 0 else framePosn,
                  frame := (st.frame + 1) % 4294967296,
                  windowPosn := if st.windowPosn = st.windowSize then 0 else st.windowPosn }
    pure chunk

def fbE8 (frameSize outBytes : Nat) : LM σ (Array UInt8) := do
  let st ← get
  if st.oPtr ≠ st.oEnd then fail .decrunch
  if st.intelStarted ∧ st.intelFilesize ≠ 0 ∧ st.frame < 32768 ∧ frameSize > 10 then
    match copyAcross st.window st.framePosn frameSize 0 st.e8Buf with
    | .error f => throw (.fault f)
    | .ok buf =>
      match e8Loop (frameSize - 10) st.intelFilesize frameSize 0 (toS32 st.offset) buf with
      | .error f => throw (.fault f)
      | .ok buf => set { st with e8Buf := buf, oInE8 := true, oPtr := 0, oEnd := frameSize }
  else
    set { st with oInE8 := false, oPtr := st.framePosn, oEnd := st.framePosn + frameSize }
  fbWrite frameSize outBytes

def fbAlign (frameSize outBytes : Nat) : LM σ (Array UInt8) := do
  if (← get).bits.length > 0 then ensureBits S 16 3
  let bl := (← get).bits.length
  if bl % 16 ≠ 0 then removeBits (bl % 16)
  fbE8 frameSize outBytes

def fbDecode (fuel outBytes : Nat) : LM σ (Array UInt8) := do
  let st ← get
  let frameSize : Nat :=
    if st.length ≠ 0 ∧ (st.length : Int) - st.offset < (lzxFRAME_SIZE : Int)
    then toU32 ((st.length : Int) - st.offset) else lzxFRAME_SIZE
  let bytesTodo := toS32 ((st.framePosn : Int) + frameSize - st.windowPosn)
  blockLoop S fuel bytesTodo
  let st ← get
  if toU32 ((st.windowPosn : Int) - st.framePosn) ≠ frameSize then fail .decrunch
  fbAlign S frameSize outBytes

def fbLen (fuel outBytes : Nat) : LM σ (Array UInt8) := do
  let st ← get
  if st.length = 0 ∧ st.bits.isEmpty then
    if st.inbuf.isEmpty then readInput S
  fbDecode S fuel outBytes

def fbHeader (fuel outBytes : Nat) : LM σ (Array UInt8) := do
  if !(← get).headerRead then
    let i ← readBits S 1
    let (i, j) ← if i ≠ 0 then do
        let i ← readBits S 16
        let j ← readBits S 16
        pure (i, j)
      else pure (i, 0)
    modify fun st => { st with intelFilesize := toS32 ((i * 65536 ||| j : Nat) : Int), headerRead := true }
  fbLen S fuel outBytes

def fbDelta (fuel outBytes : Nat) : LM σ (Array UInt8) := do
  if (← get).isDelta then
    ensureBits S 16 3
    removeBits 16
  fbHeader S fuel outBytes

theorem frameBody_eq (fuel outBytes : Nat) : frameBody S fuel outBytes = (do
    let st ← get
    if st.resetInterval ≠ 0 ∧ st.frame % st.resetInterval = 0 then
      modify resetState
    fbDelta S fuel outBytes) := rfl

theorem setReferenceData_shape (st : St σ) (length : Nat) (ref : Option Bytes) :
    ∃ n w, (setReferenceData st length ref).2 = { st with refDataSize := n, window := w } := by
  unfold setReferenceData
  by_cases h1 : (!st.isDelta) = true
  · rw [if_pos h1]; exact ⟨_, _, rfl⟩
  rw [if_neg h1]
  by_cases h2 : st.offset ≠ 0
  · rw [if_pos h2]; exact ⟨_, _, rfl⟩
  rw [if_neg h2]
  by_cases h3 : length > st.windowSize
  · rw [if_pos h3]; exact ⟨_, _, rfl⟩
  rw [if_neg h3]
  dsimp only
  by_cases h4 : length = 0
  · rw [if_pos h4]; exact ⟨_, _, rfl⟩
  rw [if_neg h4]
  cases ref with
  | none => exact ⟨_, _, rfl⟩
  | some bytes =>
    dsimp only
    cases writeBytes (List.take length bytes) (st.windowSize - length) st.window with
    | error f => exact ⟨_, _, rfl⟩
    | ok w =>
      dsimp only
      split <;> exact ⟨_, _, rfl⟩

theorem decompress_dead (fuel : Nat) (st : St σ) (n : Nat) (he : st.error ≠ .ok) :
    decompress S fuel st n = .ok ⟨st.error, [], st⟩ := by
  unfold decompress; exact if_pos he

theorem init_fields {src : σ} {wb ri ibs ol : Nat} {dl : Bool} {fill : UInt8} {st : St σ}
    (h : init src wb ri ibs ol dl fill = some st) :
    st.src = src ∧ st.bits = [] ∧ st.inbuf = [] ∧ st.inputEnd = false ∧ st.error = .ok ∧ 2 ≤ st.inbufSize ∧
      st.offset = 0 := by
  unfold init at h
  cases dl <;>
  · simp only [Bool.false_eq_true, if_false, if_true] at h
    split at h
    · cases h
    · split at h
      · cases h
      · next hlt =>
        split at h
        · cases h
        · cases h; exact ⟨rfl, rfl, rfl, rfl, rfl, Nat.le_of_not_lt hlt, rfl⟩

def Fits (sz : Nat) (b : Prop) : Except Fault (Array UInt8) → Prop
  | .ok a => a.size = sz
  | .error f => (∃ s, f = .oob s) ∧ ¬ b

theorem Fits.mono {sz : Nat} {b b' : Prop} {r : Except Fault (Array UInt8)} (h : Fits sz b r) (hb : b' → b) :
    Fits sz b' r := by
  cases r with
  | ok a => exact h
  | error f => exact ⟨h.1, fun h' => h.2 (hb h')⟩

theorem Fits.ok {sz : Nat} {b : Prop} {r : Except Fault (Array UInt8)} (h : Fits sz b r) (hb : b) :
    ∃ a, r = .ok a ∧ a.size = sz := by
  cases r with
  | ok a => exact ⟨a, rfl, h⟩
  | error f => exact (h.2 hb).elim

theorem Fits.oob {sz : Nat} {b : Prop} {r : Except Fault (Array UInt8)} {f : Fault} (h : Fits sz b r)
    (hr : r = .error f) : ∃ s, f = .oob s := by
  subst hr; exact h.1

theorem Fits.no_hang {sz : Nat} {b : Prop} {r : Except Fault (Array UInt8)} {f : Fault} (h : Fits sz b r)
    (hr : r = .error f) : f ≠ .hang := by
  obtain ⟨s, rfl⟩ := h.oob hr; nofun

theorem copyFwd_fits : ∀ (n src dst : Nat) (w : Array UInt8),
    Fits w.size (src + n ≤ w.size ∧ dst + n ≤ w.size) (copyFwd n src dst w)
  | 0, _, _, _ => rfl
  | n + 1, src, dst, w => by
    rw [copyFwd]
    split
    · split
      · have := copyFwd_fits n (src + 1) (dst + 1) (w.set dst w[src])
        rw [Array.size_set] at this
        exact this.mono (by omega)
      · exact ⟨⟨_, rfl⟩, by omega⟩
    · exact ⟨⟨_, rfl⟩, by omega⟩

theorem writeBytes_fits : ∀ (bs : Bytes) (dst : Nat) (w : Array UInt8),
    Fits w.size (dst + bs.length ≤ w.size) (writeBytes bs dst w)
  | [], _, _ => rfl
  | b :: rest, dst, w => by
    rw [writeBytes, List.length_cons]
    split
    · have := writeBytes_fits rest (dst + 1) (w.set dst b)
      rw [Array.size_set] at this
      exact this.mono (by omega)
    · exact ⟨⟨_, rfl⟩, by omega⟩

theorem copyAcross_fits (src : Array UInt8) (start : Nat) : ∀ (n k : Nat) (dst : Array UInt8),
    Fits dst.size (start + k + n ≤ src.size ∧ k + n ≤ dst.size) (copyAcross src start n k dst)
  | 0, _, _ => rfl
  | n + 1, k, dst => by
    rw [copyAcross]
    split
    · next h => exact ⟨⟨_, rfl⟩, by have := Array.getElem?_eq_none_iff.1 h; omega⟩
    · split
      · have := copyAcross_fits src start n (k + 1) (dst.set k ‹_›)
        rw [Array.size_set] at this
        exact this.mono (by omega)
      · exact ⟨⟨_, rfl⟩, by omega⟩

theorem outSlice_fits (st : St σ) (n : Nat) :
    Fits n (st.oPtr + n ≤ (if st.oInE8 then st.e8Buf else st.window).size) (outSlice st n) := by
  unfold outSlice
  generalize (if st.oInE8 = true then st.e8Buf else st.window) = a
  dsimp only
  by_cases hc : st.oPtr + n ≤ a.size
  · rw [if_pos hc]; exact show (a.extract _ _).size = n by rw [Array.size_extract]; omega
  · rw [if_neg hc]; exact ⟨⟨_, rfl⟩, hc⟩

theorem e8Loop_cases (dataend : Nat) (filesize : Int) {n : Nat} : ∀ (fuel p : Nat) (curpos : Int) (buf : Array UInt8),
    buf.size = n →
    (∃ b, e8Loop dataend filesize fuel p curpos buf = .ok b ∧ b.size = n) ∨
    (e8Loop dataend filesize fuel p curpos buf = .error .hang ∧ p + fuel < dataend) ∨
    (e8Loop dataend filesize fuel p curpos buf = .error (.oob "e8_buf") ∧ n < dataend + 4)
  | 0, p, _, buf, hn => by
    rw [e8Loop]
    by_cases hp : p < dataend
    · rw [if_pos hp]; exact .inr (.inl ⟨rfl, by omega⟩)
    · rw [if_neg hp]; exact .inl ⟨buf, rfl, hn⟩
  | fuel + 1, p, curpos, buf, hn => by
    rw [e8Loop]
    by_cases hp : p < dataend
    · rw [if_pos hp]
      cases hb : buf[p]? with
      | none =>
        have := Array.getElem?_eq_none_iff.mp hb
        exact .inr (.inr ⟨rfl, by omega⟩)
      | some v =>
        dsimp only
        by_cases h8 : v ≠ 0xE8
        · rw [if_pos h8]
          exact (e8Loop_cases dataend filesize fuel _ _ buf hn).imp_right (.imp_left (.imp_right fun _ => by omega))
        · rw [if_neg h8]
          by_cases h3 : p + 1 + 3 < buf.size
          · rw [dif_pos h3]
            refine (e8Loop_cases dataend filesize fuel _ _ _ ?_).imp_right (.imp_left (.imp_right fun _ => by omega))
            rw [apply_ite Array.size]
            simp only [Array.size_set, ite_self]
            exact hn
          · rw [dif_neg h3]; exact .inr (.inr ⟨rfl, by omega⟩)
    · rw [if_neg hp]; exact .inl ⟨buf, rfl, hn⟩

theorem wordBits_length (b0 b1 : UInt8) : (wordBits b0 b1).length = 16 := by simp [wordBits]

end MsPack.Lzx
