import MsPack.Cab.Headers
import Proofs.Lemmas.RdFacts
/-
What a successful `cabd_read_headers` has read (the 36 header bytes with the signature, base offset and length field),
two lemmas about `if c then error else x` used to step through header readers, and that headers accepted in strict mode
are accepted identically in salvage mode (the header half of C18).
-/
namespace MsPack.Cab

/-- an `if c then error else x` that came out `ok` took the second branch (`split at h` finds the same but is
    slow to check when later tests mention header fields) -/
theorem of_ite_error_eq_ok {α ε : Type} {c : Prop} [Decidable c] {e : ε} {x : Except ε α} {v : α}
    (h : (if c then .error e else x) = .ok v) : ¬c ∧ x = .ok v := by
  split at h
  · cases h
  · exact ⟨‹_›, h⟩

theorem ite_error_mono {α ε : Type} {c : Prop} [Decidable c] {e : ε} {x y : Except ε α} {v w : α}
    (h : x = .ok v → y = .ok w) : (if c then .error e else x) = .ok v → (if c then .error e else y) = .ok w := by
  split
  · exact nofun
  · exact h

theorem readHeaders_fields (file : Bytes) (off : Nat) (sv : Bool) (c : Cabinet)
    (h : readHeaders file off sv = .ok c) :
    c.baseOffset = off ∧ ∃ buf r, (⟨file, off⟩ : Rd).readExact 36 = some (buf, r) ∧
      u32At buf 0 = 0x4643534D ∧ c.length = u32At buf 8 := by
  unfold readHeaders at h
  split at h
  · cases h
  rename_i buf r hrd
  obtain ⟨hsig, h⟩ := of_ite_error_eq_ok h
  obtain ⟨_, h⟩ := of_ite_error_eq_ok h
  obtain ⟨_, h⟩ := of_ite_error_eq_ok h
  dsimp only at h
  split at h
  · cases h
  split at h
  · cases h
  split at h
  · cases h
  split at h
  · cases h
  obtain ⟨_, h⟩ := of_ite_error_eq_ok h
  cases h
  exact ⟨rfl, buf, r, hrd, Decidable.not_not.1 hsig, rfl⟩

theorem readHeaders_sig (file : Bytes) (off : Nat) (sv : Bool) (c : Cabinet)
    (hc : readHeaders file off sv = .ok c) :
    36 ≤ (file.drop off).length ∧ u32At (file.drop off) 0 = 0x4643534D := by
  obtain ⟨_, buf, r, hrd, hsig, _⟩ := readHeaders_fields _ _ _ _ hc
  obtain ⟨hl, rfl, -⟩ := Rd.readExact_eq_some_iff.1 hrd
  refine ⟨List.length_drop ▸ hl, ?_⟩
  rw [← hsig]
  simp only [u32At, byteAt, List.getD_eq_getElem?_getD, List.getElem?_take]
  simp

theorem readFiles_salvage_mono (nf : Nat) : ∀ (n : Nat) (r : Rd) (acc : List CFile) (x),
    readFiles nf false n r acc = .ok x → readFiles nf true n r acc = .ok x := by
  intro n
  induction n with
  | zero => exact fun _ _ _ h => h
  | succ n ih =>
    intro r acc x h
    unfold readFiles at h ⊢
    split at h
    · cases h
    · dsimp only at h ⊢
      split at h
      · exact ih _ _ _ h
      · cases h
      · cases h

theorem readHeaders_salvage_mono (file : Bytes) (off : Nat) (c : Cabinet)
    (h : readHeaders file off false = .ok c) : readHeaders file off true = .ok c := by
  revert h
  unfold readHeaders
  split
  · exact id
  refine ite_error_mono (ite_error_mono (ite_error_mono ?_))
  dsimp only
  split
  · exact id
  split
  · exact id
  split
  · exact id
  intro h
  split at h
  · cases h
  rename_i hf
  rw [readFiles_salvage_mono _ _ _ _ _ hf]
  exact h

end MsPack.Cab
