import Proofs.Lemmas.LzxBounds
/-!
# LZX decoder: the frame level (C02)

`Good`: the invariant of `lzxd_decompress` between calls; one frame (`frameBody`) and the frame loop
preserve it and take no out-of-bounds outcome.
-/
namespace MsPack.Lzx
open MsPack.Generated
variable {σ : Type}

theorem toU32_nonneg (x : Int) (h0 : 0 ≤ x) (h1 : x < 4294967296) : toU32 x = x.toNat := by
  unfold toU32; rw [Int.emod_eq_of_lt h0 h1]

theorem toU32_neg (x : Int) (h0 : x < 0) (h1 : -4294967296 ≤ x) : toU32 x = (x + 4294967296).toNat := by
  unfold toU32
  have : x % 4294967296 = x + 4294967296 := by omega
  rw [this]

theorem toS32_big (x : Int) (h0 : 2147483648 ≤ x) (h1 : x < 4294967296) : toS32 x = x - 4294967296 := by
  unfold toS32
  have : x % 4294967296 = x := Int.emod_eq_of_lt (by omega) h1
  have h2 : ¬x < 2147483648 := by omega
  simp only [this, if_neg h2]

theorem zero_size : ∀ (l : List Nat) (a : Array UInt8),
    (l.foldl (fun a i => a.setIfInBounds i 0) a).size = a.size
  | [], a => rfl
  | i :: l, a => by rw [List.foldl_cons, zero_size l, Array.size_setIfInBounds]

theorem resetState_main_size (st : St σ) : (resetState st).maintreeLen.size = st.maintreeLen.size := by
  unfold resetState
  dsimp only
  generalize List.range lzxMAINTREE_MAXSYMBOLS = l
  exact zero_size l _

theorem resetState_length_size (st : St σ) : (resetState st).lengthLen.size = st.lengthLen.size := by
  unfold resetState
  dsimp only
  generalize List.range lzxLENGTH_MAXSYMBOLS = l
  exact zero_size l _

theorem resetState_fix (L₀ : Nat) (st : St σ) : Fix L₀ st (resetState st) :=
  { length := Or.inl rfl, offset := rfl, windowSize := rfl, refDataSize := rfl, numOffsets := rfl,
    framePosn := rfl, frame := rfl, resetInterval := rfl, isDelta := rfl, inbufSize := rfl, oInE8 := rfl,
    oPtr := rfl, oEnd := rfl, e8Buf := rfl, windowSz := rfl, pretreeLenSz := rfl, alignedLenSz := rfl,
    maintreeLenSz := resetState_main_size st, lengthLenSz := resetState_length_size st }

structure Good (L₀ : Nat) (st : St σ) : Prop where
  inv : Inv0 st
  wpfp : st.windowPosn = st.framePosn
  fpLt : st.framePosn < st.windowSize
  outLe : st.oPtr ≤ st.oEnd
  outSz : st.oEnd ≤ (if st.oInE8 then 32768 else st.windowSize)
  len : st.length = 0 ∨ st.length = L₀
  /-- frames start on 32 KiB boundaries of the window until the declared output length is reached -/
  align : st.framePosn % 32768 = 0 ∨ (st.length ≠ 0 ∧ st.length ≤ st.offset + (st.oEnd - st.oPtr))
  /-- decoded bytes (written + pending) never exceed 32 KiB per frame decoded -/
  cnt : st.offset + (st.oEnd - st.oPtr) ≤ 32768 * st.frame

theorem Good.step {L₀ : Nat} {a b : St σ} (h : Good L₀ a) (f : Fix L₀ a b) (hw : b.windowPosn = a.windowPosn)
    (ht : ∀ c, b.maintreeTbl = some c → CanonBd c 2576) : Good L₀ b :=
  { inv := h.inv.of_fix f ht
    wpfp := by rw [hw, f.framePosn]; exact h.wpfp
    fpLt := by rw [f.framePosn, f.windowSize]; exact h.fpLt
    outLe := by rw [f.oPtr, f.oEnd]; exact h.outLe
    outSz := by rw [f.oEnd, f.oInE8, f.windowSize]; exact h.outSz
    len := len_trans h.len f.length
    align := by
      rw [f.framePosn, f.offset, f.oEnd, f.oPtr]
      refine h.align.imp_right fun ⟨h1, h2⟩ => ?_
      have := f.length; have := h.len
      omega
    cnt := by rw [f.offset, f.oEnd, f.oPtr, f.frame]; exact h.cnt }

structure Entry (L₀ outBytes off fr : Nat) (st : St σ) : Prop where
  good : Good L₀ st
  pend : st.oPtr = st.oEnd
  hoff : st.offset = off
  hfr : st.frame = fr
  off : off + outBytes < 2147483648
  frm : fr < 65536

theorem Entry.step {L₀ outBytes off fr : Nat} {a b : St σ} (h : Entry L₀ outBytes off fr a) (f : Fix L₀ a b)
    (hw : b.windowPosn = a.windowPosn) (ht : ∀ c, b.maintreeTbl = some c → CanonBd c 2576) :
    Entry L₀ outBytes off fr b :=
  { h with
    good := h.good.step f hw ht
    pend := by rw [f.oPtr, f.oEnd]; exact h.pend
    hoff := f.offset.trans h.hoff
    hfr := f.frame.trans h.hfr }

theorem Entry.sameB {L₀ outBytes off fr : Nat} {a b : St σ} (h : Entry L₀ outBytes off fr a) (f : SameB L₀ a b) :
    Entry L₀ outBytes off fr b :=
  h.step f.toFix f.windowPosn (by rw [f.maintreeTbl]; exact h.good.inv.tbl)

/-- after the block loop of a frame of `F` bytes and the `window_posn - frame_posn == frame_size` check -/
structure Mid (L₀ F off fr : Nat) (st : St σ) : Prop where
  inv : Inv0 st
  fit : st.framePosn + F ≤ st.windowSize
  Fle : F ≤ 32768
  wp : st.windowPosn = st.framePosn + F
  pend : st.oPtr = st.oEnd
  len : st.length = 0 ∨ st.length = L₀
  al : (st.framePosn % 32768 = 0 ∧ F = 32768) ∨ (st.length ≠ 0 ∧ st.length ≤ off + F)
  hoff : st.offset = off
  hfr : st.frame = fr
  cnt : off ≤ 32768 * fr
  frm : fr < 65536

theorem Mid.of_fix {L₀ F off fr : Nat} {a b : St σ} (inv : Inv0 b) (f : Fix L₀ a b) (fit : a.framePosn + F ≤ a.windowSize)
    (Fle : F ≤ 32768) (wp : b.windowPosn = b.framePosn + F) (pend : a.oPtr = a.oEnd)
    (len : a.length = 0 ∨ a.length = L₀)
    (al : (a.framePosn % 32768 = 0 ∧ F = 32768) ∨ (a.length ≠ 0 ∧ a.length ≤ off + F))
    (hoff : a.offset = off) (hfr : a.frame = fr) (cnt : off ≤ 32768 * fr) (frm : fr < 65536) : Mid L₀ F off fr b :=
  { inv := inv
    fit := by rw [f.framePosn, f.windowSize]; exact fit
    Fle := Fle
    wp := wp
    pend := by rw [f.oPtr, f.oEnd]; exact pend
    len := len_trans len f.length
    al := by
      rw [f.framePosn]
      refine al.imp_right fun ⟨h1, h2⟩ => ?_
      have := f.length
      omega
    hoff := f.offset.trans hoff
    hfr := f.frame.trans hfr
    cnt := cnt
    frm := frm }

theorem Mid.step {L₀ F off fr : Nat} {a b : St σ} (h : Mid L₀ F off fr a) (f : Fix L₀ a b)
    (hw : b.windowPosn = a.windowPosn) (ht : ∀ c, b.maintreeTbl = some c → CanonBd c 2576) : Mid L₀ F off fr b :=
  Mid.of_fix (h.inv.of_fix f ht) f h.fit h.Fle (by rw [hw, f.framePosn]; exact h.wp) h.pend h.len h.al h.hoff h.hfr
    h.cnt h.frm

theorem Mid.sameB {L₀ F off fr : Nat} {a b : St σ} (h : Mid L₀ F off fr a) (f : SameB L₀ a b) : Mid L₀ F off fr b :=
  h.step f.toFix f.windowPosn (by rw [f.maintreeTbl]; exact h.inv.tbl)

def FrameOut (L₀ outBytes off fr : Nat) (chunk : Array UInt8) (st' : St σ) : Prop :=
  Good L₀ st' ∧ st'.offset = off + chunk.size ∧ chunk.size ≤ outBytes ∧ st'.frame = fr + 1 ∧
    (st'.oPtr = st'.oEnd ∨ chunk.size = outBytes)

theorem pend_write {off op oe i : Nat} (h : op + i ≤ oe) : off + i + (oe - (op + i)) = off + (oe - op) := by omega

theorem next_posn {fp F ws : Nat} (hfit : fp + F ≤ ws) (hpos : 0 < ws) (hdvd : ws % 32768 = 0) :
    (if fp + F = ws then 0 else fp + F) < ws ∧
      (fp % 32768 = 0 → F = 32768 → (if fp + F = ws then 0 else fp + F) % 32768 = 0) := by
  split <;> omega

theorem Good.outSlice {L₀ i : Nat} {st : St σ} (hg : Good L₀ st) (hi : st.oPtr + i ≤ st.oEnd) :
    ∃ chunk, outSlice st i = .ok chunk ∧ chunk.size = i :=
  (outSlice_fits st i).ok (by rw [apply_ite Array.size, hg.inv.e8, hg.inv.win]; exact Nat.le_trans hi hg.outSz)

/-- `lzxd_decompress` does this on entry and after each frame -/
theorem Good.write {L₀ i : Nat} {st : St σ} (hg : Good L₀ st) (hi : st.oPtr + i ≤ st.oEnd) :
    Good L₀ { st with oPtr := st.oPtr + i, offset := st.offset + i } :=
  have hv := hg.inv
  { inv := Inv0.mk hv.win hv.wsLe hv.wsDvd hv.wsPos hv.pre hv.main hv.len hv.ali hv.e8 hv.nOff hv.ref hv.tbl
    wpfp := hg.wpfp, fpLt := hg.fpLt, outLe := hi, outSz := hg.outSz, len := hg.len
    align := (pend_write hi).symm ▸ hg.align
    cnt := (pend_write hi).symm ▸ hg.cnt }

theorem Mid.finish {L₀ F off fr : Nat} {st : St σ} (hm : Mid L₀ F off fr st) (buf : Array UInt8) (hb : buf.size = 32768)
    (e8 : Bool) (p q : Nat) (hp : e8 = true ∧ p = 0 ∨ e8 = false ∧ p = st.framePosn) (hq : q = p + F) :
    Good L₀ { st with e8Buf := buf, oInE8 := e8, oPtr := p, oEnd := q, frame := st.frame + 1,
                      framePosn := if st.framePosn + F = st.windowSize then 0 else st.framePosn + F,
                      windowPosn := if st.framePosn + F = st.windowSize then 0 else st.framePosn + F } :=
  have hv := hm.inv
  hq ▸
  have hn := next_posn hm.fit hv.wsPos hv.wsDvd
  have hc : st.offset + (p + F - p) ≤ 32768 * (st.frame + 1) := by
    have := hm.cnt; have := hm.Fle; have := hm.hoff; have := hm.hfr; omega
  { inv := Inv0.mk hv.win hv.wsLe hv.wsDvd hv.wsPos hv.pre hv.main hv.len hv.ali hb hv.nOff hv.ref hv.tbl
    wpfp := rfl, fpLt := hn.1, outLe := Nat.le_add_right _ _, len := hm.len, cnt := hc
    outSz := by
      have := hm.Fle
      rcases hp with ⟨rfl, rfl⟩ | ⟨rfl, rfl⟩
      · show 0 + F ≤ 32768; omega
      · exact hm.fit
    align := hm.al.imp (fun h => hn.2 h.1 h.2) fun h =>
      ⟨h.1, (Nat.add_sub_cancel_left (n := p) (m := F)).symm ▸ hm.hoff ▸ h.2⟩ }

section
variable (S : Src σ) (L₀ : Nat)

theorem fbWrite_spec (F outBytes off fr : Nat) (st : St σ) (hm : Mid L₀ F off fr st) (buf : Array UInt8)
    (hb : buf.size = 32768) (e8 : Bool) (p q : Nat) (hp : e8 = true ∧ p = 0 ∨ e8 = false ∧ p = st.framePosn)
    (hq : q = p + F) :
    wp (fbWrite F outBytes) (FrameOut L₀ outBytes off fr) (postE S Er)
      { st with e8Buf := buf, oInE8 := e8, oPtr := p, oEnd := q } := by
  subst hq
  unfold fbWrite
  simp only [wp_bind, wp_get]
  have hI : (if outBytes < F then outBytes else F) ≤ F ∧ (if outBytes < F then outBytes else F) ≤ outBytes ∧
      ((if outBytes < F then outBytes else F) = F ∨ (if outBytes < F then outBytes else F) = outBytes) := by
    split <;> omega
  generalize (if outBytes < F then outBytes else F) = i at hI ⊢
  have hg := hm.finish buf hb e8 p _ hp rfl
  have hi : p + i ≤ p + F := Nat.add_le_add_left hI.1 p
  obtain ⟨chunk, hc, hsz⟩ : ∃ chunk, outSlice ({ st with e8Buf := buf, oInE8 := e8, oPtr := p, oEnd := p + F } : St σ) i =
    .ok chunk ∧ chunk.size = i := hg.outSlice hi
  have hws := hm.inv.wsLe; have hfit := hm.fit; have hfrm := hm.frm; have hfr := hm.hfr
  rw [hc]
  simp only [wp_bind, wp_set, wp_pure, hm.wp, Nat.mod_eq_of_lt (show st.framePosn + F < 4294967296 by omega),
    Nat.mod_eq_of_lt (show st.frame + 1 < 4294967296 by omega)]
  exact ⟨hg.write hi, by rw [hsz, ← hm.hoff], hsz ▸ hI.2.1, by rw [← hfr], by
    show p + i = p + F ∨ chunk.size = outBytes
    rw [hsz]; exact hI.2.2.imp_left (congrArg _)⟩

theorem fbE8_spec (F outBytes off fr : Nat) (st : St σ) (hm : Mid L₀ F off fr st) :
    wp (fbE8 F outBytes) (FrameOut L₀ outBytes off fr) (postE S Er) st := by
  have hi := hm.inv
  unfold fbE8
  simp only [wp_bind, wp_get, wp_ite, wp_fail_decrunch, implies_true, true_and]
  intro _
  refine ⟨fun hc => ?_, fun _ => ?_⟩
  · obtain ⟨b1, hb1, hs1⟩ := (copyAcross_fits st.window st.framePosn F 0 st.e8Buf).ok
      ⟨by rw [hi.win]; have := hm.fit; omega, by rw [hi.e8]; have := hm.Fle; omega⟩
    simp only [hb1]
    rcases e8Loop_ok (F - 10) st.intelFilesize F 0 (toS32 st.offset) b1
      (by rw [hs1, hi.e8]; have := hm.Fle; omega) with ⟨b2, hb2, hs2⟩ | hh
    · simp only [hb2, wp_bind, wp_set]
      exact fbWrite_spec S L₀ F outBytes off fr st hm b2 (by rw [hs2, hs1]; exact hi.e8) true 0 F (Or.inl ⟨rfl, rfl⟩)
        (Nat.zero_add F).symm
    · simp only [hh, wp_bind, wp_throw_fault]
      exact benign_hang S
  · simp only [wp_set]
    exact fbWrite_spec S L₀ F outBytes off fr st hm st.e8Buf hi.e8 false st.framePosn _ (Or.inr ⟨rfl, rfl⟩) rfl

variable (hL : LenStable S L₀)
include hL

theorem fbAlign_spec (F outBytes off fr : Nat) (st : St σ) (hm : Mid L₀ F off fr st) :
    wp (fbAlign S F outBytes) (FrameOut L₀ outBytes off fr) (postE S Er) st := by
  have tail : ∀ st1 : St σ, SameB L₀ st st1 → wp (fbE8 F outBytes) (FrameOut L₀ outBytes off fr) (postE S Er) st1 :=
    fun st1 h1 => fbE8_spec S L₀ F outBytes off fr st1 (hm.sameB h1)
  unfold fbAlign removeBits
  simp only [wp_bind, wp_get, wp_ite, wp_modify]
  refine ⟨fun _ => ?_, fun _ => ⟨fun _ => tail _ (by same_tac), fun _ => tail _ (SameB.rfl' _ _)⟩⟩
  apply wp.post (ensureBits_spec S L₀ hL 16 3 st)
  rintro _ st1 ⟨h1, _⟩
  exact ⟨fun _ => tail _ (h1.trans (by same_tac)), fun _ => tail _ h1⟩
end

section
variable (S : Src σ) (L₀ : Nat)
variable (hL : LenStable S L₀)
include hL

omit hL in
/-- `frame_size`: either it fits (a whole frame at a frame boundary, or the rest of the declared length), or the
    length was already exceeded and the subtraction wrapped around -/
theorem frameSize_cases (len off fp ws op oe : Nat) (hoff : off < 2147483648) (hws : ws % 32768 = 0) (hfp : fp < ws)
    (al : fp % 32768 = 0 ∨ len ≠ 0 ∧ len ≤ off + (oe - op)) (hp : op = oe) :
    ∀ F, F = (if len ≠ 0 ∧ (len : Int) - off < ((32768 : Nat) : Int) then toU32 ((len : Int) - off) else 32768) →
      (F ≤ 32768 ∧ fp + F ≤ ws ∧ (fp % 32768 = 0 ∧ F = 32768 ∨ len ≠ 0 ∧ len ≤ off + F)) ∨
        (2147483648 ≤ F ∧ F < 4294967296) := by
  intro F hF
  by_cases hc : len ≠ 0 ∧ (len : Int) - off < ((32768 : Nat) : Int)
  · rw [if_pos hc] at hF
    by_cases hlo : off ≤ len
    · rw [toU32_nonneg _ (by omega) (by omega)] at hF; omega
    · rw [toU32_neg _ (by omega) (by omega)] at hF; omega
  · rw [if_neg hc] at hF; omega

omit hL in
theorem frame_check (w p F : Nat) (h1 : p ≤ w) (h2 : w < 4294967296) (h : ¬ toU32 ((w : Int) - p) ≠ F) :
    w = p + F := by
  rw [toU32_nonneg _ (by omega) (by omega)] at h; omega

theorem fbDecode_spec (fuel outBytes off fr : Nat) (st : St σ) (he : Entry L₀ outBytes off fr st) :
    wp (fbDecode S fuel outBytes) (FrameOut L₀ outBytes off fr) (postE S Er) st := by
  have hg := he.good
  have hi := hg.inv
  have hoff31 : st.offset < 2147483648 := he.hoff ▸ Nat.lt_of_le_of_lt (Nat.le_add_right _ _) he.off
  unfold fbDecode
  simp only [wp_bind, wp_get, wp_ite, wp_fail_decrunch, implies_true, true_and,
    show lzxFRAME_SIZE = 32768 from rfl]
  have hFc := frameSize_cases st.length st.offset st.framePosn st.windowSize st.oPtr st.oEnd hoff31 hi.wsDvd
    hg.fpLt hg.align he.pend _ rfl
  generalize (if st.length ≠ 0 ∧ (st.length : Int) - st.offset < ((32768 : Nat) : Int)
        then toU32 ((st.length : Int) - st.offset) else 32768) = F at hFc ⊢
  rw [hg.wpfp, show (st.framePosn : Int) + F - st.framePosn = F by omega]
  have hwl := hi.wsLe
  rcases hFc with ⟨hF, hfit, hal⟩ | ⟨hF1, hF2⟩
  · rw [toS32_eq _ (by omega) (by omega)]
    apply wp.post (blockLoop_spec S L₀ hL fuel F st
      ⟨hi, hoff31, hg.wpfp ▸ Nat.le_of_lt hg.fpLt, fun _ => by rw [hg.wpfp]; omega⟩)
    rintro _ st1 ⟨i1', f1, w1, m1⟩ hchk
    have hwp1 := frame_check _ _ F (by have := f1.framePosn; have := hg.wpfp; omega)
      (by have := f1.windowSize; omega) hchk
    exact fbAlign_spec S L₀ hL F outBytes off fr st1 (Mid.of_fix i1' f1 hfit hF hwp1 he.pend hg.len (he.hoff ▸ hal)
      he.hoff he.hfr (he.hoff ▸ he.hfr ▸ Nat.le_trans (Nat.le_add_right _ _) hg.cnt) he.frm)
  · rw [toS32_big _ (by omega) (by omega)]
    apply wp.post (blockLoop_spec S L₀ hL fuel _ st
      ⟨hi, hoff31, hg.wpfp ▸ Nat.le_of_lt hg.fpLt, fun h => absurd h (by omega)⟩)
    rintro _ st1 ⟨i1', f1, w1, m1⟩ hchk
    have := frame_check _ _ F (by have := f1.framePosn; have := hg.wpfp; omega)
      (by have := f1.windowSize; omega) hchk
    have := f1.windowSize
    omega
end

section
variable (S : Src σ) (L₀ : Nat)
variable (hL : LenStable S L₀)
include hL

theorem fbLen_spec (fuel outBytes off fr : Nat) (st : St σ) (he : Entry L₀ outBytes off fr st) :
    wp (fbLen S fuel outBytes) (FrameOut L₀ outBytes off fr) (postE S Er) st := by
  unfold fbLen
  simp only [wp_bind, wp_get, wp_ite]
  refine ⟨fun _ => ⟨fun _ => ?_, fun _ => fbDecode_spec S L₀ hL fuel outBytes off fr st he⟩,
    fun _ => fbDecode_spec S L₀ hL fuel outBytes off fr st he⟩
  apply wp.post (readInput_spec S L₀ hL st)
  rintro _ st1 ⟨h1, _⟩
  exact fbDecode_spec S L₀ hL fuel outBytes off fr st1 (he.sameB h1)

theorem fbHeader_spec (fuel outBytes off fr : Nat) (st : St σ) (he : Entry L₀ outBytes off fr st) :
    wp (fbHeader S fuel outBytes) (FrameOut L₀ outBytes off fr) (postE S Er) st := by
  have tail : ∀ (v : Int) (st1 : St σ), SameB L₀ st st1 →
      wp (fbLen S fuel outBytes) (FrameOut L₀ outBytes off fr)
        (postE S Er) { st1 with intelFilesize := v, headerRead := true } := by
    intro v st1 h1
    have h2 : Fix L₀ st { st1 with intelFilesize := v, headerRead := true } := h1.toFix.trans (by same_tac)
    exact fbLen_spec S L₀ hL fuel outBytes off fr _ (he.step h2 h1.windowPosn (by
        show ∀ c, st1.maintreeTbl = some c → CanonBd c 2576
        rw [h1.maintreeTbl]; exact he.good.inv.tbl))
  unfold fbHeader
  simp only [wp_bind, wp_get, wp_ite, wp_pure, wp_modify]
  refine ⟨fun _ => ?_, fun _ => fbLen_spec S L₀ hL fuel outBytes off fr st he⟩
  apply wp.post (readBits_spec S L₀ hL 1 st)
  rintro i st1 ⟨h1, _⟩
  refine ⟨fun _ => ?_, fun _ => tail _ st1 h1⟩
  apply wp.post (readBits_spec S L₀ hL 16 st1)
  rintro i' st2 ⟨h2, _⟩
  apply wp.post (readBits_spec S L₀ hL 16 st2)
  rintro j st3 ⟨h3, _⟩
  exact tail _ st3 ((h1.trans h2).trans h3)

theorem fbDelta_spec (fuel outBytes off fr : Nat) (st : St σ) (he : Entry L₀ outBytes off fr st) :
    wp (fbDelta S fuel outBytes) (FrameOut L₀ outBytes off fr) (postE S Er) st := by
  unfold fbDelta removeBits
  simp only [wp_bind, wp_get, wp_ite, wp_modify]
  refine ⟨fun _ => ?_, fun _ => fbHeader_spec S L₀ hL fuel outBytes off fr st he⟩
  apply wp.post (ensureBits_spec S L₀ hL 16 3 st)
  rintro _ st1 ⟨h1, _⟩
  exact fbHeader_spec S L₀ hL fuel outBytes off fr _ (he.sameB (h1.trans (by same_tac)))

theorem frameBody_spec (fuel outBytes off fr : Nat) (st : St σ) (he : Entry L₀ outBytes off fr st) :
    wp (frameBody S fuel outBytes) (FrameOut L₀ outBytes off fr) (postE S Er) st := by
  rw [frameBody_eq]
  simp only [wp_bind, wp_get, wp_ite, wp_modify]
  exact ⟨fun _ => fbDelta_spec S L₀ hL fuel outBytes off fr _ (he.step (resetState_fix L₀ st) rfl he.good.inv.tbl),
    fun _ => fbDelta_spec S L₀ hL fuel outBytes off fr st he⟩
end

def LzxInv (L₀ : Nat) (st : St σ) : Prop := st.error ≠ .ok ∨ Good L₀ st

/-- callers pass `offset + out_bytes` of the request as `C`: the 2 GiB premise of the next call follows -/
def Res (S : Src σ) (L₀ C : Nat) : Except Fault (DecodeOut (St σ)) → Prop
  | .error f => Benign S f
  | .ok o => o.st.error ≠ .ok ∨ (Good L₀ o.st ∧ o.st.offset ≤ C)

section
variable (S : Src σ) (L₀ : Nat)
variable (hL : LenStable S L₀)
include hL

theorem frameLoop_spec (fuel endFrame C : Nat) : ∀ (n : Nat) (st : St σ) (outBytes : Nat) (acc : Array UInt8),
    Good L₀ st → (st.oPtr = st.oEnd ∨ outBytes = 0) → st.offset + outBytes < 2147483648 →
    endFrame = (st.offset + outBytes) / 32768 + 1 → st.offset + outBytes ≤ C →
    Res S L₀ C (frameLoop S fuel endFrame n st outBytes acc)
  | 0, st, outBytes, acc, hg, _, _, _, hC => by
    rw [frameLoop]
    split
    · exact benign_hang S
    · split
      · exact Or.inl (by simp)
      · exact Or.inr ⟨hg, by dsimp only; omega⟩
  | n + 1, st, outBytes, acc, hg, hp, ho, he, hC => by
    rw [frameLoop]
    split
    · rename_i hlt
      have g3 := hg.outLe; have g6 := hg.cnt
      have hentry : Entry L₀ outBytes st.offset st.frame st :=
        { good := hg, pend := by omega, hoff := rfl, hfr := rfl, off := ho, frm := by omega }
      have hfb := frameBody_spec S L₀ hL fuel outBytes _ _ st hentry
      rcases hr : (frameBody S fuel outBytes).run.run st with ⟨r, st'⟩
      cases r with
      | error e =>
        cases e with
        | sys e => exact Or.inl (hfb.error hr)
        | fault f => exact hfb.error hr
      | ok chunk =>
        obtain ⟨hg', ho', hc', hf', hp'⟩ := hfb.ok hr
        exact frameLoop_spec fuel endFrame C n st' (outBytes - chunk.size) (acc ++ chunk) hg'
          (by omega) (by omega) (by rw [he, ho']; congr 2; omega) (by omega)
    · split
      · exact Or.inl (by simp)
      · exact Or.inr ⟨hg, by dsimp only; omega⟩

theorem decompress_spec (fuel : Nat) (st : St σ) (outBytes : Nat) (hinv : LzxInv L₀ st)
    (ho : st.offset + outBytes < 2147483648) :
    Res S L₀ (st.offset + outBytes) (decompress S fuel st outBytes) := by
  unfold decompress
  split
  · rename_i he; exact Or.inl he
  · rename_i he
    have hg : Good L₀ st := hinv.resolve_left he
    have g3 := hg.outLe
    have hI : st.oPtr + min (st.oEnd - st.oPtr) outBytes ≤ st.oEnd ∧ min (st.oEnd - st.oPtr) outBytes ≤ outBytes ∧
        (st.oPtr + min (st.oEnd - st.oPtr) outBytes = st.oEnd ∨ outBytes - min (st.oEnd - st.oPtr) outBytes = 0) := by
      omega
    generalize min (st.oEnd - st.oPtr) outBytes = i at hI ⊢
    obtain ⟨hi1, hi2, hi3⟩ := hI
    obtain ⟨chunk, hc, -⟩ := hg.outSlice hi1
    simp only [hc]
    have hg1 := hg.write hi1
    split
    · exact Or.inr ⟨hg1, by dsimp only; omega⟩
    · have hx : (st.offset + i + (outBytes - i)) / 32768 < 65536 := Nat.div_lt_of_lt_mul (by omega)
      rw [show lzxFRAME_SIZE = 32768 from rfl, Nat.mod_eq_of_lt (Nat.lt_trans hx (by decide)),
        Nat.mod_eq_of_lt (by omega)]
      exact frameLoop_spec S L₀ hL fuel _ _ _ _ _ _ hg1 hi3 (by dsimp only; omega) rfl (by dsimp only; omega)
end

theorem lens_size (cleared dim : Nat) (fill : UInt8) (h : cleared ≤ dim) :
    (Array.replicate cleared (0 : UInt8) ++ Array.replicate (dim - cleared) fill).size = dim := by
  rw [Array.size_append, Array.size_replicate, Array.size_replicate]; omega

theorem pow_facts (wb : Nat) (h1 : 15 ≤ wb) (h2 : wb ≤ 25) :
    2 ^ wb ≤ 33554432 ∧ 2 ^ wb % 32768 = 0 ∧ 0 < 2 ^ wb := by
  have : wb = 15 ∨ wb = 16 ∨ wb = 17 ∨ wb = 18 ∨ wb = 19 ∨ wb = 20 ∨ wb = 21 ∨ wb = 22 ∨ wb = 23 ∨ wb = 24 ∨
      wb = 25 := by omega
  rcases this with h | h | h | h | h | h | h | h | h | h | h <;> subst h <;> decide

theorem slots_le (k slots : Nat) (h : lzxPositionSlots[k]? = some slots) : slots * 8 ≤ 2320 := by
  have hk : k < 11 ∨ 11 ≤ k := by omega
  rcases hk with hk | hk
  · have : k = 0 ∨ k = 1 ∨ k = 2 ∨ k = 3 ∨ k = 4 ∨ k = 5 ∨ k = 6 ∨ k = 7 ∨ k = 8 ∨ k = 9 ∨ k = 10 := by omega
    rcases this with e | e | e | e | e | e | e | e | e | e | e <;> subst e <;>
      simp only [lzxPositionSlots, List.getElem?_cons_zero, List.getElem?_cons_succ, Option.some.injEq] at h <;>
      omega
  · have : lzxPositionSlots[k]? = none := by
      rw [List.getElem?_eq_none]; simp only [lzxPositionSlots, List.length_cons, List.length_nil]; omega
    rw [this] at h; contradiction

theorem init_good (src : σ) (windowBits resetInterval inputBufferSize outputLength : Nat) (isDelta : Bool)
    (fill : UInt8) (st : St σ) (L₀ : Nat) (hl : outputLength = 0 ∨ outputLength = L₀)
    (h : init src windowBits resetInterval inputBufferSize outputLength isDelta fill = some st) : Good L₀ st := by
  unfold init at h
  cases isDelta
  all_goals
    simp only [Bool.false_eq_true, if_false, if_true] at h
    split at h
    · contradiction
    · rename_i hbits
      split at h
      · contradiction
      · split at h
        · contradiction
        · rename_i slots hslots
          simp only [Option.some.injEq] at h
          have hwb : 15 ≤ windowBits ∧ windowBits ≤ 25 := by
            simp only [Bool.not_eq_true', decide_eq_false_iff_not, Classical.not_not] at hbits
            omega
          obtain ⟨p1, p2, p3⟩ := pow_facts windowBits hwb.1 hwb.2
          subst h
          exact
            { inv :=
                { win := by simp only [Array.size_replicate]
                  wsLe := p1, wsDvd := p2, wsPos := p3
                  pre := lens_size _ _ _ (by decide)
                  main := lens_size _ _ _ (by decide)
                  len := lens_size _ _ _ (by decide)
                  ali := lens_size _ _ _ (by decide)
                  e8 := by simp only [Array.size_replicate]; rfl
                  nOff := slots_le _ _ hslots
                  ref := Nat.zero_le _
                  tbl := by intro c hc; simp only at hc; contradiction }
              wpfp := rfl
              fpLt := p3
              outLe := Nat.le_refl _
              outSz := Nat.zero_le _
              len := hl
              align := Or.inl rfl
              cnt := by simp }

theorem init_offset (src : σ) (windowBits resetInterval inputBufferSize outputLength : Nat) (isDelta : Bool)
    (fill : UInt8) (st : St σ)
    (h : init src windowBits resetInterval inputBufferSize outputLength isDelta fill = some st) : st.offset = 0 :=
  (init_fields h).2.2.2.2.2.2

theorem init_inv (src : σ) (windowBits resetInterval inputBufferSize outputLength : Nat) (isDelta : Bool)
    (fill : UInt8) (st : St σ) (L₀ : Nat) (hl : outputLength = 0 ∨ outputLength = L₀)
    (h : init src windowBits resetInterval inputBufferSize outputLength isDelta fill = some st) : LzxInv L₀ st :=
  Or.inr (init_good src windowBits resetInterval inputBufferSize outputLength isDelta fill st L₀ hl h)

theorem setReferenceData_error (st : St σ) (length : Nat) (ref : Option Bytes) :
    (setReferenceData st length ref).2.error = st.error := by
  obtain ⟨n, w, h⟩ := setReferenceData_shape st length ref
  rw [h]

theorem setReferenceData_inv (L₀ : Nat) (st : St σ) (length : Nat) (ref : Option Bytes) (h : LzxInv L₀ st) :
    LzxInv L₀ (setReferenceData st length ref).2 := by
  rcases h with h | hg
  · left
    rw [setReferenceData_error]; exact h
  · have hi := hg.inv
    have key : ∀ (n : Nat) (w : Array UInt8), n ≤ st.windowSize → w.size = st.windowSize →
        LzxInv L₀ { ({ st with refDataSize := n } : St σ) with window := w } := by
      intro n w hn hw
      exact Or.inr
        { inv := Inv0.mk hw hi.wsLe hi.wsDvd hi.wsPos hi.pre hi.main hi.len hi.ali hi.e8 hi.nOff hn hi.tbl
          wpfp := hg.wpfp, fpLt := hg.fpLt, outLe := hg.outLe, outSz := hg.outSz, len := hg.len,
          align := hg.align, cnt := hg.cnt }
    unfold setReferenceData
    by_cases h1 : (!st.isDelta) = true
    · rw [if_pos h1]; exact Or.inr hg
    rw [if_neg h1]
    by_cases h2 : st.offset ≠ 0
    · rw [if_pos h2]; exact Or.inr hg
    rw [if_neg h2]
    by_cases h3 : length > st.windowSize
    · rw [if_pos h3]; exact Or.inr hg
    rw [if_neg h3]
    have hle : length ≤ st.windowSize := Nat.le_of_not_gt h3
    dsimp only
    by_cases h4 : length = 0
    · rw [if_pos h4]; exact key length st.window hle hi.win
    rw [if_neg h4]
    cases ref with
    | none => exact key length st.window hle hi.win
    | some bytes =>
      obtain ⟨w', hw, hsz⟩ := (writeBytes_fits (List.take length bytes) (st.windowSize - length) st.window).ok
        (by rw [hi.win]; simp only [List.length_take]; omega)
      simp only [hw]
      split <;> exact key length w' hle (by rw [hsz]; exact hi.win)

end MsPack.Lzx
