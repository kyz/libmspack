import Proofs.Lemmas.SzddApiLedger
import MsPack.Kwaj.Api
/-
Ledger effect of the KWAJ API functions (model `MsPack/Kwaj/Api.lean`): every path of
`readHeaders`, `open`, `close`, `extract` (all five methods), `decompress`, under any fault plan,
for any file contents, and for any pair of bit-level decoder bodies that satisfy the frame law.
-/
namespace MsPack.Kwaj.Api
open MsPack.Sys
open MsPack.Szdd.Api (Frame lzss_spec)
open MsPack.Oab.Api (Plus)

def Keeps (v : View) {α} (x : M α) : Prop := ∀ w : World, w.view = v → (x w).2.view = v

theorem Keeps.seekStart {v : View} (hv : v.ok) (fh off : Nat) (h : (fh, Mode.read) ∈ v.handles) :
    Keeps v (seekStart fh off) :=
  fun w hw => by subst hw; exact seekStart_live_view w hv fh off .read h

/-- from view `v`: the optional blocks `fn` (first) and `ex` (second) were allocated, nothing else
    changed -/
structure Held (v : View) (fn ex : Option Nat) (w' : World) : Prop where
  allocs  : w'.view.allocs = ex.toList ++ (fn.toList ++ v.allocs)
  handles : w'.view.handles = v.handles
  misuse  : w'.view.misuse = v.misuse
  nextId  : v.nextId ≤ w'.view.nextId
  ok      : w'.view.ok

/-- what `open` leaves behind when it returns a header: the header block, the optional name and
    extra-text blocks, and one read handle, the handle's id fresh -/
structure Opened (v : View) (hd : Hdr) (w' : World) : Prop where
  fresh   : v.nextId ≤ hd.fh
  allocs  : w'.view.allocs = hd.f.extra.toList ++ (hd.f.filename.toList ++ hd.mem :: v.allocs)
  handles : w'.view.handles = (hd.fh, Mode.read) :: v.handles
  misuse  : w'.view.misuse = v.misuse
  ok      : w'.view.ok

/-- the frame law of a bit-level decoder body: run with a live input handle and a live output
    handle, it leaves live blocks, live handles and the misuse record as they were (it only calls
    `read` on the first and `write` on the second, or balances whatever else it does) -/
def FrameLaw (body : Nat → Nat → M Err) : Prop :=
  ∀ (inFh outFh : Nat) (w : World), w.view.ok →
    (inFh, Mode.read) ∈ w.view.handles → (outFh, Mode.write) ∈ w.view.handles →
    Frame w.view (body inFh outFh w).2

structure Decoders.Lawful (d : Decoders) : Prop where
  lzh   : FrameLaw d.lzh
  mszip : FrameLaw d.mszip

section
variable {v : View} {bl : List Nat} {hs : List (Nat × Mode)}

theorem FrameLaw.pres {body : Nat → Nat → M Err} (hb : FrameLaw body) {inFh outFh : Nat}
    (hin : (inFh, Mode.read) ∈ hs ++ v.handles) (hout : (outFh, Mode.write) ∈ hs ++ v.handles) :
    Pres (Plus v bl hs) (body inFh outFh) :=
  fun w p => p.step (hb inFh outFh w p.ok (p.mem_handles hin) (p.mem_handles hout))

/-! ## `kwajd_read_headers`: whatever family of predicates its system calls keep, it keeps -/

section walk
variable {P : List Nat → World → Prop} {fh : Nat}

theorem readOptLength_walk (headers : Nat) (hP : Stable fh P) : Pres (P bl) (readOptLength fh headers) :=
  .ite (fun _ => .bind (hP.read _ 4) fun
    | none => .pure fun _ p => p
    | some _ => .ite (fun _ => .pure fun _ p => p) fun _ => .pure fun _ p => p) fun _ => .pure fun _ p => p

theorem skipUnknown1_walk (headers : Nat) (hP : Stable fh P) : Pres (P bl) (skipUnknown1 fh headers) :=
  .ite (fun _ => .bind (hP.read _ 2) fun
    | none => .pure fun _ p => p
    | some _ => .ite (fun _ => .pure fun _ p => p) fun _ => .pure fun _ p => p) fun _ => .pure fun _ p => p

theorem skipUnknown2_walk (headers : Nat) (hP : Stable fh P) : Pres (P bl) (skipUnknown2 fh headers) :=
  .ite (fun _ => .bind (hP.read _ 2) fun
    | none => .pure fun _ p => p
    | some _ => .ite (fun _ => .pure fun _ p => p) fun _ => .bind (hP.seekCur _ _) fun _ =>
        .ite (fun _ => .pure fun _ p => p) fun _ => .pure fun _ p => p) fun _ => .pure fun _ p => p

theorem namePartIf_walk (c : Bool) (maxLen : Nat) (st : Array UInt8 × Nat) (hP : Stable fh P) :
    Pres (P bl) (namePartIf c fh maxLen st) :=
  .ite (fun _ => .bind (hP.read _ maxLen) fun
    | none => .pure fun _ p => p
    | some _ => .ite (fun _ => .pure fun _ p => p) fun _ => .ite (fun _ => .pure fun _ p => p) fun _ =>
        .bind (hP.seekCur _ _) fun _ => .ite (fun _ => .pure fun _ p => p) fun _ => .pure fun _ p => p)
    fun _ => .pure fun _ p => p

theorem nameFields_walk (headers : Nat) (hP : Stable fh P) : Pres (P bl) (nameFields fh headers) :=
  .bind (namePartIf_walk _ 9 _ hP) fun _ => .ite (fun _ => .pure fun _ p => p) fun _ =>
    .bind (namePartIf_walk _ 4 _ hP) fun _ => .ite (fun _ => .pure fun _ p => p) fun _ => .pure fun _ p => p

theorem readNames_walk (headers : Nat) (hP : Stable fh P) :
    Hoare (P bl) (readNames fh headers) (fun r => P (r.2.1.toList ++ bl)) :=
  .ite (fun _ => .bind (hP.alloc _) fun
    | none => .pure fun _ p => p
    | some _ => .bind (nameFields_walk headers hP) fun _ => .pure fun _ p => p) fun _ => .pure fun _ p => p

theorem readExtra_walk (headers : Nat) (hP : Stable fh P) :
    Hoare (P bl) (readExtra fh headers) (fun r => P (r.2.1.toList ++ bl)) :=
  .ite (fun _ => .bind (hP.read _ 2) fun
    | none => .pure fun _ p => p
    | some _ => .ite (fun _ => .pure fun _ p => p) fun _ => .bind (hP.alloc _) fun
      | none => .pure fun _ p => p
      | some _ => .bind (hP.read _ _) fun
        | none => .pure fun _ p => p
        | some _ => .ite (fun _ => .pure fun _ p => p) fun _ => .pure fun _ p => p) fun _ => .pure fun _ p => p

theorem readOptional_walk (ct off headers : Nat) (hP : Stable fh P) :
    Hoare (P bl) (readOptional fh ct off headers)
      (fun r => P (r.2.extra.toList ++ (r.2.filename.toList ++ bl))) :=
  .bind (readOptLength_walk headers hP) fun _ => .ite (fun _ => .pure fun _ p => p) fun _ =>
  .bind (skipUnknown1_walk headers hP) fun _ => .ite (fun _ => .pure fun _ p => p) fun _ =>
  .bind (skipUnknown2_walk headers hP) fun _ => .ite (fun _ => .pure fun _ p => p) fun _ =>
  .bind (readNames_walk headers hP) fun _ => .ite (fun _ => .pure fun _ p => p) fun _ =>
  .bind (readExtra_walk headers hP) fun _ => .pure fun _ p => p

/-- `kwajd_read_headers`: whatever it returns, the ledger has grown by exactly the blocks it left
    in `hdr->filename` and `hdr->extra` -/
theorem readHeaders_walk (hP : Stable fh P) :
    Hoare (P bl) (readHeaders fh) (fun r => P (r.2.extra.toList ++ (r.2.filename.toList ++ bl))) :=
  .bind (hP.read _ _) fun
    | none => .pure fun _ p => p
    | some _ => .ite (fun _ => .pure fun _ p => p) fun _ => .ite (fun _ => .pure fun _ p => p) fun _ =>
        readOptional_walk _ _ _ hP

end walk

theorem close_spec (i : Inst) (hd : Hdr) :
    Hoare (Plus v (hd.f.extra.toList ++ (hd.f.filename.toList ++ hd.mem :: bl)) ((hd.fh, Mode.read) :: hs))
      (close_ i hd) (fun _ => Plus v bl hs) :=
  .bind (Plus.close hd.fh .read) fun _ => .bind (Plus.free_under _ _) fun _ => .bind (Plus.free _) fun _ =>
    .bind (Plus.free1 hd.mem) fun _ => .pure fun _ p => p

theorem open_spec (i : Inst) (name : String) :
    Hoare (Plus v bl hs) (open_ i name) fun r w' =>
      match r.2 with
      | none => Plus v bl hs w'
      | some hd => v.nextId ≤ hd.fh ∧
          Plus v (hd.f.extra.toList ++ (hd.f.filename.toList ++ hd.mem :: bl)) ((hd.fh, Mode.read) :: hs) w' :=
  .bind (Plus.open_fresh name .read) fun fh => .assume fun hf =>
    match fh with
    | none => .pure fun _ p => p
    | some fh => .bind Plus.alloc fun
      | none => .bind (Plus.close fh .read) fun _ => .pure fun _ p => p
      | some mem => .bind (readHeaders_walk (Plus.stable (List.mem_cons_self ..))) fun r =>
          .ite (fun _ => .bind (close_spec i ⟨mem, fh, r.2⟩) fun _ => .pure fun _ p => p) fun _ =>
            .pure fun _ p => ⟨hf fh rfl, p⟩

theorem copyLoop_spec {inFh outFh : Nat} (xor : Bool) (hin : (inFh, Mode.read) ∈ hs ++ v.handles)
    (hout : (outFh, Mode.write) ∈ hs ++ v.handles) :
    ∀ fuel, Pres (Plus v bl hs) (copyLoop inFh outFh xor fuel)
  | 0 => .pure fun _ p => p
  | fuel + 1 => .bind (Plus.read _ hin) fun
    | none => .pure fun _ p => p
    | some _ => .ite (fun _ => .pure fun _ p => p) fun _ => .bind (Plus.write _ hout) fun
      | none => .pure fun _ p => p
      | some _ => .ite (fun _ => .pure fun _ p => p) fun _ => copyLoop_spec xor hin hout fuel

variable {inFh outFh : Nat}

theorem stored_spec (xor : Bool) (fuel : Nat) (hin : (inFh, Mode.read) ∈ hs ++ v.handles)
    (hout : (outFh, Mode.write) ∈ hs ++ v.handles) :
    Hoare (Plus v bl hs) (stored inFh outFh xor fuel) (Ret (Plus v bl hs)) :=
  .bind Plus.alloc fun
    | none => .pure fun _ p => p
    | some buf => .bindRet (copyLoop_spec xor hin hout fuel).retV_of_pres fun _ =>
        .bind (Plus.free1 buf) fun _ => .pure fun _ p => p

theorem lzh_spec (d : Decoders) (hd : FrameLaw d.lzh) (hin : (inFh, Mode.read) ∈ hs ++ v.handles)
    (hout : (outFh, Mode.write) ∈ hs ++ v.handles) : Pres (Plus v bl hs) (lzh d inFh outFh) :=
  .bind Plus.alloc fun
    | none => .pure fun _ p => p
    | some s => .bind (hd.pres hin hout) fun _ => .bind (Plus.free1 s) fun _ => .pure fun _ p => p

theorem mszip_spec (d : Decoders) (hd : FrameLaw d.mszip) (hin : (inFh, Mode.read) ∈ hs ++ v.handles)
    (hout : (outFh, Mode.write) ∈ hs ++ v.handles) : Pres (Plus v bl hs) (mszip d inFh outFh) :=
  .bind Plus.alloc fun
    | none => .pure fun _ p => p
    | some z => .bind Plus.alloc fun
      | none => .bind (Plus.free1 z) fun _ => .pure fun _ p => p
      | some b => .bind (hd.pres hin hout) fun _ => .bind (Plus.free1 b) fun _ => .bind (Plus.free1 z) fun _ =>
          .pure fun _ p => p

theorem method_spec (d : Decoders) (hd : d.Lawful) (ct fuel : Nat) (hin : (inFh, Mode.read) ∈ hs ++ v.handles)
    (hout : (outFh, Mode.write) ∈ hs ++ v.handles) :
    Hoare (Plus v bl hs) (method d ct inFh outFh fuel) (Ret (Plus v bl hs)) :=
  .ite (fun _ => stored_spec _ fuel hin hout) fun _ => .ite (fun _ => lzss_spec _ true fuel hin hout) fun _ =>
  .ite (fun _ => .bind (lzh_spec d hd.lzh hin hout) fun _ => .pure fun _ p => p) fun _ =>
  .ite (fun _ => .bind (mszip_spec d hd.mszip hin hout) fun _ => .pure fun _ p => p) fun _ => .pure fun _ p => p

theorem extract_spec (d : Decoders) (hd' : d.Lawful) (i : Inst) (hd : Hdr) (out : String) (fuel : Nat)
    (h : (hd.fh, Mode.read) ∈ hs ++ v.handles) :
    Hoare (Plus v bl hs) (extract d i hd out fuel) (Ret (Plus v bl hs)) :=
  .bind (Plus.seekStart _ h) fun _ => .ite (fun _ => .pure fun _ p => p) fun _ =>
  .bind (Plus.open_ out .write) fun
    | none => .pure fun _ p => p
    | some o => .bindRet (method_spec d hd' _ fuel (List.mem_cons_of_mem _ h) (List.mem_cons_self ..)).retV fun _ =>
        .bind (Plus.close o .write) fun _ => .pure fun _ p => p

theorem decompress_spec (d : Decoders) (hd' : d.Lawful) (i : Inst) (input output : String) (fuel : Nat) :
    Hoare (Plus v bl hs) (decompress d i input output fuel) (Ret (Plus v bl hs)) :=
  .bind (open_spec i input) fun
    | (_, none) => .pure fun _ p => p
    | (i1, some hd) =>
      .bindRet ((extract_spec d hd' i1 hd output fuel (List.mem_cons_self ..)).pre fun _ p => p.2).retV fun r2 =>
        .bind (close_spec r2.1 hd) fun _ => .pure fun _ p => p

theorem extracts_spec (d : Decoders) (hd' : d.Lawful) (hd : Hdr) (fuel : Nat) (h : (hd.fh, Mode.read) ∈ hs ++ v.handles) :
    ∀ (outs : List String) (i : Inst), Hoare (Plus v bl hs) (extracts d hd fuel outs i) (Ret (Plus v bl hs))
  | [], _ => .pure fun _ p => p
  | o :: os, i => .bindRet (extract_spec d hd' i hd o fuel h).retV fun r => extracts_spec d hd' hd fuel h os r.1

theorem runOp_spec (d : Decoders) (hd' : d.Lawful) (fuel : Nat) (i : Inst) (op : Op) :
    Hoare (Plus v bl hs) (runOp d fuel i op) (Ret (Plus v bl hs)) :=
  match op with
  | .decompress a b => .bindRet (decompress_spec d hd' i a b fuel).retV fun _ => .pure fun _ p => p
  | .session a outs => .bind (open_spec i a) fun
    | (_, none) => .pure fun _ p => p
    | (i1, some hd) =>
      .bindRet ((extracts_spec d hd' hd fuel (List.mem_cons_self ..) outs i1).pre fun _ p => p.2).retV fun i2 =>
        .bind (close_spec i2 hd) fun _ => .pure fun _ p => p

theorem runOps_spec (d : Decoders) (hd' : d.Lawful) (fuel : Nat) : ∀ (ops : List Op) (i : Inst),
    Hoare (Plus v bl hs) (runOps d fuel ops i) (Ret (Plus v bl hs))
  | [], _ => .pure fun _ p => p
  | op :: ops, i => .bindRet (runOp_spec d hd' fuel i op).retV fun i1 => runOps_spec d hd' fuel ops i1

theorem create_spec : Hoare (Plus v bl hs) create (fun r => Plus v ((r.map (·.self)).toList ++ bl) hs) :=
  .bind Plus.alloc fun | none => .pure fun _ p => p | some _ => .pure fun _ p => p

theorem program_spec (d : Decoders) (hd' : d.Lawful) (fuel : Nat) (ops : List Op) :
    Hoare (Plus v bl hs) (program d fuel ops) (Ret (Plus v bl hs)) :=
  .bind create_spec fun
    | none => .pure fun _ p => p
    | some i0 => .bindRet (runOps_spec d hd' fuel ops i0).retV fun _ =>
        .bind (Plus.free1 i0.self) fun _ => .pure fun _ p => p

end

theorem readHeaders_held {v : View} (hv : v.ok) {fh : Nat} (h : (fh, Mode.read) ∈ v.handles) :
    Hoare (·.view = v) (readHeaders fh) (fun r => Held v r.2.filename r.2.extra) :=
  ((readHeaders_walk (bl := []) (Plus.stable (hs := []) h)).pre fun _ hw => Plus.of_view_eq hv hw).post fun r _ p =>
    ⟨by rw [p.allocs, List.append_nil, List.append_assoc], p.handles, p.misuse, p.nextId, p.ok⟩

theorem open_opened {v : View} (hv : v.ok) (i : Inst) (name : String) :
    Hoare (·.view = v) (open_ i name) fun r w' =>
      match r.2 with
      | none => Frame v w'
      | some hd => Opened v hd w' := by
  refine ((open_spec i name).pre fun _ hw => Plus.of_view_eq hv hw).post fun r w' => ?_
  cases r.2 with
  | none => exact fun p => p.frame
  | some hd =>
    exact fun p => ⟨p.1, by rw [p.2.allocs, List.append_assoc, List.append_assoc]; rfl, p.2.handles, p.2.misuse, p.2.ok⟩

end MsPack.Kwaj.Api
