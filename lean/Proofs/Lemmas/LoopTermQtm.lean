import Proofs.Lemmas.QtmSpec
import Proofs.Lemmas.QtmPieces
/-!
# Quantum: one walk over `qtmd_decompress` for memory safety (C02) and for termination (C04)

`Inv S T r0 op oe ob p ws ft r` is what holds of the running decoder at every point of `body`; the walk
(`decompress_walk`) shows that it is kept, that a status-code exit satisfies `EK` and a fault `AK S T`.  `T : Prop`
switches the termination half on: with `T := False` the walk holds for every source, fuel and request and is memory
safety (`decompress_ok`); with `T := True` it assumes a finite source,
`Sync`, `17 ≤ fuel`, `avail < 8 * fuel` and a request below `2^32 - 2^21` and also shows that no fault is `hang`
(`decompress_left`).  The reading and coder layers enter through their specifications (`QtmSpec.lean`).

Why the loops end (`MsPack/Qtm/Decoder.lean`):
* `renorm`, `trailerScan` (on the caller's `fuel`): see `QtmSpec.lean`; `avail < 8 * fuel` is for the second.
* `ensureBits` (3), `readManyLoop` (`needed`), the model loops (`entries`): fixed bounds.
* `symbolLoop` (`frame_end - window_posn`): every symbol advances `window_posn`.
* `blockLoop` (`2 * out_bytes + 4`): with `o_ptr ≤ o_end = window_posn ≤ window_size`, `1 ≤ frame_todo ≤ 32768` and
  `out_bytes + 2^21 < 2^32` every round lowers `2 * (out_bytes - (o_end - o_ptr)) + [window_posn = window_size]`.
  `Proofs/Props/C04Qtm.lean` shows that the second group (`Sync`) and the bound on `out_bytes` cannot be dropped.
-/
namespace QtmTerm
open MsPack MsPack.Qtm


structure NoHang {α : Type} (x : Except Fault α) : Prop where
  ne : x ≠ .error .hang

theorem NoHang.pure {α : Type} (a : α) : NoHang (pure a : Except Fault α) := ⟨by simp [Pure.pure, Except.pure]⟩


/-- the loop bound of `blockLoop`: while bytes are still to decode, `2 ×` their number `+ k` rounds are left, where
    `k = 1` at a loop head that stands at the window's end (that round only wraps) and `k = 0` otherwise -/
def Mu (op oe ob k n : Nat) : Prop :=
  oe - op < ob → 2 * (ob - (oe - op)) + k ≤ n

theorem Mu.done {op oe ob k : Nat} (h : Mu op oe ob k 0) : ob ≤ oe - op :=
  Nat.le_of_not_lt fun hc => by have := h hc; omega

theorem Mu.step {op ob p ws n q : Nat} (h : Mu op p ob (if p = ws then 1 else 0) (n + 1)) (hop : op ≤ p)
    (hq : p ≤ q) (hadv : p < ws → p < q) (hp : p ≤ ws) : Mu op q ob 0 n := by
  intro hc
  have := h (by omega)
  split at this <;> omega

theorem Mu.stepWrap {op ob p ws n q : Nat} (h : Mu op p ob (if p = ws then 1 else 0) (n + 1)) (hop : op ≤ p)
    (hp : p ≤ ws) (hob : ws - op ≤ ob) : Mu 0 q (ob - (ws - op)) 0 n := by
  intro hc
  have := h (by omega)
  split at this <;> omega

theorem Mu.wrap {op ob p ws n : Nat} (h : Mu op p ob 0 n) (hws : 0 < ws) :
    Mu 0 0 (ob - (p - op)) (if 0 = ws then 1 else 0) n := by
  intro hc
  have := h (by omega)
  split <;> omega

theorem Mu.keep {op ob p ws n : Nat} (h : Mu op p ob 0 n) (hp : p ≠ ws) : Mu op p ob (if p = ws then 1 else 0) n := by
  rw [if_neg hp]; exact h

theorem frameEnd_facts (p ob d ft ws : Nat) (hp : p ≤ ws) (hws : ws ≤ 2097152) (hft1 : 1 ≤ ft) (hft2 : ft ≤ 32768)
    (hd : d < ob) (hob : ob + 2097152 < 4294967296) :
    let fe1 := (p + (ob - d)) % u32
    let fe2 := if (p + ft) % u32 < fe1 then (p + ft) % u32 else fe1
    let fe3 := if fe2 > ws then ws else fe2
    fe3 ≤ ws ∧ p ≤ fe3 ∧ (p < ws → p < fe3) := by
  intro fe1 fe2 fe3
  have e1 : fe1 = p + (ob - d) := Nat.mod_eq_of_lt (by rw [u32_eq]; omega)
  have e2 : (p + ft) % u32 = p + ft := Nat.mod_eq_of_lt (by rw [u32_eq]; omega)
  have e3 : fe2 = if p + ft < p + (ob - d) then p + ft else p + (ob - d) := by simp only [fe2, e2, e1]
  have e4 : fe3 = if fe2 > ws then ws else fe2 := rfl
  clear_value fe1 fe2 fe3
  rw [e4, e3]
  split <;> split <;> omega

/-- what the reading `T` adds at a point of the block loop, in terms of the named values (with `o_end = window_posn`):
    `Sync`, with `lo ≤ frame_todo` (the counter is 0 between a frame's last symbol and its trailer); the bound on the
    request that keeps `frame_end` from wrapping in `unsigned int`; the loop bound -/
structure Blk (op ob p lo ft k n : Nat) : Prop where
  hop : op ≤ p
  hob : ob + 2097152 < 4294967296
  hft : lo ≤ ft ∧ ft ≤ 32768
  mu : Mu op p ob k n

variable {σ : Type}

/-- what `qtmd_decompress` keeps between calls besides `StInv`, as long as no call has failed -/
structure Sync (st : St σ) : Prop where
  optr : st.oPtr ≤ st.oEnd
  oend : st.oEnd = st.windowPosn
  ftLo : 1 ≤ st.frameTodo
  ftHi : st.frameTodo ≤ 32768

def stAvail (rem : σ → Nat) (st : St σ) : Nat :=
  st.bitsLeft + 8 * st.inbuf.length + 8 * rem st.src + (if st.inputEnd then 0 else 16)

theorem avail_eq_stAvail (rem : σ → Nat) (r : Run σ) :
    avail rem r = stAvail rem { r.st with inbuf := r.inbuf, bitsLeft := r.bitsLeft } := rfl

end QtmTerm

namespace MsPack.Qtm
open MsPack.Generated QtmTerm

variable {σ : Type} {S : Src σ} {rem : σ → Nat} {T : Prop}

/-- the values the loop bounds depend on are parameters, so that a postcondition can say which of them moved -/
structure Inv (S : Src σ) (T : Prop) (r0 : Run σ) (op oe ob p ws ft : Nat) (r : Run σ) : Prop where
  op : r.st.oPtr = op
  oe : r.st.oEnd = oe
  ob : r.outBytes = ob
  p  : r.windowPosn = p
  ws : r.st.windowSize = ws
  ft : r.frameTodo = ft
  bb : r.bitBuffer < u32
  bl : r.bitsLeft ≤ 32
  inv : StInv r.st
  av : T → ∀ rem, S.Finite rem → avail rem r ≤ avail rem r0

abbrev EK : Run σ → Prop := fun r => StInv r.st ∧ r.st.error ≠ .ok
abbrev AK (S : Src σ) (T : Prop) : Fault → Prop := Cause S (¬ T) fun _ => False

variable {r0 : Run σ} {op oe ob p ws ft : Nat} {r : Run σ}

theorem Inv.lo (h : Inv S T r0 op oe ob p ws ft r) : 1024 ≤ ws := h.ws ▸ h.inv.1.lo
theorem Inv.hi (h : Inv S T r0 op oe ob p ws ft r) : ws ≤ 2097152 := h.ws ▸ h.inv.1.hi
theorem Inv.wsize (h : Inv S T r0 op oe ob p ws ft r) : r.st.window.size = ws := h.inv.1.wsz.trans h.ws

/-- a specification's `hang` clause is refuted by the fuel the reading `T` grants -/
theorem AK.of {G : Prop} (hG : T → ¬ G) {f : Fault} (h : Cause S G (fun _ => False) f) : AK S T f :=
  h.imp (fun g t => hG t g) fun _ => id

theorem Decodes.keeps {r' : Run σ} (d : Decodes S r r') (h : Inv S T r0 op oe ob p ws ft r) :
    Inv S T r0 op oe ob p ws ft r' := by
  have hI := d.inv h.inv
  have hbl := d.bl h.bl
  have hbb := d.bb h.bb
  have hav := fun t rem hS => Nat.le_trans (d.avail rem hS) (h.av t rem hS)
  rw [d.frame] at hI ⊢
  exact ⟨h.op, h.oe, h.ob, h.p, h.ws, h.ft, hbb, hbl, hI, hav⟩

theorem _root_.MsPack.wp.decodes {α : Type} {x : QM σ α} {P Q : α → Run σ → Prop} {A : Fault → Prop}
    (hx : MsPack.wp x (fun v r' => Decodes S r r' ∧ P v r') (Exc (Fails r) A) r) (hA : ∀ f, A f → AK S T f)
    (h : Inv S T r0 op oe ob p ws ft r)
    (hQ : ∀ v r', Inv S T r0 op oe ob p ws ft r' → P v r' → Q v r') : MsPack.wp x Q (Exc EK (AK S T)) r :=
  wp_imp hx (fun v r' hd => hQ v r' (hd.1.keeps h) hd.2) (fun _ hf => ⟨hf.1 h.inv, hf.2⟩) hA

theorem _root_.MsPack.wp.reads {α : Type} {x : QM σ α} {P Q : α → Run σ → Prop} {A : Fault → Prop}
    (hx : MsPack.wp x (fun v r' => Reads S r r' ∧ P v r') (Exc (Fails r) A) r) (hA : ∀ f, A f → AK S T f)
    (h : Inv S T r0 op oe ob p ws ft r)
    (hQ : ∀ v r', Inv S T r0 op oe ob p ws ft r' → P v r' → Q v r') : MsPack.wp x Q (Exc EK (AK S T)) r :=
  (hx.post fun _ _ hd => ⟨hd.1.decodes, hd.2⟩).decodes hA h hQ

theorem fail_walk {α : Type} {Q : α → Run σ → Prop} {A : Fault → Prop} (e : Err) (he : e ≠ .ok) (h : StInv r.st) :
    MsPack.wp (fail e : QM σ α) Q (Exc EK A) r := by
  unfold MsPack.wp
  rw [fail_run]
  exact ⟨h, he⟩

theorem getSymbol_walk {Q : Nat → Run σ → Prop} (fuel : Nat) (hf : T → 17 ≤ fuel) (id : MId)
    (h : Inv S T r0 op oe ob p ws ft r) (hQ : ∀ v r', Inv S T r0 op oe ob p ws ft r' → v < id.B → Q v r') :
    MsPack.wp (getSymbol S fuel id) Q (Exc EK (AK S T)) r :=
  (getSymbol_spec S fuel id r h.inv h.bb).decodes (fun _ => AK.of fun t => Nat.not_lt.2 (hf t)) h hQ

section
variable {Q : Unit → Run σ → Prop} {E : Run σ → Prop} {A : Fault → Prop}

theorem copyFwd_walk (n s d : Nat) (h : Inv S T r0 op oe ob p ws ft r) (hb : n > 0 → s + n ≤ ws ∧ d + n ≤ ws)
    (hQ : ∀ r', Inv S T r0 op oe ob p ws ft r' → Q () r') : MsPack.wp (copyFwd n s d : QM σ Unit) Q (Exc E A) r := by
  unfold copyFwd
  have hsz := h.wsize
  simp only [wp_bind, wp_get, wp_ite, wp_throw, Exc, wp_modify]
  refine ⟨fun hc => ?_, fun _ => hQ _ { h with inv := h.inv.withWindow _ (copyFwdLoop_size _ _ _ _) }⟩
  have := hb hc.1
  omega

theorem copyMasked_walk (n j d : Nat) (h : Inv S T r0 op oe ob p ws ft r) (hb : n > 0 → d + n ≤ ws)
    (hQ : ∀ r', Inv S T r0 op oe ob p ws ft r' → Q () r') : MsPack.wp (copyMasked n j d : QM σ Unit) Q (Exc E A) r := by
  unfold copyMasked
  have hsz := h.wsize
  have hlo := h.lo
  have hws := h.ws
  simp only [wp_bind, wp_get, wp_ite, wp_throw, Exc, wp_modify]
  refine ⟨fun hc => ?_, fun _ => hQ _ { h with inv := h.inv.withWindow _ (copyMaskedLoop_size _ _ _ _ _) }⟩
  have := hb hc.1
  omega

theorem writeOut_walk (src n : Nat) (h : Inv S T r0 op oe ob p ws ft r) (hb : n > 0 → src + n ≤ ws)
    (hQ : ∀ r', Inv S T r0 op oe ob p ws ft r' → Q () r') : MsPack.wp (writeOut src n : QM σ Unit) Q (Exc E A) r := by
  unfold MsPack.wp
  rw [writeOut_run, h.wsize, if_neg fun hc => by have := hb hc.1; omega]
  exact hQ _ { h with }

variable {k : QM σ Unit}

theorem flushThen_walk (h : Inv S T r0 op oe ob p ws ft r)
    (hk : ∀ r', Inv S T r0 0 0 (ob - (ws - op)) p ws ft r' → ws - op ≤ ob → MsPack.wp k Q (Exc EK A) r') :
    MsPack.wp (flushThen ws k) Q (Exc EK A) r := by
  unfold flushThen
  simp only [wp_bind, wp_get, wp_ite, wp_modify]
  rw [h.op, h.ob]
  refine ⟨fun _ => fail_walk _ (by decide) h.inv, fun hfl => ?_⟩
  apply writeOut_walk _ _ h (by intro _; omega)
  intro r1 h1
  exact hk _ { h1 with op := rfl, oe := rfl, ob := congrArg (· - (ws - op)) h1.ob,
                       inv := h1.inv.withOut 0 0 (Nat.zero_le _) } (Nat.le_of_not_lt hfl)

theorem wrapThen_walk (h : Inv S T r0 op p ob p ws ft r) (_ : p ≤ ws) (hbrk : ob ≤ p - op → Q () r)
    (hwrap : ∀ r', Inv S T r0 0 0 (ob - (p - op)) 0 ws ft r' → MsPack.wp k Q (Exc EK A) r')
    (hk : p ≠ ws → MsPack.wp k Q (Exc EK A) r) : MsPack.wp (wrapThen k) Q (Exc EK A) r := by
  unfold wrapThen
  simp only [wp_bind, wp_get, wp_ite, wp_pure, wp_modify]
  rw [h.p, h.ws, h.oe, h.op, h.ob]
  refine ⟨fun _ => ⟨hbrk, fun _ => ?_⟩, hk⟩
  apply writeOut_walk _ _ h (by intro _; omega)
  intro r1 h1
  exact hwrap _ { h1 with op := rfl, oe := rfl, ob := congrArg (· - (p - op)) h1.ob, p := rfl,
                          inv := h1.inv.withOut 0 0 (Nat.zero_le _) }
end

theorem readOffset_walk {Q : Nat → Run σ → Prop} (sym : Nat) (hs : sym < 42)
    (h : Inv S T r0 op oe ob p ws ft r) (hQ : ∀ v r', Inv S T r0 op oe ob p ws ft r' → Q v r') :
    MsPack.wp (readOffset S sym) Q (Exc EK (AK S T)) r := by
  unfold readOffset
  simp only [wp_bind]
  apply tableAt_wp _ _ _ hs
  intro nb hnb
  have := extraBits_le nb hnb
  refine (readManyBits_spec S nb (by omega) r h.bb).reads (fun _ => .inl) h ?_
  intro extra r1 h1 _
  apply tableAt_wp _ _ _ hs
  intro pb _
  simp only [wp_pure]
  exact hQ _ _ h1

/-- `symbolLoop`.  It ends in one of two ways, which the caller has to tell apart: the loop condition failed (`o_ptr`,
    `o_end`, `out_bytes` as before, `frame_end ≤ window_posn'`), or a match wrapped the window and the loop was left by
    `break` after the flush (`o_ptr = o_end = 0`, `out_bytes` lowered by the `window_size - o_ptr` bytes written).
    In the reading `T`, `frame_end - window_posn ≤ n` rounds are enough.  290 bounds a match length: `length_base ≤
    254`, at most 5 extra bits (`< 32`), `+ 5`; with `1024 ≤ window_size` a wrapping match ends inside the window. -/
theorem symbolLoop_walk {Q : Unit → Run σ → Prop} (fuel frameEnd : Nat) (hf : T → 17 ≤ fuel)
    (hfe : frameEnd ≤ ws) :
    ∀ (n p ft : Nat) (r : Run σ), Inv S T r0 op oe ob p ws ft r → p ≤ ws → (T → frameEnd - p ≤ n) →
      (∀ r' op' oe' ob' p' ft', Inv S T r0 op' oe' ob' p' ws ft' r' → p' ≤ ws →
        ((op' = op ∧ oe' = oe ∧ ob' = ob ∧ frameEnd ≤ p' ∧ p ≤ p') ∨
         (op' = 0 ∧ oe' = 0 ∧ ws - op ≤ ob ∧ ob' = ob - (ws - op))) → Q () r') →
      MsPack.wp (symbolLoop S fuel frameEnd n) Q (Exc EK (AK S T)) r := by
  intro n
  induction n with
  | zero =>
    intro p ft r h hp hn hQ
    simp only [symbolLoop, wp_bind, wp_get, wp_ite, wp_throw, Exc, wp_pure, h.p]
    exact ⟨fun hc => .hang fun t => by have := hn t; omega,
      fun hc => hQ _ _ _ _ _ _ h hp (.inl ⟨rfl, rfl, rfl, Nat.le_of_not_lt hc, Nat.le_refl _⟩)⟩
  | succ n ih =>
    intro p ft r h hp hn hQ
    have hlo := h.lo
    have hhi := h.hi
    have next : ∀ q r5 ft5, Inv S T r0 op oe ob q ws ft5 r5 → p < q → q ≤ ws →
        MsPack.wp (symbolLoop S fuel frameEnd n) Q (Exc EK (AK S T)) r5 := by
      intro q r5 ft5 h5 hpq hq
      refine ih q _ _ h5 hq (fun t => by have := hn t; omega) fun r' op' oe' ob' p' ft' h' hp' hc =>
        hQ _ _ _ _ _ _ h' hp' ?_
      rcases hc with ⟨c1, c2, c3, c4, c5⟩ | hc
      · exact Or.inl ⟨c1, c2, c3, c4, by omega⟩
      · exact Or.inr hc
    clear ih
    rw [symbolLoop_succ]
    simp -zeta only [wp_bind, wp_get]
    rw [wp_ite, h.p]
    refine ⟨fun hlt => ?_, fun hge => by
      simp only [wp_pure]
      exact hQ _ _ _ _ _ _ h hp (Or.inl ⟨rfl, rfl, rfl, Nat.le_of_not_lt hge, Nat.le_refl _⟩)⟩
    clear hn
    simp -zeta only [wp_bind]
    apply getSymbol_walk fuel hf .m7 h
    intro sel r1 h1 _
    rw [wp_ite]
    refine ⟨fun hsel => ?_, fun hsel => ?_⟩
    · extract_lets mid
      simp -zeta only [wp_bind]
      apply getSymbol_walk fuel hf mid h1
      intro sym r2 h2 _
      simp only [wp_bind, wp_get, wp_ite, wp_throw, Exc, wp_modify]
      rw [h2.wsize, h2.p]
      refine ⟨fun hc => absurd hc (by omega), fun _ => ?_⟩
      exact next (p + 1) _ _ { h2 with p := rfl, ft := rfl, inv := h2.inv.withWindow _ (by simp) }
        (Nat.lt_succ_self p) (by omega)
    · extract_lets jp
      have hjp : ∀ mo ml r3 ft3, Inv S T r0 op oe ob p ws ft3 r3 → 3 ≤ ml → ml ≤ 290 →
          MsPack.wp (jp (mo, ml)) Q (Exc EK (AK S T)) r3 := by
        intro mo ml r3 ft3 h3 hml3 hml
        simp only [jp, wp_bind, wp_get, wp_ite, wp_modify]
        rw [h3.p, h3.ws]
        have h4 : Inv S T r0 op oe ob p ws ((r3.frameTodo + u32 - ml % u32) % u32)
            { r3 with windowPosn := p, frameTodo := (r3.frameTodo + u32 - ml % u32) % u32 } :=
          { h3 with p := rfl, ft := rfl }
        have hmod : (p + ml) % u32 = p + ml := Nat.mod_eq_of_lt (by rw [u32_eq]; omega)
        rw [hmod]
        refine ⟨fun hwrap => ?_, fun hnw => ?_⟩
        · apply copyMasked_walk _ _ _ h4 (by intro _; omega)
          intro r5 h5
          refine flushThen_walk h5 fun r6 h6 hfl => ?_
          simp only [wp_bind, wp_modify]
          apply copyMasked_walk _ _ _ h6 (by intro _; omega)
          intro r8 h8
          exact hQ _ 0 0 (ob - (ws - op)) (p + ml - ws) _ { h8 with p := rfl } (by omega) (Or.inr ⟨rfl, rfl, hfl, rfl⟩)
        · have fin : ∀ r5 ft5, Inv S T r0 op oe ob p ws ft5 r5 →
              MsPack.wp (symbolLoop S fuel frameEnd n) Q (Exc EK (AK S T)) { r5 with windowPosn := p + ml } :=
            fun r5 ft5 h5 => next (p + ml) _ _ { h5 with p := rfl } (by omega) (Nat.le_of_not_lt hnw)
          refine ⟨fun hgt => ⟨fun _ => fail_walk _ (by decide) h4.inv, fun hj => ⟨fun hjl => ?_, fun hjl => ?_⟩⟩,
            fun hle => ?_⟩
          · apply copyFwd_walk _ _ _ h4 (by intro _; omega)
            intro r5 h5
            apply copyFwd_walk _ _ _ h5 (by intro _; omega)
            intro r6 h6
            exact fin r6 _ h6
          · apply copyFwd_walk _ _ _ h4 (by intro _; omega)
            intro r5 h5
            exact fin r5 _ h5
          · apply copyFwd_walk _ _ _ h4 (by intro _; omega)
            intro r5 h5
            exact fin r5 _ h5
      clear_value jp
      clear next
      simp only [wp_ite, wp_bind, wp_pure]
      refine ⟨fun _ => ?_, fun _ => ⟨fun _ => ?_, fun _ => ⟨fun _ => ?_, fun _ => fail_walk _ (by decide) h1.inv⟩⟩⟩
      · apply getSymbol_walk fuel hf .m4 h1
        intro sym r2 h2 hs
        apply readOffset_walk sym hs h2
        intro mo r3 h3
        exact hjp mo 3 r3 _ h3 (by omega) (by omega)
      · apply getSymbol_walk fuel hf .m5 h1
        intro sym r2 h2 hs
        apply readOffset_walk sym hs h2
        intro mo r3 h3
        exact hjp mo 4 r3 _ h3 (by omega) (by omega)
      · apply getSymbol_walk fuel hf .m6len h1
        intro sym r2 h2 hs
        apply tableAt_wp _ _ _ hs
        intro nb hnb
        have hnb5 := lengthExtra_le nb hnb
        refine (readManyBits_spec S nb (by omega) r2 h2.bb).reads (fun _ => .inl) h2 ?_
        intro extra r3 h3 hex
        apply tableAt_wp _ _ _ hs
        intro lb hlb
        have hlb254 := lengthBase_le lb hlb
        apply getSymbol_walk fuel hf .m6 h3
        intro sym' r4 h4 hs'
        apply readOffset_walk sym' hs' h4
        intro mo r5 h5
        refine hjp mo _ r5 _ h5 (by omega) ?_
        have : 2 ^ nb ≤ 2 ^ 5 := Nat.pow_le_pow_right (by omega) hnb5
        omega

theorem blockLoop_walk {Q : Unit → Run σ → Prop} (fuel : Nat) (hf : T → 17 ≤ fuel)
    (haf : T → ∃ rem, S.Finite rem ∧ avail rem r0 < 8 * fuel)
    (hQ : ∀ r' op' oe' ob' p' ft', Inv S T r0 op' oe' ob' p' ws ft' r' → p' ≤ ws → ob' ≤ oe' - op' →
      (T → oe' = p' ∧ op' ≤ p' ∧ 1 ≤ ft' ∧ ft' ≤ 32768) → Q () r') :
    ∀ (n op oe ob p ft : Nat) (r : Run σ), Inv S T r0 op oe ob p ws ft r → p ≤ ws →
      (T → oe = p ∧ Blk op ob p 1 ft (if p = ws then 1 else 0) n) → MsPack.wp (blockLoop S fuel n) Q (Exc EK (AK S T)) r := by
  intro n
  induction n with
  | zero =>
    intro op oe ob p ft r h hp hb
    simp only [blockLoop, wp_bind, wp_get, wp_ite, wp_throw, Exc, wp_pure, h.oe, h.op, h.ob]
    refine ⟨fun hc => .hang fun t => ?_,
      fun hc => hQ _ _ _ _ _ _ h hp (Nat.le_of_not_lt hc) fun t => ⟨(hb t).1, (hb t).2.hop, (hb t).2.hft⟩⟩
    rw [(hb t).1] at hc
    exact absurd (hb t).2.mu.done (Nat.not_le_of_lt hc)
  | succ n ih =>
    intro op oe ob p ft r h hp hb
    rw [blockLoop_succ]
    simp -zeta only [wp_bind, wp_get]
    rw [wp_ite, h.oe, h.op, h.ob]
    refine ⟨fun hneed => ?_, fun hc => by
      simp only [wp_pure]
      exact hQ _ _ _ _ _ _ h hp (Nat.le_of_not_lt hc) fun t => ⟨(hb t).1, (hb t).2.hop, (hb t).2.hft⟩⟩
    extract_lets jpW jpT jpF jpS
    have hW : ∀ u r1 op1 ob1 p1 ft1, Inv S T r0 op1 p1 ob1 p1 ws ft1 r1 → p1 ≤ ws → (T → Blk op1 ob1 p1 1 ft1 0 n) →
        MsPack.wp (jpW u) Q (Exc EK (AK S T)) r1 := by
      intro u r1 op1 ob1 p1 ft1 h1 hp1 hb1
      refine wrapThen_walk h1 hp1 (fun hi => hQ _ _ _ _ _ _ h1 hp1 hi fun t => ⟨rfl, (hb1 t).hop, (hb1 t).hft⟩)
        (fun r2 h2 => ih _ _ _ _ _ _ h2 (Nat.zero_le _) fun t => ⟨rfl, ?_⟩)
        fun hnw => ih _ _ _ _ _ _ h1 hp1 fun t => ⟨rfl, { hb1 t with mu := (hb1 t).mu.keep hnw }⟩
      have b := hb1 t
      have := h.lo
      exact ⟨Nat.le_refl _, by have := b.hob; omega, b.hft, b.mu.wrap (by omega)⟩
    have hT : ∀ u r1 op1 ob1 p1 ft1, Inv S T r0 op1 p1 ob1 p1 ws ft1 r1 → p1 ≤ ws → (T → Blk op1 ob1 p1 0 ft1 0 n) →
        MsPack.wp (jpT u) Q (Exc EK (AK S T)) r1 := by
      intro u r1 op1 ob1 p1 ft1 h1 hp1 hb1
      simp only [jpT, wp_bind, wp_modify]
      refine wp_imp (trailerScan_spec S fuel r1 h1.bb) (fun _ r2 d => ?_) (fun _ hf => ⟨hf.1 h1.inv, hf.2⟩)
        fun _ => AK.of fun t g => ?_
      · exact hW () _ op1 ob1 p1 32768 { d.decodes.keeps h1 with ft := rfl } hp1 fun t =>
          { hb1 t with hft := ⟨by decide, Nat.le_refl _⟩ }
      · obtain ⟨rem, hS, _⟩ := haf t
        have := g rem hS
        have := h1.av t rem hS
        omega
    have hF : ∀ u r1 op1 ob1 p1 ft1, Inv S T r0 op1 p1 ob1 p1 ws ft1 r1 → p1 ≤ ws → (T → Blk op1 ob1 p1 0 ft1 0 n) →
        MsPack.wp (jpF u) Q (Exc EK (AK S T)) r1 := by
      intro u r1 op1 ob1 p1 ft1 h1 hp1 hb1
      simp only [jpF, wp_bind, wp_get, wp_ite]
      rw [h1.ft]
      refine ⟨fun hz => ⟨fun _ => ?_, fun _ => hT () _ _ _ _ _ h1 hp1 hb1⟩,
        fun hnz => hW () _ _ _ _ _ h1 hp1 fun t => { hb1 t with hft := ⟨Nat.pos_of_ne_zero hnz, (hb1 t).hft.2⟩ }⟩
      refine (removeBits_spec S _ (by omega) r1).reads (fun _ => .inl) h1 ?_
      intro _ r2 h2 _
      exact hT () _ _ _ _ _ h2 hp1 hb1
    have hS' : ∀ u r1, Inv S T r0 op oe ob p ws ft r1 → MsPack.wp (jpS u) Q (Exc EK (AK S T)) r1 := by
      intro u r1 h1
      have hws := h1.ws
      simp -zeta only [jpS, wp_bind, wp_get]
      extract_lets wpv fe1 fe2 fe3
      have hfe : fe3 ≤ ws := by simp only [fe3]; split <;> omega
      have hadv : T → p ≤ fe3 ∧ (p < ws → p < fe3) := fun t => by
        have b := (hb t).2
        have := frameEnd_facts p ob (oe - op) ft ws hp h.hi b.hft.1 b.hft.2 hneed b.hob
        exact (by simpa only [fe3, fe2, fe1, wpv, h1.op, h1.oe, h1.ob, h1.p, h1.ws, h1.ft] using this :
          fe3 ≤ ws ∧ p ≤ fe3 ∧ (p < ws → p < fe3)).2
      have hwpv : wpv = p := h1.p
      clear_value fe1 fe2 fe3 wpv
      simp only [wp_bind]
      rw [hwpv]
      apply symbolLoop_walk fuel fe3 hf hfe (fe3 - p) p ft r1 h1 hp (fun _ => Nat.le_refl _)
      intro r2 op2 oe2 ob2 p2 ft2 h2 hp2 hcase
      simp only [wp_modify, wp_get, wp_ite, wp_bind]
      have h3 : Inv S T r0 op2 p2 ob2 p2 ws ft2 { r2 with st := { r2.st with oEnd := r2.windowPosn } } :=
        { h2 with oe := h2.p, inv := h2.inv.withOut r2.st.oPtr r2.windowPosn (by rw [h2.ws, h2.p]; exact hp2) }
      refine ⟨fun _ => fail_walk _ (by decide) h3.inv, fun hle => hF () _ _ _ _ _ h3 hp2 fun t => ?_⟩
      have hft2 : ft2 ≤ 32768 := by rw [← h2.ft]; exact Nat.le_of_not_lt hle
      obtain ⟨hge, hgt⟩ := hadv t
      have b := (hb t).2
      rcases hcase with ⟨rfl, rfl, rfl, c4, c5⟩ | ⟨rfl, rfl, c3, rfl⟩
      · exact ⟨Nat.le_trans b.hop c5, b.hob, ⟨Nat.zero_le _, hft2⟩,
          b.mu.step b.hop c5 (fun hlt => Nat.lt_of_lt_of_le (hgt hlt) c4) hp⟩
      · exact ⟨Nat.zero_le _, by have := b.hob; omega, ⟨Nat.zero_le _, hft2⟩, b.mu.stepWrap b.hop hp c3⟩
    clear_value jpS jpF jpT jpW
    simp only [wp_ite, wp_bind, wp_modify]
    refine ⟨fun _ => ?_, fun _ => hS' () _ h⟩
    refine (readBits_spec S 16 (by omega) { r with H := 65535, L := 0 } h.bb).reads (fun _ => .inl)
      { h with } ?_
    intro c r1 h1 _
    exact hS' () _ { h1 with }


theorem body_walk {Q : Unit → Run σ → Prop} (fuel : Nat) (hf : T → 17 ≤ fuel)
    (haf : T → ∃ rem, S.Finite rem ∧ avail rem r0 < 8 * fuel) (h : Inv S T r0 op oe ob p ws ft r) (hp : p ≤ ws)
    (hb : T → oe = p ∧ op ≤ p ∧ 1 ≤ ft ∧ ft ≤ 32768 ∧ ob + 2097152 < 4294967296)
    (hQ : ∀ r' op' oe' ob' p' ft', Inv S T r0 op' oe' ob' p' ws ft' r' → p' ≤ ws →
      (T → oe' = p' ∧ op' ≤ p' ∧ 1 ≤ ft' ∧ ft' ≤ 32768) → Q () r') :
    MsPack.wp (body S fuel) Q (Exc EK (AK S T)) r := by
  rw [body_eq]
  simp only [wp_bind, wp_get]
  refine blockLoop_walk fuel hf haf ?_ _ op oe ob p ft r h hp fun t => ?_
  · intro r1 op1 oe1 ob1 p1 ft1 h1 hp1 hob1 hb1
    have hoe := h1.inv.1.oend
    rw [h1.oe, h1.ws] at hoe
    simp only [wp_ite, wp_pure, wp_bind]
    refine ⟨fun hne => ?_, fun _ => hQ _ _ _ _ _ _ h1 hp1 hb1⟩
    rw [h1.op, h1.ob]
    apply writeOut_walk _ _ h1 (by intro _; omega)
    intro r2 h2
    simp only [wp_modify]
    refine hQ _ (op1 + ob1) _ _ _ _
      { h2 with op := by show r2.st.oPtr + r2.outBytes = _; rw [h2.op, h2.ob],
                inv := h2.inv.withOut _ r2.st.oEnd h2.inv.1.oend } hp1 fun t => ?_
    obtain ⟨e1, e2, e3⟩ := hb1 t
    exact ⟨e1, by omega, e3⟩
  · obtain ⟨e1, e2, e3, e4, e5⟩ := hb t
    refine ⟨e1, e2, e5, ⟨e3, e4⟩, fun _ => ?_⟩
    rw [h.ob]
    split <;> omega

/-- `stAvail rem o.st ≤ a`: what `Cab.decompress` needs to call again with the same fuel -/
def DecK (S : Src σ) (rem : σ → Nat) (T : Prop) (a : Nat) (res : Except Fault (DecodeOut (St σ))) : Prop :=
  match res with
  | .ok o => StInv o.st ∧ (T → o.st.error = .ok → Sync o.st ∧ stAvail rem o.st ≤ a)
  | .error f => AK S T f

theorem decompress_walk (hS : T → S.Finite rem) (fuel : Nat) (st : St σ) (n : Nat) (hI : StInv st)
    (ht : T → (st.error = .ok → Sync st) ∧ n + 2097152 < 4294967296 ∧ 17 ≤ fuel ∧ stAvail rem st < 8 * fuel) :
    DecK S rem T (stAvail rem st) (decompress S fuel st n) := by
  refine decompress_cases S fuel st n (P := DecK S rem T (stAvail rem st))
    (fun _ => ⟨hI, fun t he => ⟨(ht t).1 he, Nat.le_refl _⟩⟩) fun herr i hi hin => ?_
  have hst1 : StInv { st with oPtr := st.oPtr + i } := hI.withOut _ _ hI.1.oend
  have hsy1 : T → Sync { st with oPtr := st.oPtr + i } := fun t =>
    let s := (ht t).1 herr
    ⟨by show st.oPtr + i ≤ st.oEnd; have := s.optr; omega, s.oend, s.ftLo, s.ftHi⟩
  refine ⟨fun hc => ?_, fun _ _ => ⟨hst1, fun t _ => ⟨hsy1 t, Nat.le_refl _⟩⟩, fun _ _ => ?_⟩
  · have := hI.1.oend
    have := hI.1.wsz
    omega
  · refine (body_walk fuel (fun t => (ht t).2.2.1) (fun t => ⟨rem, hS t, by exact (ht t).2.2.2⟩) (ob := n - i)
        ⟨rfl, rfl, rfl, rfl, rfl, rfl, hI.1.bb, hI.1.bl, hst1, fun _ _ _ => Nat.le_refl _⟩ hI.1.posn
        (fun t => let s := hsy1 t; ⟨s.oend, s.oend ▸ s.optr, s.ftLo, s.ftHi, by have := (ht t).2.1; omega⟩)
        fun r' op' oe' ob' p' ft' h' hp' hb' => ?_).mono
      (fun _ _ h => h) fun | .sys _, _, h => ⟨h.1, fun _ he => absurd he h.2⟩ | .fault _, _, h => h
    refine ⟨⟨⟨h'.inv.1.wsz, h'.inv.1.lo, h'.inv.1.hi, h'.inv.1.oend, ?_, ?_, h'.bb⟩, h'.inv.2⟩, fun t _ => ?_⟩
    · show r'.windowPosn ≤ r'.st.windowSize
      rw [h'.ws, h'.p]; exact hp'
    · show r'.bitsLeft % 256 ≤ 32
      have := h'.bl
      omega
    · obtain ⟨e1, e2, e3, e4⟩ := hb' t
      refine ⟨⟨?_, h'.oe.trans (e1.trans h'.p.symm), ?_, ?_⟩, ?_⟩
      · show r'.st.oPtr ≤ r'.st.oEnd
        rw [h'.op, h'.oe, e1]; exact e2
      · show 1 ≤ r'.frameTodo
        rw [h'.ft]; exact e3
      · show r'.frameTodo ≤ 32768
        rw [h'.ft]; exact e4
      · rw [Nat.mod_eq_of_lt (Nat.lt_of_le_of_lt h'.bl (by decide))]
        exact avail_eq_stAvail rem r' ▸ h'.av t rem (hS t)

def DecOk (S : Src σ) (res : Except Fault (DecodeOut (St σ))) : Prop :=
  match res with
  | .ok o => StInv o.st
  | .error f => FaultOK S f

theorem decompress_ok (S : Src σ) (fuel : Nat) (st : St σ) (n : Nat) (h : StInv st) :
    DecOk S (decompress S fuel st n) := by
  have hd := decompress_walk (S := S) (rem := fun _ => 0) (T := False) nofun fuel st n h nofun
  cases hr : decompress S fuel st n <;> rw [hr] at hd
  · exact (show AK S False _ from hd).ok id
  · exact hd.1


variable (S)

/-- `out_bytes = 2^32` with nothing stored up: `frame_end` (an `unsigned int`) comes out as `window_posn`, the symbol
    loop is not entered and the round changes nothing — the block loop runs out of any number of rounds -/
theorem blockLoop_stuck (fuel : Nat) : ∀ (n : Nat) (r : Run σ), r.st.headerRead = true → r.st.oPtr = r.windowPosn →
    r.st.oEnd = r.windowPosn → r.outBytes = 4294967296 → 1 ≤ r.frameTodo → r.frameTodo ≤ 32768 →
    r.windowPosn < r.st.windowSize → r.st.windowSize ≤ 2097152 →
    MsPack.wp (blockLoop S fuel n) (fun _ _ => False) (Exc (fun _ => False) (fun f => f = .hang)) r := by
  intro n
  induction n with
  | zero =>
    intro r h1 h2 h3 h4 h5 h6 h7 h8
    simp only [blockLoop, wp_bind, wp_get, wp_ite, wp_throw, Exc, wp_pure]
    exact ⟨fun _ => trivial, fun hc => by omega⟩
  | succ n ih =>
    intro r h1 h2 h3 h4 h5 h6 h7 h8
    have hu := u32_eq
    have hFS : qtmFRAME_SIZE = 32768 := rfl
    rw [blockLoop_succ]
    simp -zeta only [wp_bind, wp_get]
    rw [wp_ite]
    refine ⟨fun _ => ?_, fun hc => by omega⟩
    extract_lets jpW jpT jpF jpS
    have hS' : MsPack.wp (jpS ()) (fun _ _ => False) (Exc (fun _ => False) (fun f => f = .hang)) r := by
      simp -zeta only [jpS, wp_bind, wp_get]
      extract_lets wpv fe1 fe2 fe3
      have hfe3 : fe3 = r.windowPosn := by
        have e1 : fe1 = r.windowPosn := by simp only [fe1, wpv, h2, h3, h4, hu]; omega
        have e2 : fe2 = r.windowPosn := by
          have hm : (wpv + r.frameTodo) % u32 = r.windowPosn + r.frameTodo := by simp only [wpv, hu]; omega
          simp only [fe2, hm, e1]
          rw [if_neg (by omega)]
        simp only [fe3, e2]
        rw [if_neg (by omega)]
      clear_value fe1 fe2
      have hwpv : wpv = r.windowPosn := rfl
      rw [hfe3, hwpv, Nat.sub_self]
      simp only [symbolLoop, jpF, jpW, wrapThen, wp_bind, wp_get, wp_ite, wp_throw, Exc, wp_pure, wp_modify]
      refine ⟨fun hc => by omega, fun _ => ⟨fun hc => by omega, fun _ => ⟨fun hc => by omega, fun _ =>
        ⟨fun hc => by omega, fun _ => ?_⟩⟩⟩⟩
      exact ih _ h1 h2 rfl h4 h5 h6 h7 h8
    clear_value jpS jpF jpT jpW
    simp only [wp_ite, wp_bind, wp_modify, h1]
    exact ⟨fun hc => by simp at hc, fun _ => hS'⟩

theorem decompress_stuck (fuel : Nat) (st : St σ) (he : st.error = .ok) (h1 : st.headerRead = true)
    (h2 : st.oPtr = st.windowPosn) (h3 : st.oEnd = st.windowPosn) (h5 : 1 ≤ st.frameTodo) (h6 : st.frameTodo ≤ 32768)
    (h7 : st.windowPosn < st.windowSize) (h8 : st.windowSize ≤ 2097152) :
    decompress S fuel st 4294967296 = .error .hang := by
  refine decompress_cases S fuel st 4294967296 (P := (· = .error .hang)) (fun hne => absurd he hne) fun _ i hi _ => ?_
  obtain rfl : i = 0 := by omega
  refine ⟨fun hc => absurd hc.1 (Nat.lt_irrefl 0), fun _ hc => absurd hc (by decide), fun _ _ => ?_⟩
  refine (?_ : MsPack.wp (body S fuel) (fun _ _ => False) (Exc (fun _ => False) (· = .hang)) _).mono
    (fun _ _ hf => hf.elim) fun | .sys _, _, hf => hf.elim | .fault _, _, hf => congrArg _ hf
  rw [body_eq]
  simp only [wp_bind, wp_get]
  exact wp_imp (blockLoop_stuck S fuel _ _ h1 h2 h3 rfl h5 h6 h7 h8) (fun _ _ hf => hf.elim) (fun _ hf => hf) (fun _ hf => hf)

end MsPack.Qtm

namespace QtmTerm
open MsPack MsPack.Qtm
variable {σ : Type} {S : Src σ} {rem : σ → Nat}

def DecT2 (rem : σ → Nat) (a : Nat) (res : Except Fault (DecodeOut (St σ))) : Prop :=
  match res with
  | .ok o => o.st.error = .ok → Sync o.st ∧ stAvail rem o.st ≤ a
  | .error f => f ≠ .hang

theorem decompress_left (hS : S.Finite rem) (fuel : Nat) (st : St σ) (n : Nat) (hI : StInv st)
    (hs : st.error = .ok → Sync st) (hn : n + 2097152 < 4294967296) (hf : 17 ≤ fuel)
    (haf : stAvail rem st < 8 * fuel) : DecT2 rem (stAvail rem st) (decompress S fuel st n) := by
  have hd := decompress_walk (T := True) (fun _ => hS) fuel st n hI fun _ => ⟨hs, hn, hf, haf⟩
  cases hr : decompress S fuel st n <;> rw [hr] at hd
  · exact (show AK S True _ from hd).ne_hang hS.no_hang (fun h => h trivial) id
  · exact hd.2 trivial

end QtmTerm
