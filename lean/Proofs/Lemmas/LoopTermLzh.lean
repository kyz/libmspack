import Proofs.Lemmas.LzhBounds
/-!
# C04 — KWAJ LZH (`MsPack/Kwaj/Lzh.lean`): the out-of-fuel outcome is unreachable

Two loops of the model carry fuel: `ensureBits` (fuel 4 at every call site, `n ≤ 16`) and `mainLoop`
(the caller's fuel).  Everything else recurses structurally.  What follows is the termination reading of the walk in
`LzhBounds.lean` (the measure is explained there).

Source assumption (`SrcOk S rem`): there is a "bytes remaining" function `rem` on source states
such that a successful `read` that delivers `c` leaves `c.length + rem s' ≤ rem s`, and `read`
itself never reports `hang`.  The file-backed source `Rd.src` satisfies it with
`rem r = r.file.length - r.pos` (`rdSrc_ok`).
-/
namespace MsPack.Kwaj.Lzh

variable {σ : Type} {α : Type}

def run' (x : LM σ α) (st : St σ) : Except Halt α × St σ := x.run.run st

theorem run'_pure (a : α) (st : St σ) : run' (pure a : LM σ α) st = (.ok a, st) := rfl
theorem run'_set (s st : St σ) : run' (set s : LM σ PUnit) st = (.ok ⟨⟩, s) := rfl
theorem run'_modify (f : St σ → St σ) (st : St σ) : run' (modify f : LM σ PUnit) st = (.ok ⟨⟩, f st) := rfl
theorem run'_throw (e : Halt) (st : St σ) : run' (throw e : LM σ α) st = (.error e, st) := rfl

theorem _root_.MsPack.Src.Finite.lzh {S : Src σ} {rem : σ → Nat} (h : S.Finite rem) : SrcOk S rem :=
  ⟨h.read_le, h.no_hang⟩

theorem rdSrc_ok : SrcOk Rd.src (fun r => r.file.length - r.pos) := Rd.src_finite.lzh

variable (S : Src σ) {rem : σ → Nat}

/-- `ENSURE_BITS` for any source whose `read` does not report `hang`: two of the four units of fuel suffice for
    `n ≤ 16`, and nothing about how much the source delivers is needed (both switches of the walk off) -/
theorem C04_lzh_ensureBits_no_hang' (hS : ∀ s n, S.read s n ≠ .error .hang) (n : Nat) (hn : n ≤ 16) (st : St σ) :
    (run' (ensureBits S n 4) st).1 ≠ .error (.fault .hang) := fun he => by
  have h := ensureBits4_walk (S := S) (rem := fun _ => 0) (G := False) (T := False) (H := False) nofun nofun false 0 0 n hn st
    ⟨nofun, nofun⟩
  rcases hr : (ensureBits S n 4).run.run st with ⟨r, st1⟩
  have he : r = .error (.fault .hang) := by unfold run' at he; rw [hr] at he; exact he
  subst he
  exact (show Cause S False (fun f => ¬False ∧ f ≠ .hang) .hang from h.error hr).ne_hang hS id (fun hx => hx.2 rfl) rfl

/-- **C04 (KWAJ LZH), `ENSURE_BITS`.**  With the fuel every call site passes (4) and `n ≤ 16`,
    `ensureBits` does not run out of fuel, from any state, over any source satisfying `SrcOk`. -/
theorem C04_lzh_ensureBits_no_hang (hS : SrcOk S rem) (n : Nat) (hn : n ≤ 16) (st : St σ) :
    (run' (ensureBits S n 4) st).1 ≠ .error (.fault .hang) :=
  C04_lzh_ensureBits_no_hang' S hS.nohang n hn st

/-- **C04 (KWAJ LZH).**  Over a source satisfying `SrcOk S rem`, `lzh_decompress` does not run
    out of fuel when given `8 * (bytes the source can still deliver) + 2` rounds. -/
theorem C04_lzh_no_hang (hS : SrcOk S rem) (fuel : Nat) (st : St σ) (hf : 8 * rem st.src + 2 ≤ fuel) :
    decompress S fuel st ≠ .error .hang := fun he => by
  have := decompress_walk (G := False) (T := True) nofun (fun _ => hS) fuel st nofun fun _ => hf
  rw [he] at this
  exact this.ne_hang hS.nohang (fun h => h trivial) (fun hx => hx.2 rfl) rfl

/-- non-vacuity of the hypotheses: the file-backed source, any file, any position, any fill -/
example (r : Rd) (fill : UInt8) (fuel : Nat) (hf : 8 * (r.file.length - r.pos) + 2 ≤ fuel) :
    decompress Rd.src fuel (init r fill) ≠ .error .hang :=
  C04_lzh_no_hang Rd.src rdSrc_ok fuel (init r fill) hf

example (r : Rd) (fill : UInt8) (n : Nat) (hn : n ≤ 16) :
    (run' (ensureBits Rd.src n 4) (init r fill)).1 ≠ .error (.fault .hang) :=
  C04_lzh_ensureBits_no_hang Rd.src rdSrc_ok n hn _

/-- **C04 (KWAJ LZH), the driver's fuel.**  `MsPack/Driver/Kwaj.lean` passes
    `fuelFor n = 16 * n + 100000` with `n` the length of the file, and `Kwaj.extract` calls
    `Lzh.decompress Rd.src fuel (Lzh.init r fill)` on a handle of that file: no `hang`. -/
theorem C04_lzh_driver_fuel_no_hang (r : Rd) (fill : UInt8) :
    decompress Rd.src (16 * r.file.length + 100000) (init r fill) ≠ .error .hang :=
  C04_lzh_no_hang Rd.src rdSrc_ok _ (init r fill) (by show 8 * (r.file.length - r.pos) + 2 ≤ _; omega)

/-- the call in `Kwaj.extract`: the handle is first positioned at the data offset -/
theorem C04_lzh_extract_fuel_no_hang (rd : Rd) (off : Nat) (fill : UInt8) :
    decompress Rd.src (16 * rd.file.length + 100000) (init (rd.seekStart off) fill) ≠ .error .hang :=
  C04_lzh_driver_fuel_no_hang (rd.seekStart off) fill

example (r : Rd) (fill : UInt8) (n : Nat) (hn : n ≤ 16) :
    (run' (ensureBits Rd.src n 4) (init r fill)).1 ≠ .error (.fault .hang) :=
  C04_lzh_ensureBits_no_hang' Rd.src rdSrc_ok.nohang n hn _

end MsPack.Kwaj.Lzh
