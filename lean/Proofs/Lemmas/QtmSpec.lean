import Proofs.Lemmas.QtmBounds
import Proofs.Lemmas.Src
/-!
# Quantum: one specification per function of the reading layer and of the coder layer

`Reads S r r'`: what the bit reader (`readInput` .. `readBits`, `readManyBits`, `trailerScan`) may do to a running
state: only the input side moves (`InFrame`), `qtm->error` is as it was, the bit buffer stays a 32-bit value with
at most 32 bits, and against any potential `rem` of the source the bits still obtainable (`avail`) do not grow.
`Decodes S r r'` is the same for `renorm` and `getSymbol`, which also move `H L C` and the models (and keep `StInv`).
Both are preorders, so specifications compose without arithmetic.  No specification assumes a finite source or a fuel (the coder layer assumes `StInv`, the
bit reader a 32-bit `bitBuffer`): a status-code exit satisfies `Fails`, a fault is the source's (`SrcFault`) or `hang`, and `hang` comes with
the condition on the fuel under which it can happen (`Cause`, with no fault of the decoder's own).

Why the loops on `fuel` end:
* `renorm` (the `while (1)` of `GET_SYMBOL`): after `c` rounds the low `c` bits of `L` are 0 and those of `H` are 1
  (`Pc`), so after 16 rounds `L = 0`, `H = 0xFFFF` and the 17th test leaves: `17 ≤ fuel`.
* `trailerScan`: every round takes 8 bits out of `avail`.
-/
namespace QtmTerm
open MsPack.Qtm

def Pc (c H L : Nat) : Prop :=
  (1 ≤ c → H < 65536 ∧ L < 65536) ∧ ∀ i, i < c → L.testBit i = false ∧ H.testBit i = true

theorem Pc_zero (H L : Nat) : Pc 0 H L := ⟨fun h => by omega, fun i h => by omega⟩

theorem Pc_step (c H L C h l c' : Nat) (hc : c ≤ 15) (hp : Pc c H L)
    (hs : renormStep H L C = some (h, l, c')) : Pc (c + 1) h l := by
  unfold renormStep at hs
  simp only [shl_eq] at hs
  have key : ∀ H0 L0 : Nat, (∀ i, i < c → L0.testBit i = false ∧ H0.testBit i = true) →
      Pc (c + 1) ((H0 <<< 1 ||| 1) % 65536) (L0 <<< 1 % 65536) := by
    intro H0 L0 h0
    refine ⟨fun _ => ⟨Nat.mod_lt _ (by omega), Nat.mod_lt _ (by omega)⟩, fun i hi => ?_⟩
    have e : (65536 : Nat) = 2 ^ 16 := by decide
    rw [e]
    simp only [Nat.testBit_mod_two_pow, Nat.testBit_or, Nat.testBit_shiftLeft]
    cases i with
    | zero => simp
    | succ j =>
      have := h0 j (by omega)
      have hj : j + 1 < 16 := by omega
      simp [this.1, this.2, hj]
  split at hs
  · split at hs
    · simp only [Option.some.injEq, Prod.mk.injEq] at hs
      obtain ⟨rfl, rfl, _⟩ := hs
      apply key
      intro i hi
      have := hp.2 i hi
      simp [Nat.testBit_and, Nat.testBit_or, this.1, this.2]
    · cases hs
  · simp only [Option.some.injEq, Prod.mk.injEq] at hs
    obtain ⟨rfl, rfl, _⟩ := hs
    exact key H L hp.2

theorem Pc_final (H L C : Nat) (hp : Pc 16 H L) : renormStep H L C = none := by
  obtain ⟨hb, ht⟩ := hp
  obtain ⟨hH, hL⟩ := hb (by omega)
  have eL : L = 0 := by
    apply Nat.eq_of_testBit_eq
    intro i
    by_cases hi : i < 16
    · simp [(ht i hi).1]
    · simp only [Nat.zero_testBit]
      apply Nat.testBit_lt_two_pow
      exact Nat.lt_of_lt_of_le hL (by
        have : 2 ^ 16 ≤ 2 ^ i := Nat.pow_le_pow_right (by omega) (by omega)
        omega)
  have eH : H = 2 ^ 16 - 1 := by
    apply Nat.eq_of_testBit_eq
    intro i
    rw [Nat.testBit_two_pow_sub_one]
    by_cases hi : i < 16
    · simp [(ht i hi).2, hi]
    · simp only [hi, decide_false]
      apply Nat.testBit_lt_two_pow
      exact Nat.lt_of_lt_of_le hH (by
        have : 2 ^ 16 ≤ 2 ^ i := Nat.pow_le_pow_right (by omega) (by omega)
        omega)
  subst eL eH
  simp [renormStep]

variable {σ : Type} (rem : σ → Nat)

/-- bits the decoder can still obtain: buffered bits + 8 × (buffered bytes + bytes left in the source) + the two
    zero bytes `read_input` makes up at the first end of input -/
def avail (r : Run σ) : Nat :=
  r.bitsLeft + 8 * r.inbuf.length + 8 * rem r.st.src + (if r.st.inputEnd then 0 else 16)

end QtmTerm

namespace MsPack.Qtm
open QtmTerm

variable {σ : Type} (S : Src σ)

def Run.inOf (r i : Run σ) : Run σ :=
  { r with st := { r.st with src := i.st.src, inbuf := i.st.inbuf, inputEnd := i.st.inputEnd, error := i.st.error },
           inbuf := i.inbuf, bitBuffer := i.bitBuffer, bitsLeft := i.bitsLeft }

def InFrame (r r' : Run σ) : Prop := r' = r.inOf r'

theorem InFrame.refl (r : Run σ) : InFrame r r := rfl

theorem InFrame.trans {a b c : Run σ} (h1 : InFrame a b) (h2 : InFrame b c) : InFrame a c := by
  unfold InFrame at *
  refine h2.trans ?_
  rw [h1]; rfl

theorem InFrame.inv {r r' : Run σ} (hf : InFrame r r') (h : StInv r.st) : StInv r'.st := by rw [hf]; exact h

def Fails (r r' : Run σ) : Prop := (StInv r.st → StInv r'.st) ∧ r'.st.error ≠ .ok

structure Reads (r r' : Run σ) : Prop where
  frame : InFrame r r'
  err   : r'.st.error = r.st.error
  bl    : r.bitsLeft ≤ 32 → r'.bitsLeft ≤ 32
  bb    : r.bitBuffer < u32 → r'.bitBuffer < u32
  avail : ∀ rem, S.Finite rem → avail rem r' ≤ avail rem r

variable {S}

theorem Reads.refl (r : Run σ) : Reads S r r := ⟨.refl r, rfl, id, id, fun _ _ => Nat.le_refl _⟩

theorem Reads.trans {a b c : Run σ} (h1 : Reads S a b) (h2 : Reads S b c) : Reads S a c :=
  ⟨h1.frame.trans h2.frame, h2.err.trans h1.err, fun h => h2.bl (h1.bl h), fun h => h2.bb (h1.bb h),
    fun rem hS => Nat.le_trans (h2.avail rem hS) (h1.avail rem hS)⟩

theorem Reads.fails {a b c : Run σ} (h1 : Reads S a b) (h2 : Fails b c) : Fails a c :=
  ⟨fun h => h2.1 (h1.frame.inv h), h2.2⟩

theorem InFrame.H {r r' : Run σ} (hf : InFrame r r') : r'.H = r.H := by rw [hf]; rfl
theorem InFrame.L {r r' : Run σ} (hf : InFrame r r') : r'.L = r.L := by rw [hf]; rfl

variable (S)

theorem readInput_spec (r : Run σ) :
    MsPack.wp (readInput S)
      (fun _ r' => InFrame r r' ∧ r'.st.error = r.st.error ∧ r'.inbuf ≠ [] ∧ r'.bitsLeft = r.bitsLeft ∧
        r'.bitBuffer = r.bitBuffer ∧ (r.inbuf = [] → ∀ rem, S.Finite rem → avail rem r' ≤ avail rem r))
      (Exc (Fails r) (SrcFault S)) r := by
  unfold readInput
  simp only [wp_bind, wp_get]
  split
  · rename_i f heq
    simp only [wp_throw, Exc]
    exact ⟨_, _, heq⟩
  · simp only [wp_bind, wp_set, wp_throw, Exc]
    exact ⟨id, nofun⟩
  · rename_i src heq
    simp only [wp_ite, wp_bind, wp_set, wp_throw, Exc]
    refine ⟨fun _ => ⟨id, nofun⟩, fun hie => ⟨rfl, trivial, nofun, trivial, trivial, fun hin rem hS => ?_⟩⟩
    have := hS.read_le _ _ _ _ heq
    simp only [avail, hin, List.length_nil, hie] at this ⊢
    simp at this ⊢
    omega
  · rename_i got src hne heq
    simp only [wp_set]
    refine ⟨rfl, trivial, hne, trivial, trivial, fun hin rem hS => ?_⟩
    have := hS.read_le _ _ _ _ heq
    simp only [avail, hin, List.length_nil] at this ⊢
    omega

theorem nextByte_spec (r : Run σ) :
    MsPack.wp (nextByte S)
      (fun _ r' => InFrame r r' ∧ r'.st.error = r.st.error ∧ r'.bitsLeft = r.bitsLeft ∧ r'.bitBuffer = r.bitBuffer ∧
        ∀ rem, S.Finite rem → avail rem r' + 8 ≤ avail rem r)
      (Exc (Fails r) (SrcFault S)) r := by
  unfold nextByte
  have take : ∀ r1 : Run σ, InFrame r r1 → r1.st.error = r.st.error → r1.inbuf ≠ [] → r1.bitsLeft = r.bitsLeft →
      r1.bitBuffer = r.bitBuffer → (∀ rem, S.Finite rem → avail rem r1 ≤ avail rem r) →
      MsPack.wp (do let r ← get
                    match r.inbuf with
                    | b :: rest => set { r with inbuf := rest }; pure b.toNat
                    | [] => throw (.fault (.oob "qtmd inbuf")) : QM σ Nat)
        (fun _ r' => InFrame r r' ∧ r'.st.error = r.st.error ∧ r'.bitsLeft = r.bitsLeft ∧ r'.bitBuffer = r.bitBuffer ∧
          ∀ rem, S.Finite rem → avail rem r' + 8 ≤ avail rem r) (Exc (Fails r) (SrcFault S)) r1 := by
    intro r1 hf he hne hbl hbb hav
    simp only [wp_bind, wp_get]
    split
    · rename_i b rest heq
      simp only [wp_bind, wp_set, wp_pure]
      refine ⟨hf.trans rfl, he, hbl, hbb, fun rem hS => ?_⟩
      have := hav rem hS
      simp only [avail, heq, List.length_cons] at this ⊢
      omega
    · rename_i he'; exact absurd he' hne
  simp only [wp_bind, wp_get, wp_ite]
  constructor
  · intro hemp
    refine wp_imp (readInput_spec S r) ?_ (fun _ h => h) (fun _ h => h)
    intro _ r1 ⟨hf, he, hne, hbl, hbb, hav⟩
    exact (wp_get_bind ..).mp (take r1 hf he hne hbl hbb (hav (by simpa using hemp)))
  · intro hne
    exact (wp_get_bind ..).mp (take r (.refl r) rfl (by simpa using hne) rfl rfl fun _ _ => Nat.le_refl _)

theorem readBytes_spec (r : Run σ) (hb : r.bitsLeft ≤ 16) :
    MsPack.wp (readBytes S) (fun _ r' => Reads S r r' ∧ r'.bitsLeft = r.bitsLeft + 16) (Exc (Fails r) (SrcFault S)) r := by
  unfold readBytes
  simp only [wp_bind]
  refine wp_imp (nextByte_spec S r) ?_ (fun _ h => h) (fun _ h => h)
  intro b0 r1 ⟨f1, e1, l1, _, a1⟩
  refine wp_imp (nextByte_spec S r1) ?_ (fun _ h => ⟨fun hI => h.1 (f1.inv hI), h.2⟩) (fun _ h => h)
  intro b1 r2 ⟨f2, e2, l2, _, a2⟩
  simp only [wp_get, wp_ite, wp_set]
  refine ⟨fun hc => by omega, fun _ => ⟨⟨(f1.trans f2).trans rfl, e2.trans e1, fun _ => ?_,
    fun _ => Nat.mod_lt _ u32_pos, fun rem hS => ?_⟩, ?_⟩⟩
  · show r2.bitsLeft + 16 ≤ 32
    omega
  · have := a1 rem hS; have := a2 rem hS
    simp only [avail] at *
    omega
  · show r2.bitsLeft + 16 = r.bitsLeft + 16
    omega

/-- `ENSURE_BITS(n)`: `hang` only if fewer than two rounds were granted -/
theorem ensureBits_spec (n k : Nat) (hn : n ≤ 16) (r : Run σ) :
    MsPack.wp (ensureBits S n k) (fun _ r' => Reads S r r' ∧ n ≤ r'.bitsLeft) (Exc (Fails r)
      (Cause S (k < 2) fun _ => False)) r := by
  match k with
  | 0 => simp only [ensureBits, wp_throw, Exc]; exact .hang (by omega)
  | 1 =>
    simp only [ensureBits, wp_bind, wp_get, wp_ite, wp_pure, wp_throw, Exc]
    refine ⟨fun hc => ?_, fun hc => ⟨.refl r, by omega⟩⟩
    refine wp_imp (readBytes_spec S r (by omega)) ?_ (fun _ h => h) (fun _ h => .inl h)
    intro _ r1 _
    exact .hang (by omega)
  | k + 2 =>
    simp only [ensureBits, wp_bind, wp_get, wp_ite, wp_pure]
    refine ⟨fun hc => ?_, fun hc => ⟨.refl r, by omega⟩⟩
    refine wp_imp (readBytes_spec S r (by omega)) ?_ (fun _ h => h) (fun _ h => .inl h)
    intro _ r1 ⟨h1, e1⟩
    exact ⟨fun hc1 => by omega, fun _ => ⟨h1, by omega⟩⟩

theorem peekBits_spec (n : Nat) (hn : 1 ≤ n ∧ n ≤ 32) (r : Run σ) (hbb : r.bitBuffer < u32) :
    MsPack.wp (peekBits n : QM σ Nat) (fun v r' => r = r' ∧ v < 2 ^ n) (Exc (Fails r) (SrcFault S)) r := by
  unfold peekBits
  simp only [wp_bind, wp_get, wp_ite, wp_pure, wp_throw, Exc]
  refine ⟨fun hc => by omega, fun _ => ⟨trivial, ?_⟩⟩
  rw [Nat.shiftRight_eq_div_pow, Nat.div_lt_iff_lt_mul (Nat.two_pow_pos _), pow_split n hn.2]
  exact hbb

theorem removeBits_spec (n : Nat) (hn : n < 32) (r : Run σ) :
    MsPack.wp (removeBits n : QM σ Unit)
      (fun _ r' => Reads S r r' ∧ r'.bitsLeft = r.bitsLeft - n ∧
        ∀ rem, n ≤ r.bitsLeft → avail rem r' + n ≤ avail rem r) (Exc (Fails r) (SrcFault S)) r := by
  unfold removeBits
  simp only [wp_bind, wp_ite, wp_throw, Exc, wp_modify]
  refine ⟨fun hc => by omega, fun _ => ⟨⟨rfl, rfl, fun h => ?_, fun _ => Nat.mod_lt _ u32_pos, fun rem _ => ?_⟩, trivial,
    fun rem hle => ?_⟩⟩
  · show r.bitsLeft - n ≤ 32
    omega
  · simp only [avail]; omega
  · simp only [avail]; omega

theorem readBits_spec (n : Nat) (hn : 1 ≤ n ∧ n ≤ 16) (r : Run σ) (hbb : r.bitBuffer < u32) :
    MsPack.wp (readBits S n) (fun v r' => Reads S r r' ∧ v < 2 ^ n ∧ ∀ rem, S.Finite rem → avail rem r' + n ≤ avail rem r)
      (Exc (Fails r) (SrcFault S)) r := by
  unfold readBits
  simp only [wp_bind]
  refine wp_imp (ensureBits_spec S n 3 (by omega) r) ?_ (fun _ h => h) (fun f h => h.elim id fun h => h.elim (by omega) False.elim)
  intro _ r1 ⟨h1, b1⟩
  refine wp_imp (peekBits_spec S n (by omega) r1 (h1.bb hbb)) ?_ (fun _ h => h1.fails h) (fun _ h => h)
  rintro v _ ⟨rfl, hv⟩
  refine wp_imp (removeBits_spec S n (by omega) r1) ?_ (fun _ h => h1.fails h) (fun _ h => h)
  intro _ r2 ⟨h2, _, a2⟩
  simp only [wp_pure]
  exact ⟨h1.trans h2, hv, fun rem hS => Nat.le_trans (a2 rem b1) (h1.avail rem hS)⟩


/-- `READ_MANY_BITS`: `hang` only if fewer rounds than bits were granted -/
theorem readManyLoop_spec (k needed val a : Nat) (hn : needed < 32) (hv : val < 2 ^ a) (r : Run σ)
    (hbb : r.bitBuffer < u32) :
    MsPack.wp (readManyLoop S k needed val) (fun v r' => Reads S r r' ∧ v < 2 ^ (a + needed)) (Exc (Fails r)
      (Cause S (k < needed) fun _ => False)) r := by
  induction k generalizing r needed val a with
  | zero =>
    simp only [readManyLoop, wp_ite, wp_throw, Exc, wp_pure]
    refine ⟨fun hc => .hang hc, fun hc => ⟨.refl r, ?_⟩⟩
    have : needed = 0 := by omega
    subst this; exact hv
  | succ k ih =>
    rw [readManyLoop]
    by_cases hn0 : needed > 0
    · rw [if_pos hn0]
      simp -zeta only [wp_bind, wp_get]
      extract_lets jp
      have hjp : ∀ u r1, Reads S r r1 → 16 ≤ r1.bitsLeft →
          MsPack.wp (jp u) (fun v r' => Reads S r r' ∧ v < 2 ^ (a + needed)) (Exc (Fails r)
            (Cause S (k + 1 < needed) fun _ => False)) r1 := by
        intro u r1 h1 hb1
        simp only [jp, wp_bind, wp_get]
        generalize hbr : (if r1.bitsLeft < needed then r1.bitsLeft else needed) = bitrun
        have hbr1 : 1 ≤ bitrun ∧ bitrun ≤ needed := by
          rw [← hbr]; split <;> omega
        refine wp_imp (peekBits_spec S bitrun ⟨hbr1.1, by omega⟩ r1 (h1.bb hbb)) ?_ (fun _ h => h1.fails h)
          (fun _ h => .inl h)
        rintro v _ ⟨rfl, hvb⟩
        refine wp_imp (removeBits_spec S bitrun (by omega) r1) ?_ (fun _ h => h1.fails h) (fun _ h => .inl h)
        intro _ r2 ⟨h2, _, _⟩
        have h12 := h1.trans h2
        refine wp_imp (ih (needed - bitrun) _ (a + bitrun) (by omega) (shl_or_lt _ _ _ _ hv hvb) r2 (h12.bb hbb)) ?_
          (fun _ h => h12.fails h) (fun f h => h.imp (fun hk => by omega) fun _ => id)
        intro v' r' ⟨h', hv'⟩
        refine ⟨h12.trans h', ?_⟩
        have : a + bitrun + (needed - bitrun) = a + needed := by omega
        rw [this] at hv'; exact hv'
      clear_value jp
      simp only [wp_ite, wp_bind]
      refine ⟨fun hc => ?_, fun hc => hjp _ _ (.refl r) (by omega)⟩
      refine wp_imp (readBytes_spec S r hc) ?_ (fun _ h => h) (fun _ h => .inl h)
      intro _ r1 ⟨h1, e1⟩
      exact hjp _ _ h1 (by omega)
    · rw [if_neg hn0]
      simp only [wp_pure]
      have : needed = 0 := by omega
      subst this
      exact ⟨.refl r, hv⟩

theorem readManyBits_spec (bits : Nat) (hb : bits ≤ 31) (r : Run σ) (hbb : r.bitBuffer < u32) :
    MsPack.wp (readManyBits S bits) (fun v r' => Reads S r r' ∧ v < 2 ^ bits) (Exc (Fails r) (SrcFault S)) r := by
  unfold readManyBits
  have hm : bits % 256 = bits := by omega
  simp only [hm]
  refine wp_imp (readManyLoop_spec S bits bits 0 0 (by omega) (by omega) r hbb) ?_ (fun _ h => h)
    (fun f h => h.elim id fun h => h.elim (by omega) False.elim)
  intro v r' ⟨h', hv⟩
  exact ⟨h', by simpa using hv⟩

def Run.codOf (r i : Run σ) : Run σ :=
  let a := r.inOf i
  let st : St σ :=
    { a.st with
      model0 := i.st.model0, model1 := i.st.model1, model2 := i.st.model2, model3 := i.st.model3
      model4 := i.st.model4, model5 := i.st.model5, model6 := i.st.model6, model6len := i.st.model6len
      model7 := i.st.model7 }
  { a with st := st, H := i.H, L := i.L, C := i.C }

structure Decodes (r r' : Run σ) : Prop where
  frame : r' = r.codOf r'
  err   : r'.st.error = r.st.error
  inv   : StInv r.st → StInv r'.st
  bl    : r.bitsLeft ≤ 32 → r'.bitsLeft ≤ 32
  bb    : r.bitBuffer < u32 → r'.bitBuffer < u32
  avail : ∀ rem, S.Finite rem → avail rem r' ≤ avail rem r

variable {S}

theorem Decodes.trans {a b c : Run σ} (h1 : Decodes S a b) (h2 : Decodes S b c) : Decodes S a c :=
  ⟨h2.frame.trans (by rw [h1.frame]; rfl), h2.err.trans h1.err, fun h => h2.inv (h1.inv h), fun h => h2.bl (h1.bl h),
    fun h => h2.bb (h1.bb h), fun rem hS => Nat.le_trans (h2.avail rem hS) (h1.avail rem hS)⟩

theorem Reads.decodes {r r' : Run σ} (h : Reads S r r') : Decodes S r r' :=
  ⟨by rw [h.frame]; rfl, h.err, h.frame.inv, h.bl, h.bb, h.avail⟩

theorem Decodes.fails {a b c : Run σ} (h1 : Decodes S a b) (h2 : Fails b c) : Fails a c :=
  ⟨fun h => h2.1 (h1.inv h), h2.2⟩

variable (S)

/-- the renormalisation loop: after `c` rounds (`Pc`) at most `16 - c` more shift, so `hang` needs `fuel + c < 17` -/
theorem renorm_spec : ∀ (fuel c : Nat) (r : Run σ), c ≤ 16 → Pc c r.H r.L → r.bitBuffer < u32 →
    MsPack.wp (renorm S fuel) (fun _ r' => Decodes S r r') (Exc (Fails r) (Cause S (fuel + c < 17) fun _ => False)) r := by
  intro fuel
  induction fuel with
  | zero =>
    intro c r hc _ _
    simp only [renorm, wp_throw, Exc]
    exact .hang (by omega)
  | succ fuel ih =>
    intro c r hc hp hbb
    simp only [renorm, wp_bind, wp_get]
    split
    · simp only [wp_pure]; exact (Reads.refl r).decodes
    · rename_i hh ll cc heq
      have hc15 : c ≤ 15 := by
        by_cases h16 : c = 16
        · subst h16; rw [Pc_final _ _ _ hp] at heq; cases heq
        · omega
      have hp1 := Pc_step c _ _ _ _ _ _ hc15 hp heq
      simp only [wp_bind, wp_set]
      have d0 : Decodes S r { r with H := hh, L := ll, C := cc } :=
        ⟨rfl, rfl, id, id, id, fun _ _ => Nat.le_refl _⟩
      refine wp_imp (ensureBits_spec S 1 3 (by omega) _) ?_ (fun _ h => d0.fails h)
        (fun f h => h.imp (fun hk => by omega) fun _ => id)
      intro _ r1 ⟨h1, _⟩
      refine wp_imp (peekBits_spec S 1 (by omega) r1 (h1.bb hbb)) ?_ (fun _ h => (d0.trans h1.decodes).fails h)
        (fun _ h => .inl h)
      rintro v _ ⟨rfl, _⟩
      refine wp_imp (removeBits_spec S 1 (by omega) r1) ?_ (fun _ h => (d0.trans h1.decodes).fails h)
        (fun _ h => .inl h)
      intro _ r2 ⟨h2, _, _⟩
      simp only [wp_modify]
      have d2 : Decodes S r { r2 with C := (shl r2.C 1 ||| v) % 65536 } :=
        (d0.trans (h1.trans h2).decodes).trans ⟨rfl, rfl, id, id, id, fun _ _ => Nat.le_refl _⟩
      refine wp_imp (ih (c + 1) _ (by omega) ?_ (d2.bb hbb)) (fun _ _ h => d2.trans h) (fun _ h => d2.fails h)
        (fun f h => h.imp (fun hk => by omega) fun _ => id)
      show Pc (c + 1) r2.H r2.L
      rw [h2.frame.H, h2.frame.L, h1.frame.H, h1.frame.L]
      exact hp1

theorem getSymbol_spec (fuel : Nat) (id : MId) (r : Run σ) (hI : StInv r.st) (hbb : r.bitBuffer < u32) :
    MsPack.wp (getSymbol S fuel id) (fun v r' => Decodes S r r' ∧ v < id.B) (Exc (Fails r)
      (Cause S (fuel < 17) fun _ => False)) r := by
  unfold getSymbol
  simp only [wp_bind, wp_get]
  obtain ⟨o, eo, ho, hs⟩ := decodeSym_spec id.B (r.st.model id) (hI.model id) r.H r.L r.C
  rw [eo]
  simp only [liftF, wp_pure, wp_set]
  have d0 : Decodes S r { r with st := r.st.setModel id o.model, H := o.H, L := o.L } := by
    refine ⟨?_, ?_, fun h => h.setModel id o.model ho, fun h => h, fun h => h, fun rem _ => ?_⟩
    · cases id <;> rfl
    · cases id <;> rfl
    · cases id <;> exact Nat.le_refl _
  refine wp_imp (renorm_spec S fuel 0 _ (by omega) (Pc_zero _ _) hbb) ?_ (fun _ h => d0.fails h)
    (fun f h => h.imp (fun hk => by omega) fun _ h => h)
  intro _ r2 h2
  exact ⟨d0.trans h2, hs⟩

/-- the 0xFF trailer scan, a loop on the caller's fuel whose only progress is input: it runs out of fuel only if,
    against every potential of the source, at least `8 * fuel` bits were still obtainable -/
theorem trailerScan_spec : ∀ (fuel : Nat) (r : Run σ), r.bitBuffer < u32 →
    MsPack.wp (trailerScan S fuel) (fun _ r' => Reads S r r') (Exc (Fails r)
      (Cause S (∀ rem, S.Finite rem → 8 * fuel ≤ avail rem r) fun _ => False)) r := by
  intro fuel
  induction fuel with
  | zero =>
    intro r _
    simp only [trailerScan, wp_throw, Exc]
    exact .hang fun _ _ => Nat.zero_le _
  | succ fuel ih =>
    intro r hbb
    simp only [trailerScan, wp_bind]
    refine wp_imp (readBits_spec S 8 (by omega) r hbb) ?_ (fun _ h => h) (fun _ h => .inl h)
    intro v r1 ⟨h1, _, a1⟩
    simp only [wp_ite, wp_pure]
    refine ⟨fun _ => ?_, fun _ => h1⟩
    refine wp_imp (ih r1 (h1.bb hbb)) (fun _ _ h => h1.trans h) (fun _ h => h1.fails h) ?_
    intro f hf
    refine hf.imp (fun hk rem hS => ?_) fun _ => id
    have := hk rem hS; have := a1 rem hS
    omega

end MsPack.Qtm
