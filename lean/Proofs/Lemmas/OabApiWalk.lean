import Proofs.Lemmas.SysLedger
import MsPack.Oab.Api
/-!
Walks of the OAB effect model (`MsPack/Oab/Api.lean`) that hold for any invariant: what the ledger
(`OabApiLedger.lean`) and the termination measure (`LoopTermOabSys.lean`) both read off them.
-/
namespace MsPack.Oab.Api
open MsPack.Sys

/-- `I n`: what holds with `n` rounds left.  A complete chunk read moves `I (n + 1)` to `I n`; every other step
    keeps `I (n + 1)`.  `R`: what is claimed of the result. -/
theorem copyFh_walk {I : Nat → World → Prop} {R : Option Err → World → Prop} (inFh : Nat) (outFh : Option Nat) (bufSize : Nat)
    (hread : ∀ n run, (1 ≤ bufSize → 1 ≤ run) → Hoare (I (n + 1)) (read inFh run)
      fun r w => I (n + 1) w ∧ ∀ got, r = some got → got.length = run → I n w)
    (hwrite : ∀ n o bs, outFh = some o → Pres (I n) (write o bs))
    (hnone : ∀ w, I 0 w → R none w) (hsome : ∀ n e w, I n w → R (some e) w) :
    ∀ n todo, Hoare (I n) (copyFh inFh outFh bufSize n todo) R := by
  intro n
  induction n with
  | zero => intro todo; exact .pure hnone
  | succ n ih =>
    intro todo
    rw [copyFh.eq_2]
    refine .ite (fun _ => .pure (hsome _ _)) fun ht => ?_
    dsimp only
    have hrun : 1 ≤ bufSize → 1 ≤ (if bufSize > todo then todo else bufSize) := by split <;> omega
    generalize (if bufSize > todo then todo else bufSize) = run at hrun
    refine .bind (hread n run hrun) fun
      | none => .pure fun w h => hsome _ _ w h.1
      | some got => .ite (fun _ => .pure fun w h => hsome _ _ w h.1) fun hg => ?_
    cases outFh with
    | none => exact (ih _).pre fun w h => h.2 got rfl (Decidable.of_not_not hg)
    | some o =>
      exact .bind (R := fun _ w => I (n + 1) w ∧ I n w)
        (fun w h => ⟨hwrite _ o got rfl w h.1, hwrite _ o got rfl w (h.2 got rfl (Decidable.of_not_not hg))⟩) fun
        | none => .pure fun w h => hsome _ _ w h.1
        | some _ => .ite (fun _ => .pure fun w h => hsome _ _ w h.1) fun _ => (ih _).pre fun w h => h.2

/-!
A block allocates and frees the three blocks of an LZX stream, reads the base file, runs the decoder body
and calls `copy_fh`; its header has been read by the round.  `P bl`: what holds while the blocks `bl`
(newest first) are held on top of what the call started with. -/

/-- the blocks of a live LZX stream, newest first -/
def lzxBlocks : Option Lzx → List Nat
  | none => []
  | some l => [l.inbuf, l.window, l.mem]

structure MemStable (P : List Nat → World → Prop) : Prop where
  alloc     : ∀ bl, Hoare (P bl) Sys.alloc fun r => P (r.toList ++ bl)
  free      : ∀ bl o, Hoare (P (o.toList ++ bl)) (Sys.free o) fun _ => P bl
  freeUnder : ∀ bl (x o : Option Nat), Hoare (P (x.toList ++ (o.toList ++ bl))) (Sys.free o) fun _ => P (x.toList ++ bl)

/-- `H`: what is claimed of a `copy_fh` that runs out of fuel -/
structure BlockStable (body : Body) (inFh baseFh outFh bufSize fuel : Nat) (P : List Nat → World → Prop) (H : Prop) : Prop
    extends MemStable P where
  readBase : ∀ bl n, Pres (P bl) (read baseFh n)
  dec      : ∀ bl a, Pres (P bl) (body a inFh outFh)
  copy     : ∀ bl o n, (∀ x, o = some x → x = outFh) →
    Hoare (P bl) (copyFh inFh o bufSize fuel n) fun r w => (r = none → H) ∧ P bl w

def RoundPost (P : List Nat → World → Prop) (H : Prop) (ex : List Nat) : Round → World → Prop
  | .done _ l, w => P (lzxBlocks l ++ ex) w
  | .next _, w => P ex w
  | .hang, _ => H

section
variable {P : List Nat → World → Prop} {ex : List Nat}

theorem lzxdInit_walk (hP : MemStable P) (wb ibs : Nat) :
    Hoare (P ex) (lzxdInit wb ibs) (fun r => P (lzxBlocks r ++ ex)) :=
  .ite (fun _ => .pure fun _ p => p) fun _ => .bind (hP.alloc _) fun
    | none => .pure fun _ p => p
    | some s => .bind (hP.alloc _) fun win => .bind (hP.alloc _) fun inb =>
      match win, inb with
      | some _, some _ => .pure fun _ p => p
      | none, _ | some _, none =>
        .bind (hP.freeUnder _ _ _) fun _ => .bind (hP.free _ _) fun _ => .bind (hP.free _ (some s)) fun _ =>
          .pure fun _ p => p

theorem lzxdFree_walk (hP : MemStable P) (l : Lzx) : Hoare (P (lzxBlocks (some l) ++ ex)) (lzxdFree l) (fun _ => P ex) :=
  .bind (hP.free _ (some _)) fun _ => .bind (hP.free _ (some _)) fun _ => hP.free _ (some _)

variable {body : Body} {inFh baseFh outFh bufSize fuel : Nat} {H : Prop}

theorem setReferenceData_walk (hP : BlockStable body inFh baseFh outFh bufSize fuel P H) (wb length : Nat) :
    Pres (P ex) (setReferenceData wb baseFh length) :=
  .ite (fun _ => .pure fun _ p => p) fun _ => .ite (fun _ => .pure fun _ p => p) fun _ =>
    .bind (hP.readBase _ _) fun
      | none => .pure fun _ p => p
      | some _ => .ite (fun _ => .pure fun _ p => p) fun _ => .pure fun _ p => p

theorem lzxTail_walk (hP : BlockStable body inFh baseFh outFh bufSize fuel P H) (a : LzxArgs) (l : Lzx) (blkCrc next : Nat) :
    Hoare (P (lzxBlocks (some l) ++ ex)) (lzxTail body a l inFh outFh bufSize blkCrc fuel next) (RoundPost P H ex) :=
  .bind (hP.dec _ a) fun _ => .ite (fun _ => .pure fun _ p => p) fun _ =>
    .bind (lzxdFree_walk hP.toMemStable l) fun _ => .bind (hP.copy ex none _ fun _ h => nomatch h) fun
      | none => .pure fun _ h => h.1 rfl
      | some _ => .ite (fun _ => .pure fun _ h => h.2) fun _ => .ite (fun _ => .pure fun _ h => h.2) fun _ =>
          .pure fun _ h => h.2

theorem fullBlock_walk (hP : BlockStable body inFh baseFh outFh bufSize fuel P H)
    (blockMax targetSize blkFlags blkCsize blkDsize blkCrc : Nat) :
    Hoare (P ex) (fullBlock body inFh outFh bufSize fuel blockMax targetSize blkFlags blkCsize blkDsize blkCrc)
      (RoundPost P H ex) :=
  .ite (fun _ => .pure fun _ p => p) fun _ => .ite
    (fun _ => .ite (fun _ => .pure fun _ p => p) fun _ =>
      .bind (hP.copy ex (some outFh) _ fun _ h => (Option.some.inj h).symm) fun
        | none => .pure fun _ h => h.1 rfl
        | some _ => .ite (fun _ => .pure fun _ h => h.2) fun _ => .pure fun _ h => h.2)
    fun _ => .bind (lzxdInit_walk hP.toMemStable _ bufSize) fun
      | none => .pure fun _ p => p
      | some l => lzxTail_walk hP _ l blkCrc _

theorem patchBlock_walk (hP : BlockStable body inFh baseFh outFh bufSize fuel P H)
    (lzxBuf blockMax targetSize blkCsize blkDsize blkSsize blkCrc : Nat) :
    Hoare (P ex)
      (patchBlock body inFh baseFh outFh bufSize lzxBuf fuel blockMax targetSize blkCsize blkDsize blkSsize blkCrc)
      (RoundPost P H ex) :=
  .ite (fun _ => .pure fun _ p => p) fun _ => .bind (lzxdInit_walk hP.toMemStable _ lzxBuf) fun
    | none => .pure fun _ p => p
    | some l => .bind (setReferenceData_walk hP _ blkSsize) fun _ => .ite (fun _ => .pure fun _ p => p) fun _ =>
        lzxTail_walk hP _ l blkCrc _

end

end MsPack.Oab.Api
