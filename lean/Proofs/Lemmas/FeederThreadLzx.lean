import Proofs.Lemmas.LzxSim
import Proofs.Lemmas.FeederThread
import Proofs.Props.C02CabLift
/-!
# LZX under the CAB feeder: the run does not depend on announcements other than `L`

The walk of `LzxSim.lean` for `feederSrc files` against `lenFiltered files L` (which has the same `read`
and ignores announcements other than `L`), from the states satisfying
`LJ st = FeederLive st.src ∧ FeederLen files L st.src`: the two sources agree on every such state, `LJ` is
closed under reads that deliver bytes, and a read that fails throws.  So the two runs coincide, a normal return
re-establishes `LJ`, and a fault is one of the model's own.  Lemmas named `…_cg` state this pair of facts (runs
coincide, `LJ`/`LOut` afterwards) for one function; `…_thr` the second half alone.  `LzxSim.decompress_sim`
(`CountLaws.lean`) carries `readInput_cg` through `lzxd_decompress`.
-/
namespace MsPack.CabLift
open MsPack.Cab MsPack.CountLaws

namespace LzxThread
open MsPack.Lzx LzxSim

variable (files : Files) (L : Nat)

def LJ (st : Lzx.St Feeder) : Prop := FeederLive st.src ∧ FeederLen files L st.src

def LQ (a b : Feeder) : Prop := a = b ∧ FeederLive a ∧ FeederLen files L a

theorem LQ_eq {files : Files} {L : Nat} (a b : Lzx.St Feeder) (h : SR (LQ files L) (fun _ => True) a b) : b = a := by
  obtain ⟨_, x, hx, rfl⟩ := h
  cases hx.1; rfl

abbrev SF := feederSrc files
abbrev SL := lenFiltered files L

theorem readInput_thr :
    Thr (fun t => SR (LQ files L) (fun _ => True) t t) (HE fun _ => False) (readInput (feederSrc files)) := by
  unfold readInput
  refine Thr.get_bind_from fun st ⟨_, _, hj, _⟩ => ?_
  split
  · rename_i f hr
    exact absurd hr (feederSrc_read_no_fault files st.src _ f hj.2.1)
  · rename_i got src hr
    have hlen : FeederLen files L src := (feederSrc_len_stable files L st.src _ got src hj.2.2 hr).1
    dsimp only
    split
    · exact thrFrom_set_throw fun he => nomatch he
    · split
      · exact thrFrom_set_throw fun he => nomatch he
      · exact thrFrom_set ⟨trivial, _, ⟨rfl, feederSrc_read_live files st.src _ [] src hj.2.1 hr, hlen⟩, rfl⟩
    · rename_i g _
      exact thrFrom_set ⟨trivial, _, ⟨rfl, feederSrc_read_live files st.src _ g src hj.2.1 hr, hlen⟩, rfl⟩

theorem readInput_cg : Sim True (SR (LQ files L) (fun _ => True)) (HE fun _ => False)
    (readInput (feederSrc files)) (readInput (lenFiltered files L)) := by
  refine Sim.of_thr LQ_eq (readInput_thr files L) fun st ⟨_, _, hj, _⟩ => ?_
  unfold readInput
  rw [CountLaws.Qtm.run_get_bind, CountLaws.Qtm.run_get_bind]
  have hread : (lenFiltered files L).read = (feederSrc files).read := rfl
  rw [hread]
  cases hr : (feederSrc files).read st.src st.inbufSize with
  | error f => rfl
  | ok p =>
    obtain ⟨got, src⟩ := p
    have hlen : FeederLen files L src := (feederSrc_len_stable files L st.src _ got src hj.2.2 hr).1
    have ha := lenFiltered_agrees files L src hlen
    dsimp only
    rw [ha]

def LOut : Except Fault (DecodeOut (Lzx.St Feeder)) → Prop
  | .error f => ∀ w, f ≠ .nullDeref w
  | .ok o => o.st.error = .ok → LJ files L o.st ∧ o.err = .ok

theorem decompress_cg (fuel : Nat) (st : Lzx.St Feeder) (n : Nat) (hj : st.error = .ok → LJ files L st) :
    Lzx.decompress (feederSrc files) fuel st n = Lzx.decompress (lenFiltered files L) fuel st n ∧
    LOut files L (Lzx.decompress (feederSrc files) fuel st n) := by
  by_cases he : st.error = .ok
  · have hW := walk_HE (fun _ _ _ h => h.1.symm) (readInput_cg files L)
    have h := decompress_sim hW fuel n (s1 := st) ⟨trivial, _, ⟨rfl, hj he⟩, rfl⟩ he
    refine ⟨(Out2.eq_of_lock hW h trivial).symm, ?_⟩
    generalize Lzx.decompress (feederSrc files) fuel st n = r1 at h ⊢
    cases r1 with
    | error f =>
      obtain ⟨⟨_, hf⟩, _⟩ := h
      exact (hf.resolve_right id).not_nullDeref
    | ok o =>
      intro h0
      by_cases ho : o.err = .ok
      · obtain ⟨_, _, _, _, ⟨_, _, hq, _⟩⟩ := h.1 ho
        exact ⟨hq.2, ho⟩
      · exact absurd h0 (h.2 ho).1
  · rw [Lzx.decompress_dead _ fuel st n he, Lzx.decompress_dead _ fuel st n he]
    exact ⟨rfl, fun h => absurd h he⟩

end LzxThread
end MsPack.CabLift
