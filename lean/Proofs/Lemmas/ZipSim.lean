import Proofs.Lemmas.Sim
import MsPack.Zip.Inflate
/-!
# The MSZIP decoder over two sources

The MSZIP model consults its source in `readInput` only, no helper of `inflate` looks at the
`src` field, and none looks at or writes the `repair` flag.  From a simulation of `readInput` over two sources
follows the same simulation of every helper up to `inflate` and `scanCK`, between states that differ in `src`
(by `Q`) and in `repair` (the second run's is `c'` throughout).  The output loop and `decompress` are lifted in
`CountLaws.lean` (`frameStep_sim`, `decompress_sim`), which has the facts about thrown statuses they need.
-/
namespace MsPack.CabLift.ZipSim
open MsPack.CountLaws MsPack.Zip MsPack.CabLift.LzxMild

variable {σ : Type}

def SR (Q : σ → σ → Prop) (I : Zip.St σ → Prop) (c' : Bool) (a b : Zip.St σ) : Prop :=
  I a ∧ ∃ x, Q a.src x ∧ b = { a with src := x, repair := c' }

/-- What the walk asks of the invariant `I` of the first run and the exception condition `E`.  No helper of `inflate` but `read_input`
    touches `src`, `error` or `inbufSize`, and none touches `repair`, so an `I` that looks at nothing else survives every other step
    (`frame`); the model's own faults and a format error (`inf`) may come at any point; under `lock` the two runs
    start from one state; `read_input` over the two sources is the hypothesis `read`. -/
structure Walk (lock : Prop) (Q : σ → σ → Prop) (I : Zip.St σ → Prop) (c' : Bool) (E : Zip.Halt → Zip.St σ → Prop)
    (S1 S2 : Src σ) : Prop where
  frame : ∀ {a b : Zip.St σ}, I a → b.src = a.src → b.error = a.error → b.inbufSize = a.inbufSize →
    b.repair = a.repair → I b
  lock_eq : lock → ∀ a x, I a → Q a.src x → x = a.src ∧ c' = a.repair
  fault : ∀ f a, I a → Mild f → E (.fault f) a
  inf : ∀ a, I a → E .inf a
  read : Sim lock (SR Q I c') E (readInput S1) (readInput S2)

variable {lock : Prop} {Q : σ → σ → Prop} {I : Zip.St σ → Prop} {c' : Bool} {E : Zip.Halt → Zip.St σ → Prop}
  {S1 S2 : Src σ} (W : Walk lock Q I c' E S1 S2)
include W

theorem SR.eq_of_lock (hl : lock) {a b : Zip.St σ} (h : SR Q I c' a b) : b = a := by
  obtain ⟨hi, x, hx, rfl⟩ := h
  rw [(W.lock_eq hl a x hi hx).1, (W.lock_eq hl a x hi hx).2]

section rules
variable {α β : Type}

omit W in
theorem SR.get_bind {f1 f2 : Zip.St σ → ZM σ β}
    (hf : ∀ r x, I r → Q r.src x → Sim lock (SR Q I c') E (f1 r) (f2 { r with src := x, repair := c' })) :
    Sim lock (SR Q I c') E (MonadState.get >>= f1) (MonadState.get >>= f2) :=
  Sim2.get_bind fun r1 _ ⟨hi, x, hx, he⟩ => he ▸ hf r1 x hi hx

omit W in
theorem SR.modify {g : Zip.St σ → Zip.St σ}
    (hf : ∀ a b : Zip.St σ, I a → b.src = a.src → b.error = a.error → b.inbufSize = a.inbufSize →
      b.repair = a.repair → I b)
    (hg : ∀ r x, g { r with src := x, repair := c' } = { g r with src := x, repair := c' })
    (hs : ∀ r, (g r).src = r.src) (he : ∀ r, (g r).error = r.error) (hb : ∀ r, (g r).inbufSize = r.inbufSize)
    (hr : ∀ r, (g r).repair = r.repair) : Sim lock (SR Q I c') E (modify g : ZM σ PUnit) (modify g) :=
  Sim2.modify fun a _ ⟨hi, x, hx, h⟩ => ⟨hf _ _ hi (hs a) (he a) (hb a) (hr a), x, hs a ▸ hx, h ▸ hg a x⟩

theorem fault_sim {f : Fault} (hm : Mild f) : Sim lock (SR Q I c') E (throw (.fault f) : ZM σ α) (throw (.fault f)) :=
  Sim2.throw fun a _ h => ⟨W.fault f a h.1 hm, fun hl => SR.eq_of_lock W hl h⟩

theorem oob_sim (w : String) : Sim lock (SR Q I c') E (throw (.fault (.oob w)) : ZM σ α) (throw (.fault (.oob w))) :=
  fault_sim W (.oob w)
theorem uninit_sim (w : String) :
    Sim lock (SR Q I c') E (throw (.fault (.uninit w)) : ZM σ α) (throw (.fault (.uninit w))) :=
  fault_sim W (.uninit w)
theorem hang_sim : Sim lock (SR Q I c') E (throw (.fault .hang) : ZM σ α) (throw (.fault .hang)) :=
  fault_sim W .hang

theorem inf_sim : Sim lock (SR Q I c') E (throw .inf : ZM σ α) (throw .inf) :=
  Sim2.throw fun a _ h => ⟨W.inf a h.1, fun hl => SR.eq_of_lock W hl h⟩

end rules

/-- the `I` hypothesis used for the state written is the latest one in the context: the state the last `get`
    returned -/
local macro_rules | `(tactic| sim_get) => `(tactic| ((with_reducible refine SR.get_bind ?_); intro _ _ _ _; dsimp -zeta only))
local macro_rules | `(tactic| sim_put) => `(tactic| first
  | ((with_reducible refine Sim2.set ?_); exact ⟨by (refine Walk.frame ‹_› ‹_› ?_ ?_ ?_ ?_ <;> with_reducible rfl), _,
      by assumption, by with_reducible rfl⟩)
  | ((with_reducible refine SR.modify ?_ ?_ ?_ ?_ ?_ ?_) <;> first | exact (fun _ _ => Walk.frame ‹_›) | (intros; with_reducible rfl)))

theorem removeBits_sim (n : Nat) : Sim lock (SR Q I c') E (removeBits (σ := σ) n) (removeBits n) := by
  unfold removeBits; sim_auto

theorem nextByte_sim : Sim lock (SR Q I c') E (nextByte S1) (nextByte S2) := by
  unfold nextByte; sim_auto [W.read, oob_sim W]

theorem ensureBits_sim (n : Nat) : ∀ fuel, Sim lock (SR Q I c') E (ensureBits S1 n fuel) (ensureBits S2 n fuel) := by
  intro fuel
  induction fuel with
  | zero => rw [ensureBits.eq_1, ensureBits.eq_1]; sim_auto
  | succ fuel ih => rw [ensureBits.eq_2, ensureBits.eq_2]; sim_auto [nextByte_sim W]


theorem readBits_sim (n : Nat) : Sim lock (SR Q I c') E (readBits S1 n) (readBits S2 n) := by
  unfold readBits; sim_auto [ensureBits_sim W, removeBits_sim W]

theorem readHuffSym_sim (cn : Huff.Canon) : Sim lock (SR Q I c') E (readHuffSym S1 cn) (readHuffSym S2 cn) := by
  unfold readHuffSym; sim_auto [ensureBits_sim W, removeBits_sim W, inf_sim W]

theorem readLensLoop_sim (cn : Huff.Canon) (total : Nat) : ∀ fuel lens last,
    Sim lock (SR Q I c') E (readLensLoop S1 cn total fuel lens last) (readLensLoop S2 cn total fuel lens last) := by
  intro fuel
  induction fuel with
  | zero => intro lens last; rw [readLensLoop.eq_1, readLensLoop.eq_1]; sim_auto [hang_sim W]
  | succ fuel ih =>
    intro lens last; rw [readLensLoop.eq_2, readLensLoop.eq_2]
    sim_auto [ensureBits_sim W, removeBits_sim W, readBits_sim W, inf_sim W, uninit_sim W]

theorem zipReadLens_rd_sim (blc : Nat) : ∀ k acc,
    Sim lock (SR Q I c') E (zipReadLens.rd S1 blc k acc) (zipReadLens.rd S2 blc k acc) := by
  intro k
  induction k with
  | zero => intro acc; rw [zipReadLens.rd.eq_1, zipReadLens.rd.eq_1]; sim_auto
  | succ k ih => intro acc; rw [zipReadLens.rd.eq_2, zipReadLens.rd.eq_2]; sim_auto [readBits_sim W]

theorem zipReadLens_sim : Sim lock (SR Q I c') E (zipReadLens S1) (zipReadLens S2) := by
  unfold zipReadLens
  sim_auto [readBits_sim W, zipReadLens_rd_sim W, readLensLoop_sim W,
    inf_sim W]


theorem flushWindow_sim (n : Nat) : Sim lock (SR Q I c') E (flushWindow (σ := σ) n) (flushWindow n) := by
  unfold flushWindow; sim_auto [inf_sim W]

theorem flushIfNeeded_sim : Sim lock (SR Q I c') E (flushIfNeeded (σ := σ)) flushIfNeeded := by
  unfold flushIfNeeded; sim_auto [flushWindow_sim W]

theorem putByte_sim (b : UInt8) : Sim lock (SR Q I c') E (putByte (σ := σ) b) (putByte b) := by
  unfold putByte; sim_auto [flushIfNeeded_sim W, oob_sim W]

theorem copyMatch_sim : ∀ length posn,
    Sim lock (SR Q I c') E (copyMatch (σ := σ) length posn) (copyMatch length posn) := by
  intro length
  induction length with
  | zero => intro posn; rw [copyMatch.eq_1]; sim_auto
  | succ length ih => intro posn; rw [copyMatch.eq_2]; sim_auto [putByte_sim W]


theorem copyStored_sim : ∀ fuel length,
    Sim lock (SR Q I c') E (copyStored S1 fuel length) (copyStored S2 fuel length) := by
  intro fuel
  induction fuel with
  | zero => intro length; rw [copyStored.eq_1, copyStored.eq_1]; sim_auto [hang_sim W]
  | succ fuel ih =>
    intro length; rw [copyStored.eq_2, copyStored.eq_2]
    sim_auto [W.read, flushIfNeeded_sim W]

theorem huffBlock_sim (lit dist : Huff.Canon) : ∀ fuel,
    Sim lock (SR Q I c') E (huffBlock S1 lit dist fuel) (huffBlock S2 lit dist fuel) := by
  intro fuel
  induction fuel with
  | zero => rw [huffBlock.eq_1, huffBlock.eq_1]; sim_auto [hang_sim W]
  | succ fuel ih =>
    rw [huffBlock.eq_2, huffBlock.eq_2]
    sim_auto [readHuffSym_sim W, readBits_sim W, putByte_sim W, copyMatch_sim W,
      inf_sim W]

theorem inflate_more_sim : ∀ k acc, Sim lock (SR Q I c') E (inflate.more S1 k acc) (inflate.more S2 k acc) := by
  intro k
  induction k with
  | zero => intro acc; rw [inflate.more.eq_1, inflate.more.eq_1]; sim_auto
  | succ k ih => intro acc; rw [inflate.more.eq_2, inflate.more.eq_2]; sim_auto [nextByte_sim W]

theorem inflate_sim : ∀ fuel, Sim lock (SR Q I c') E (inflate S1 fuel) (inflate S2 fuel) := by
  intro fuel
  induction fuel with
  | zero => rw [inflate.eq_1, inflate.eq_1]; sim_auto [hang_sim W]
  | succ fuel ih =>
    rw [inflate.eq_2, inflate.eq_2]
    sim_auto [readBits_sim W, inflate_more_sim W, copyStored_sim W,
      zipReadLens_sim W, huffBlock_sim W, flushWindow_sim W, inf_sim W]

theorem scanCK_sim : ∀ fuel state, Sim lock (SR Q I c') E (scanCK S1 fuel state) (scanCK S2 fuel state) := by
  intro fuel
  induction fuel with
  | zero => intro state; rw [scanCK.eq_1, scanCK.eq_1]; sim_auto [hang_sim W]
  | succ fuel ih => intro state; rw [scanCK.eq_2, scanCK.eq_2]; sim_auto [readBits_sim W]

end MsPack.CabLift.ZipSim
