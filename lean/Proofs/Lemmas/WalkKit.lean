import Lean.Elab.Tactic
import MsPack.Basic
import Proofs.Lemmas.Wp
/-!
# Triples over `ExceptT ε (StateM s)` and the structural walk

`Tri I E m` — from a state satisfying `I` the monadic action `m` returns in a state satisfying `I` or ends with an
exception `e` in a state satisfying `E e`; `Throws P` ("every exception satisfies `P`") and `Keeps I` are its
one-sided readings.  `tri_auto` walks an action of a decoder model rule by rule.  (The full names are
`MsPack.CountLaws.Tri` ..: fixed statements use them, so the kit keeps the namespace of its first client.)
-/
namespace MsPack.CountLaws

section kit
variable {ε s α β : Type}

structure Throws (P : ε → Prop) (m : ExceptT ε (StateM s) α) : Prop where
  out : ∀ st e st', m.run.run st = (.error e, st') → P e

structure Keeps (I : s → Prop) (m : ExceptT ε (StateM s) α) : Prop where
  out : ∀ st, I st → ∀ r s', m.run.run st = (r, s') → I s'

theorem Keeps.get (I : s → Prop) : Keeps I (get : ExceptT ε (StateM s) s) :=
  ⟨fun _ hi _ _ h => by cases h; exact hi⟩

structure Tri (I : s → Prop) (E : ε → s → Prop) (m : ExceptT ε (StateM s) α) : Prop where
  out : ∀ st, I st → ∀ r s', m.run.run st = (r, s') →
    match r with
    | .ok _ => I s'
    | .error e => E e s'

theorem Tri.pure (I : s → Prop) (E : ε → s → Prop) (a : α) : Tri I E (pure a : ExceptT ε (StateM s) α) :=
  ⟨fun _ hi _ _ h => by cases h; exact hi⟩
theorem Tri.get (I : s → Prop) (E : ε → s → Prop) : Tri I E (get : ExceptT ε (StateM s) s) :=
  ⟨fun _ hi _ _ h => by cases h; exact hi⟩
theorem Tri.throw {I : s → Prop} {E : ε → s → Prop} {e : ε} (h : ∀ st, I st → E e st) :
    Tri I E (throw e : ExceptT ε (StateM s) α) :=
  ⟨fun _ hi _ _ h' => by cases h'; exact h _ hi⟩
theorem Tri.set {I : s → Prop} {E : ε → s → Prop} {x : s} (hx : I x) :
    Tri I E (set x : ExceptT ε (StateM s) PUnit) :=
  ⟨fun _ _ _ _ h => by cases h; exact hx⟩
theorem Tri.modify {I : s → Prop} {E : ε → s → Prop} {g : s → s} (hg : ∀ st, I st → I (g st)) :
    Tri I E (modify g : ExceptT ε (StateM s) PUnit) :=
  ⟨fun _ hi _ _ h => by cases h; exact hg _ hi⟩

theorem Tri.modifyGet {I : s → Prop} {E : ε → s → Prop} {g : s → α × s} (hg : ∀ st, I st → I (g st).2) :
    Tri I E (modifyGet g : ExceptT ε (StateM s) α) :=
  ⟨fun _ hi _ _ h => by cases h; exact hg _ hi⟩

theorem Tri.bind {I : s → Prop} {E : ε → s → Prop} {x : ExceptT ε (StateM s) α}
    {f : α → ExceptT ε (StateM s) β} (hx : Tri I E x) (hf : ∀ a, Tri I E (f a)) : Tri I E (x >>= f) := by
  constructor
  intro st hi r s' h
  rw [wp.run_bind] at h
  cases hr : x.run.run st with
  | mk r1 s1 =>
    rw [hr] at h
    have h1 := hx.out st hi _ _ hr
    cases r1 with
    | ok a => exact (hf a).out _ h1 _ _ h
    | error e1 => cases h; exact h1

theorem Tri.get_bind {I : s → Prop} {E : ε → s → Prop} {f : s → ExceptT ε (StateM s) β}
    (hf : ∀ r, I r → Tri I E (f r)) : Tri I E (MonadState.get >>= f) := by
  constructor
  intro st hi r s' h
  rw [wp.run_bind] at h
  exact (hf st hi).out st hi _ _ h

/-- the `Decidable` instance is taken from the goal, not synthesised -/
theorem Tri.ite {I : s → Prop} {E : ε → s → Prop} {c : Prop} {inst : Decidable c} {a b : ExceptT ε (StateM s) α}
    (ha : c → Tri I E a) (hb : ¬c → Tri I E b) : Tri I E (@_root_.ite _ c inst a b) := by
  split
  · exact ha ‹_›
  · exact hb ‹_›

theorem Tri.throws {P : ε → Prop} {m : ExceptT ε (StateM s) α} (h : Tri (fun _ => True) (fun e _ => P e) m) :
    Throws P m :=
  ⟨fun st _ _ hr => h.out st trivial _ _ hr⟩

theorem Tri.keeps {I : s → Prop} {m : ExceptT ε (StateM s) α} (h : Tri I (fun _ => I) m) : Keeps I m :=
  ⟨fun st hi r s' hr => by have := h.out st hi r s' hr; cases r <;> exact this⟩

theorem Qtm.run_get_bind (f : s → ExceptT ε (StateM s) β) (st : s) :
    (MonadState.get >>= f).run.run st = (f st).run.run st := by
  rw [wp.run_bind]; rfl
theorem Qtm.run_throw_bind (e : ε) (f : α → ExceptT ε (StateM s) β) (st : s) :
    ((throw e : ExceptT ε (StateM s) α) >>= f).run.run st = (.error e, st) := by
  rw [wp.run_bind]; rfl
theorem Qtm.run_modify (g : s → s) (st : s) :
    (modify g : ExceptT ε (StateM s) PUnit).run.run st = (.ok ⟨⟩, g st) := rfl
theorem Qtm.run_modify_bind (g : s → s) (f : PUnit → ExceptT ε (StateM s) β) (st : s) :
    (modify g >>= f).run.run st = (f ⟨⟩).run.run (g st) := by
  rw [wp.run_bind]; rfl
theorem Qtm.run_pure (a : α) (st : s) : (pure a : ExceptT ε (StateM s) α).run.run st = (.ok a, st) := rfl
theorem Qtm.run_ite (c : Prop) [Decidable c] (a b : ExceptT ε (StateM s) α) (st : s) :
    (if c then a else b).run.run st = if c then a.run.run st else b.run.run st := by
  split <;> rfl
theorem ReadErr.run_set_bind (x : s) (f : PUnit → ExceptT ε (StateM s) β) (st : s) :
    (set x >>= f).run.run st = (f ⟨⟩).run.run x := by
  rw [wp.run_bind]; rfl
theorem ReadErr.run_set (x : s) (st : s) : (set x : ExceptT ε (StateM s) PUnit).run.run st = (.ok ⟨⟩, x) := rfl
theorem ReadErr.run_throw (e : ε) (st : s) : (throw e : ExceptT ε (StateM s) α).run.run st = (.error e, st) := rfl

end kit

section tactics
open Lean Elab Tactic Meta

/-- goal `Throws P (have jp := f; body)` (a join point of the do-notation): prove the join point
    once (`∀ r, Throws P (f r)`), then the body with the join point abstract; an ordinary `have`
    is inlined.  (Inlining join points instead duplicates the continuation at every `if … then
    fail` of the C and makes the terms exponentially large.) -/
elab "throws_jp" : tactic => withMainContext do
  let g ← getMainGoal
  let t ← instantiateMVars (← g.getType)
  let some C := t.getAppFn.constName? | throwError "not a triple"
  unless C == ``Throws || C == ``Tri do
    throwError "not a triple"
  let .letE n ty v b _ := t.appArg! | throwError "no join point"
  let .forallE rn rty _ _ ← whnfR ty
    | do let g' ← g.replaceTargetDefEq (mkApp t.appFn! (b.instantiate1 v))
         replaceMainGoal [g']
         return
  let t2 ← withLocalDeclD rn rty fun r => do
    mkForallFVars #[r] (mkApp t.appFn! (mkApp v r).headBeta)
  let t1 ← withLocalDeclD n ty fun jp => do
    let hty ← withLocalDeclD rn rty fun r => do
      mkForallFVars #[r] (mkApp t.appFn! (mkApp jp r))
    withLocalDeclD `hjp hty fun hjp => do
      mkForallFVars #[jp, hjp] (mkApp t.appFn! (b.instantiate1 jp))
  let g1 ← mkFreshExprSyntheticOpaqueMVar t1
  let g2 ← mkFreshExprSyntheticOpaqueMVar t2
  g.assign (mkApp2 g1 v g2)
  replaceMainGoal [g2.mvarId!, g1.mvarId!]

elab "throws_hyp" : tactic => withMainContext do
  let g ← getMainGoal
  for d in (← getLCtx) do
    if d.isImplementationDetail then continue
    let ty ← instantiateMVars d.type
    if ty.getForallBody.isAppOf ``Throws || ty.getForallBody.isAppOf ``Tri then
      let s ← saveState
      try
        let gs ← withReducible (g.apply d.toExpr)
        replaceMainGoal gs
        return
      catch _ => s.restore
  throwError "no hypothesis applies"

end tactics

/-- hook of `tri_auto`: proves `I (updated state)` at a `set`/`modify`; each walk binds it with `local macro_rules` -/
syntax "tri_close" : tactic
macro_rules | `(tactic| tri_close) => `(tactic| assumption)
/-- hook of `tri_auto`: proves `E e st` at a `throw` (default: `tri_close`) -/
syntax "tri_throw_close" : tactic
macro_rules | `(tactic| tri_throw_close) => `(tactic| tri_close)
/-- Structural walk for `Tri`: one rule per head of the action (`pure`/`get`/`set`/`modify`/`throw`/bind/`if`),
    the given facts about the callees, join points abstracted, `match` split.  Reducible transparency only: the actions
    contain 32768-sized literals and recursive callees that must not be unfolded by unification.  `set`/`modify` goals go
    to `tri_close`, `throw` goals to `tri_throw_close`.
    Order of the alternatives: a join point must be abstracted before any rule looks through its `have`; then the
    frequent shapes; `split` only for a `match`. -/
syntax "tri_auto" (" [" term,* "]")? : tactic
macro_rules
  | `(tactic| tri_auto [$ts,*]) => do
    let alts ← ts.getElems.mapM fun t => `(tacticSeq| with_reducible apply $t)
    `(tactic| repeat' first
      | throws_jp
      | intro _
      | ((with_reducible refine Tri.get_bind ?_); intro _ _)
      | with_reducible refine Tri.bind ?_ ?_
      | with_reducible exact Tri.pure _ _ _
      | throws_hyp
      $[| $alts]*
      | with_reducible refine Tri.ite ?_ ?_
      | ((with_reducible refine Tri.throw ?_); intro _ _; tri_throw_close)
      | ((with_reducible refine Tri.modify ?_); intro _ _; tri_close)
      | ((with_reducible refine Tri.set ?_); tri_close)
      | with_reducible exact Tri.get _ _
      | ((with_reducible refine Tri.modifyGet ?_); intro _ _; tri_close)
      | split)
  | `(tactic| tri_auto) => `(tactic| tri_auto [Tri.pure _ _ _])

end MsPack.CountLaws
