import MsPack.Cab.Extract
/-
`Cab.decompress` opened once: per constructor of `Dec` it is the decoder's own call, over the CAB feeder put into its
state and with the fuel `chainFuel files fd`, mapped through a repackaging function (`Dec.ofZip` ..).  Every per-decoder
fact is carried to `Cab.decompress` by `rw [decompress_X]` and one of three facts about `Except.map`
(`Except.map_ok_iff`, `Except.map_error_iff`, `Call.map`).
-/
namespace Except
variable {ε α β : Type}

theorem map_ok_iff {x : Except ε α} {g : α → β} {b : β} : x.map g = .ok b ↔ ∃ a, x = .ok a ∧ g a = b := by
  cases x with
  | error e => exact ⟨nofun, nofun⟩
  | ok a => exact ⟨fun h => ⟨a, rfl, Except.ok.inj h⟩, fun ⟨_, h, hg⟩ => by cases h; exact congrArg _ hg⟩

theorem map_error_iff {x : Except ε α} {g : α → β} {e : ε} : x.map g = .error e ↔ x = .error e := by
  cases x with
  | error e' => exact ⟨fun h => congrArg _ (Except.error.inj h), fun h => congrArg _ (Except.error.inj h)⟩
  | ok a => exact ⟨nofun, nofun⟩

end Except

namespace MsPack.Cab

/-- how `cabd_extract` hands back the result of a decoder call -/
def Dec.ofZip (o : Zip.Out Feeder) : DecOut := ⟨o.err, o.written, .mszip o.st, o.st.src⟩
def Dec.ofQtm (o : DecodeOut (Qtm.St Feeder)) : DecOut := ⟨o.err, o.written, .qtm o.st, o.st.src⟩
def Dec.ofLzx (o : DecodeOut (Lzx.St Feeder)) : DecOut := ⟨o.err, o.written, .lzx o.st, o.st.src⟩

variable {files : Files} {fd : Feeder} {n : Nat}

theorem decompress_none (bs : Nat) :
    decompress files (.none bs .ok) fd n = (nonedDecompress files bs (n / max bs 1 + 2) fd n []).map some := rfl

theorem decompress_none_err {bs : Nat} {e : Err} (he : e ≠ .ok) :
    decompress files (.none bs e) fd n = .ok (some ⟨e, [], .none bs e, fd⟩) := if_pos he

theorem decompress_mszip (st : Zip.St Feeder) : decompress files (.mszip st) fd n =
    (Zip.decompress (feederSrc files) (chainFuel files fd) { st with src := fd } n).map (some ∘ Dec.ofZip) := by
  unfold decompress; dsimp only; split <;> simp only [*, Except.map] <;> rfl

theorem decompress_qtm (st : Qtm.St Feeder) : decompress files (.qtm st) fd n =
    (Qtm.decompress (feederSrc files) (chainFuel files fd) { st with src := fd } n).map (some ∘ Dec.ofQtm) := by
  unfold decompress; dsimp only; split <;> simp only [*, Except.map] <;> rfl

theorem decompress_lzx (st : Lzx.St Feeder) : decompress files (.lzx st) fd n =
    (Lzx.decompress (feederSrc files) (chainFuel files fd) { st with src := fd } n).map (some ∘ Dec.ofLzx) := by
  unfold decompress; dsimp only; split <;> simp only [*, Except.map] <;> rfl

theorem decompress_unsupported (k : Nat) : decompress files (.unsupported k) fd n = .ok none := rfl

theorem decompress_error_iff {dec : Dec} {f : Fault} : decompress files dec fd n = .error f ↔
    match dec with
    | .none bs e => e = .ok ∧ nonedDecompress files bs (n / max bs 1 + 2) fd n [] = .error f
    | .mszip st => Zip.decompress (feederSrc files) (chainFuel files fd) { st with src := fd } n = .error f
    | .qtm st => Qtm.decompress (feederSrc files) (chainFuel files fd) { st with src := fd } n = .error f
    | .lzx st => Lzx.decompress (feederSrc files) (chainFuel files fd) { st with src := fd } n = .error f
    | .unsupported _ => False := by
  cases dec with
  | none bs e =>
    by_cases he : e = .ok
    · subst he; rw [decompress_none, Except.map_error_iff]; exact (and_iff_right rfl).symm
    · rw [decompress_none_err he]; exact ⟨nofun, fun h => absurd h.1 he⟩
  | mszip st => rw [decompress_mszip, Except.map_error_iff]
  | qtm st => rw [decompress_qtm, Except.map_error_iff]
  | lzx st => rw [decompress_lzx, Except.map_error_iff]
  | unsupported k => exact ⟨nofun, nofun⟩

theorem decompress_ok_iff {dec : Dec} {o : DecOut} : decompress files dec fd n = .ok (some o) ↔
    match dec with
    | .none bs e => (e ≠ .ok ∧ o = ⟨e, [], .none bs e, fd⟩) ∨
        (e = .ok ∧ nonedDecompress files bs (n / max bs 1 + 2) fd n [] = .ok o)
    | .mszip st => ∃ zo, Zip.decompress (feederSrc files) (chainFuel files fd) { st with src := fd } n = .ok zo ∧
        o = Dec.ofZip zo
    | .qtm st => ∃ zo, Qtm.decompress (feederSrc files) (chainFuel files fd) { st with src := fd } n = .ok zo ∧
        o = Dec.ofQtm zo
    | .lzx st => ∃ zo, Lzx.decompress (feederSrc files) (chainFuel files fd) { st with src := fd } n = .ok zo ∧
        o = Dec.ofLzx zo
    | .unsupported _ => False := by
  have stream {α : Type} (x : Except Fault α) (g : α → DecOut) :
      x.map (some ∘ g) = .ok (some o) ↔ ∃ zo, x = .ok zo ∧ o = g zo :=
    Except.map_ok_iff.trans ⟨fun ⟨a, h, e⟩ => ⟨a, h, (Option.some.inj e).symm⟩, fun ⟨a, h, e⟩ => ⟨a, h, e ▸ rfl⟩⟩
  cases dec with
  | none bs e =>
    by_cases he : e = .ok
    · subst he
      rw [decompress_none, Except.map_ok_iff]
      exact ⟨fun ⟨a, h, e⟩ => .inr ⟨rfl, Option.some.inj e ▸ h⟩, fun
        | .inl h => absurd rfl h.1
        | .inr h => ⟨o, h.2, rfl⟩⟩
    · rw [decompress_none_err he]
      exact ⟨fun h => .inl ⟨he, (Option.some.inj (Except.ok.inj h)).symm⟩, fun
        | .inl h => h.2 ▸ rfl
        | .inr h => absurd h.1 he⟩
  | mszip st => rw [decompress_mszip]; exact stream _ _
  | qtm st => rw [decompress_qtm]; exact stream _ _
  | lzx st => rw [decompress_lzx]; exact stream _ _
  | unsupported k => exact ⟨nofun, nofun⟩

def Call (F : Fault → Prop) (Q : DecOut → Prop) (r : Except Fault (Option DecOut)) : Prop :=
  (∀ f, r = .error f → F f) ∧ (∀ o, r = .ok (some o) → Q o) ∧ r ≠ .ok none

theorem Call.map {α : Type} {F : Fault → Prop} {Q : DecOut → Prop} {x : Except Fault α} {g : α → DecOut}
    (hf : ∀ f, x = .error f → F f) (ho : ∀ a, x = .ok a → Q (g a)) : Call F Q (x.map (some ∘ g)) := by
  refine ⟨fun f h => hf f (Except.map_error_iff.1 h), fun o h => ?_, fun h => ?_⟩
  · obtain ⟨a, ha, e⟩ := Except.map_ok_iff.1 h
    exact Option.some.inj e ▸ ho a ha
  · obtain ⟨a, _, e⟩ := Except.map_ok_iff.1 h
    cases e

end MsPack.Cab
