import MsPack.Cabx.OutName
/-
Lemmas about the sanitising passes of `create_output_name` (model: MsPack/Cabx/OutName.lean).
-/
namespace MsPack.Cabx

def startsDDS : Bytes → Bool
  | a :: b :: c :: _ => a == 0x2E && b == 0x2E && isSlash c
  | _ => false

def hasDDS : Bytes → Bool
  | [] => false
  | a :: rest => startsDDS (a :: rest) || hasDDS rest

theorem hasDDS_append (pre : Bytes) (c : UInt8) (post : Bytes) (hc : isSlash c = true) :
    hasDDS (pre ++ 0x2E :: 0x2E :: c :: post) = true := by
  induction pre with
  | nil => simp [hasDDS, startsDDS, hc]
  | cons a pre ih => simp [hasDDS, ih]

theorem isSlash_x : isSlash 0x78 = false := by decide
theorem isSlash_dot : isSlash 0x2E = false := by decide

theorem ne_dot_of_isSlash {c : UInt8} (h : isSlash c = true) : c ≠ 0x2E := by
  intro e; subst e; simp [isSlash_dot] at h

theorem startsDDS_cons_ne {a : UInt8} (h : a ≠ 0x2E) (t : Bytes) : startsDDS (a :: t) = false := by
  match t with
  | [] => rfl
  | [_] => rfl
  | _ :: _ :: _ => simp [startsDDS, h]

theorem startsDDS_cons_cons_ne {b : UInt8} (h : b ≠ 0x2E) (a : UInt8) (t : Bytes) :
    startsDDS (a :: b :: t) = false := by
  cases t <;> simp [startsDDS, h]

/-- what the `..` pass can do, byte for byte: `t` is `s` with some of its `.` overwritten by `x` -/
inductive Xed : Bytes → Bytes → Prop
  | nil : Xed [] []
  | keep (a : UInt8) {s t : Bytes} : Xed s t → Xed (a :: s) (a :: t)
  | dot {s t : Bytes} : Xed s t → Xed (0x2E :: s) (0x78 :: t)

theorem replaceDotDot_xed (s : Bytes) : Xed s (replaceDotDot s) := by
  fun_induction replaceDotDot s with
  | case1 a b c rest hm ih => obtain ⟨rfl, rfl, _⟩ := hm; exact .dot (.dot (.keep c ih))
  | case2 a b c rest hm ih => exact .keep a ih
  | case3 a rest hne ih => exact .keep a ih
  | case4 => exact .nil

theorem Xed.length_eq {s t : Bytes} (h : Xed s t) : t.length = s.length := by
  induction h <;> simp [*]

theorem Xed.mem {s t : Bytes} (h : Xed s t) {b : UInt8} (hb : b ∈ t) : b ∈ s ∨ b = 0x78 := by
  induction h with
  | nil => simp at hb
  | keep a _ ih =>
    rcases List.mem_cons.1 hb with rfl | hb
    · simp
    · rcases ih hb with h | h <;> simp [h]
  | dot _ ih =>
    rcases List.mem_cons.1 hb with rfl | hb
    · simp
    · rcases ih hb with h | h <;> simp [h]

theorem Xed.starts {s t : Bytes} (h : Xed s t) (ht : startsDDS t = true) : startsDDS s = true := by
  cases h with
  | nil => exact ht
  | dot _ => rw [startsDDS_cons_ne (by decide)] at ht; cases ht
  | keep a h =>
    cases h with
    | nil => exact ht
    | dot _ => rw [startsDDS_cons_cons_ne (by decide)] at ht; cases ht
    | keep b h =>
      cases h with
      | nil => exact ht
      | dot _ => simp [startsDDS, isSlash_x] at ht
      | keep c _ => exact ht

theorem hasDDS_replaceDotDot (s : Bytes) : hasDDS (replaceDotDot s) = false := by
  fun_induction replaceDotDot s with
  | case1 a b c rest hm ih =>
    simp [hasDDS, startsDDS_cons_ne (show (0x78 : UInt8) ≠ 0x2E by decide),
      startsDDS_cons_ne (ne_dot_of_isSlash hm.2.2), ih]
  | case2 a b c rest hm ih =>
    have : startsDDS (a :: replaceDotDot (b :: c :: rest)) = false :=
      Bool.eq_false_iff.2 fun hs => hm (by simpa [startsDDS, and_assoc] using (Xed.keep a (replaceDotDot_xed _)).starts hs)
    simp [hasDDS, this, ih]
  | case3 a rest hne ih =>
    have : startsDDS (a :: replaceDotDot rest) = false :=
      Bool.eq_false_iff.2 fun hs => by
        have h2 := (Xed.keep a (replaceDotDot_xed _)).starts hs
        match rest, hne with
        | [], _ | [b], _ => simp [startsDDS] at h2
        | b :: c :: r, hne => exact hne b c r rfl
    simp [hasDDS, this, ih]
  | case4 => simp [hasDDS]

theorem no_dotdot_slash_of_hasDDS {s : Bytes} (h : hasDDS s = false) :
    ∀ (pre post : Bytes) (c : UInt8), isSlash c = true → s ≠ pre ++ 0x2E :: 0x2E :: c :: post := by
  intro pre post c hc e
  rw [e, hasDDS_append pre c post hc] at h
  cases h

def NoLeadSlash (s : Bytes) : Prop := ∀ c t, s = c :: t → isSlash c = false

theorem Xed.noLead {s t : Bytes} (h : Xed s t) (hs : NoLeadSlash s) : NoLeadSlash t := by
  intro c u e
  cases h with
  | nil => cases e
  | keep a _ => cases e; exact hs _ _ rfl
  | dot _ => cases e; exact isSlash_x

theorem stripLeading_eq (s : Bytes) :
    (s ≠ [] ∧ stripLeading s = [0x78]) ∨ stripLeading s = s.dropWhile isSlash := by
  unfold stripLeading
  match s with
  | [] => exact .inr rfl
  | a :: r =>
    by_cases ha : isSlash a = true
    · simp only [ha, if_true]; split
      · exact .inl ⟨by simp, rfl⟩
      · exact .inr rfl
    · exact .inr (by simp [ha])

theorem stripLeading_noLead (s : Bytes) : NoLeadSlash (stripLeading s) := by
  rcases stripLeading_eq s with ⟨_, e⟩ | e <;> rw [e] <;> intro c t h
  · cases h; exact isSlash_x
  · simpa [h] using List.head_dropWhile_not isSlash (l := s) (by simp [h])

theorem sanitize_noLead (s : Bytes) : NoLeadSlash (sanitize s) :=
  (replaceDotDot_xed _).noLead (stripLeading_noLead s)

theorem sanitize_noDDS (s : Bytes) : hasDDS (sanitize s) = false := hasDDS_replaceDotDot _

theorem stripLeading_mem {s : Bytes} {b : UInt8} (h : b ∈ stripLeading s) : b ∈ s ∨ b = 0x78 := by
  rcases stripLeading_eq s with ⟨_, e⟩ | e <;> rw [e] at h
  · exact .inr (by simpa using h)
  · exact .inl ((List.dropWhile_suffix _).subset h)

theorem sanitize_mem {s : Bytes} {b : UInt8} (h : b ∈ sanitize s) : b ∈ s ∨ b = 0x78 :=
  ((replaceDotDot_xed _).mem h).elim stripLeading_mem .inr

theorem cstr_no_nul (b : Bytes) : ∀ x ∈ cstr b, x ≠ 0 := fun x hx => by
  simpa using List.all_eq_true.1 (List.all_takeWhile (l := b) (p := (· ≠ 0))) x (by exact hx)

theorem validate_range (x : Nat) : 0 < validate x ∧ validate x ≤ 0x10FFFF := by
  unfold validate; split <;> omega

theorem lowerC_range {x : Nat} (h : 0 < x ∧ x ≤ 0x10FFFF) : 0 < lowerC x ∧ lowerC x ≤ 0x10FFFF := by
  unfold lowerC; split <;> omega

theorem swapSep_cases (u : Bool) (x : Nat) : swapSep u x = x ∨ swapSep u x = 0x2F ∨ swapSep u x = 0x5C := by
  unfold swapSep; cases u <;> simp only [] <;> (repeat' split) <;> simp

theorem swapSep_range (u : Bool) {x : Nat} (h : 0 < x ∧ x ≤ 0x10FFFF) :
    0 < swapSep u x ∧ swapSep u x ≤ 0x10FFFF := by
  rcases swapSep_cases u x with e | e | e <;> omega

theorem encode_range {x : Nat} (h : 0 < x ∧ x ≤ 0x10FFFF) : ∀ v ∈ encode x, 0 < v ∧ v < 256 := by
  unfold encode
  have ite {c : Prop} [Decidable c] {a b : List Nat} :
      (c → ∀ v ∈ a, 0 < v ∧ v < 256) → (¬c → ∀ v ∈ b, 0 < v ∧ v < 256) → ∀ v ∈ (if c then a else b), 0 < v ∧ v < 256 :=
    iteInduction (motive := fun l => ∀ v ∈ l, 0 < v ∧ v < 256)
  refine ite (fun _ => ?_) fun _ => ite (fun _ => ?_) fun _ => ite (fun _ => ?_) fun _ => ite (fun _ => ?_) fun _ => ?_
  all_goals simp only [List.forall_mem_cons, List.not_mem_nil, false_imp_iff, implies_true, and_true]
  all_goals omega

theorem convPoint_range (lower isunix : Bool) (x : Nat) :
    ∀ v ∈ convPoint lowerC lower isunix x, 0 < v ∧ v < 256 := by
  unfold convPoint
  apply encode_range
  apply swapSep_range
  cases lower
  · simpa using validate_range x
  · simpa using lowerC_range (validate_range x)

theorem convUtf8_range (lower isunix : Bool) (fuel : Nat) (s : Bytes) :
    ∀ v ∈ convUtf8 lowerC lower isunix fuel s, 0 < v ∧ v < 256 := by
  induction fuel generalizing s with
  | zero => intro v hv; simp [convUtf8] at hv
  | succ n ih =>
    match s with
    | [] => intro v hv; simp [convUtf8] at hv
    | c :: rest =>
      intro v hv
      simp only [convUtf8, List.mem_append] at hv
      rcases hv with hv | hv
      · exact convPoint_range _ _ _ v hv
      · exact ih _ v hv

theorem ofNat_ne_zero {v : Nat} (h : 0 < v ∧ v < 256) : UInt8.ofNat v ≠ 0 := by
  intro e
  have : (UInt8.ofNat v).toNat = (0 : UInt8).toNat := by rw [e]
  simp [UInt8.toNat_ofNat'] at this
  omega

theorem convByte_range (lower isunix : Bool) {c : UInt8} (hc : c ≠ 0) :
    0 < convByte lowerC lower isunix c ∧ convByte lowerC lower isunix c < 256 := by
  have h1 : c.toNat ≠ 0 := by
    intro e; apply hc; exact UInt8.toNat_inj.mp (by simpa using e)
  have h2 := c.toNat_lt
  unfold convByte
  simp only
  generalize hy : (if lower = true then lowerC c.toNat % 256 else c.toNat) = y
  have : 0 < y ∧ y < 256 := by
    subst hy; cases lower
    · simp; omega
    · simp only [if_true]; unfold lowerC; split <;> omega
  rcases swapSep_cases isunix y with e | e | e <;> omega

theorem convName_no_nul (fname : Bytes) (lower isunix utf8 : Bool) :
    ∀ b ∈ convName lowerC fname lower isunix utf8, b ≠ 0 := by
  intro b hb
  unfold convName at hb
  cases utf8
  · simp only [Bool.false_eq_true, if_false, List.mem_map] at hb
    obtain ⟨c, hc, rfl⟩ := hb
    exact ofNat_ne_zero (convByte_range _ _ (cstr_no_nul _ c hc))
  · simp only [if_true, List.mem_map] at hb
    obtain ⟨v, hv, rfl⟩ := hb
    exact ofNat_ne_zero (convUtf8_range _ _ _ _ v hv)

theorem stripLeading_length (s : Bytes) : (stripLeading s).length ≤ s.length := by
  rcases stripLeading_eq s with ⟨h, e⟩ | e <;> rw [e]
  · exact List.length_pos_iff.2 h
  · exact (List.dropWhile_suffix _).length_le

theorem sanitize_length (s : Bytes) : (sanitize s).length ≤ s.length :=
  Nat.le_trans (Nat.le_of_eq (replaceDotDot_xed _).length_eq) (stripLeading_length s)

theorem encode_length (x : Nat) : (encode x).length ≤ 4 := by
  unfold encode
  have ite {c : Prop} [Decidable c] {a b : List Nat} (ha : a.length ≤ 4) (hb : b.length ≤ 4) :
      (if c then a else b).length ≤ 4 := by split <;> assumption
  exact ite (by simp) (ite (by simp) (ite (by simp) (ite (by simp) (by simp))))

theorem decode1_length (c : UInt8) (rest : Bytes) : (decode1 (c :: rest)).2.length ≤ rest.length := by
  unfold decode1
  dsimp only
  have ite {c : Prop} [Decidable c] {p q : Nat × Bytes} (hp : p.2.length ≤ rest.length)
      (hq : q.2.length ≤ rest.length) : (if c then p else q).2.length ≤ rest.length := by split <;> assumption
  have r := Nat.le_refl rest.length
  refine ite r (ite ?_ (ite ?_ (ite ?_ r)))
  all_goals split
  all_goals first | exact r | skip
  all_goals refine ite ?_ ?_
  all_goals simp only [List.length_cons]
  all_goals omega

theorem convUtf8_length (tolow : Nat → Nat) (lower isunix : Bool) (fuel : Nat) (s : Bytes) :
    (convUtf8 tolow lower isunix fuel s).length ≤ 4 * s.length := by
  induction fuel generalizing s with
  | zero => simp [convUtf8]
  | succ n ih =>
    match s with
    | [] => simp [convUtf8]
    | c :: rest =>
      simp only [convUtf8, List.length_append, List.length_cons]
      have h1 : (convPoint tolow lower isunix (decode1 (c :: rest)).1).length ≤ 4 := encode_length _
      have h2 := decode1_length c rest
      have h3 := ih (decode1 (c :: rest)).2
      omega

theorem convName_length (tolow : Nat → Nat) (fname : Bytes) (lower isunix utf8 : Bool) :
    (convName tolow fname lower isunix utf8).length ≤ 4 * (cstr fname).length := by
  unfold convName
  cases utf8
  · simp; omega
  · simp only [if_true, List.length_map]; exact convUtf8_length _ _ _ _ _

/-- the fuel of the UTF-8 loop (= input length in `convName`) never runs out before the input does:
    any two sufficient fuels give the same result -/
theorem convUtf8_fuel_enough (tolow : Nat → Nat) (lower isunix : Bool) (n m : Nat) (s : Bytes)
    (hn : s.length ≤ n) (hm : s.length ≤ m) :
    convUtf8 tolow lower isunix n s = convUtf8 tolow lower isunix m s := by
  induction n generalizing m s with
  | zero =>
    have : s = [] := List.eq_nil_of_length_eq_zero (by omega)
    subst this
    cases m <;> simp [convUtf8]
  | succ n ih =>
    match s, m with
    | [], 0 => simp [convUtf8]
    | [], m + 1 => simp [convUtf8]
    | c :: rest, 0 => simp at hm
    | c :: rest, m + 1 =>
      simp only [convUtf8]
      have h2 := decode1_length c rest
      simp only [List.length_cons] at hn hm
      rw [ih m (decode1 (c :: rest)).2 (by omega) (by omega)]

def splitSlash : Bytes → List Bytes
  | [] => [[]]
  | c :: rest =>
    if c = 0x2F then [] :: splitSlash rest
    else match splitSlash rest with
      | [] => [[c]]
      | h :: t => (c :: h) :: t

theorem splitSlash_ne_nil (s : Bytes) : splitSlash s ≠ [] := by
  cases s with
  | nil => simp [splitSlash]
  | cons c rest =>
    unfold splitSlash
    split
    · simp
    · split <;> simp

theorem splitSlash_eq_cons (s : Bytes) (h : Bytes) (t : List Bytes) (e : splitSlash s = h :: t) (ht : t ≠ []) :
    ∃ post, s = h ++ 0x2F :: post ∧ splitSlash post = t := by
  induction s generalizing h t with
  | nil => simp [splitSlash] at e; exact absurd e.2 ht
  | cons c rest ih =>
    unfold splitSlash at e
    by_cases hc : c = 0x2F
    · simp only [hc, if_true, List.cons.injEq] at e
      exact ⟨rest, by simp [← e.1, hc], e.2⟩
    · simp only [hc, if_false] at e
      match hs : splitSlash rest, e with
      | [], e => simp at e; exact absurd e.2 ht
      | h' :: t', e =>
        simp only [List.cons.injEq] at e
        obtain ⟨post, hp, hq⟩ := ih h' t' hs (by rw [e.2]; exact ht)
        exact ⟨post, by rw [← e.1, hp]; simp, hq.trans e.2⟩

theorem mem_dropLast_splitSlash (l : List Bytes) (s : Bytes) (e : splitSlash s = l) :
    ∀ comp ∈ l.dropLast, ∃ pre post, s = pre ++ comp ++ 0x2F :: post := by
  induction l generalizing s with
  | nil => intro comp hc; cases hc
  | cons h t ih =>
    intro comp hc
    by_cases ht : t = []
    · subst ht; cases hc
    · obtain ⟨post, rfl, hq⟩ := splitSlash_eq_cons s h t e ht
      rw [List.dropLast_cons_of_ne_nil ht, List.mem_cons] at hc
      rcases hc with rfl | hc
      · exact ⟨[], post, rfl⟩
      · obtain ⟨pre', post', rfl⟩ := ih post hq comp hc
        exact ⟨h ++ 0x2F :: pre', post', by simp⟩

theorem dotdot_not_component {s : Bytes} (hs : hasDDS s = false) :
    ∀ comp ∈ (splitSlash s).dropLast, comp ≠ [0x2E, 0x2E] := by
  rintro comp hc rfl
  obtain ⟨pre, post, e⟩ := mem_dropLast_splitSlash _ s rfl _ hc
  exact no_dotdot_slash_of_hasDDS hs pre post 0x2F (by decide) (by simpa using e)

end MsPack.Cabx
