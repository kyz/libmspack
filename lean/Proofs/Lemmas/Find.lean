import MsPack.Cab.Find
/-
The signature scanner of `cabd_find`: chunking is invisible (`scanChunks_eq_scanAll`), the restart loop always advances
(`findLoop_never_hangs`), and everything it returns parsed as a cabinet (`findLoop_sound`) (C14, C04).
-/
namespace MsPack.Cab

theorem scanBuf_append (a b : Bytes) (pos : Nat) (st : ScanSt) :
    scanBuf (a ++ b) pos st =
      match scanBuf a pos st with
      | .inl st' => scanBuf b (pos + a.length) st'
      | .inr h => .inr h := by
  induction a generalizing pos st with
  | nil => simp [scanBuf]
  | cons x xs ih =>
    simp only [List.cons_append, scanBuf]
    cases scanByte st x with
    | cont st' =>
      simp only [ih, List.length_cons]
      have : pos + 1 + xs.length = pos + (xs.length + 1) := by omega
      rw [this]
    | hit cl fo => rfl

def scanAll (file : Bytes) (offset : Nat) (st : ScanSt) : Option Hit :=
  match scanBuf (file.drop offset) offset st with
  | .inl _ => none
  | .inr h => some h

theorem scanChunks_eq_scanAll (n : Nat) (hn : 1 ≤ n) (file : Bytes) (offset : Nat) (st : ScanSt) :
    scanChunks n file offset st = scanAll file offset st := by
  fun_induction scanChunks n file offset st with
  | case1 offset st hlt length hl =>
    -- `length = 0` is impossible for n ≥ 1 and offset < file.length
    simp only [length] at hl; omega
  | case2 offset st hlt length hl st' hscan ih =>
    rw [ih]
    unfold scanAll
    have hsplit : file.drop offset = (file.drop offset).take length ++ file.drop (offset + length) := by
      rw [← List.drop_drop]; exact (List.take_append_drop _ _).symm
    have hlen : ((file.drop offset).take length).length = length := by
      simp only [List.length_take, List.length_drop, length]; omega
    conv => rhs; rw [hsplit, scanBuf_append, hscan]
    simp only [hlen]
  | case3 offset st hlt length hl hit hscan =>
    unfold scanAll
    have hsplit : file.drop offset = (file.drop offset).take length ++ file.drop (offset + length) := by
      rw [← List.drop_drop]; exact (List.take_append_drop _ _).symm
    rw [hsplit, scanBuf_append, hscan]
  | case4 offset st hge =>
    unfold scanAll
    have : file.drop offset = [] := List.drop_eq_nil_of_le (by omega)
    simp [this, scanBuf]

theorem findLoop_chunk_independent (n m : Nat) (hn : 1 ≤ n) (hm : 1 ≤ m) (sv : Bool) (file : Bytes)
    (start : Nat) (acc : List Cabinet) :
    findLoop n sv file start acc = findLoop m sv file start acc := by
  fun_induction findLoop n sv file start acc with
  | case1 start acc hs =>
    rw [scanChunks_eq_scanAll n hn] at hs
    conv => rhs; unfold findLoop
    rw [scanChunks_eq_scanAll m hm, hs]
  | case2 start acc hit hs off' acc' hat hge =>
    rw [scanChunks_eq_scanAll n hn] at hs
    conv => rhs; unfold findLoop
    rw [scanChunks_eq_scanAll m hm, hs]
    simp only [hat]; simp [hge]
  | case3 start acc hit hs off' acc' hat hge hlt ih =>
    rw [scanChunks_eq_scanAll n hn] at hs
    conv => rhs; unfold findLoop
    rw [scanChunks_eq_scanAll m hm, hs]
    simp only [hat]; simp [hge, hlt, ih]
  | case4 start acc hit hs off' acc' hat hge hlt =>
    rw [scanChunks_eq_scanAll n hn] at hs
    conv => rhs; unfold findLoop
    rw [scanChunks_eq_scanAll m hm, hs]
    simp only [hat]; simp [hge, hlt]


theorem scanByte_spec (st : ScanSt) (b : UInt8) (h : st.state ≤ 19) :
    (∀ cl fo, scanByte st b = .hit cl fo → st.state = 19) ∧
    (∀ st', scanByte st b = .cont st' → st'.state ≤ 19 ∧ st'.state ≤ st.state + 1) := by
  unfold scanByte
  split
  all_goals refine ⟨fun cl fo e => ?_, fun st' e => ?_⟩
  all_goals first | cases e | assumption
  all_goals try dsimp only
  all_goals repeat' split
  all_goals first | omega | exact ⟨Nat.lt_of_le_of_ne h ‹_›, Nat.le_refl _⟩

theorem scanBuf_caboff_ge (buf : Bytes) (pos : Nat) (st : ScanSt) (start : Nat) (h : Hit)
    (hst : st.state ≤ 19) (hinv : start + st.state ≤ pos) (hs : scanBuf buf pos st = .inr h) :
    start ≤ h.caboff := by
  induction buf generalizing pos st with
  | nil => simp [scanBuf] at hs
  | cons b rest ih =>
    have spec := scanByte_spec st b hst
    simp only [scanBuf] at hs
    split at hs
    · rename_i st' hb
      have := spec.2 st' hb
      exact ih (pos + 1) st' this.1 (by omega) hs
    · rename_i cl fo hb
      have := spec.1 cl fo hb
      simp only [Sum.inr.injEq] at hs
      subst hs; simp only; omega

theorem atHit_advances (sv : Bool) (file : Bytes) (hit : Hit) (acc : List Cabinet) :
    hit.caboff < (atHit sv file hit acc).1 := by
  unfold atHit
  split
  · rename_i hp
    split
    · simp only [plausible, Bool.and_eq_true, decide_eq_true_eq] at hp; simp only; omega
    · simp only; omega
  · simp only; omega

theorem findLoop_never_hangs (n : Nat) (hn : 1 ≤ n) (sv : Bool) (file : Bytes) (start : Nat)
    (acc : List Cabinet) : (findLoop n sv file start acc).2 = .done := by
  fun_induction findLoop n sv file start acc with
  | case1 => rfl
  | case2 => rfl
  | case3 start acc hit hs off' acc' hat hge hlt ih => exact ih
  | case4 start acc hit hs off' acc' hat hge hlt =>
    exfalso
    rw [scanChunks_eq_scanAll n hn] at hs
    unfold scanAll at hs
    split at hs
    · contradiction
    · rename_i h hsb
      simp only [Option.some.injEq] at hs; subst hs
      have h1 := scanBuf_caboff_ge _ start {} start h (by simp) (by simp) hsb
      have h2 := atHit_advances sv file h acc
      rw [hat] at h2; simp only at h2; omega

theorem atHit_sound (sv : Bool) (file : Bytes) (hit : Hit) (acc : List Cabinet)
    (P : Cabinet → Prop) (hacc : ∀ c ∈ acc, P c)
    (hP : ∀ c, readHeaders file hit.caboff sv = .ok c → P c) :
    ∀ c ∈ (atHit sv file hit acc).2, P c := by
  unfold atHit
  split
  · split
    · rename_i c hr
      intro c' hc'
      simp only [List.mem_cons] at hc'
      rcases hc' with rfl | h
      · exact hP _ hr
      · exact hacc _ h
    · exact hacc
  · exact hacc

theorem findLoop_none (n : Nat) (sv : Bool) (file : Bytes) (start : Nat) (acc : List Cabinet)
    (hs : scanChunks n file start {} = none) : findLoop n sv file start acc = (acc.reverse, .done) := by
  rw [findLoop, hs]

theorem findLoop_step (n : Nat) (sv : Bool) (file : Bytes) (start : Nat) (acc : List Cabinet) (hit : Hit)
    (off' : Nat) (acc' : List Cabinet)
    (hs : scanChunks n file start {} = some hit) (hat : atHit sv file hit acc = (off', acc')) :
    findLoop n sv file start acc =
      if off' ≥ file.length then (acc'.reverse, .done)
      else if start < off' then findLoop n sv file off' acc' else (acc'.reverse, .hang) := by
  rw [findLoop, hs]
  simp only [hat]
  split
  · rfl
  · split <;> rfl

theorem findLoop_inv (n : Nat) (sv : Bool) (file : Bytes) (I : List Cabinet → Prop)
    (hstep : ∀ hit acc, I acc → I (atHit sv file hit acc).2) (start : Nat) (acc : List Cabinet) (h0 : I acc) :
    ∃ acc', (findLoop n sv file start acc).1 = acc'.reverse ∧ I acc' := by
  fun_induction findLoop n sv file start acc with
  | case1 start acc hs => exact ⟨acc, rfl, h0⟩
  | case2 start acc hit hs off' acc' hat hge => exact ⟨acc', rfl, by simpa only [hat] using hstep hit acc h0⟩
  | case3 start acc hit hs off' acc' hat hge hlt ih => exact ih (by simpa only [hat] using hstep hit acc h0)
  | case4 start acc hit hs off' acc' hat hge hlt => exact ⟨acc', rfl, by simpa only [hat] using hstep hit acc h0⟩

theorem findLoop_sound (n : Nat) (sv : Bool) (file : Bytes) (start : Nat) (acc : List Cabinet)
    (P : Cabinet → Prop) (hacc : ∀ c ∈ acc, P c)
    (hP : ∀ off c, readHeaders file off sv = .ok c → P c) :
    ∀ c ∈ (findLoop n sv file start acc).1, P c := by
  obtain ⟨acc', e, h⟩ := findLoop_inv n sv file (fun a => ∀ c ∈ a, P c)
    (fun hit a ha => atHit_sound sv file hit a P ha (hP _)) start acc hacc
  rw [e]; simpa using h

end MsPack.Cab
