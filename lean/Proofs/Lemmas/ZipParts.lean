import MsPack.Zip.Inflate
/-!
# The loops of `MsPack/Zip/Inflate.lean`, one round at a time

`inflate`, `huffBlock`, `readLensLoop` and `decompressLoop` are loops whose bodies are long straight-line programs.
The straight-line parts get names here, and each loop an equation `…_succ` that shows one round as: the named parts,
then the next round.  A statement about a loop is then proved from one statement per part.  One round of the output loop,
`frameStep` with `loop_succ`, is declared in `namespace ZipChunk`, the namespace of the chunking law, its first user.
The two functions that are no loops are opened
here as well: `runInflate_eq` gives `runInflate` from the outcome of the `inflate` run, `init_fields` the state
`init` returns.
-/
namespace MsPack.Zip
open MsPack.Generated

variable {σ : Type} (S : Src σ)

theorem throw_bind {α β : Type} (e : Halt) (f : α → ZM σ β) : (throw e : ZM σ α) >>= f = throw e := rfl

/-- one symbol of the code-length code (7-bit direct lookup) -/
def readLenSym (c : Huff.Canon) : ZM σ Nat := do
  ensureBits S 7 2
  match Huff.decode c ((← get).bits.take 7) with
  | none => throw (.fault (.uninit "bl_table entry"))
  | some (code, len) => removeBits len; pure code

/-- the repeat count and the repeated length of the run codes 16, 17, 18 -/
def readRun (code last : Nat) : ZM σ (Nat × Nat) := do
  let (nb, base, val) := if code = 16 then (2, 3, last) else if code = 17 then (3, 3, 0) else (7, 11, 0)
  if code > 18 then throw .inf
  pure ((← readBits S nb) + base, val)

theorem readLensLoop_succ (c : Huff.Canon) (total fuel : Nat) (lens : List Nat) (last : Nat) :
    readLensLoop S c total (fuel + 1) lens last =
      if lens.length ≥ total then pure lens else (do
        let code ← readLenSym S c
        if code < 16 then readLensLoop S c total fuel (lens ++ [code]) code
        else do
          let (run, val) ← readRun S code last
          if lens.length + run > total then throw .inf
          else readLensLoop S c total fuel (lens ++ List.replicate run val) last) := by
  rw [readLensLoop.eq_2]
  refine ite_congr rfl (fun _ => rfl) (fun _ => ?_)
  unfold readLenSym
  simp only [bind_assoc]
  refine bind_congr fun _ => bind_congr fun st => ?_
  cases Huff.decode c (List.take 7 st.bits) with
  | none => rfl
  | some p =>
    simp only [bind_assoc, pure_bind]
    refine bind_congr fun _ => ite_congr rfl (fun _ => rfl) (fun _ => ?_)
    unfold readRun
    dsimp only
    by_cases h : p.1 > 18
    · rw [if_pos h, if_pos h]; rfl
    · rw [if_neg h, if_neg h]
      simp only [bind_assoc, pure_bind]

def copyCoded (dist : Huff.Canon) (c : Nat) : ZM σ Unit := do
  if c ≥ 29 then throw .inf
  let length := (← readBits S (zipLitExtrabits.getD c 0)) + zipLitLengths.getD c 0
  let dc ← readHuffSym S dist
  if dc ≥ 30 then throw .inf
  let distance := (← readBits S (zipDistExtrabits.getD dc 0)) + zipDistOffsets.getD dc 0
  let st ← get
  let matchPosn := (if distance > st.windowPosn then zipFRAME_SIZE else 0) + st.windowPosn - distance
  copyMatch length matchPosn

theorem huffBlock_succ (lit dist : Huff.Canon) (fuel : Nat) : huffBlock S lit dist (fuel + 1) = (do
    let code ← readHuffSym S lit
    if code < 256 then
      putByte (UInt8.ofNat code)
      huffBlock S lit dist fuel
    else if code = 256 then pure ()
    else
      copyCoded S dist (code - 257)
      huffBlock S lit dist fuel) := by
  rw [huffBlock.eq_2]
  refine bind_congr fun code => ite_congr rfl (fun _ => rfl) (fun _ => ite_congr rfl (fun _ => rfl) (fun _ => ?_))
  unfold copyCoded
  dsimp only
  by_cases h : code - 257 ≥ 29
  · rw [if_pos h, if_pos h]; simp only [throw_bind]
  · rw [if_neg h, if_neg h]
    simp only [bind_assoc]
    refine bind_congr fun _ => bind_congr fun dc => ?_
    by_cases h : dc ≥ 30
    · rw [if_pos h, if_pos h]; simp only [throw_bind]
    · rw [if_neg h, if_neg h]
      simp only [bind_assoc]

def storedBlock : ZM σ Unit := do
  modify fun st => { st with bits := st.bits.drop (st.bits.length % 8) }
  let st ← get
  let nbuf := st.bits.length / 8
  if nbuf > 4 then throw .inf
  let fromBits := (List.range nbuf).map fun i => UInt8.ofNat (bitsVal ((st.bits.drop (8 * i)).take 8))
  set { st with bits := [] }
  let lb ← inflate.more S (4 - nbuf) fromBits
  let length := (lb.getD 0 0).toNat + (lb.getD 1 0).toNat * 256
  let compl := (lb.getD 2 0).toNat + (lb.getD 3 0).toNat * 256
  if length ≠ 65535 - compl then throw .inf
  copyStored S (length + 2) length

/-- a Huffman block (types 1 and 2) once the code lengths are in the state -/
def codedBlock (fuel : Nat) : ZM σ Unit := do
  let st ← get
  match Huff.build zipLITERAL_TABLEBITS st.litLens with
  | none => throw .inf
  | some lit =>
    match Huff.build zipDISTANCE_TABLEBITS st.distLens with
    | none => throw .inf
    | some dist => huffBlock S lit dist fuel

def inflateBlock (blockType fuel : Nat) : ZM σ Unit :=
  if blockType = 0 then storedBlock S
  else if blockType = 1 ∨ blockType = 2 then
    (if blockType = 1 then modify fun st => { st with litLens := fixedLitLens, distLens := fixedDistLens }
      else zipReadLens S) >>= fun _ => codedBlock S fuel
  else throw .inf

def inflateNext (lastBlock fuel : Nat) : ZM σ Unit :=
  if lastBlock = 0 then inflate S fuel
  else do
    let st ← get
    if st.windowPosn ≠ 0 then flushWindow st.windowPosn

theorem inflate_succ (fuel : Nat) : inflate S (fuel + 1) = (do
    let lastBlock ← readBits S 1
    let blockType ← readBits S 2
    inflateBlock S blockType fuel
    inflateNext S lastBlock fuel) := by
  rw [inflate.eq_2]
  refine bind_congr fun lastBlock => bind_congr fun blockType => ?_
  unfold inflateBlock storedBlock
  dsimp only
  by_cases h0 : blockType = 0
  · rw [if_pos h0, if_pos h0]
    simp only [bind_assoc]
    refine bind_congr fun _ => bind_congr fun st => ?_
    by_cases h4 : st.bits.length / 8 > 4
    · rw [if_pos h4, if_pos h4]; rfl
    · rw [if_neg h4, if_neg h4, bind_assoc]
      refine bind_congr fun _ => ?_
      rw [bind_assoc]
      refine bind_congr fun lb => ?_
      by_cases hl : (lb.getD 0 0).toNat + (lb.getD 1 0).toNat * 256 ≠
          65535 - ((lb.getD 2 0).toNat + (lb.getD 3 0).toNat * 256)
      · rw [if_pos hl, if_pos hl]; rfl
      · rw [if_neg hl, if_neg hl]; rfl
  · rw [if_neg h0, if_neg h0]
    by_cases h12 : blockType = 1 ∨ blockType = 2
    · rw [if_pos h12, if_pos h12]
      -- either way of getting the code lengths is followed by `codedBlock`
      by_cases h1 : blockType = 1
      all_goals
        first | rw [if_pos h1, if_pos h1] | rw [if_neg h1, if_neg h1]
        rw [bind_assoc]
        refine bind_congr fun _ => ?_
        unfold codedBlock
        rw [bind_assoc]
        refine bind_congr fun st => ?_
        cases Huff.build zipLITERAL_TABLEBITS st.litLens with
        | none => rfl
        | some lit => cases Huff.build zipDISTANCE_TABLEBITS st.distLens <;> rfl
    · rw [if_neg h12, if_neg h12]; rfl

/-- the value is the block's BFINAL bit -/
def inflateOne (fuel : Nat) : ZM σ Nat := do
  let lastBlock ← readBits S 1
  let blockType ← readBits S 2
  inflateBlock S blockType fuel
  pure lastBlock

theorem inflate_one (fuel : Nat) :
    inflate S (fuel + 1) = inflateOne S fuel >>= fun lastBlock => inflateNext S lastBlock fuel := by
  rw [inflate_succ]; unfold inflateOne; simp only [bind_assoc, pure_bind]

theorem runInflate_eq {fuel : Nat} {st s : St σ} {r : Except Halt Unit} (h : (inflate S fuel).run.run st = (r, s)) :
    runInflate S fuel st = match (generalizing := false) r with
      | .ok () => .ok (.ok, s)
      | .error (.fault f) => .error f
      | .error .inf => .ok (.inf, s)
      | .error (.sys e) => .ok (.sys e, s) := by
  unfold runInflate
  rw [h]
  cases r with
  | ok a => rfl
  | error e => cases e <;> rfl

theorem init_fields {src : σ} {n : Nat} {repair : Bool} {fill : UInt8} {z : St σ}
    (h : init src n repair fill = some z) :
    z.bits = [] ∧ z.inbuf = [] ∧ z.src = src ∧ z.inputEnd = false ∧ z.windowPosn = 0 ∧ z.bytesOutput = 0 ∧
      z.error = .ok ∧ z.pending = [] ∧ 2 ≤ z.inbufSize ∧ z.window.size = zipFRAME_SIZE := by
  unfold init at h
  dsimp only at h
  split at h
  · cases h
  · next hlt =>
    cases h
    exact ⟨rfl, rfl, rfl, rfl, rfl, rfl, rfl, rfl, Nat.le_of_not_lt hlt, Array.size_replicate ..⟩

namespace ZipChunk

inductive FrameRes (σ : Type)
  | stop (e : Err) (st : St σ)
  | frame (se : Option Err) (st : St σ)

/-- one `decompressLoop` round up to the point where the number of bytes requested comes in -/
def frameStep (fuel : Nat) (st : St σ) : Except Fault (FrameRes σ) :=
  let st := { st with bits := st.bits.drop (st.bits.length % 8) }
  match (scanCK S fuel 0).run.run st with
  | (.error (.fault f), _) => .error f
  | (.error .inf, st) => .ok (.stop .decrunch { st with error := .decrunch })
  | (.error (.sys e), st) => .ok (.stop e st)
  | (.ok (), st) =>
    let st := { st with windowPosn := 0, bytesOutput := 0 }
    match runInflate S fuel st with
    | .error f => .error f
    | .ok (res, st) =>
      let failed := res ≠ .ok
      if failed ∧ !st.repair then
        let e := match res with | .sys e => e | _ => .decrunch
        .ok (.stop e { st with error := e })
      else
        let st := if failed then
            let bo := if st.bytesOutput = 0 ∧ st.windowPosn > 0 then st.bytesOutput + st.windowPosn else st.bytesOutput
            let win := (List.range (zipFRAME_SIZE - bo)).foldl (fun (a : Array UInt8) i => a.setIfInBounds (bo + i) 0) st.window
            { st with window := win, bytesOutput := zipFRAME_SIZE }
          else st
        match res with
        | .sys e => .ok (.frame (some e) st)
        | _ => .ok (.frame none st)

theorem loop_succ (fuel n : Nat) (st : St σ) (out : Nat) (w : Bytes) :
    decompressLoop S fuel (n + 1) st out w =
      if out = 0 then .ok ⟨.ok, w, st⟩ else
      match frameStep S fuel st with
      | .error f => .error f
      | .ok (.stop e st') => .ok ⟨e, w, st'⟩
      | .ok (.frame se st') =>
        let frame := st'.window.toList.take st'.bytesOutput
        let i := min out st'.bytesOutput
        match se with
        | some e => if st'.repair then .ok ⟨e, w ++ frame.take i, { st' with pending := frame.drop i }⟩
                    else .ok ⟨e, w ++ frame.take i, st'⟩
        | none => decompressLoop S fuel n { st' with pending := frame.drop i } (out - i) (w ++ frame.take i) := by
  rw [decompressLoop.eq_2]
  split
  · rfl
  · unfold frameStep
    dsimp only
    cases hr : (scanCK S fuel 0).run.run { st with bits := st.bits.drop (st.bits.length % 8) } with
    | mk r s =>
      cases r with
      | error e => cases e <;> rfl
      | ok a =>
        cases a
        dsimp only
        cases hri : runInflate S fuel { s with windowPosn := 0, bytesOutput := 0 } with
        | error f => rfl
        | ok p =>
          obtain ⟨res, s2⟩ := p
          dsimp only
          by_cases hf : res ≠ .ok ∧ (!s2.repair) = true
          · rw [if_pos hf, if_pos hf]; rfl
          · rw [if_neg hf, if_neg hf]
            cases res <;> rfl

end ZipChunk

end MsPack.Zip
