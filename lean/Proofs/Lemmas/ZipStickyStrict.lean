import Proofs.Lemmas.ZipChunk
/-!
# MSZIP in strict mode: a failed call is sticky and does not depend on the request

With `repair = false` a block-loop iteration never delivers a frame together with a status (`frameStep_strict`), so a
call that fails stops at the same frame whatever was asked beyond what it wrote (`fail_shape`).
-/
namespace MsPack.ZipStickyStrict

open MsPack.Zip.ZipChunk in
theorem frameStep_strict {σ : Type} (S : Src σ) (fuel : Nat) (st : Zip.St σ) (hr : st.repair = false)
    (r : FrameRes σ) (h : frameStep S fuel st = .ok r) :
    match r with
    | .stop e st' => st'.error = e ∧ st'.repair = false
    | .frame se st' => se = none ∧ st'.repair = false := by
  have hst := frameStep_status S fuel st r h
  cases r with
  | stop e st' => exact ⟨hst.2.1, hst.2.2.trans hr⟩
  | frame se st' =>
    have hrep := hst.1.trans hr
    refine ⟨?_, hrep⟩
    cases se with
    | none => rfl
    | some e => exact absurd (hst.2.2 e rfl).2.2 (by rw [hrep]; nofun)

section shape
open MsPack.Zip MsPack.Zip.ZipChunk
variable {σ : Type} (S : Src σ)

theorem fail_shape (fuel : Nat) : ∀ (n : Nat) (Z : Zip.St σ), WinOk Z → Z.repair = false → Z.error = .ok →
    ∀ (b : Nat) (e : Err) (w : Bytes) (Z' : Zip.St σ), decompressN S fuel n Z b = .ok ⟨e, w, Z'⟩ → e ≠ .ok →
    Z'.error = e ∧ w.length < b ∧
    (∀ b', w.length < b' → decompressN S fuel n Z b' = .ok ⟨e, w, Z'⟩) ∧
    ∃ Zm, decompressN S fuel n Z w.length = .ok ⟨.ok, w, Zm⟩ ∧
      ∀ k, 0 < k → decompressN S fuel n Zm k = .ok ⟨e, [], Z'⟩ := by
  intro n
  induction n using Nat.strongRecOn with
  | _ n ih =>
    intro Z hw hr he0 b e w Z' h hne
    have ho : Z.pending.length < b := by
      refine Nat.lt_of_not_le fun ha => ?_
      rw [pend_exact S fuel n Z he0 b ha] at h
      simp only [Except.ok.injEq, Out.mk.injEq] at h
      exact hne h.1.symm
    -- in strict mode the round stopped the call, or delivered a frame without a status (`frameStep_strict`)
    rcases past_step S fuel n Z b e w Z' hw he0 ho h with
      ⟨_, n0, rfl, ⟨hfs, rfl⟩ | ⟨st', hfs⟩⟩ | ⟨st', n', w', rfl, hfs, h1, h2, h3, rfl, hin⟩
    · have hstr : Z'.error = e ∧ Z'.repair = false := frameStep_strict S fuel { Z with pending := [] } hr _ hfs
      refine ⟨hstr.1, ho, ?_, ?_⟩
      · intro b' hb'
        rw [pend_past S fuel _ Z he0 b' hb', loop_succ, if_neg (by omega), hfs]
      · refine ⟨{ Z with pending := Z.pending.drop Z.pending.length }, ?_, ?_⟩
        · rw [pend_exact S fuel _ Z he0 Z.pending.length (Nat.le_refl _), List.take_length]
        · intro k hk
          rw [pend_past S fuel _ { Z with pending := Z.pending.drop Z.pending.length } he0 k
            (by simp only [List.drop_length, List.length_nil]; exact hk)]
          simp only [List.drop_length, List.length_nil, Nat.sub_zero]
          rw [loop_succ, if_neg (by omega), hfs]
    · have := frameStep_strict S fuel { Z with pending := [] } hr _ hfs
      exact nomatch this.1
    · have h5 : st'.repair = false := (frameStep_strict S fuel { Z with pending := [] } hr _ hfs).2
      obtain ⟨i1, i2, i3, Zm', i4, i5⟩ := ih (n' + 1) (by omega)
        { st' with pending := st'.window.toList.take st'.bytesOutput } h1 h5 h3 _ e w' Z' hin hne
      refine ⟨i1, by rw [List.length_append]; omega, ?_, ?_⟩
      · intro b' hb'
        rw [List.length_append] at hb'
        rw [pend_past S fuel _ Z he0 b' (by omega),
          loop_iter S fuel n' _ st' _ _ (by omega) hfs h1 h2 h3, i3 (b' - Z.pending.length) (by omega), pre_ok]
      · by_cases hz : w'.length = 0
        · have hw' : w' = [] := List.eq_nil_of_length_eq_zero hz
          subst hw'
          refine ⟨{ Z with pending := Z.pending.drop Z.pending.length }, ?_, ?_⟩
          · rw [List.append_nil, pend_exact S fuel _ Z he0 Z.pending.length (Nat.le_refl _), List.take_length]
          · intro k hk
            rw [pend_past S fuel _ { Z with pending := Z.pending.drop Z.pending.length } he0 k
            (by simp only [List.drop_length, List.length_nil]; exact hk)]
            simp only [List.drop_length, List.length_nil, Nat.sub_zero]
            rw [loop_iter S fuel n' _ st' _ _ (by omega) hfs h1 h2 h3, i3 k (by rw [List.length_nil]; exact hk), pre_ok]
            rfl
        · refine ⟨Zm', ?_, ?_⟩
          · rw [List.length_append, pend_past S fuel _ Z he0 _ (by omega),
              loop_iter S fuel n' _ st' _ _ (by omega) hfs h1 h2 h3]
            have : Z.pending.length + w'.length - Z.pending.length = w'.length := by omega
            rw [this, i4, pre_ok]
          · intro k hk
            exact decompressN_mono_ok S fuel (n' + 1) 1 _ _ _ (i5 k hk)

end shape

end MsPack.ZipStickyStrict
