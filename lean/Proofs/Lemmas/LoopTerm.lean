import MsPack.Lzss.Decoder
import MsPack.Szdd.Decompress
import MsPack.Kwaj.Extract
import Proofs.Lemmas.LzssKwajBounds
/-!
# Termination of the fuel loops: the fuel the callers pass always suffices

A measure that every loop iteration decreases, and an induction on the fuel.  The sources a decoder reads from are
abstract (`Src σ`); what the proofs need of one is that it is finite (`Src.Finite` in `Src.lean`, which the file handle
meets: `Rd.src_finite`).  The LZSS decoder's walk is in `LzssKwajBounds.lean`.  Here: `szddd_extract` /
`szddd_decompress`; KWAJ's stored / xor copy loop (`copyLoop_spec` says what it delivers with fuel for every chunk: the
round trip of `C05Kwaj.lean` rests on the same statement); and the KWAJ header reader up to `kwajd_open`, where there is
no fuel and no fault at all (`Kwaj.open_no_fault`): what is shown is that the handle stays on its file.
-/
namespace MsPack

theorem Rd.read_pos (r : Rd) (n : Nat) : (r.read n).2.pos = r.pos + (r.read n).1.length := rfl

theorem Rd.readExact_pos {r r' : Rd} {n : Nat} {c : Bytes} (h : r.readExact n = some (c, r')) :
    r'.pos = r.pos + n ∧ c.length = n := by
  rw [(Rd.readExact_eq_some_iff.1 h).2.2]; exact ⟨rfl, Rd.readExact_length h⟩

end MsPack

namespace MsPack.Szdd
open MsPack.Generated

theorem readHeaders_file (r : Rd) : (readHeaders r).2.file = r.file := by
  unfold readHeaders
  split
  · rfl
  · rename_i buf r1 h1
    have f1 := Rd.readExact_file h1
    split
    · split
      · exact f1
      · rename_i buf2 r2 h2
        have f2 := Rd.readExact_file h2
        split <;> simp only [f2, f1]
    · split
      · split
        · exact f1
        · rename_i buf2 r2 h2
          simp only [Rd.readExact_file h2, f1]
      · exact f1

theorem extract_no_hang (fuel : Nat) (h : Handle) (hf : h.rd.file.length + 1 ≤ fuel) :
    extract fuel h ≠ .error .hang := by
  unfold extract
  simp only
  have := Lzss.decompress_no_hang Rd.src Rd.left Rd.src_finite fuel
    (h.rd.seekStart (if h.hdr.format = fmtNORMAL then 14 else 12)) szddINPUT_SIZE
    (if h.hdr.format = fmtNORMAL then lzssMODE_EXPAND else lzssMODE_QBASIC)
    (by simp only [Rd.left, Rd.seekStart]; omega)
  split
  · rename_i f heq
    rw [heq] at this
    simpa using this
  · simp

theorem decompress_no_hang (fuel : Nat) (file : Option Bytes) (hf : (file.getD []).length + 1 ≤ fuel) :
    decompress fuel file ≠ .error .hang := by
  unfold decompress
  split
  · simp
  · rename_i h e hopen
    have hfile : h.rd.file = file.getD [] := by
      unfold open_ at hopen
      split at hopen
      · simp at hopen
      · rename_i bytes
        have := readHeaders_file ⟨bytes, 0⟩
        split at hopen
        · rename_i hdr r heq
          simp only [Prod.mk.injEq, Option.some.injEq] at hopen
          rw [← hopen.1]
          rw [heq] at this
          simpa using this
        · simp at hopen
    have := extract_no_hang fuel h (by rw [hfile]; exact hf)
    split
    · rename_i f heq
      rw [heq] at this
      simpa using this
    · simp

end MsPack.Szdd

namespace MsPack.Kwaj
open MsPack.Generated

/-- the copy loop of methods NONE / XOR moves everything up to the end of the file, in chunks of 2048 -/
theorem copyLoop_spec (xor : Bool) (file : Bytes) : ∀ (fuel pos : Nat) (P : Bytes) (w : Array UInt8),
    file.drop pos = P → ((P = [] ∧ 1 ≤ fuel) ∨ P.length / 2048 + 2 ≤ fuel) →
    ∃ r, copyLoop xor fuel ⟨file, pos⟩ w = .ok (w ++ (if xor then P.map (· ^^^ 0xFF) else P).toArray, r) := by
  intro fuel
  induction fuel with
  | zero =>
    intro pos P w _ hf
    have := Nat.zero_le (P.length / 2048)
    rcases hf with ⟨_, h⟩ | h <;> omega
  | succ fuel ih =>
    intro pos P w hd hf
    rw [copyLoop.eq_2]
    simp only [Rd.read, hd, show kwajINPUT_SIZE = 2048 from rfl]
    by_cases hP : P = []
    · subst hP; simp
    · have hf : P.length / 2048 + 2 ≤ fuel + 1 := by
        rcases hf with ⟨h, _⟩ | h
        · exact absurd h hP
        · exact h
      have hne : (P.take 2048).isEmpty = false := by
        cases P with
        | nil => exact absurd rfl hP
        | cons a as => rfl
      simp only [hne, Bool.false_eq_true, ↓reduceIte]
      have hd' : file.drop (pos + (P.take 2048).length) = P.drop 2048 := by
        rw [← List.drop_drop, hd, List.length_take]
        by_cases h : 2048 ≤ P.length
        · rw [Nat.min_eq_left h]
        · have : P.length ≤ 2048 := by omega
          rw [Nat.min_eq_right this, List.drop_of_length_le (Nat.le_refl _), List.drop_of_length_le this]
      have hf' : (P.drop 2048 = [] ∧ 1 ≤ fuel) ∨ (P.drop 2048).length / 2048 + 2 ≤ fuel := by
        by_cases h : 2048 ≤ P.length
        · right
          rw [List.length_drop]
          have := Nat.div_eq_sub_div (by decide : 0 < 2048) h; omega
        · left
          have := Nat.zero_le (P.length / 2048)
          exact ⟨List.drop_of_length_le (by omega), by omega⟩
      obtain ⟨r, e⟩ := ih _ (P.drop 2048) _ hd' hf'
      refine ⟨r, ?_⟩
      rw [e]
      congr 1
      cases xor with
      | false =>
        simp only [Bool.false_eq_true, ↓reduceIte, Array.append_assoc]
        congr 1
        simp [List.take_append_drop]
      | true =>
        simp only [↓reduceIte, Array.append_assoc]
        congr 1
        simp [List.take_append_drop]

/-- with fuel for every byte left the loop has fuel for every chunk -/
theorem copyLoop_no_hang (xor : Bool) (fuel : Nat) (r : Rd) (w : Array UInt8) (h : r.left + 1 ≤ fuel) :
    copyLoop xor fuel r w ≠ .error .hang := by
  have hl : (r.file.drop r.pos).length = r.left := List.length_drop ..
  obtain ⟨r', e⟩ := copyLoop_spec xor r.file fuel r.pos _ w rfl
    (by rw [hl]
        by_cases h0 : r.left = 0
        · exact .inl ⟨List.length_eq_zero_iff.mp (hl.trans h0), by omega⟩
        · exact .inr (by have := Nat.div_lt_self (Nat.pos_of_ne_zero h0) (by decide : 1 < 2048); omega))
  rw [e]; nofun

end MsPack.Kwaj

namespace MsPack.Kwaj

theorem readHeaders_good (fill : UInt8) (r : Rd) {v : Except Err Header} {r' : Rd}
    (h : readHeaders fill r = .ok (v, r')) : r'.file = r.file := by
  obtain ⟨_, _, e, hf, _⟩ := readHeaders_ok fill r
  rw [e] at h; cases h; exact hf

theorem open_file {fill : UInt8} {err e : Err} {file : Option Bytes} {h : Handle}
    (ho : open_ fill err file = .ok (some h, e)) : h.rd.file = file.getD [] := by
  unfold open_ at ho
  split at ho
  · cases ho
  · rename_i bytes
    split at ho
    · cases ho
    · rename_i heq; cases ho; exact readHeaders_good fill _ heq
    · cases ho

end MsPack.Kwaj
