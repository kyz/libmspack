import MsPack.Kwaj.Lzh
import Proofs.Lemmas.FillSim
/-!
# KWAJ LZH: two runs from states that differ only in never-read cells of `inbuf` stay in step

`Sim a b`: every field equal except `inbuf`, whose two versions have the same size and the same
contents below both copies of `i_end` (`saved.iEnd`, `cur.iEnd`) — the only cells `READ_BYTES` can
reach.  Every helper of `Kwaj/Lzh.lean` preserves it and returns equal values.
-/
namespace MsPack.Kwaj.Lzh
open MsPack.FillSim
variable {σ : Type}

structure Sim (a b : St σ) : Prop where
  eq : b = { a with inbuf := b.inbuf }
  sv : Agree a.saved.iEnd a.inbuf b.inbuf
  cu : Agree a.cur.iEnd a.inbuf b.inbuf

theorem Sim.split {a b : St σ} (h : Sim a b) : ∃ ib, b = { a with inbuf := ib } := ⟨_, h.eq⟩

abbrev EE : Halt → St σ → St σ → Prop := fun _ => Sim

theorem throw_sim {α : Type} {Q : St σ → St σ → Prop} (e : Halt) : InStep EE Sim Q (throw e : LM σ α) :=
  .throw fun _ _ h => ⟨trivial, fun _ => h⟩

theorem get_sim {α : Type} {Q : St σ → St σ → Prop} {f : St σ → LM σ α} (hf : ∀ t, InStep EE Sim Q (f t))
    (hi : ∀ t ib, f { t with inbuf := ib } = f t) : InStep EE Sim Q (get >>= f) :=
  .get hf fun _ _ h => by obtain ⟨ib, rfl⟩ := h.split; exact hi _ _

section
variable (S : Src σ)

theorem blit_agree {n : Nat} : ∀ (got : Bytes) {k : Nat} {a b : Array UInt8}, Agree n a b →
    Agree n (blit a k got) (blit b k got)
  | [], _, _, _, h => h
  | x :: rest, k, _, _, h => blit_agree rest (h.setIfInBounds k x)

theorem blit_extend : ∀ (got : Bytes) {k : Nat} {a b : Array UInt8}, Agree k a b →
    Agree (k + got.length) (blit a k got) (blit b k got)
  | [], _, _, _, h => h
  | x :: rest, k, _, _, h => by
    rw [List.length_cons, Nat.add_comm _ 1, ← Nat.add_assoc]
    exact blit_extend rest (h.setIfInBounds_extend x)

theorem Sim.refill {a b : St σ} (h : Sim a b) (src : σ) (ie : Nat) (l : Bytes) :
    Sim { a with src := src, inputEnd := ie, inbuf := blit a.inbuf 0 l,
                 saved := { a.saved with iPtr := 0, iEnd := l.length } }
        { b with src := src, inputEnd := ie, inbuf := blit b.inbuf 0 l,
                 saved := { b.saved with iPtr := 0, iEnd := l.length } } := by
  obtain ⟨ib, rfl⟩ := h.split
  exact ⟨rfl, Nat.zero_add l.length ▸ blit_extend l (h.cu.mono (Nat.zero_le _)), blit_agree l h.cu⟩

theorem readInput_sim :
    InStep EE Sim (fun a b => Sim a b ∧ a.saved.iPtr < a.saved.iEnd) (readInput S) := by
  refine inStep_iff.mpr fun s1 s2 h => ?_
  obtain ⟨ib, rfl⟩ := h.split
  unfold readInput
  rw [wp2_get_bind]
  refine wp2_ite (fun _ => ?_) fun _ => ?_
  · exact ⟨rfl, h.refill _ _ [0], Nat.one_pos⟩
  simp only []
  split
  · exact ⟨rfl, h⟩
  · wsimp
    exact ⟨rfl, rfl, h.sv, h.cu⟩
  · exact ⟨rfl, h.refill _ _ [0], Nat.one_pos⟩
  · rename_i got src hne hr
    simp only [← h.cu.size]
    refine wp2_ite (fun _ => ⟨rfl, h⟩) fun _ => ?_
    exact ⟨rfl, h.refill _ _ got, List.length_pos_iff.mpr hne⟩

/-- the part of `READ_BYTES` after the refill -/
def readBytesTail : LM σ Unit := do
  let st ← get
  if h : st.cur.iPtr < st.inbuf.size then
    let b := st.inbuf[st.cur.iPtr]
    set { st with cur := { st.cur with iPtr := st.cur.iPtr + 1, bits := st.cur.bits ++ byteBitsMSB b } }
  else throw (.fault (.oob "lzh->inbuf (*i_ptr++)"))

theorem readBytesTail_sim :
    InStep EE (fun a b => Sim a b ∧ a.cur.iPtr < a.cur.iEnd) Sim (readBytesTail : LM σ Unit) := by
  refine inStep_iff.mpr fun t1 t2 ⟨ht, hlt⟩ => ?_
  unfold readBytesTail
  obtain ⟨ib, rfl⟩ := ht.split
  wsimp
  simp only [← ht.cu.size]
  refine wp2_dite (fun hin => ?_) (fun _ => ⟨rfl, ht⟩)
  wsimp
  simp only [← ht.cu.get (i := t1.cur.iPtr) hlt hin (ht.cu.size ▸ hin)]
  exact ⟨rfl, rfl, ht.sv, ht.cu⟩

theorem readBytes_sim : InStep EE Sim Sim (readBytes S) := by
  refine inStep_iff.mpr fun s1 s2 h => ?_
  unfold readBytes
  wsimp
  obtain ⟨ib, rfl⟩ := h.split
  refine wp2_ite (fun _ => ?_) fun hc => inStep_iff.mp readBytesTail_sim ⟨h, by omega⟩
  refine inStep_iff.mp (.bind (readInput_sim S) fun _ => .bind (.modify fun a b h => ?_) fun _ => readBytesTail_sim) h
  obtain ⟨ib, rfl⟩ := h.1.split
  exact ⟨⟨rfl, h.1.sv, h.1.sv⟩, h.2⟩

theorem ensureBits_sim (n : Nat) : ∀ fuel : Nat, InStep EE Sim Sim (ensureBits S n fuel)
  | 0 => throw_sim _
  | fuel + 1 => by
    rw [ensureBits]
    exact get_sim (fun _ => .ite (fun _ => .bind (readBytes_sim S) fun _ => ensureBits_sim n fuel)
      fun _ => .pure _) fun _ _ => rfl

theorem removeBits_sim (n : Nat) : InStep EE Sim Sim (removeBits n : LM σ Unit) :=
  .modify fun _ _ h => by obtain ⟨ib, rfl⟩ := h.split; exact ⟨rfl, h.sv, h.cu⟩

theorem safeCheck_sim : InStep EE Sim Sim (safeCheck : LM σ Unit) :=
  get_sim (fun _ => .ite (fun _ => throw_sim _) fun _ => .pure _) fun _ _ => rfl

theorem readBitsSafe_sim (n : Nat) : InStep EE Sim Sim (readBitsSafe S n) :=
  .bind (ensureBits_sim S n 4) fun _ =>
    get_sim (fun _ => .bind (removeBits_sim n) fun _ => .bind safeCheck_sim fun _ => .pure _) fun _ _ => rfl

theorem readHuffSymSafe_sim (c : Huff.Canon) : InStep EE Sim Sim (readHuffSymSafe S c) := by
  refine .bind (ensureBits_sim S 16 4) fun _ => get_sim (fun st => ?_) fun _ _ => rfl
  split
  · exact throw_sim _
  · exact .bind (removeBits_sim _) fun _ => .bind safeCheck_sim fun _ => .pure _

theorem storeBits_sim : InStep EE Sim Sim (storeBits : LM σ Unit) :=
  .modify fun _ _ h => by obtain ⟨ib, rfl⟩ := h.split; exact ⟨rfl, h.cu, h.cu⟩

theorem restoreBits_sim : InStep EE Sim Sim (restoreBits : LM σ Unit) :=
  .modify fun _ _ h => by obtain ⟨ib, rfl⟩ := h.split; exact ⟨rfl, h.sv, h.sv⟩

theorem Sim.lens {a b : St σ} (h : Sim a b) (t : Tbl) : b.lens t = a.lens t := by
  obtain ⟨ib, rfl⟩ := h.split
  cases t <;> rfl

theorem Sim.setLens {a b : St σ} (h : Sim a b) (t : Tbl) (x : Array UInt8) : Sim (a.setLens t x) (b.setLens t x) := by
  obtain ⟨ib, rfl⟩ := h.split
  cases t <;> exact ⟨rfl, h.sv, h.cu⟩

theorem setLen_sim (t : Tbl) (i c : Nat) : InStep EE Sim Sim (setLen t i c : LM σ Unit) := by
  refine inStep_iff.mpr fun s1 s2 h => ?_
  unfold setLen
  wsimp
  simp only [h.lens t]
  exact wp2_dite (fun _ => ⟨rfl, h.setLens t _⟩) fun _ => ⟨rfl, h⟩

theorem lensFill_sim (t : Tbl) (c : Nat) : ∀ k i : Nat, InStep EE Sim Sim (lensFill t c k i : LM σ Unit)
  | 0, _ => .pure _
  | k + 1, i => .bind (setLen_sim t i c) fun _ => lensFill_sim t c k (i + 1)

theorem lensType1_sim (t : Tbl) : ∀ k i c : Nat, InStep EE Sim Sim (lensType1 S t k i c)
  | 0, _, _ => .pure _
  | k + 1, i, c => by
    rw [lensType1]
    refine .bind (readBitsSafe_sim S 1) fun _ => .ite (fun _ => ?_) fun _ =>
      .bind (readBitsSafe_sim S 1) fun _ => .ite (fun _ => ?_) fun _ => .bind (readBitsSafe_sim S 4) fun _ => ?_
    all_goals exact .bind (setLen_sim t i _) fun _ => lensType1_sim t k (i + 1) _

theorem lensType2_sim (t : Tbl) : ∀ k i c : Nat, InStep EE Sim Sim (lensType2 S t k i c)
  | 0, _, _ => .pure _
  | k + 1, i, c => by
    rw [lensType2]
    refine .bind (readBitsSafe_sim S 2) fun _ => ?_
    extract_lets jp
    have hjp (c : Nat) : InStep EE Sim Sim (jp c) := .bind (setLen_sim t i c) fun _ => lensType2_sim t k (i + 1) c
    exact .ite (fun _ => .bind (readBitsSafe_sim S 4) hjp) fun _ => .bind (.pure _) hjp

theorem lensType3_sim (t : Tbl) : ∀ k i : Nat, InStep EE Sim Sim (lensType3 S t k i)
  | 0, _ => .pure _
  | k + 1, i => .bind (readBitsSafe_sim S 4) fun _ => .bind (setLen_sim t i _) fun _ => lensType3_sim t k (i + 1)

theorem readLensBody_sim (t : Tbl) (type : Nat) : InStep EE Sim Sim (readLensBody S t type) := by
  refine .bind restoreBits_sim fun _ => ?_
  extract_lets jp
  have hjp (r : Unit) : InStep EE Sim Sim (jp r) := storeBits_sim
  refine .ite (fun _ => .bind (lensFill_sim t _ _ _) hjp) fun _ => .ite (fun _ => ?_) fun _ => .ite (fun _ => ?_) fun _ =>
    .ite (fun _ => .bind (lensType3_sim S t _ _) hjp) fun _ => .bind (throw_sim _) hjp
  · exact .bind (readBitsSafe_sim S 4) fun _ => .bind (setLen_sim t 0 _) fun _ => .bind (lensType1_sim S t _ _ _) hjp
  · exact .bind (readBitsSafe_sim S 4) fun _ => .bind (setLen_sim t 0 _) fun _ => .bind (lensType2_sim S t _ _ _) hjp

theorem readLens_sim (t : Tbl) (type : Nat) : InStep EE Sim Sim (readLens S t type) :=
  .tryCatch (.bind (readLensBody_sim S t type) fun _ => .pure _)
    (fun e => by
      cases e
      · exact .pure _
      · exact throw_sim _)

theorem buildTree_sim (t : Tbl) (type : Nat) : InStep EE Sim Sim (buildTree S t type) := by
  refine .bind storeBits_sim fun _ => .bind (readLens_sim S t type) fun _ => .ite (fun _ => throw_sim _) fun _ =>
    .bind restoreBits_sim fun _ => .get (fun st => ?_) fun _ _ h => by simp only [h.lens t]
  split
  · exact throw_sim _
  · exact .pure _

theorem emitByte_sim (b : UInt8) : InStep EE Sim Sim (emitByte b : LM σ Unit) := by
  refine inStep_iff.mpr fun s1 s2 h => ?_
  obtain ⟨ib, rfl⟩ := h.split
  unfold emitByte
  wsimp
  exact wp2_dite (fun _ => ⟨rfl, rfl, h.sv, h.cu⟩) fun _ => ⟨rfl, h⟩

theorem copyMatch_sim (offset : Nat) : ∀ len : Nat, InStep EE Sim Sim (copyMatch offset len : LM σ Unit)
  | 0 => .pure _
  | len + 1 => by
    rw [copyMatch]
    exact get_sim (fun _ => .dite (fun _ => .bind (emitByte_sim _) fun _ => copyMatch_sim offset len)
      fun _ => throw_sim _) fun _ _ => rfl

theorem literalRun_sim (lit : Huff.Canon) : ∀ len : Nat, InStep EE Sim Sim (literalRun S lit len)
  | 0 => .pure _
  | len + 1 => .bind (readHuffSymSafe_sim S lit) fun _ => .bind (emitByte_sim _) fun _ => literalRun_sim lit len

theorem mainLoop_sim (tr : Trees) : ∀ (fuel : Nat) (litRun : Bool), InStep EE Sim Sim (mainLoop S tr fuel litRun)
  | 0, _ => throw_sim _
  | fuel + 1, litRun => by
    rw [mainLoop]
    refine get_sim (fun _ => .ite (fun _ => .pure _) fun _ => ?_) fun _ _ => rfl
    extract_lets jp
    have hjp (len : Nat) : InStep EE Sim Sim (jp len) := by
      refine .ite (fun _ => ?_) fun _ => ?_
      · exact .bind (readHuffSymSafe_sim S _) fun _ => .bind (readBitsSafe_sim S 6) fun _ =>
          .bind (copyMatch_sim _ _) fun _ => mainLoop_sim tr fuel false
      · exact .bind (readHuffSymSafe_sim S _) fun _ => .bind (literalRun_sim S _ _) fun _ => mainLoop_sim tr fuel _
    exact .ite (fun _ => .bind (readHuffSymSafe_sim S _) hjp) fun _ => .bind (readHuffSymSafe_sim S _) hjp

theorem readTypes_sim : ∀ (k : Nat) (acc : List Nat), InStep EE Sim Sim (readTypes S k acc)
  | 0, _ => .pure _
  | k + 1, _ => .bind (readBitsSafe_sim S 4) fun _ => readTypes_sim k _

/-- before `lzh_decompress` has run its initialisation: `inbuf` and the ring may differ -/
structure Sim0 (a b : St σ) : Prop where
  eq : b = { a with inbuf := b.inbuf, window := b.window }
  inbufSz : a.inbuf.size = b.inbuf.size

theorem decompressBody_sim (fuel : Nat) : InStep EE Sim0 Sim (decompressBody S fuel) := by
  refine inStep_iff.mpr fun s1 s2 h => ?_
  obtain ⟨ib, w, rfl⟩ : ∃ ib w, s2 = { s1 with inbuf := ib, window := w } := ⟨_, _, h.eq⟩
  unfold decompressBody restoreBits
  simp only [wp2_modify_bind]
  exact inStep_iff.mp (.bind (readTypes_sim S 6 []) fun _ => .bind (buildTree_sim S _ _) fun _ =>
    .bind (buildTree_sim S _ _) fun _ => .bind (buildTree_sim S _ _) fun _ => .bind (buildTree_sim S _ _) fun _ =>
    .bind (buildTree_sim S _ _) fun _ => mainLoop_sim S _ fuel false) ⟨rfl, .zero h.inbufSz, .zero h.inbufSz⟩

theorem init_sim0 (src : σ) (f1 f2 : UInt8) : Sim0 (init src f1) (init src f2) :=
  ⟨rfl, by simp [init]⟩

/-- what the caller of `lzh_decompress` sees -/
def observe : Except Fault (Out σ) → Except Fault (Err × Bytes)
  | .error f => .error f
  | .ok o => .ok (o.err, o.written)

theorem decompress_sim0 (fuel : Nat) {s1 s2 : St σ} (h : Sim0 s1 s2) :
    observe (decompress S fuel s1) = observe (decompress S fuel s2) := by
  unfold decompress
  rcases (inStep_iff.mp (decompressBody_sim S fuel) h).elim with ⟨_, _, t1, t2, e1, e2, _, hs⟩ | ⟨e, _, t1, t2, e1, e2, rfl, hs⟩
  all_goals
    rw [e1, e2]
    obtain ⟨ib, rfl⟩ := hs.split
  · rfl
  · cases e <;> rfl

end
end MsPack.Kwaj.Lzh
