import Proofs.Lemmas.KwajApiLedger
/-!
# Termination of the loops of the effect models (`Sys.M`): LZSS, KWAJ copy loop

The measure lives in the world: the bytes between the position of the input handle and the end of
the file it reads (`inLeft`).  It holds for every world - any files, any fault plan, any handle
table (ids need not even be unique: `findHandle` takes the first, `setHandle` rewrites all).
`Sys.close` of a write handle installs its bytes under its name even while a read handle on that name
is open, so `inSize` / `inLeft` of the input handle can grow when the output is closed: no measure
survives `close`, and every walk here claims nothing of the world once the loop has returned
(`.trivial`).
-/
namespace MsPack.Sys

def hSize (files : List (String × Bytes)) (h : Handle) : Nat :=
  if h.mode = .read then ((files.lookup h.name).getD []).length else 0

def hLeft (files : List (String × Bytes)) (h : Handle) : Nat :=
  if h.mode = .read then ((files.lookup h.name).getD []).length - h.pos else 0

/-- bytes `sys->read(fh, …)` can still deliver in this world (0 if `fh` is not open for reading) -/
def inLeft (w : World) (fh : Nat) : Nat := ((findHandle w fh).map (hLeft w.files)).getD 0

def inSize (w : World) (fh : Nat) : Nat := ((findHandle w fh).map (hSize w.files)).getD 0

theorem hLeft_le_hSize (files : List (String × Bytes)) (h : Handle) : hLeft files h ≤ hSize files h := by
  unfold hLeft hSize; split <;> omega

theorem inLeft_le_inSize (w : World) (fh : Nat) : inLeft w fh ≤ inSize w fh := by
  unfold inLeft inSize
  cases findHandle w fh with
  | none => simp
  | some h => simp [hLeft_le_hSize]

theorem findHandle_id {w : World} {id : Nat} {h : Handle} (hf : findHandle w id = some h) : h.id = id := by
  unfold findHandle at hf
  simpa using List.find?_some hf

theorem findHandle_setHandle (h' : Handle) (w : World) (id : Nat) :
    findHandle (setHandle h' w) id = (findHandle w id).map (fun x => if x.id = h'.id then h' else x) := by
  unfold findHandle setHandle
  simp only
  rw [List.find?_map]
  congr 1
  congr 1
  funext x
  simp only [Function.comp]
  split
  · rename_i hx; rw [hx]
  · rfl

theorem inSize_setHandle (w : World) (id : Nat) (h h' : Handle) (hf : findHandle w id = some h)
    (hid : h'.id = h.id) (hmode : h'.mode = h.mode) (hname : h'.name = h.name) (fh : Nat) :
    inSize (setHandle h' w) fh = inSize w fh := by
  unfold inSize
  rw [findHandle_setHandle]
  have hfiles : (setHandle h' w).files = w.files := rfl
  rw [hfiles]
  cases hx : findHandle w fh with
  | none => rfl
  | some x =>
    simp only [Option.map_some, Option.getD_some]
    split
    · rename_i hxe
      -- `x` is the handle found under `id`
      have h1 := findHandle_id hx
      have h2 := findHandle_id hf
      have : fh = id := by omega
      subst this
      rw [hf] at hx
      simp only [Option.some.injEq] at hx
      subst hx
      simp only [hSize, hmode, hname]
    · rfl

theorem inLeft_setHandle (w : World) (id : Nat) (h h' : Handle) (hf : findHandle w id = some h)
    (hid : h'.id = h.id) (hmode : h'.mode = h.mode) (hname : h'.name = h.name)
    (hpos : h.pos ≤ h'.pos ∨ h.mode = .write) (fh : Nat) :
    inLeft (setHandle h' w) fh ≤ inLeft w fh := by
  unfold inLeft
  rw [findHandle_setHandle]
  have hfiles : (setHandle h' w).files = w.files := rfl
  rw [hfiles]
  cases hx : findHandle w fh with
  | none => simp
  | some x =>
    simp only [Option.map_some, Option.getD_some]
    split
    · rename_i hxe
      have h1 := findHandle_id hx
      have h2 := findHandle_id hf
      have : fh = id := by omega
      subst this
      rw [hf] at hx
      simp only [Option.some.injEq] at hx
      subst hx
      simp only [hLeft, hmode, hname]
      rcases hpos with hp | hp
      · split <;> omega
      · simp [hp]
    · exact Nat.le_refl _

theorem free_inLeft (p : Option Nat) (w : World) (fh : Nat) : inLeft (free p w).2 fh = inLeft w fh := by
  unfold free
  split
  · rfl
  · split <;> rfl

theorem free_inSize (p : Option Nat) (w : World) (fh : Nat) : inSize (free p w).2 fh = inSize w fh := by
  unfold free
  split
  · rfl
  · split <;> rfl

theorem alloc_inLeft (w : World) (fh : Nat) : inLeft (alloc w).2 fh = inLeft w fh := by
  unfold alloc
  simp only [tick]
  split <;> rfl

theorem alloc_inSize (w : World) (fh : Nat) : inSize (alloc w).2 fh = inSize w fh := by
  unfold alloc
  simp only [tick]
  split <;> rfl

/-- `read` on the handle itself: the bytes delivered come off the measure; `read` on any handle
    never increases it -/
theorem read_inLeft (id n : Nat) (w : World) (fh : Nat) :
    inLeft (read id n w).2 fh + (if id = fh then ((read id n w).1.getD []).length else 0) ≤ inLeft w fh := by
  unfold read
  simp only [tick]
  have hfh : ∀ c, findHandle { w with counts := c } id = findHandle w id := fun _ => rfl
  rw [hfh]
  cases hf : findHandle w id with
  | none =>
    simp only [Option.getD_none, List.length_nil, ite_self, Nat.add_zero]
    exact Nat.le_refl _
  | some h =>
    simp only
    split
    · simp only [Option.getD_none, List.length_nil, ite_self, Nat.add_zero]; exact Nat.le_refl _
    · rename_i hmode
      simp only [ne_eq, Decidable.not_not] at hmode
      split
      · simp only [Option.getD_none, List.length_nil, ite_self, Nat.add_zero]; exact Nat.le_refl _
      · simp only [Option.getD_some]
        split
        · -- the handle read from is `fh`: exact accounting
          rename_i hidfh
          subst hidfh
          generalize hc : w.counts.bump Kind.read = c
          have hf' : findHandle { w with counts := c } id = some h := hf
          unfold inLeft
          rw [findHandle_setHandle, hf', hf]
          have hfiles : ∀ h', (setHandle h' { w with counts := c }).files = w.files := fun _ => rfl
          rw [hfiles]
          simp only [Option.map_some, ↓reduceIte, Option.getD_some, hLeft, hmode,
            List.length_take, List.length_drop]
          omega
        · simp only [Nat.add_zero]
          generalize hc : w.counts.bump Kind.read = c
          have hf' : findHandle { w with counts := c } id = some h := hf
          refine inLeft_setHandle { w with counts := c } id h ?_ hf' ?_ ?_ ?_ (Or.inl ?_) fh
          · rfl
          · rfl
          · rfl
          · exact Nat.le_add_right _ _

theorem read_inSize (id n : Nat) (w : World) (fh : Nat) : inSize (read id n w).2 fh = inSize w fh := by
  unfold read
  simp only [tick]
  have hfh : ∀ c, findHandle { w with counts := c } id = findHandle w id := fun _ => rfl
  rw [hfh]
  cases hf : findHandle w id with
  | none => rfl
  | some h =>
    simp only
    split
    · rfl
    · split
      · rfl
      · generalize hc : w.counts.bump Kind.read = c
        have hf' : findHandle { w with counts := c } id = some h := hf
        refine inSize_setHandle { w with counts := c } id h ?_ hf' ?_ ?_ ?_ fh <;> rfl

theorem write_inLeft (id : Nat) (bs : Bytes) (w : World) (fh : Nat) : inLeft (write id bs w).2 fh ≤ inLeft w fh := by
  unfold write
  simp only [tick]
  have hfh : ∀ c, findHandle { w with counts := c } id = findHandle w id := fun _ => rfl
  rw [hfh]
  cases hf : findHandle w id with
  | none => exact Nat.le_refl _
  | some h =>
    simp only
    split
    · exact Nat.le_refl _
    · rename_i hmode
      simp only [ne_eq, Decidable.not_not] at hmode
      split
      · exact Nat.le_refl _
      · generalize hc : w.counts.bump Kind.write = c
        have hf' : findHandle { w with counts := c } id = some h := hf
        refine inLeft_setHandle { w with counts := c } id h ?_ hf' ?_ ?_ ?_ (Or.inr hmode) fh <;> rfl

theorem seekStart_inSize (id off : Nat) (w : World) (fh : Nat) : inSize (seekStart id off w).2 fh = inSize w fh := by
  unfold seekStart
  simp only [tick]
  have hfh : ∀ c, findHandle { w with counts := c } id = findHandle w id := fun _ => rfl
  rw [hfh]
  cases hf : findHandle w id with
  | none => rfl
  | some h =>
    simp only
    split
    · rfl
    · generalize hc : w.counts.bump Kind.seek = c
      have hf' : findHandle { w with counts := c } id = some h := hf
      refine inSize_setHandle { w with counts := c } id h ?_ hf' ?_ ?_ ?_ fh <;> rfl

theorem lookup_filter_ne (files : List (String × Bytes)) (name n : String) (hn : n ≠ name) :
    (files.filter (·.1 ≠ name)).lookup n = files.lookup n := by
  induction files with
  | nil => rfl
  | cons a t ih =>
    obtain ⟨k, v⟩ := a
    rw [List.filter_cons]
    by_cases hk : k = name
    · have h1 : (decide ((k, v).1 ≠ name)) = false := by simp [hk]
      rw [h1]
      simp only [Bool.false_eq_true, ↓reduceIte]
      rw [ih, List.lookup_cons]
      have : (n == k) = false := by simp [hk, hn]
      rw [this]
    · have h1 : decide ((k, v).1 ≠ name) = true := by simp [hk]
      rw [h1]
      simp only [↓reduceIte]
      rw [List.lookup_cons, List.lookup_cons, ih]

/-- opening an output file: the input handle keeps its position; its file stays as it is or (same
    name) is truncated; a fresh handle that takes over the id is a write handle -/
theorem openWrite_inLeft (name : String) (w : World) (fh : Nat) :
    inLeft (open_ name .write w).2 fh ≤ inLeft w fh := by
  unfold open_
  simp only [tick]
  split
  · exact Nat.le_refl _
  · split
    · exact Nat.le_refl _
    · simp only [↓reduceIte]
      unfold inLeft findHandle
      simp only [List.find?_cons]
      by_cases hid : w.nextId = fh
      · simp [hid, hLeft]
      · simp only [hid, decide_false]
        cases hx : w.liveHandles.find? (fun x => decide (x.id = fh)) with
        | none => simp
        | some x =>
          simp only [Option.map_some, Option.getD_some, hLeft]
          split
          · by_cases hn : x.name = name
            · simp [hn]
            · have : (x.name == name) = false := by simp [hn]
              rw [List.lookup_cons, this, lookup_filter_ne _ _ _ hn]
              exact Nat.le_refl _
          · exact Nat.le_refl _

theorem seekCur_inSize (id : Nat) (off : Int) (w : World) (fh : Nat) : inSize (seekCur id off w).2 fh = inSize w fh := by
  unfold seekCur
  simp only [tick]
  have hfh : ∀ c, findHandle { w with counts := c } id = findHandle w id := fun _ => rfl
  rw [hfh]
  cases hf : findHandle w id with
  | none => rfl
  | some h =>
    simp only
    split
    · rfl
    · split
      · rfl
      · generalize hc : w.counts.bump Kind.seek = c
        have hf' : findHandle { w with counts := c } id = some h := hf
        refine inSize_setHandle { w with counts := c } id h ?_ hf' ?_ ?_ ?_ fh <;> rfl

theorem openRead_inSize (name : String) (w : World) :
    match (open_ name .read w).1 with
    | some f => inSize (open_ name .read w).2 f = ((w.files.lookup name).getD []).length
    | none => True := by
  unfold open_
  simp only [tick]
  by_cases h1 : (w.plan.contains (Kind.open_, (w.counts.bump Kind.open_).get Kind.open_)) = true
  · rw [if_pos h1]; trivial
  · rw [if_neg h1]
    by_cases h2 : (True ∧ (w.files.lookup name).isNone = true)
    · rw [if_pos h2]; trivial
    · rw [if_neg h2]
      simp only [inSize, findHandle, List.find?_cons, decide_true, Option.map_some, Option.getD_some, hSize,
        ↓reduceIte]
      simp

def Keeps (fh : Nat) {α : Type} (x : M α) : Prop := ∀ w, inSize (x w).2 fh = inSize w fh

theorem Keeps.free (fh : Nat) (p : Option Nat) : Keeps fh (free p) := fun w => free_inSize p w fh

theorem Keeps.size {fh : Nat} {α : Type} {x : M α} (h : Keeps fh x) (c k : Nat) :
    Pres (fun w => inSize w fh + c ≤ k) x := fun w hw => by have := h w; omega

theorem inSize_stable (fh f c k : Nat) : Stable fh fun _ w => inSize w f + c ≤ k :=
  ⟨fun _ n => Keeps.size (fun w => read_inSize fh n w f) c k, fun _ off => Keeps.size (fun w => seekCur_inSize fh off w f) c k,
   fun _ => Keeps.size (fun w => alloc_inSize w f) c k⟩

theorem openRead_size (name : String) (c k : Nat) :
    Hoare (fun w => ((w.files.lookup name).getD []).length + c ≤ k) (open_ name .read)
      fun r w => ∀ f, r = some f → inSize w f + c ≤ k := fun w hk f hf => by
  have := openRead_inSize name w
  rw [hf] at this
  have : inSize (open_ name .read w).2 f = _ := this
  omega

def NonInc (fh : Nat) {α : Type} (x : M α) : Prop := ∀ w, inLeft (x w).2 fh ≤ inLeft w fh

theorem NonInc.pure (fh : Nat) {α : Type} (a : α) : NonInc fh (pure a : M α) := fun _ => Nat.le_refl _

theorem NonInc.bind {fh : Nat} {α β : Type} {x : M α} {f : α → M β} (hx : NonInc fh x) (hf : ∀ a, NonInc fh (f a)) :
    NonInc fh (x >>= f) := fun w => Nat.le_trans (hf _ _) (hx w)

theorem NonInc.alloc (fh : Nat) : NonInc fh alloc := fun w => Nat.le_of_eq (alloc_inLeft w fh)
theorem NonInc.free (fh : Nat) (p : Option Nat) : NonInc fh (free p) := fun w => Nat.le_of_eq (free_inLeft p w fh)
theorem NonInc.write (fh id : Nat) (bs : Bytes) : NonInc fh (write id bs) := fun w => write_inLeft id bs w fh
theorem NonInc.read (fh id n : Nat) : NonInc fh (read id n) := fun w => by
  have := read_inLeft id n w fh; omega
theorem NonInc.openWrite (fh : Nat) (name : String) : NonInc fh (open_ name .write) := fun w => openWrite_inLeft name w fh

theorem NonInc.left {fh : Nat} {α : Type} {x : M α} (h : NonInc fh x) (c k : Nat) :
    Pres (fun w => inLeft w fh + c ≤ k) x := fun w hw => by have := h w; omega

theorem read_left (fh n c k : Nat) :
    Hoare (fun w => inLeft w fh + c ≤ k) (read fh n) fun r w => inLeft w fh + ((r.getD []).length + c) ≤ k :=
  fun w hw => by have := read_inLeft fh n w fh; rw [if_pos rfl] at this; omega

end MsPack.Sys

namespace MsPack.Szdd.Api
open MsPack.Sys

/-- the decoder has more fuel than input it can still consume: buffered + left behind the input handle -/
def Fed (inFh fuel : Nat) (s : LSt) (w : World) : Prop := inLeft w inFh + (s.inbuf.length + 1) ≤ fuel

section
variable {win inFh outFh bufsize : Nat}

theorem nextByte_fed (s : LSt) (fuel : Nat) :
    Hoare (Fed inFh (fuel + 1) s) (nextByte win inFh bufsize s) (Step (fun _ => True) fun p => Fed inFh fuel p.2) := by
  unfold nextByte
  split
  · rename_i b rest hs
    exact .pure fun w h => by
      have : inLeft w inFh + ((b :: rest).length + 1) ≤ fuel + 1 := hs ▸ h
      exact (by simp only [List.length_cons] at this; omega : inLeft w inFh + (rest.length + 1) ≤ fuel)
  · rename_i hs
    refine .bind ((read_left inFh bufsize 1 (fuel + 1)).pre fun w h => by
      have : inLeft w inFh + (([] : Bytes).length + 1) ≤ fuel + 1 := hs ▸ h
      exact this) fun r => ?_
    match r with
    | none => exact .bind (.trivial _ _) fun _ => .pure fun _ _ => trivial
    | some [] => exact .bind (.trivial _ _) fun _ => .pure fun _ _ => trivial
    | some (b :: rest) =>
      exact .pure fun w h => by
        simp only [Option.getD_some, List.length_cons] at h
        exact (by omega : inLeft w inFh + (rest.length + 1) ≤ fuel)

theorem nextByte_fed_le (s : LSt) (fuel : Nat) :
    Hoare (Fed inFh fuel s) (nextByte win inFh bufsize s) (Step (fun _ => True) fun p => Fed inFh fuel p.2) := by
  cases fuel with
  | zero => exact fun w h => absurd h (by unfold Fed; omega)
  | succ n => exact (nextByte_fed s n).post (Step.imp (fun _ h => h) fun _ _ h => Nat.le_succ_of_le h)

theorem emit_fed (s : LSt) (b : UInt8) (fuel : Nat) :
    Hoare (Fed inFh fuel s) (emit win outFh s b) (Step (fun _ => True) (Fed inFh fuel)) := by
  unfold emit
  refine .bind ((NonInc.write inFh outFh [b]).left _ fuel) fun r => ?_
  split
  · exact .pure fun _ h => h
  · exact .bind (.trivial _ _) fun _ => .pure fun _ _ => trivial

theorem mainLoop_no_hang (invert : Nat) : ∀ (fuel : Nat) (s : LSt),
    Hoare (Fed inFh fuel s) (mainLoop win inFh outFh bufsize invert fuel s) (fun r _ => r ≠ none)
  | 0, _ => fun _ h => absurd h (by unfold Fed; omega)
  | fuel + 1, s => .bind (nextByte_fed s fuel) fun
    | .inl _ => .pure fun _ _ => nofun
    | .inr p => .bind (tokens_walk (fun s => nextByte_fed_le s fuel) (fun s b => emit_fed s b fuel) _ 8 1 p.2) fun
      | .inl _ => .pure fun _ _ => nofun
      | .inr s2 => mainLoop_no_hang invert fuel s2

end

theorem lzss_no_hang (inFh outFh bufsize : Nat) (qb : Bool) (fuel : Nat) (w : World)
    (h : inLeft w inFh + 1 ≤ fuel) : (lzss inFh outFh bufsize qb fuel w).1 ≠ none :=
  (show Hoare (fun w => inLeft w inFh + 1 ≤ fuel) (lzss inFh outFh bufsize qb fuel) (fun r _ => r ≠ none) from
    .bind ((NonInc.alloc inFh).left 1 fuel) fun
      | none => .pure fun _ _ => nofun
      | some _ => (mainLoop_no_hang 0 fuel _).pre fun _ h => h) w h

theorem extract_no_hang (i : Inst) (h : Hdr) (out : String) (fuel : Nat) (w : World)
    (hf : inSize w h.fh + 1 ≤ fuel) : (extract i h out fuel w).1 ≠ none :=
  (show Hoare (fun w => inSize w h.fh + 1 ≤ fuel) (extract i h out fuel) (fun r _ => r ≠ none) from
    .bind (Keeps.size (fun w => seekStart_inSize h.fh _ w h.fh) 1 fuel) fun _ =>
    .ite (fun _ => .pure fun _ _ => nofun) fun _ =>
    .bind (((NonInc.openWrite h.fh out).left 1 fuel).pre fun w hw => by
      have := inLeft_le_inSize w h.fh; omega) fun
      | none => .pure fun _ _ => nofun
      | some o => .bind (R := fun r _ => r ≠ none) (lzss_no_hang h.fh o _ _ fuel) fun
        | none => fun _ h => absurd rfl h
        | some _ => .bind (.trivial _ _) fun _ => .pure fun _ _ => nofun) w hf

/-- `szddd_open`: the header's handle reads the file found under `name` -/
theorem open_inSize (i : Inst) (name : String) (c k : Nat) :
    Hoare (fun w => ((w.files.lookup name).getD []).length + c ≤ k) (open_ i name)
      fun r w => ∀ h, r.2 = some h → inSize w h.fh + c ≤ k := by
  unfold open_
  refine .bind (openRead_size name c k) fun fh => ?_
  cases fh with
  | none => exact .bind (.trivial _ _) fun _ => .bind (.trivial _ _) fun _ => .pure fun _ _ _ hh => nomatch hh
  | some f =>
    refine .bind (((inSize_stable f f c k).alloc []).pre fun w h => h f rfl) fun hdr => ?_
    cases hdr with
    | none =>
      exact .bind (.trivial _ _) fun _ => .bind (.trivial _ _) fun _ => .pure fun _ _ _ hh => nomatch hh
    | some m =>
      refine .bind (readHeaders_walk (bl := []) (inSize_stable f f c k)) fun r => ?_
      match r with
      | .ok (fmt, miss, len) => exact .pure fun w hw hd hh => by cases hh; exact hw
      | .error e =>
        exact .bind (.trivial _ _) fun _ => .bind (.trivial _ _) fun _ => .pure fun _ _ _ hh => nomatch hh

theorem decompress_no_hang (i : Inst) (input output : String) (fuel : Nat) (w : World)
    (hf : ((w.files.lookup input).getD []).length + 1 ≤ fuel) : (decompress i input output fuel w).1 ≠ none :=
  (show Hoare (fun w => ((w.files.lookup input).getD []).length + 1 ≤ fuel) (decompress i input output fuel)
      (fun r _ => r ≠ none) from
    .bind (open_inSize i input 1 fuel) fun
      | (_, none) => .pure fun _ _ => nofun
      | (i1, some h) =>
        .bind (R := fun r _ => r ≠ none) (fun w hw => extract_no_hang i1 h output fuel w (hw h rfl)) fun
          | none => fun _ h => absurd rfl h
          | some _ => .bind (.trivial _ _) fun _ => .pure fun _ _ => nofun) w hf

end MsPack.Szdd.Api

namespace MsPack.Kwaj.Api
open MsPack.Sys

/-- every round of the copy loop that goes round again has read at least one byte -/
theorem copyLoop_no_hang (inFh outFh : Nat) (xor : Bool) : ∀ (fuel : Nat),
    Hoare (fun w => inLeft w inFh + 1 ≤ fuel) (copyLoop inFh outFh xor fuel) (fun r _ => r ≠ none)
  | 0 => fun _ h => absurd h (by omega)
  | fuel + 1 => .bind (read_left inFh _ 1 (fuel + 1)) fun
    | none => .pure fun _ _ => nofun
    | some chunk => .ite (fun _ => .pure fun _ _ => nofun) fun hne =>
      .bind ((NonInc.write inFh outFh _).left _ _) fun
        | none => .pure fun _ _ => nofun
        | some _ => .ite (fun _ => .pure fun _ _ => nofun) fun _ =>
          (copyLoop_no_hang inFh outFh xor fuel).pre fun w h => by
            have : 1 ≤ chunk.length := by
              cases chunk with
              | nil => simp at hne
              | cons a t => simp
            simp only [Option.getD_some] at h
            omega

theorem stored_no_hang (inFh outFh : Nat) (xor : Bool) (fuel : Nat) :
    Hoare (fun w => inLeft w inFh + 1 ≤ fuel) (stored inFh outFh xor fuel) (fun r _ => r ≠ none) :=
  .bind ((NonInc.alloc inFh).left 1 fuel) fun
    | none => .pure fun _ _ => nofun
    | some _ => .bind (copyLoop_no_hang inFh outFh xor fuel) fun
      | none => fun _ h => absurd rfl h
      | some _ => .bind (.trivial _ _) fun _ => .pure fun _ _ => nofun

/-- nothing is asked of `d`: the two bit-level decoder bodies have no out-of-fuel outcome -/
theorem method_no_hang (d : Decoders) (ct inFh outFh fuel : Nat) :
    Hoare (fun w => inLeft w inFh + 1 ≤ fuel) (method d ct inFh outFh fuel) (fun r _ => r ≠ none) :=
  .ite (fun _ => stored_no_hang _ _ _ _) fun _ => .ite (fun _ => Szdd.Api.lzss_no_hang _ _ _ _ _) fun _ =>
  .ite (fun _ => .bind (.trivial _ _) fun _ => .pure fun _ _ => nofun) fun _ =>
  .ite (fun _ => .bind (.trivial _ _) fun _ => .pure fun _ _ => nofun) fun _ => .pure fun _ _ => nofun

theorem extract_no_hang (d : Decoders) (i : Inst) (h : Hdr) (out : String) (fuel : Nat) (w : World)
    (hf : inSize w h.fh + 1 ≤ fuel) : (extract d i h out fuel w).1 ≠ none :=
  (show Hoare (fun w => inSize w h.fh + 1 ≤ fuel) (extract d i h out fuel) (fun r _ => r ≠ none) from
    .bind (Keeps.size (fun w => seekStart_inSize h.fh _ w h.fh) 1 fuel) fun _ =>
    .ite (fun _ => .pure fun _ _ => nofun) fun _ =>
    .bind (((NonInc.openWrite h.fh out).left 1 fuel).pre fun w hw => by
      have := inLeft_le_inSize w h.fh; omega) fun
      | none => .pure fun _ _ => nofun
      | some o => .bind (method_no_hang d _ h.fh o fuel) fun
        | none => fun _ h => absurd rfl h
        | some _ => .bind (.trivial _ _) fun _ => .pure fun _ _ => nofun) w hf

/-- `kwajd_open`: the header's handle reads the file found under `name` -/
theorem open_inSize (i : Inst) (name : String) (c k : Nat) :
    Hoare (fun w => ((w.files.lookup name).getD []).length + c ≤ k) (open_ i name)
      fun r w => ∀ h, r.2 = some h → inSize w h.fh + c ≤ k :=
  .bind (openRead_size name c k) fun
    | none => .pure fun _ _ _ hh => nomatch hh
    | some f => .bind (((inSize_stable f f c k).alloc []).pre fun _ h => h f rfl) fun
      | none => .bind (.trivial _ _) fun _ => .pure fun _ _ _ hh => nomatch hh
      | some _ => .bind (readHeaders_walk (bl := []) (inSize_stable f f c k)) fun _ =>
        .ite (fun _ => .bind (.trivial _ _) fun _ => .pure fun _ _ _ hh => nomatch hh) fun _ =>
          .pure fun _ hw _ hh => Option.some.inj hh ▸ hw

theorem decompress_no_hang (d : Decoders) (i : Inst) (input output : String) (fuel : Nat) (w : World)
    (hf : ((w.files.lookup input).getD []).length + 1 ≤ fuel) : (decompress d i input output fuel w).1 ≠ none :=
  (show Hoare (fun w => ((w.files.lookup input).getD []).length + 1 ≤ fuel) (decompress d i input output fuel)
      (fun r _ => r ≠ none) from
    .bind (open_inSize i input 1 fuel) fun
      | (_, none) => .pure fun _ _ => nofun
      | (i1, some h) =>
        .bind (R := fun r _ => r ≠ none) (fun w hw => extract_no_hang d i1 h output fuel w (hw h rfl)) fun
          | none => fun _ h => absurd rfl h
          | some _ => .bind (.trivial _ _) fun _ => .pure fun _ _ => nofun) w hf

end MsPack.Kwaj.Api
