import Proofs.Lemmas.FeederTerm
import Proofs.Lemmas.Count
/-!
CAB stored folders: `noned_decompress` never runs out of the `bytes / bufsize + 2` rounds
`decompress` passes (every round moves `min(bufsize, bytes) ≥ 1` bytes; the last round sees 0).
-/
namespace MsPack.Cab

theorem nonedDecompress_no_hang (files : Files) (bs : Nat) (hb : 1 ≤ bs) : ∀ (fuel : Nat) (fd : Feeder) (bytes : Nat) (w : Bytes),
    (if bytes = 0 then 1 else (bytes - 1) / bs + 2) ≤ fuel →
    nonedDecompress files bs fuel fd bytes w ≠ .error .hang := by
  intro fuel
  induction fuel with
  | zero =>
    intro fd bytes w h
    have := Nat.zero_le ((bytes - 1) / bs)
    split at h <;> omega
  | succ fuel ih =>
    intro fd bytes w h
    rw [nonedDecompress]
    by_cases hz : bytes = 0
    · simp [hz]
    · rw [if_neg hz] at h
      rw [if_neg hz]
      simp only
      generalize hrun : (if bytes > bs then bs else bytes) = run
      have hf := (feeder_finite files).no_hang fd run
      split
      · rename_i f heq
        intro hc
        simp only [Except.error.injEq] at hc
        subst hc
        exact hf heq
      · simp
      · split
        · simp
        · apply ih
          by_cases hgt : bytes > bs
          · rw [if_pos hgt] at hrun
            subst hrun
            have h1 : bytes - bs ≠ 0 := by omega
            rw [if_neg h1]
            have : (bytes - 1) / bs = (bytes - 1 - bs) / bs + 1 := Nat.div_eq_sub_div (by omega) (by omega)
            have h2 : bytes - bs - 1 = bytes - 1 - bs := by omega
            rw [h2]
            omega
          · rw [if_neg hgt] at hrun
            subst hrun
            have := Nat.zero_le ((bytes - 1) / bs)
            simp only [Nat.sub_self, ↓reduceIte]
            omega

/-- `hb`: `cabd_param` refuses DECOMPBUF < 4 -/
theorem decompress_none_no_hang (files : Files) (bs : Nat) (hb : 1 ≤ bs) (e : Err) (fd : Feeder) (bytes : Nat) :
    decompress files (.none bs e) fd bytes ≠ .error .hang := fun h =>
  nonedDecompress_no_hang files bs hb _ fd bytes [] (by
    have hm : max bs 1 = bs := by omega
    rw [hm]
    have := Nat.zero_le (bytes / bs)
    split
    · omega
    · have : (bytes - 1) / bs ≤ bytes / bs := Nat.div_le_div_right (by omega)
      omega) (decompress_error_iff.1 h).2

end MsPack.Cab
