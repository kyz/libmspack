import Proofs.Lemmas.BlockBounds
import Proofs.Lemmas.Src
/-!
`cabd_sys_read` terminates: the measure `feederMeasure` bounds the loop iterations still needed, so `hang` is
unreachable with the fuel the callers pass (C04).

As the source of the three bit-level decoders (`feederSrc`) it is finite (`feeder_finite`): every byte it delivers comes
out of `feederLeft files fd` = the buffered block bytes + what is left of the current cabinet file + the later cabinets
of the set from their data offsets (`readBlock_post`, `feederRead_left`), and no read hangs.
-/
namespace MsPack.Cab

def feederMeasure (fd : Feeder) : Nat :=
  2 * (fd.numBlocks - fd.block) + (if fd.buf ≠ [] then 1 else 0)

theorem feederFuel_enough (fd : Feeder) : feederMeasure fd + 1 ≤ feederFuel fd := by
  unfold feederMeasure feederFuel
  split <;> omega

theorem feederRead_no_hang (files : Files) : ∀ (fuel : Nat) (fd : Feeder) (todo : Nat) (got : Bytes),
    (feederMeasure fd + 1 ≤ fuel ∨ (todo = 0 ∧ 1 ≤ fuel)) →
    feederRead files fuel fd todo got ≠ .error .hang := fun fuel fd todo got =>
  feederRead_induct files (hang := fun h => by omega) (done := fun _ => nofun)
    (serve := fun {fuel fd todo _ _} h0 hb ih h => ih <| by
      have hm : feederMeasure fd + 1 ≤ fuel + 1 := h.resolve_right fun h => h0 h.1
      unfold feederMeasure at hm ⊢
      rw [if_pos hb] at hm
      -- after the copy either the buffer is empty or the request is complete
      by_cases hl : todo < fd.buf.length
      · exact .inr ⟨by simp [List.length_take]; omega, by omega⟩
      · have : (fd.serve todo).buf = [] := List.drop_eq_nil_of_le (by omega)
        rw [this]; exact .inl (by simp [Feeder.serve]; omega))
    (pastEnd := fun _ _ _ _ => nofun)
    (fault := fun _ _ _ hrb _ hc => by
      cases hc
      exact (Feeder.nextBlock_spec hrb).elim (fun h => nomatch h.2) (fun h => nomatch h.2))
    (refuse := fun _ _ _ _ _ => nofun)
    (take := fun {fuel fd todo _ _ _ _ _ _} h0 hb hlt _ ih h => ih <| .inl <| by
      have hm : feederMeasure fd + 1 ≤ fuel + 1 := h.resolve_right fun h => h0 h.1
      unfold feederMeasure at hm ⊢
      show 2 * (fd.numBlocks - (fd.block + 1)) + _ + 1 ≤ fuel
      split <;> omega) fuel fd todo got

def feederLeft (files : Files) (fd : Feeder) : Nat := fd.buf.length + chainLeft files fd.rd fd.parts

theorem Feeder.nextBlock_left {files : Files} {fd : Feeder} {r : BlockResult} (h : fd.nextBlock files = r) :
    BlockPost files fd.rd fd.parts [] r :=
  h ▸ (readBlock_post ..).2

theorem feederRead_left (files : Files) : ∀ (fuel : Nat) (fd : Feeder) (todo : Nat) (got c : Bytes)
    (fd' : Feeder), feederRead files fuel fd todo got = .ok (some c, fd') →
    c.length + feederLeft files fd' ≤ got.length + feederLeft files fd :=
  feederRead_induct files (hang := fun _ _ h => nomatch h) (done := fun _ _ h => by cases h; exact Nat.le_refl _)
    (serve := fun _ _ ih c fd' h => by
      have := ih c fd' h
      simp only [feederLeft, Feeder.serve, List.length_append, List.length_take, List.length_drop] at this ⊢
      omega)
    (pastEnd := fun _ _ _ _ _ h => by cases h; exact Nat.le_refl _)
    (fault := fun _ _ _ _ _ _ h => nomatch h) (refuse := fun _ _ _ _ _ _ h => nomatch h)
    (take := fun {_ fd _ _ payload _ rd parts _} _ hb _ hrb ih c fd' h => by
      have hrb' : payload.length + 8 + chainLeft files rd parts ≤ ([] : Bytes).length + _ := Feeder.nextBlock_left hrb
      refine Nat.le_trans (ih c fd' h) ?_
      simp only [feederLeft, Feeder.takeBlock, hb, List.length_nil] at hrb' ⊢
      split <;> simp <;> omega)

theorem feeder_finite (files : Files) : (feederSrc files).Finite (feederLeft files) where
  read_le := fun fd n c fd' h => by simpa using feederRead_left files _ fd n [] c fd' h
  no_hang := fun fd n => feederRead_no_hang files _ fd n [] (.inl (feederFuel_enough fd))

end MsPack.Cab
