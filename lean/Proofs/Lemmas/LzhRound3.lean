import Proofs.Lemmas.LzhRound
/-!
# KWAJ LZH round trip, table encoding 3 (one 4-bit length per symbol)

`lzh_read_lens` case 3 and `BUILD_TREE` around it (with the `STORE_BITS` / `RESTORE_BITS` hand-over
between caller and callee while bits are really being read), for any vector of lengths below 16 the
table builder accepts.
-/
namespace MsPack.Kwaj.Lzh
open MsPack.Generated MsPack.LzhEnc
open MsPack.Lzss (Ring)

theorem lensType3_at {B : Nat} (hB : 4 ≤ B) (t : Tbl) (rest : List Bool) (r : Ring) : ∀ (vals : List Nat) (i : Nat) {st : St Rd}
    {L : LensOf}, (∀ v ∈ vals, v < 16) → i + vals.length ≤ (L t).size → At st (vals.flatMap (msbBits 4) ++ rest) r L B →
    Runs (lensType3 Rd.src t vals.length i) st
      (fun _ s => ∃ a, a.toList = (L t).toList.take i ++ vals.map (fun v => UInt8.ofNat (v % 256)) ++
          (L t).toList.drop (i + vals.length) ∧ At s rest r (L.put t a) B)
      (fun _ _ => False)
  | [], i, st, L, _, _, h => by
    rw [List.length_nil, lensType3]
    refine Runs.pure ⟨L t, by simp, ?_⟩
    rw [LensOf.put_self]; simpa using h
  | v :: vals, i, st, L, h16, hsz, h => by
    rw [List.length_cons] at hsz
    rw [List.length_cons, lensType3]
    rw [List.flatMap_cons, List.append_assoc] at h
    refine Runs.bind (readBits_at 4 (by decide) hB _ h (msbBits_length 4 v)) ?_
    intro x s1 ⟨hx, h1⟩
    rw [bitsValMSB_msbBits, Nat.mod_eq_of_lt (h16 v (List.mem_cons_self ..))] at hx
    subst hx
    refine Runs.bind (setLen_at t i x h1 (by omega)) fun _ s2 h2 => ?_
    refine (lensType3_at hB t rest r vals (i + 1) (fun v' h => h16 v' (List.mem_cons_of_mem _ h))
      (by rw [LensOf.put_same, Array.size_setIfInBounds]; omega) h2).mono ?_
    intro _ s3 ⟨a, ha, h3⟩
    rw [LensOf.put_put] at h3
    refine ⟨a, ?_, h3⟩
    rw [ha, LensOf.put_same, set_toList _ _ _ (by omega)]
    simp

theorem readLensBody_type3_at {B : Nat} (hB : 4 ≤ B) (t : Tbl) (vals : List Nat) (hlen : vals.length = t.syms)
    (h16 : ∀ v ∈ vals, v < 16) {st : St Rd} {rest : List Bool} {r : Ring} {L : LensOf} (hsc : st.saved = st.cur)
    (h : At st (vals.flatMap (msbBits 4) ++ rest) r L B) (hsz : (L t).size = t.syms) :
    Runs (readLensBody Rd.src t 3) st
      (fun _ s => s.saved = s.cur ∧ ∃ a, a.toList.map (·.toNat) = vals ∧ At s rest r (L.put t a) B) (fun _ _ => False) := by
  unfold readLensBody restoreBits storeBits
  apply Runs.modify_bind
  simp only [Nat.reduceEqDiff, ↓reduceIte]
  rw [← hlen]
  refine Runs.bind (lensType3_at hB t rest r vals 0 h16 (by omega) (h.restored hsc)) ?_
  intro _ s ⟨a, ha, hs⟩
  refine Runs.modify ⟨rfl, a, ?_, hs.stored⟩
  rw [ha, List.take_zero, List.nil_append, Nat.zero_add, List.drop_of_length_le (by rw [Array.length_toList]; omega),
    List.append_nil, List.map_map]
  have : ∀ v ∈ vals, ((fun x : UInt8 => x.toNat) ∘ fun v => UInt8.ofNat (v % 256)) v = v := by
    intro v hvm
    have := h16 v hvm
    simp only [Function.comp, UInt8.toNat_ofNat']
    omega
  rw [List.map_congr_left this, List.map_id']

theorem buildTree_type3 {B : Nat} (hB : 4 ≤ B) (t : Tbl) (vals : List Nat) (hlen : vals.length = t.syms)
    (h16 : ∀ v ∈ vals, v < 16) (c : Huff.Canon) (hc : Huff.build kwajTABLEBITS vals = some c) :
    BuildsFrom B t 3 (vals.flatMap (msbBits 4)) c :=
  BuildsFrom.of_lens hlen hc fun hsc h hsz => readLensBody_type3_at hB t vals hlen h16 hsc h hsz

theorem firstCode_replicate (n l : Nat) : ∀ j ≤ l, firstCode (List.replicate n l) j = 0
  | 0, _ => rfl
  | j + 1, h => by
    rw [firstCode]
    split
    · rfl
    · have hc : countLen (List.replicate n l) j = 0 := by
        rw [countLen, List.filter_replicate, if_neg (by simp; omega), List.length_nil]
      rw [firstCode_replicate n l j (by omega), hc]

theorem canon_flat (n l sym : Nat) (h : sym < n) : canonCode (List.replicate n l) sym = flatCode l sym := by
  have hl : (List.replicate n l).getD sym 0 = l := by
    rw [List.getD_eq_getElem?_getD, List.getElem?_replicate, if_pos h]; rfl
  unfold canonCode flatCode
  simp only [hl]
  rw [firstCode_replicate n l l (Nat.le_refl _), List.take_replicate, List.filter_replicate, if_pos (by simp),
    List.length_replicate, Nat.min_eq_left (Nat.le_of_lt h), Nat.zero_add]

theorem lits_flat : ∀ bs : Bytes, (bs.flatMap fun b => canonCode flatLens.literal b.toNat) = bs.flatMap fun b => flatCode 8 b.toNat
  | [] => rfl
  | b :: bs => by
    rw [List.flatMap_cons, List.flatMap_cons, lits_flat bs]
    congr 1
    exact canon_flat 256 8 _ b.toNat_lt

theorem tokBits_flat (short : Bool) (t : Tok) (h : t.wf) : tokBitsWith flatLens short t = t.bits := by
  have hm : (if short = true then flatLens.matchlen2 else flatLens.matchlen1) = List.replicate 16 4 := by
    cases short <;> rfl
  cases t with
  | lits bs =>
    obtain ⟨w1, w2⟩ := h
    simp only [tokBitsWith, Tok.bits, hm, lits_flat]
    rw [canon_flat 16 4 0 (by decide), show flatLens.litlen = List.replicate 32 5 from rfl, canon_flat 32 5 _ (by omega)]
  | mat len offset =>
    obtain ⟨w1, w2, w3⟩ := h
    simp only [tokBitsWith, Tok.bits, hm]
    rw [canon_flat 16 4 _ (by omega), show flatLens.offset = List.replicate 64 6 from rfl, canon_flat 64 6 _ (by omega)]

theorem toksBits_flat : ∀ (toks : List Tok) (short : Bool), (∀ t ∈ toks, t.wf) →
    toksBitsWith flatLens short toks = toks.flatMap Tok.bits
  | [], _, _ => rfl
  | t :: ts, short, h => by
    rw [toksBitsWith, List.flatMap_cons, tokBits_flat short t (h t (List.mem_cons_self ..)),
      toksBits_flat ts _ (fun t' h' => h t' (List.mem_cons_of_mem _ h'))]

structure TableOf (t : Tbl) (lens : List Nat) (c : Huff.Canon) : Prop where
  len   : lens.length = t.syms
  lt    : ∀ v ∈ lens, v < 16
  build : Huff.build kwajTABLEBITS lens = some c

/-- `pad`: the fewer than 8 zero bits that fill the last byte -/
theorem decompressBody_type3 {B : Nat} (hB : 4 ≤ B) (L : Lens) (tr : Trees)
    (h1 : TableOf .MATCHLEN1 L.matchlen1 tr.matchlen1) (h2 : TableOf .MATCHLEN2 L.matchlen2 tr.matchlen2)
    (h3 : TableOf .LITLEN L.litlen tr.litlen) (h4 : TableOf .OFFSET L.offset tr.offset)
    (h5 : TableOf .LITERAL L.literal tr.literal) (toks : List Tok) (fuel : Nat)
    (st : St Rd) (hin : st.inbuf.size = 2048) (hsz : LensOf.ok st.lens)
    (hsrc : st.src.file.drop st.src.pos = encodeLzhWith L toks)
    {Q : Unit → St Rd → Prop} {R : Err → St Rd → Prop}
    (hmain : ∀ s L' pad, pad < 8 →
      At s (toksBitsWith L false toks ++ List.replicate pad false) ⟨Array.replicate 4096 0x20, 0, st.out⟩ L' B →
      Runs (mainLoop Rd.src tr fuel false) s Q R) :
    Runs (decompressBody Rd.src fuel) st Q R := by
  generalize hE : ([3, 3, 3, 3, 3, 0].flatMap (msbBits 4)) ++
    (L.matchlen1 ++ L.matchlen2 ++ L.litlen ++ L.offset ++ L.literal).flatMap (msbBits 4) ++
    toksBitsWith L false toks ++ [] = E
  refine decompressBody_tables hB fuel st hin hsz [3, 3, 3, 3, 3, 0] rfl (by decide) _ _ _ _ _
    (toksBitsWith L false toks ++ List.replicate ((8 - E.length % 8) % 8) false) tr ?_
    (buildTree_type3 hB _ _ h1.len h1.lt _ h1.build) (buildTree_type3 hB _ _ h2.len h2.lt _ h2.build)
    (buildTree_type3 hB _ _ h3.len h3.lt _ h3.build) (buildTree_type3 hB _ _ h4.len h4.lt _ h4.build)
    (buildTree_type3 hB _ _ h5.len h5.lt _ h5.build) (fun s L' h => hmain s L' _ (by omega) h)
  rw [hsrc, encodeLzhWith, hE, packBits_bits, ← hE]
  simp only [List.flatMap_append, List.append_assoc, List.append_nil]

theorem decompressBody_type3_flat (toks : List Tok) (hwf : ∀ t ∈ toks, t.wf) (fuel : Nat) (hfuel : toks.length + 1 ≤ fuel)
    (st : St Rd) (hin : st.inbuf.size = 2048) (hsz : LensOf.ok st.lens)
    (hsrc : st.src.file.drop st.src.pos = encodeLzhWith flatLens toks) :
    Runs (decompressBody Rd.src fuel) st
      (fun _ s => ring s = expand toks ⟨Array.replicate 4096 0x20, 0, st.out⟩)
      (fun e s => e = .ok ∧ ring s = expand toks ⟨Array.replicate 4096 0x20, 0, st.out⟩) := by
  obtain ⟨m1, hm1⟩ := Option.isSome_iff_exists.mp (flat_build_some .MATCHLEN1)
  obtain ⟨m2, hm2⟩ := Option.isSome_iff_exists.mp (flat_build_some .MATCHLEN2)
  obtain ⟨ll, hll⟩ := Option.isSome_iff_exists.mp (flat_build_some .LITLEN)
  obtain ⟨off, hoff⟩ := Option.isSome_iff_exists.mp (flat_build_some .OFFSET)
  obtain ⟨li, hli⟩ := Option.isSome_iff_exists.mp (flat_build_some .LITERAL)
  have h16 : ∀ n w, w < 16 → ∀ v ∈ List.replicate n w, v < 16 := by
    intro n w hw v hv
    rw [(List.mem_replicate.mp hv).2]; exact hw
  refine decompressBody_type3 (B := 16) (by decide) flatLens ⟨m1, m2, ll, off, li⟩
    ⟨List.length_replicate, h16 _ _ (by decide), hm1⟩ ⟨List.length_replicate, h16 _ _ (by decide), hm2⟩
    ⟨List.length_replicate, h16 _ _ (by decide), hll⟩ ⟨List.length_replicate, h16 _ _ (by decide), hoff⟩
    ⟨List.length_replicate, h16 _ _ (by decide), hli⟩ toks fuel st hin hsz hsrc ?_
  intro s L' pad hpad h
  rw [toksBits_flat toks false hwf] at h
  exact mainLoop_at _ (codes_flat ⟨m1, m2, ll, off, li⟩ hm1 hm2 hll hoff hli) toks fuel false pad hfuel hwf hpad h

end MsPack.Kwaj.Lzh
