import MsPack.Cab.Extract
/-!
# `cabd_extract` run twice, for an arbitrary relation on the decompressor state

`ExtractSim G U R r₁ r₂`: what the first run extracts with a status in `G` the second run extracts too, with the same
status and bytes, and the caches handed back are related by `Option.Rel R`; if `U`, every other outcome of the first
run (a call that never opened the output, an unsupported method, a fault) is repeated as well.  `G = ⊤` with `U` is the
symmetric "same observation" (fill independence, `C11CabExtract.lean`); `G = (· = .ok)` without `U` is "an OK extraction
is repeated" (relaxed flags, `C18ExtractLift.lean`).  `runPhases_sim` and `extract_sim` lift a simulation of ONE
`runPhase` (`PhaseWalk`) through the skip and output phases and through `cabd_extract`'s parameter checks and decoder
cache.
-/
namespace MsPack.Cab

variable (G : Err → Prop) (U : Prop) (R : DState → DState → Prop)

def PhaseSim : PhaseResult → PhaseResult → Prop
  | .ran e w d1, r2 => G e → ∃ d2, r2 = .ran e w d2 ∧ R d1 d2
  | .unsupported, r2 => U → r2 = .unsupported
  | .fault f, r2 => U → r2 = .fault f

def ExtractSim : ExtractResult → ExtractResult → Prop
  | .done e (some w) d1, r2 => G e → ∃ d2, r2 = .done e (some w) d2 ∧ Option.Rel R d1 d2
  | .done e none d1, r2 => U → ∃ d2, r2 = .done e none d2 ∧ Option.Rel R d1 d2
  | .unsupported, r2 => U → r2 = .unsupported
  | .fault f, r2 => U → r2 = .fault f

/-- what the lift asks of the relation and of one phase: the phases after an OK skip must be repeated (`ok`); related
    states take the same branches of `runPhases` and `obtainDState` -/
structure PhaseWalk (files : Files) : Prop where
  ok : G .ok
  offset : ∀ {a b}, R a b → b.offset = a.offset
  folder : ∀ {a b}, R a b → b.folder = a.folder
  dec : ∀ {a b}, R a b → b.dec.isSome = a.dec.isSome
  phase : ∀ {a b} dec1 dec2 n, R a b → a.dec = some dec1 → b.dec = some dec2 →
    PhaseSim G U R (runPhase files a dec1 n) (runPhase files b dec2 n)

variable {G U R} {files : Files} (W : PhaseWalk G U R files)
include W

theorem lastPhase_sim {a b : DState} (hr : R a b) {dec1 dec2 : Dec} (h1 : a.dec = some dec1) (h2 : b.dec = some dec2)
    (n : Nat) :
    ExtractSim G U R
      (match runPhase files a dec1 n with
       | .fault f => .fault f | .unsupported => .unsupported | .ran e w ds' => .done e (some w) (some ds'))
      (match runPhase files b dec2 n with
       | .fault f => .fault f | .unsupported => .unsupported | .ran e w ds' => .done e (some w) (some ds')) := by
  have hp := W.phase dec1 dec2 n hr h1 h2
  generalize runPhase files a dec1 n = r1 at hp
  cases r1 with
  | ran e w d1 => intro hg; obtain ⟨d2, h, hr2⟩ := hp hg; rw [h]; exact ⟨_, rfl, .some hr2⟩
  | unsupported => intro hu; rw [hp hu]
  | fault f => intro hu; rw [hp hu]

theorem runPhases_sim {a b : DState} (hr : R a b) (m : Member) (filelen : Nat) :
    ExtractSim G U R (runPhases files a m filelen) (runPhases files b m filelen) := by
  unfold runPhases
  rw [W.offset hr]
  have hd := W.dec hr
  cases h1 : a.dec with
  | none =>
    cases h2 : b.dec with
    | none => exact fun _ => ⟨_, rfl, .some hr⟩
    | some _ => rw [h1, h2] at hd; cases hd
  | some dec1 =>
    cases h2 : b.dec with
    | none => rw [h1, h2] at hd; cases hd
    | some dec2 =>
      dsimp only
      by_cases h0 : filelen = 0
      · rw [if_pos h0, if_pos h0]; exact fun _ => ⟨_, rfl, .some hr⟩
      · rw [if_neg h0, if_neg h0]
        by_cases hs : m.offset - a.offset = 0
        · rw [if_pos hs, if_pos hs]; exact lastPhase_sim W hr h1 h2 filelen
        · rw [if_neg hs, if_neg hs]
          have hp := W.phase dec1 dec2 (m.offset - a.offset) hr h1 h2
          generalize runPhase files a dec1 (m.offset - a.offset) = r1 at hp
          cases r1 with
          | unsupported => intro hu; rw [hp hu]
          | fault f => intro hu; rw [hp hu]
          | ran e1 w1 da =>
            dsimp only
            by_cases hne : e1 ≠ .ok
            · rw [if_pos hne]
              intro hg
              obtain ⟨db, h, hr2⟩ := hp hg
              rw [h]; dsimp only; rw [if_pos hne]
              exact ⟨_, rfl, .some hr2⟩
            · rw [if_neg hne]
              cases Decidable.not_not.mp hne
              obtain ⟨db, h, hr2⟩ := hp W.ok
              rw [h]; dsimp only; rw [if_neg hne]
              have hd2 := W.dec hr2
              cases h3 : da.dec with
              | none =>
                cases h4 : db.dec with
                | none => exact fun _ => ⟨_, rfl, .some hr2⟩
                | some _ => rw [h3, h4] at hd2; cases hd2
              | some x1 =>
                cases h4 : db.dec with
                | none => rw [h3, h4] at hd2; cases hd2
                | some x2 => exact lastPhase_sim W hr2 h3 h4 filelen

theorem extract_sim {p1 p2 : Params} {m : Member}
    (hmc : ∀ r, memberCheck p1 m = .ok r → memberCheck p2 m = .ok r)
    (hmcE : U → ∀ e, memberCheck p1 m = .error e → memberCheck p2 m = .error e)
    (hfr : ∀ key a, freshDState files p1 m key = .ok a → ∃ b, freshDState files p2 m key = .ok b ∧ R a b)
    (hfrE : U → ∀ key e, freshDState files p1 m key = .error e → freshDState files p2 m key = .error e)
    {d1 d2 : Option DState} (hc : Option.Rel R d1 d2) :
    ExtractSim G U R (extract files p1 d1 m) (extract files p2 d2 m) := by
  unfold extract
  cases hm : memberCheck p1 m with
  | error e => exact fun hu => ⟨_, by rw [hmcE hu e hm], hc⟩
  | ok r =>
    rw [hmc r hm]
    obtain ⟨filelen, key⟩ := r
    dsimp only
    have hob : (∀ a, obtainDState files p1 d1 m key = .ok a → ∃ b, obtainDState files p2 d2 m key = .ok b ∧ R a b) ∧
        (U → ∀ e, obtainDState files p1 d1 m key = .error e → obtainDState files p2 d2 m key = .error e) := by
      unfold obtainDState
      cases hc with
      | none => exact ⟨hfr key, fun hu => hfrE hu key⟩
      | @some a b hab =>
        dsimp only
        rw [W.folder hab, W.offset hab, W.dec hab]
        by_cases hk : a.folder = key ∧ ¬ a.offset > m.offset ∧ a.dec.isSome
        · rw [if_pos hk, if_pos hk]
          exact ⟨fun _ h => by cases h; exact ⟨b, rfl, hab⟩, fun _ _ h => nomatch h⟩
        · rw [if_neg hk, if_neg hk]
          exact ⟨hfr key, fun hu => hfrE hu key⟩
    cases ho : obtainDState files p1 d1 m key with
    | error e => exact fun hu => ⟨none, by rw [hob.2 hu e ho], .none⟩
    | ok a =>
      obtain ⟨b, h2, hab⟩ := hob.1 a ho
      rw [h2]
      exact runPhases_sim W hab m filelen

end MsPack.Cab
