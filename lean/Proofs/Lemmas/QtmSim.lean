import Proofs.Lemmas.Sim
import Proofs.Lemmas.QtmPieces
/-!
# The Quantum decoder in two runs

As `LzxSim.lean`.  The Quantum model consults its source in `readInput` only; apart from the arithmetic decoder
(`renorm`, `getSymbol`) and the frame header in `blockLoop`, no helper looks at the `src` field or at the cells that
fresh memory may fill differently (`LooseRun`: `H`, `L`, `C` in the struct and among the locals, and the nine
models).  So for any relation `R` between states that differ at most there and that looks at nothing else those
helpers touch (`Walk2.split`, `Walk2.same`), a simulation of `readInput` gives the same simulation of the bit
reader, the window copies, `trailerScan` and, with `getSymbol` as a hypothesis, `symbolLoop`.  `R` may look at
`written` and `outBytes`, so the one step of `symbolLoop` that changes them, `flushThen` of `QtmPieces.lean`, is
asked for as a whole (`Walk2.flush`).
-/
namespace MsPack.Qtm
open MsPack.CountLaws
variable {σ : Type}

structure LooseSt where
  H : Nat
  L : Nat
  C : Nat
  model : MId → Model

abbrev St.loose (a : St σ) : LooseSt := ⟨a.H, a.L, a.C, a.model⟩

abbrev St.put (a : St σ) (y : LooseSt) : St σ :=
  { a with H := y.H, L := y.L, C := y.C, model0 := y.model .m0, model1 := y.model .m1,
           model2 := y.model .m2, model3 := y.model .m3, model4 := y.model .m4, model5 := y.model .m5,
           model6 := y.model .m6, model6len := y.model .m6len, model7 := y.model .m7 }

structure LooseRun where
  st : LooseSt
  H : Nat
  L : Nat
  C : Nat

abbrev Run.loose (r : Run σ) : LooseRun := ⟨r.st.loose, r.H, r.L, r.C⟩

abbrev Run.put (r : Run σ) (x : LooseRun) : Run σ :=
  { r with st := r.st.put x.st, H := x.H, L := x.L, C := x.C }

abbrev Run.view (r : Run σ) : LooseRun × Bool := (r.loose, r.st.headerRead)

abbrev Run.put2 (r : Run σ) (x : σ) (l : LooseRun) : Run σ :=
  { r with st := { r.st.put l.st with src := x }, H := l.H, L := l.L, C := l.C }

/-- the fields some relation of the development looks at -/
abbrev Run.view2 (r : Run σ) := (r.view, r.st.src, r.st.error, r.st.inbufSize, r.written, r.outBytes)

theorem Run.loose_put2 (r : Run σ) (x : σ) (l : LooseRun) : (r.put2 x l).loose = l := by
  obtain ⟨⟨_, _, _, m⟩, _, _, _⟩ := l
  exact congrArg (fun m => (⟨⟨_, _, _, m⟩, _, _, _⟩ : LooseRun)) (funext fun id => by cases id <;> rfl)

/-- What the walk asks of a relation between the states of two runs (over `S₁`, `S₂`), of `E` and of `X`: the states
    differ at most in `src` and the loose cells (`split` gives the second state in that form, so that both runs
    test literally the same conditions); `R` looks at nothing but `view2`; the three faults these helpers have sites
    for (`oob`, `shiftWidth`, `hang`) are simulated, and so are `fail`, `read_input` and the flush in mid-match. -/
structure Walk2 (lock : Prop) (R : Run σ → Run σ → Prop) (E : Halt → Run σ → Prop) (X : Halt → Run σ → Run σ → Prop)
    (S1 S2 : Src σ) : Prop where
  split : ∀ {a b}, R a b → ∃ x l, b = a.put2 x l
  same : ∀ {a a' : Run σ} {x l}, R a (a.put2 x l) → a'.view2 = a.view2 → R a' (a'.put2 x l)
  oob : ∀ {α : Type} (w : String), Sim2 lock R R E X (throw (.fault (.oob w)) : QM σ α) (throw (.fault (.oob w)))
  shiftWidth : ∀ {α : Type}, Sim2 lock R R E X (throw (.fault .shiftWidth) : QM σ α) (throw (.fault .shiftWidth))
  hang : ∀ {α : Type}, Sim2 lock R R E X (throw (.fault .hang) : QM σ α) (throw (.fault .hang))
  fail : ∀ {α : Type}, Sim2 lock R R E X (fail (σ := σ) (α := α) .decrunch) (fail .decrunch)
  read : Sim2 lock R R E X (readInput S1) (readInput S2)
  flush : ∀ (ws : Nat) {k : QM σ Unit}, Sim2 lock R R E X k k → Sim2 lock R R E X (flushThen ws k) (flushThen ws k)

variable {lock : Prop} {R : Run σ → Run σ → Prop} {E : Halt → Run σ → Prop} {X : Halt → Run σ → Run σ → Prop}
  {S1 S2 : Src σ} (W : Walk2 lock R E X S1 S2)
include W

theorem Walk2.get_bind {α : Type} {f1 f2 : Run σ → QM σ α}
    (hf : ∀ r x l, R r (r.put2 x l) → Sim2 lock R R E X (f1 r) (f2 (r.put2 x l))) :
    Sim2 lock R R E X (MonadState.get >>= f1) (MonadState.get >>= f2) :=
  .get_bind fun r1 r2 hr => by obtain ⟨x, l, rfl⟩ := W.split hr; exact hf r1 x l hr

theorem Walk2.set {a a' : Run σ} {x l} (h : R a (a.put2 x l)) (hv : a'.view2 = a.view2 := by rfl) :
    Sim2 lock R R E X (set a' : QM σ PUnit) (set (a'.put2 x l)) :=
  .set (W.same h hv)

theorem Walk2.modify {g : Run σ → Run σ} (hg : ∀ t x l, g (t.put2 x l) = (g t).put2 x l := by intros; rfl)
    (hv : ∀ t, (g t).view2 = t.view2 := by intros; rfl) :
    Sim2 lock R R E X (modify g : QM σ PUnit) (modify g) :=
  .modify fun a b h => by obtain ⟨x, l, rfl⟩ := W.split h; rw [hg]; exact W.same h (hv a)

/-- the relation hypothesis used for the state written is the latest one in the context: the state the last `get`
    returned -/
local macro_rules | `(tactic| sim_get) => `(tactic| ((with_reducible refine Walk2.get_bind ‹_› ?_); intro _ _ _ _; try dsimp -zeta only))
local macro_rules | `(tactic| sim_put) => `(tactic| first | exact Walk2.set ‹_› ‹_› | exact Walk2.modify ‹_›)

theorem Walk2.nextByte : Sim2 lock R R E X (nextByte S1) (nextByte S2) := by
  unfold Qtm.nextByte; sim_auto [W.read, W.oob _]

theorem Walk2.readBytes : Sim2 lock R R E X (readBytes S1) (readBytes S2) := by
  unfold Qtm.readBytes; sim_auto [W.nextByte, W.shiftWidth]

theorem Walk2.ensureBits (n : Nat) : ∀ k, Sim2 lock R R E X (ensureBits S1 n k) (ensureBits S2 n k) := by
  intro k
  induction k with
  | zero => rw [ensureBits.eq_1, ensureBits.eq_1]; sim_auto [W.hang]
  | succ k ih => rw [ensureBits.eq_2, ensureBits.eq_2]; sim_auto [W.readBytes]

theorem Walk2.peekBits (n : Nat) : Sim2 lock R R E X (peekBits (σ := σ) n) (peekBits n) := by
  unfold Qtm.peekBits; sim_auto [W.shiftWidth]

theorem Walk2.removeBits (n : Nat) : Sim2 lock R R E X (removeBits (σ := σ) n) (removeBits n) := by
  unfold Qtm.removeBits; sim_auto [W.shiftWidth]

theorem Walk2.readBits (n : Nat) : Sim2 lock R R E X (readBits S1 n) (readBits S2 n) := by
  unfold Qtm.readBits; sim_auto [W.ensureBits, W.peekBits, W.removeBits]

theorem Walk2.readManyLoop : ∀ k needed val,
    Sim2 lock R R E X (readManyLoop S1 k needed val) (readManyLoop S2 k needed val) := by
  intro k
  induction k with
  | zero => intro needed val; rw [readManyLoop.eq_1, readManyLoop.eq_1]; sim_auto [W.hang]
  | succ k ih =>
    intro needed val; rw [readManyLoop.eq_2, readManyLoop.eq_2]
    sim_auto [W.readBytes, W.peekBits, W.removeBits]

theorem Walk2.readManyBits (bits : Nat) : Sim2 lock R R E X (readManyBits S1 bits) (readManyBits S2 bits) :=
  W.readManyLoop _ _ _

theorem Walk2.tableAt (what : String) (t : List Nat) (i : Nat) :
    Sim2 lock R R E X (tableAt (σ := σ) what t i) (tableAt what t i) := by
  unfold Qtm.tableAt; sim_auto [W.oob _]

theorem Walk2.readOffset (sym : Nat) : Sim2 lock R R E X (readOffset S1 sym) (readOffset S2 sym) := by
  unfold Qtm.readOffset; sim_auto [W.tableAt, W.readManyBits]

theorem Walk2.copyFwd (n a d : Nat) : Sim2 lock R R E X (copyFwd (σ := σ) n a d) (copyFwd n a d) := by
  unfold Qtm.copyFwd; sim_auto [W.oob _]

theorem Walk2.copyMasked (n j d : Nat) : Sim2 lock R R E X (copyMasked (σ := σ) n j d) (copyMasked n j d) := by
  unfold Qtm.copyMasked; sim_auto [W.oob _]

theorem Walk2.trailerScan : ∀ fuel, Sim2 lock R R E X (trailerScan S1 fuel) (trailerScan S2 fuel) := by
  intro fuel
  induction fuel with
  | zero => rw [trailerScan.eq_1, trailerScan.eq_1]; sim_auto [W.hang]
  | succ fuel ih => rw [trailerScan.eq_2, trailerScan.eq_2]; sim_auto [W.readBits]

theorem Walk2.symbolLoop (hsym : ∀ fuel id, Sim2 lock R R E X (getSymbol S1 fuel id) (getSymbol S2 fuel id))
    (fuel frameEnd : Nat) : ∀ n, Sim2 lock R R E X (symbolLoop S1 fuel frameEnd n) (symbolLoop S2 fuel frameEnd n) := by
  intro n
  induction n with
  | zero => rw [symbolLoop.eq_1, symbolLoop.eq_1]; sim_auto [W.hang]
  | succ n ih =>
    rw [symbolLoop_succ, symbolLoop_succ]
    sim_auto [hsym, W.readOffset, W.tableAt, W.readManyBits, W.fail, W.copyMasked, W.copyFwd, W.flush,
      W.oob _]

end MsPack.Qtm
