import MsPack.Zip.Kwaj
import Proofs.Lemmas.HuffCanon
import Proofs.Lemmas.ZipParts
import Proofs.Lemmas.Src
import Proofs.Lemmas.Wp
/-!
# The MSZIP inflate model, function by function

The state invariants of the decoder and one `wp` lemma per helper of `MsPack/Zip/Inflate.lean` /
`MsPack/Zip/Kwaj.lean` (`x_spec`, `x_takes`), for any source and any fuel: what the function leaves of the window
side (`Same`, `Held`), how many obtainable bits it takes (`Took`), and why it may fault (`Cause`).  The memory bounds
are what this says when the window is the frame (`inflate_ok`, with the exception condition `okE S E`; `Ok` is that
triple under its own name); `LoopTermZip.lean` reads the termination results off the same lemmas.
-/
namespace MsPack.Zip
open MsPack.Generated

variable {σ : Type} (S : Src σ)

/-- the only `Fault`s the MSZIP model can end with: the fuel bound, or a fault the *source*
    returned from `read` (passed through unchanged) -/
inductive FaultOK : Fault → Prop
  | hang : FaultOK .hang
  | src (s : σ) (n : Nat) (f : Fault) (h : S.read s n = .error f) : FaultOK f

def exec {α : Type} (m : ZM σ α) (st : St σ) : Except Halt α × St σ := m.run.run st

theorem exec_bind {α β : Type} (x : ZM σ α) (f : α → ZM σ β) (st : St σ) :
    exec (x >>= f) st = match exec x st with
      | (.ok a, s) => exec (f a) s
      | (.error e, s) => (.error e, s) := by
  unfold exec; rw [wp.run_bind]
  cases (x.run.run st : Except Halt α × St σ) with
  | mk r t => cases r <;> rfl

def Ok {α : Type} (m : ZM σ α) (st : St σ) (Q : α → St σ → Prop) (E : St σ → Prop) : Prop :=
  match exec m st with
  | (.ok a, s) => Q a s
  | (.error e, s) => E s ∧ ∀ f, e = .fault f → FaultOK S f

abbrev okE (E : St σ → Prop) (e : Halt) (s : St σ) : Prop := E s ∧ ∀ f, e = .fault f → FaultOK S f

section rules
variable {α β : Type} {S}

theorem Ok_iff {m : ZM σ α} {st : St σ} {Q : α → St σ → Prop} {E : St σ → Prop} :
    Ok S m st Q E ↔ wp m Q (okE S E) st := by
  unfold Ok wp exec
  cases (m.run.run st : Except Halt α × St σ) with
  | mk r t => cases r <;> exact Iff.rfl

theorem okE.imp {E E' : St σ → Prop} (he : ∀ s, E s → E' s) (e : Halt) (s : St σ) (h : okE S E e s) : okE S E' e s :=
  ⟨he s h.1, h.2⟩

theorem Ok_pure_bind (a : α) (f : α → ZM σ β) (st : St σ) (Q : β → St σ → Prop) (E : St σ → Prop) :
    Ok S (pure a >>= f) st Q E = Ok S (f a) st Q E := by
  rw [pure_bind]
theorem Ok_get (st : St σ) (Q : St σ → St σ → Prop) (E : St σ → Prop) :
    Ok S get st Q E = Q st st := propext (Ok_iff.trans (wp_get ..))

end rules

/- `Ok` is a computable `match` on a run of the model; elaboration must not evaluate it (with
   32768 in the arguments `whnf` would count in unary) -/
attribute [irreducible] Ok

/-- holds between calls: the window is the 32 KiB frame -/
def WinOk (st : St σ) : Prop := st.window.size = zipFRAME_SIZE

/-- holds inside `inflate` (and at its normal return) -/
def Inv (st : St σ) : Prop :=
  st.window.size = zipFRAME_SIZE ∧ st.windowPosn < zipFRAME_SIZE ∧ st.bytesOutput ≤ zipFRAME_SIZE

def Same (a b : St σ) : Prop :=
  b.window = a.window ∧ b.windowPosn = a.windowPosn ∧ b.bytesOutput = a.bytesOutput

theorem Same.refl (a : St σ) : Same a a := ⟨rfl, rfl, rfl⟩
theorem Same.trans {a b c : St σ} (h1 : Same a b) (h2 : Same b c) : Same a c :=
  ⟨h2.1.trans h1.1, h2.2.1.trans h1.2.1, h2.2.2.trans h1.2.2⟩
theorem Same.winOk {a b : St σ} (h : Same a b) (hi : WinOk a) : WinOk b := by
  unfold WinOk at *; rw [h.1]; exact hi
theorem Inv.winOk {a : St σ} (h : Inv a) : WinOk a := h.1

/-- bits still obtainable: buffered bits, buffered bytes, bytes the source can still deliver, and
    the two zero bytes `read_input` fakes at the first end of input -/
def bitsLeft (rem : σ → Nat) (st : St σ) : Nat :=
  st.bits.length + 8 * st.inbuf.length + 8 * rem st.src + (if st.inputEnd then 0 else 16)

/-- `S` seen as a finite source: `rem` bounds the bytes it can still deliver -/
structure SrcOK (S : Src σ) (rem : σ → Nat) : Prop where
  shrink : ∀ s n c s', S.read s n = .ok (some c, s') → c.length + rem s' ≤ rem s
  nohang : ∀ s n, S.read s n ≠ .error .hang

/-! ## One walk per function

A run of a fuel loop (`inflate`, `scanCK`) is named by its start state `st0` and its fuel `fuel0`; every function on
the way is described against them, for any source and any fuel.  The termination premises sit inside the notions
(`Took`, `Cause.hang`), so the same lemma is read with them (no `hang`) and without (the faults are `FaultOK`). -/

/-- against the start `st0` of a run: however `S` is seen as a finite source, at least `j` bits fewer can still be
    obtained -/
def Took (st0 : St σ) (j : Nat) (s : St σ) : Prop := ∀ rem, SrcOK S rem → bitsLeft rem s + j ≤ bitsLeft rem st0

/-- why a run from `st0` with fuel `fuel0` may end in a fault: the source returned it; `hang`, if the fuel was no
    more than the bits obtainable; the write behind a window that is not the frame, if `win` -/
abbrev Cause (st0 : St σ) (fuel0 : Nat) (win : Prop) : Fault → Prop :=
  MsPack.Cause S (∀ rem, SrcOK S rem → fuel0 ≤ bitsLeft rem st0) (fun f => f = .oob "window" ∧ win)

/-- after a `sys` throw only `F`: `read_input` has replaced the source state -/
def walkE (st0 : St σ) (fuel0 : Nat) (F : St σ → Prop) (win : Prop) : Halt → St σ → Prop
  | .fault f, s => F s ∧ Cause S st0 fuel0 win f
  | .inf, s => F s ∧ Took S st0 0 s
  | .sys _, s => F s

section kit
variable {S} {st0 : St σ} {fuel0 : Nat}

theorem Cause.ok {win : Prop} (hw : ¬win) {f : Fault} (h : Cause S st0 fuel0 win f) : FaultOK S f :=
  (MsPack.Cause.ok h fun hx => hw hx.2).elim (fun e => e ▸ .hang) fun ⟨s, n, h⟩ => .src s n f h

theorem Cause.ne_hang {win : Prop} {rem : σ → Nat} (hS : SrcOK S rem) (hf : bitsLeft rem st0 + 1 ≤ fuel0) {f : Fault}
    (h : Cause S st0 fuel0 win f) : f ≠ .hang :=
  MsPack.Cause.ne_hang h hS.nohang (fun g => absurd (g rem hS) (Nat.not_le_of_gt hf)) fun hx => nomatch hx.1

theorem walkE.imp {F F' : St σ → Prop} {win win' : Prop} (hF : ∀ s, F s → F' s) (hw : win → win')
    (e : Halt) (s : St σ) (h : walkE S st0 fuel0 F win e s) : walkE S st0 fuel0 F' win' e s := by
  cases e with
  | fault f => exact ⟨hF s h.1, h.2.imp id fun _ => And.imp_right hw⟩
  | inf => exact ⟨hF s h.1, h.2⟩
  | sys e => exact hF s h

theorem walkE.ok {F : St σ → Prop} {win : Prop} (hw : ¬win) (e : Halt) (s : St σ) (h : walkE S st0 fuel0 F win e s) :
    okE S F e s := by
  cases e with
  | fault f => exact ⟨h.1, fun g hg => by cases hg; exact h.2.ok hw⟩
  | inf => exact ⟨h.1, fun _ hg => nomatch hg⟩
  | sys e => exact ⟨h, fun _ hg => nomatch hg⟩

theorem Took.refl (st : St σ) : Took S st 0 st := fun _ _ => Nat.le_refl _
theorem Took.mono {j k : Nat} {s : St σ} (h : Took S st0 j s) (hk : k ≤ j) : Took S st0 k s :=
  fun rem hS => Nat.le_trans (Nat.add_le_add_left hk _) (h rem hS)
theorem Took.zero {j : Nat} {s : St σ} (h : Took S st0 j s) : Took S st0 0 s := h.mono (Nat.zero_le _)
theorem Took.to {i j : Nat} {s s' : St σ} (h : Took S st0 j s)
    (hk : ∀ rem, SrcOK S rem → bitsLeft rem s' + i ≤ bitsLeft rem s + j) : Took S st0 i s' := fun rem hS => by
  have := h rem hS; have := hk rem hS; omega

theorem Took.hang {win : Prop} {j : Nat} {s : St σ} (h : Took S st0 j s) (hf : fuel0 ≤ j) :
    Cause S st0 fuel0 win .hang :=
  .hang fun rem hS => Nat.le_trans hf (Nat.le_trans (Nat.le_add_left ..) (h rem hS))

theorem bitsLeft_drop (rem : σ → Nat) (s : St σ) (n : Nat) :
    bitsLeft rem { s with bits := s.bits.drop n } + min n s.bits.length = bitsLeft rem s := by
  simp only [bitsLeft, List.length_drop]; omega

end kit

variable {st0 : St σ} {fuel0 : Nat}

abbrev readE (st0 : St σ) (fuel0 : Nat) (a : St σ) : Halt → St σ → Prop := walkE S st0 fuel0 (Same a) False

theorem readInput_spec (a st : St σ) (j : Nat) (h : Same a st) (ht : Took S st0 j st) :
    wp (readInput S) (fun _ s => (Same a s ∧ Took S st0 j s) ∧ s.inbuf ≠ [] ∧ s.bits = st.bits)
      (readE S st0 fuel0 a) st := by
  unfold readInput
  wp_step
  split
  · next f hf => wp_step; exact ⟨h, .src hf⟩
  · wp_step; exact h
  · next src hr =>
    split
    · wp_step; exact h
    · next hie =>
      wp_step
      refine ⟨⟨h, ht.to fun rem hS => ?_⟩, by simp, trivial⟩
      have := hS.shrink _ _ _ _ hr
      simp only [bitsLeft, hie, List.length_cons, List.length_nil] at this ⊢
      simp; omega
  · next got src hne hr =>
    wp_step
    refine ⟨⟨h, ht.to fun rem hS => ?_⟩, fun hg => hne hg, trivial⟩
    have := hS.shrink _ _ _ _ hr
    simp only [bitsLeft] at this ⊢; omega

/-- `READ_IF_NEEDED; *i_ptr++`: the `inbuf` access is inside the buffer because `read_input`
    returned normally only with a non-empty one -/
theorem nextByte_spec (a st : St σ) (j : Nat) (h : Same a st) (ht : Took S st0 j st) :
    wp (nextByte S) (fun _ s => (Same a s ∧ Took S st0 (j + 8) s) ∧ s.bits = st.bits) (readE S st0 fuel0 a) st := by
  unfold nextByte
  wp_step
  have core : ∀ s : St σ, Same a s → Took S st0 j s → s.inbuf ≠ [] → s.bits = st.bits →
      wp (do
        let st ← get
        match st.inbuf with
        | b :: rest => set { st with inbuf := rest }; pure b
        | [] => throw (.fault (.oob "inbuf")) : ZM σ UInt8)
        (fun _ s => (Same a s ∧ Took S st0 (j + 8) s) ∧ s.bits = st.bits) (readE S st0 fuel0 a) s := by
    intro s hs ht hne hb
    wp_step
    split
    · next b rest hi =>
      wp_step
      refine ⟨⟨hs, ht.to fun rem _ => ?_⟩, hb⟩
      simp only [bitsLeft, hi, List.length_cons]; omega
    · next hi => exact absurd hi hne
  split
  · exact (readInput_spec S a st j h ht).bind_of fun _ s hs => core s hs.1.1 hs.1.2 hs.2.1 hs.2.2
  · next hne => exact core st h ht (by simpa using hne) rfl

theorem byteBits_length (b : UInt8) : (byteBits b).length = 8 := by
  simp [byteBits]

theorem ensureBits_spec (n : Nat) (a : St σ) : ∀ (fuel : Nat) (st : St σ) (j : Nat), Same a st → Took S st0 j st →
    wp (ensureBits S n fuel)
      (fun _ s => (Same a s ∧ Took S st0 j s) ∧ (n ≤ s.bits.length ∨ st.bits.length + 8 * fuel ≤ s.bits.length))
      (readE S st0 fuel0 a) st := by
  intro fuel
  induction fuel with
  | zero => intro st j h ht; rw [ensureBits.eq_1]; wp_step; exact ⟨⟨h, ht⟩, .inr (Nat.le_refl _)⟩
  | succ fuel ih =>
    intro st j h ht
    rw [ensureBits.eq_2]
    wp_step
    split
    · refine (nextByte_spec S a st j h ht).bind_of fun b s ⟨⟨hs, ht1⟩, hb⟩ => ?_
      wp_step
      refine (ih { s with bits := s.bits ++ byteBits b } j hs (ht1.to fun rem _ => ?_)).post ?_
      · simp only [bitsLeft, List.length_append, byteBits_length]; omega
      · intro _ s' ⟨hs', hl⟩
        refine ⟨hs', ?_⟩
        simp only [List.length_append, byteBits_length, hb] at hl
        omega
    · next hge => wp_step; exact ⟨⟨h, ht⟩, .inl (Nat.le_of_not_gt hge)⟩

theorem bitsVal_lt (bs : List Bool) : bitsVal bs < 2 ^ bs.length := by
  rw [bitsVal_eq, ← List.length_reverse]; exact Lzx.bitsVal_lt _

/-- `min n 24`: the three refills of `READ_BITS` cover 24 bits -/
theorem readBits_spec (n : Nat) (a st : St σ) (j : Nat) (h : Same a st) (ht : Took S st0 j st) :
    wp (readBits S n) (fun v s => (Same a s ∧ Took S st0 (j + min n 24) s) ∧ v < 2 ^ n) (readE S st0 fuel0 a) st := by
  unfold readBits removeBits
  refine (ensureBits_spec S n a 3 st j h ht).bind_of fun _ s ⟨⟨hs, ht1⟩, hl⟩ => ?_
  wp_step
  refine ⟨⟨hs, ht1.to fun rem _ => ?_⟩, Nat.lt_of_lt_of_le (bitsVal_lt _) (Nat.pow_le_pow_right (by decide) ?_)⟩
  · have := bitsLeft_drop rem s n; omega
  · rw [List.length_take]; exact Nat.min_le_left ..

def Takes {α : Type} (m : ZM σ α) (k : Nat) : Prop :=
  ∀ (st0 : St σ) (fuel0 : Nat) (a st : St σ) (j : Nat), Same a st → Took S st0 j st →
    wp m (fun _ s => Same a s ∧ Took S st0 (j + k) s) (readE S st0 fuel0 a) st

theorem readBits_takes (n : Nat) : Takes S (readBits S n) (min n 24) :=
  fun _ _ a st j h ht => (readBits_spec S n a st j h ht).post fun _ _ h => h.1

/-- `READ_HUFFSYM`: a code word has at least one bit (`Huff.decode_len`) -/
theorem readHuffSym_takes (c : Huff.Canon) : Takes S (readHuffSym S c) 1 := by
  intro st0 fuel0 a st j h ht
  unfold readHuffSym removeBits
  refine (ensureBits_spec S 16 a 3 st j h ht).bind_of fun _ s ⟨⟨hs, ht1⟩, _⟩ => ?_
  wp_step
  split
  · next sym len hd =>
    have := Huff.decode_len _ _ _ _ hd
    wp_step
    refine ⟨hs, ht1.to fun rem _ => ?_⟩
    have := bitsLeft_drop rem s len; omega
  · wp_step; exact ⟨hs, ht1.zero⟩

/-- `hc`: the 7-bit table decodes every 7-bit word, so the `bl_table` lookup never meets an unset entry -/
theorem readLenSym_takes (c : Huff.Canon)
    (hc : ∀ bits : List Bool, 7 ≤ bits.length → Huff.decode c (bits.take 7) ≠ none) : Takes S (readLenSym S c) 0 := by
  intro st0 fuel0 a st j h ht
  unfold readLenSym removeBits
  refine (ensureBits_spec S 7 a 2 st j h ht).bind_of fun _ s ⟨⟨hs, ht1⟩, hlen⟩ => ?_
  wp_step
  split
  · next hnone => exact absurd hnone (hc s.bits (by omega))
  · next code len _ =>
    wp_step
    refine ⟨hs, ht1.to fun rem _ => ?_⟩
    have := bitsLeft_drop rem s len; omega

/-- a run is at least 3 long, which is what makes `readLensLoop` advance -/
theorem readRun_spec (code last : Nat) (a st : St σ) (j : Nat) (h : Same a st) (ht : Took S st0 j st) :
    wp (readRun S code last) (fun rv s => (Same a s ∧ Took S st0 j s) ∧ 1 ≤ rv.1) (readE S st0 fuel0 a) st := by
  unfold readRun
  have hbase : 1 ≤ (if code = 16 then (2, 3, last) else if code = 17 then (3, 3, 0) else (7, 11, 0) :
      Nat × Nat × Nat).2.1 := by
    split
    · show 1 ≤ 3; decide
    · split <;> decide
  generalize (if code = 16 then (2, 3, last) else if code = 17 then (3, 3, 0) else (7, 11, 0)) = tup at hbase ⊢
  obtain ⟨nb, base, val⟩ := tup
  dsimp only
  split
  · wp_step; exact ⟨h, ht.zero⟩
  · wp_step
    refine (readBits_takes S nb st0 fuel0 a st j h ht).bind_of fun v s hs => ?_
    wp_step
    exact ⟨⟨hs.1, hs.2.mono (Nat.le_add_right ..)⟩, Nat.le_trans hbase (Nat.le_add_left ..)⟩

/-- its own fuel: every round lengthens `lens` -/
theorem readLensLoop_spec (c : Huff.Canon) (total : Nat)
    (hc : ∀ bits : List Bool, 7 ≤ bits.length → Huff.decode c (bits.take 7) ≠ none) (a : St σ) (j : Nat) :
    ∀ (fuel : Nat) (lens : List Nat) (last : Nat) (st : St σ), Same a st → Took S st0 j st →
    total - lens.length + 1 ≤ fuel →
    wp (readLensLoop S c total fuel lens last) (fun _ s => Same a s ∧ Took S st0 j s) (readE S st0 fuel0 a) st := by
  intro fuel
  induction fuel with
  | zero => intro lens last st h ht hf; omega
  | succ fuel ih =>
    intro lens last st h ht hf
    rw [readLensLoop_succ]
    split
    · wp_step; exact ⟨h, ht⟩
    · refine (readLenSym_takes S c hc st0 fuel0 a st j h ht).bind_of fun code s hs => ?_
      split
      · exact ih _ _ s hs.1 hs.2 (by simp only [List.length_append, List.length_cons, List.length_nil]; omega)
      · refine (readRun_spec S code last a s j hs.1 hs.2).bind_of fun ⟨run, val⟩ s ⟨hs, hrun⟩ => ?_
        dsimp only
        split
        · wp_step; exact ⟨hs.1, hs.2.zero⟩
        · exact ih _ _ s hs.1 hs.2 (by
            simp only [List.length_append, List.length_replicate]; dsimp only at hrun; omega)

theorem zipReadLens_rd_spec (blc : Nat) (a : St σ) : ∀ (k : Nat) (acc : List (Nat × Nat)) (st : St σ) (j : Nat),
    (∀ p ∈ acc, p.2 < 8) → Same a st → Took S st0 j st →
    wp (zipReadLens.rd S blc k acc) (fun r s => (Same a s ∧ Took S st0 j s) ∧ ∀ p ∈ r, p.2 < 8)
      (readE S st0 fuel0 a) st := by
  intro k
  induction k with
  | zero => intro acc st j ha h ht; rw [zipReadLens.rd.eq_1]; wp_step; exact ⟨⟨h, ht⟩, ha⟩
  | succ k ih =>
    intro acc st j ha h ht
    rw [zipReadLens.rd.eq_2]
    refine (readBits_spec S 3 a st j h ht).bind_of fun v s ⟨hs, hv⟩ => ?_
    refine ih _ s j ?_ hs.1 (hs.2.mono (Nat.le_add_right ..))
    intro p hp
    rcases List.mem_cons.mp hp with rfl | hp
    · exact hv
    · exact ha p hp

theorem lookup_getD_lt (pairs : List (Nat × Nat)) (hp : ∀ p ∈ pairs, p.2 < 8) (s : Nat) :
    (pairs.lookup s).getD 0 ≤ 7 := by
  induction pairs with
  | nil => simp
  | cons p rest ih =>
    obtain ⟨a, b⟩ := p
    rw [List.lookup_cons]
    split
    · have := hp (a, b) (List.mem_cons_self ..)
      simp only [Option.getD_some]
      exact Nat.le_of_lt_succ this
    · exact ih (fun p h => hp p (List.mem_cons_of_mem _ h))

theorem zipReadLens_takes : Takes S (zipReadLens S) 0 := by
  intro st0 fuel0 a st j h ht
  unfold zipReadLens
  refine (readBits_takes S 5 st0 fuel0 a st j h ht).bind_of fun v1 s hs => ?_
  refine (readBits_takes S 5 st0 fuel0 a s _ hs.1 hs.2).bind_of fun v2 s hs => ?_
  refine (readBits_takes S 4 st0 fuel0 a s _ hs.1 hs.2).bind_of fun v3 s hs => ?_
  have ht3 : Took S st0 j s := hs.2.mono (by omega)
  wp_step
  split
  · wp_step; exact ⟨hs.1, ht3.zero⟩
  · split
    · wp_step; exact ⟨hs.1, ht3.zero⟩
    · refine (zipReadLens_rd_spec S _ a _ [] s j (fun _ h => nomatch h) hs.1 ht3).bind_of fun pairs s ⟨hs, hp⟩ => ?_
      split
      · wp_step; exact ⟨hs.1, hs.2.zero⟩
      · next c hbuild =>
        have hc := Huff.build7_complete _ (by
          intro l hl
          rcases List.mem_map.mp hl with ⟨x, _, rfl⟩
          exact lookup_getD_lt pairs hp x) c hbuild
        refine (readLensLoop_spec S _ _ hc a j _ [] 0 s hs.1 hs.2 (by simp)).bind_of fun lens s hs => ?_
        wp_step; exact hs

theorem inflate_more_takes : ∀ (k : Nat) (acc : List UInt8), Takes S (inflate.more S k acc) 0 := by
  intro k
  induction k with
  | zero => intro acc st0 fuel0 a st j h ht; rw [inflate.more.eq_1]; wp_step; exact ⟨h, ht⟩
  | succ k ih =>
    intro acc st0 fuel0 a st j h ht
    rw [inflate.more.eq_2]
    refine (nextByte_spec S a st j h ht).bind_of fun b s hs => ?_
    exact ih _ st0 fuel0 a s j hs.1.1 (hs.1.2.mono (Nat.le_add_right ..))

/-- every round takes the 8 bits of its byte, so `fuel0` rounds take more than there are unless `fuel0` was short -/
theorem scanCK_spec (a : St σ) : ∀ (fuel state : Nat) (st : St σ) (j : Nat), Same a st → Took S st0 j st →
    fuel0 ≤ fuel + j →
    wp (scanCK S fuel state) (fun _ s => Same a s ∧ Took S st0 (j + 8) s) (readE S st0 fuel0 a) st := by
  intro fuel
  induction fuel with
  | zero =>
    intro state st j h ht hf; rw [scanCK.eq_1]; wp_step
    exact ⟨h, ht.hang (by omega)⟩
  | succ fuel ih =>
    intro state st j h ht hf
    rw [scanCK.eq_2]
    refine (readBits_takes S 8 st0 fuel0 a st j h ht).bind_of fun v s hs => ?_
    have key : ∀ x, wp (if x = 2 then pure () else scanCK S fuel x) (fun _ s => Same a s ∧ Took S st0 (j + 8) s)
        (readE S st0 fuel0 a) s := by
      intro x
      split
      · wp_step; exact hs
      · exact (ih _ s _ hs.1 hs.2 (by omega)).post fun _ _ h => ⟨h.1, h.2.mono (Nat.le_add_right ..)⟩
    exact key _

theorem scanCK_winOk (fuel state : Nat) {st : St σ} (hi : WinOk st) :
    wp (scanCK S fuel state) (fun _ s => WinOk s) (okE S WinOk) st :=
  (scanCK_spec S (fuel0 := 0) st fuel state st 0 (Same.refl st) (Took.refl st) (Nat.zero_le _)).mono
    (fun _ _ h => h.1.winOk hi) fun e s h => okE.imp (fun _ h => h.winOk hi) e s (walkE.ok id e s h)

def Held (st0 s : St σ) : Prop :=
  s.window.size = st0.window.size ∧ s.windowPosn < zipFRAME_SIZE ∧
    (st0.bytesOutput ≤ zipFRAME_SIZE → s.bytesOutput ≤ zipFRAME_SIZE)

def Reached (st0 : St σ) (j : Nat) (s : St σ) : Prop := Held st0 s ∧ Took S st0 j s

/-- if the window is not the frame, `putByte` may run off it -/
abbrev writeE (st0 : St σ) (fuel0 : Nat) : Halt → St σ → Prop :=
  walkE S st0 fuel0 (fun s => s.window.size = st0.window.size) (st0.window.size ≠ zipFRAME_SIZE)

theorem zipFRAME_SIZE_pos : 0 < zipFRAME_SIZE := by decide

variable {S} in
theorem Reached.start {st : St σ} (hp : st.windowPosn < zipFRAME_SIZE) : Reached S st 0 st := ⟨⟨rfl, hp, id⟩, Took.refl st⟩
variable {S} in
theorem Reached.inf {j : Nat} {s : St σ} (h : Reached S st0 j s) : writeE S st0 fuel0 .inf s := ⟨h.1.1, h.2.zero⟩
variable {S} in
theorem Reached.mono {j k : Nat} {s : St σ} (h : Reached S st0 j s) (hk : k ≤ j) : Reached S st0 k s := ⟨h.1, h.2.mono hk⟩
theorem Held.inv {s : St σ} (h : Held st0 s) (hi : Inv st0) : Inv s := ⟨h.1.trans hi.1, h.2.1, h.2.2 hi.2.2⟩
theorem Same.held {a s : St σ} (h : Same a s) (ha : Held st0 a) : Held st0 s := by
  unfold Held; rw [h.1, h.2.1, h.2.2]; exact ha

variable {S} in
theorem Takes.at {α : Type} {m : ZM σ α} {k : Nat} (hm : Takes S m k) {st : St σ} {j : Nat} (h : Reached S st0 j st) :
    wp m (fun _ s => Reached S st0 (j + k) s) (writeE S st0 fuel0) st :=
  (hm st0 fuel0 st st j (Same.refl st) h.2).mono (fun _ _ hs => ⟨hs.1.held h.1, hs.2⟩)
    (walkE.imp (fun _ hs => (hs.held h.1).1) False.elim)

theorem flushWindow_spec (n : Nat) (st : St σ) (j : Nat) (hw : st.window.size = st0.window.size) (ht : Took S st0 j st) :
    wp (flushWindow n)
      (fun _ s => s.window.size = st0.window.size ∧ s.windowPosn = st.windowPosn ∧ s.bytesOutput ≤ zipFRAME_SIZE ∧
        Took S st0 j s) (writeE S st0 fuel0) st := by
  unfold flushWindow
  wp_step
  split
  · wp_step; exact ⟨hw, ht.zero⟩
  · next hle => wp_step; exact ⟨hw, trivial, Nat.le_of_not_gt hle, ht⟩

/-- `FLUSH_IF_NEEDED` restores `windowPosn < frame` from `≤` -/
theorem flushIfNeeded_spec (st : St σ) (j : Nat) (hw : st.window.size = st0.window.size)
    (hp : st.windowPosn ≤ zipFRAME_SIZE) (hb : st0.bytesOutput ≤ zipFRAME_SIZE → st.bytesOutput ≤ zipFRAME_SIZE)
    (ht : Took S st0 j st) : wp flushIfNeeded (fun _ s => Reached S st0 j s) (writeE S st0 fuel0) st := by
  unfold flushIfNeeded
  wp_step
  split
  · refine (flushWindow_spec S zipFRAME_SIZE st j hw ht).bind_of fun _ s ⟨hs, _, hle, ht1⟩ => ?_
    wp_step
    exact ⟨⟨hs, zipFRAME_SIZE_pos, fun _ => hle⟩, ht1⟩
  · wp_step
    exact ⟨⟨hw, by omega, hb⟩, ht⟩

theorem putByte_spec (b : UInt8) (st : St σ) (j : Nat) (h : Reached S st0 j st) :
    wp (putByte b) (fun _ s => Reached S st0 j s) (writeE S st0 fuel0) st := by
  unfold putByte
  wp_step
  split
  · wp_step
    refine flushIfNeeded_spec S _ j ?_ ?_ h.1.2.2 h.2
    · simp only [Array.size_set]; exact h.1.1
    · exact h.1.2.1
  · next hn =>
    wp_step
    exact ⟨h.1.1, .own ⟨rfl, fun hw => hn (by rw [h.1.1, hw]; exact h.1.2.1)⟩⟩

theorem foldl_set_size (chunk : List UInt8) : ∀ (w : Array UInt8) (p : Nat),
    (chunk.foldl (fun (acc : Array UInt8 × Nat) b => (acc.1.setIfInBounds acc.2 b, acc.2 + 1)) (w, p)).1.size
      = w.size := by
  induction chunk with
  | nil => intro w p; rfl
  | cons b rest ih =>
    intro w p
    rw [List.foldl_cons, ih]
    exact Array.size_setIfInBounds ..

theorem copyMatch_spec (j : Nat) : ∀ (length posn : Nat) (st : St σ), Reached S st0 j st →
    wp (copyMatch length posn) (fun _ s => Reached S st0 j s) (writeE S st0 fuel0) st := by
  intro length
  induction length with
  | zero => intro posn st h; rw [copyMatch.eq_1]; wp_step; exact h
  | succ length ih =>
    intro posn st h
    rw [copyMatch.eq_2]
    wp_step
    exact (putByte_spec S _ st j h).bind_of fun _ s hs => ih _ s hs

/-- its own fuel: every round takes at least one byte of `length`, because the input buffer is not empty after
    `read_input` and the write position is inside the frame -/
theorem copyStored_spec (j : Nat) : ∀ (fuel length : Nat) (st : St σ), Reached S st0 j st → length + 1 ≤ fuel →
    wp (copyStored S fuel length) (fun _ s => Reached S st0 j s) (writeE S st0 fuel0) st := by
  intro fuel
  induction fuel with
  | zero => intro length st h hf; omega
  | succ fuel ih =>
    intro length st h hf
    rw [copyStored.eq_2]
    split
    · wp_step; exact h
    · wp_step
      have key : ∀ st : St σ, Reached S st0 j st → st.inbuf ≠ [] → wp (do
          let st ← get
          let run := min (min length st.inbuf.length) (zipFRAME_SIZE - st.windowPosn)
          let chunk := st.inbuf.take run
          let w := chunk.foldl (fun (acc : Array UInt8 × Nat) b => (acc.1.setIfInBounds acc.2 b, acc.2 + 1)) (st.window, st.windowPosn)
          set { st with inbuf := st.inbuf.drop run, window := w.1, windowPosn := st.windowPosn + run }
          flushIfNeeded
          copyStored S fuel (length - run)) (fun _ s => Reached S st0 j s) (writeE S st0 fuel0) st := by
        intro st h hne
        have hlen : 1 ≤ st.inbuf.length := Nat.pos_of_ne_zero fun h0 => hne (List.eq_nil_of_length_eq_zero h0)
        have hp := h.1.2.1
        wp_step
        refine wp.bind_of (flushIfNeeded_spec S _ j ?_ ?_ h.1.2.2 (h.2.to fun rem _ => ?_))
          fun _ s hs => ih _ s hs ?_
        · dsimp only; rw [foldl_set_size]; exact h.1.1
        · dsimp only; omega
        · simp only [bitsLeft, List.length_drop]; omega
        · omega
      split
      · exact ((readInput_spec S st st j (Same.refl _) h.2).mono
          (fun _ s hs => (⟨⟨hs.1.1.held h.1, hs.1.2⟩, hs.2.1⟩ : Reached S st0 j s ∧ s.inbuf ≠ []))
          (walkE.imp (fun _ hs => (hs.held h.1).1) False.elim)).bind_of fun _ s hs => key s hs.1 hs.2
      · next hne => exact key st h (by simpa using hne)

theorem copyCoded_spec (dist : Huff.Canon) (c : Nat) (st : St σ) (j : Nat) (h : Reached S st0 j st) :
    wp (copyCoded S dist c) (fun _ s => Reached S st0 j s) (writeE S st0 fuel0) st := by
  unfold copyCoded
  split
  · wp_step; exact h.inf
  · wp_step
    refine ((readBits_takes S _).at h).bind_of fun v s hs => ?_
    wp_step
    refine ((readHuffSym_takes S dist).at hs).bind_of fun dc s hs => ?_
    split
    · wp_step; exact hs.inf
    · wp_step
      refine ((readBits_takes S _).at hs).bind_of fun v2 s hs => ?_
      wp_step
      exact copyMatch_spec S j _ _ s (hs.mono (by omega))

/-- every round takes the bit of its first symbol, so `fuel0` rounds (those of `inflate` included) take more than there
    are unless `fuel0` was short -/
theorem huffBlock_spec (lit dist : Huff.Canon) : ∀ (fuel : Nat) (st : St σ) (j : Nat), Reached S st0 j st →
    fuel0 ≤ fuel + j → wp (huffBlock S lit dist fuel) (fun _ s => Reached S st0 j s) (writeE S st0 fuel0) st := by
  intro fuel
  induction fuel with
  | zero =>
    intro st j h hf; rw [huffBlock.eq_1]; wp_step
    exact ⟨h.1.1, h.2.hang (by omega)⟩
  | succ fuel ih =>
    intro st j h hf
    rw [huffBlock_succ]
    refine ((readHuffSym_takes S lit).at h).bind_of fun code s hs => ?_
    have next : ∀ s, Reached S st0 (j + 1) s → wp (huffBlock S lit dist fuel) (fun _ s => Reached S st0 j s)
        (writeE S st0 fuel0) s :=
      fun s hs => (ih s _ hs (by omega)).post fun _ _ h => h.mono (Nat.le_add_right ..)
    split
    · exact (putByte_spec S _ s _ hs).bind_of fun _ => next
    · split
      · wp_step; exact hs.mono (Nat.le_add_right ..)
      · exact (copyCoded_spec S dist _ s _ hs).bind_of fun _ => next

theorem storedBlock_spec (st : St σ) (j : Nat) (h : Reached S st0 j st) :
    wp (storedBlock S) (fun _ s => Reached S st0 j s) (writeE S st0 fuel0) st := by
  unfold storedBlock
  wp_step
  have ha : Reached S st0 j { st with bits := st.bits.drop (st.bits.length % 8) } :=
    ⟨h.1, h.2.to fun rem _ => by have := bitsLeft_drop rem st (st.bits.length % 8); omega⟩
  split
  · wp_step; exact ha.inf
  · wp_step
    have hb : Reached S st0 j { st with bits := [] } := ⟨h.1, ha.2.to fun rem _ => by simp [bitsLeft]⟩
    refine ((inflate_more_takes S _ _).at hb).bind_of fun lb s hs => ?_
    wp_step
    split
    · wp_step; exact hs.inf
    · wp_step
      exact copyStored_spec S j _ _ s hs (by omega)

theorem inflateBlock_spec (blockType fuel : Nat) (st : St σ) (j : Nat) (h : Reached S st0 j st) (hf : fuel0 ≤ fuel + j) :
    wp (inflateBlock S blockType fuel) (fun _ s => Reached S st0 j s) (writeE S st0 fuel0) st := by
  have coded : ∀ s : St σ, Reached S st0 j s → wp (codedBlock S fuel) (fun _ s => Reached S st0 j s) (writeE S st0 fuel0) s := by
    intro s hs
    unfold codedBlock
    wp_step
    split
    · wp_step; exact hs.inf
    · split
      · wp_step; exact hs.inf
      · exact huffBlock_spec S _ _ _ s j hs hf
  unfold inflateBlock
  split
  · exact storedBlock_spec S st j h
  · split
    · refine wp.bind_of ?_ (fun _ s hs => coded s hs)
      split
      · rw [wp_modify]; exact h
      · exact (zipReadLens_takes S).at h
    · wp_step; exact h.inf

/-- every round takes its three header bits -/
theorem inflate_spec : ∀ (fuel : Nat) (st : St σ) (j : Nat), Reached S st0 j st → fuel0 ≤ fuel + j →
    wp (inflate S fuel) (fun _ s => Reached S st0 j s) (writeE S st0 fuel0) st := by
  intro fuel
  induction fuel with
  | zero =>
    intro st j h hf; rw [inflate.eq_1]; wp_step
    exact ⟨h.1.1, h.2.hang (by omega)⟩
  | succ fuel ih =>
    intro st j h hf
    rw [inflate_succ]
    refine ((readBits_takes S 1).at h).bind_of fun lastBlock s hs => ?_
    refine ((readBits_takes S 2).at hs).bind_of fun blockType s hs => ?_
    refine (inflateBlock_spec S blockType fuel s _ hs (by omega)).bind_of fun _ s hs => ?_
    unfold inflateNext
    split
    · exact (ih s _ hs (by omega)).post fun _ _ h => h.mono (by omega)
    · wp_step
      split
      · refine (flushWindow_spec S _ s _ hs.1.1 hs.2).post fun _ s' ⟨h1, h2, h3, h4⟩ => ?_
        exact ⟨⟨h1, h2 ▸ hs.1.2.1, fun _ => h3⟩, h4.mono (by omega)⟩
      · wp_step; exact hs.mono (by omega)

theorem inflate_ok (fuel : Nat) (st : St σ) (hi : Inv st) :
    wp (inflate S fuel) (fun _ s => Inv s) (okE S WinOk) st :=
  (inflate_spec S (fuel0 := fuel) fuel st 0 (Reached.start hi.2.1) (Nat.le_add_right ..)).mono
    (fun _ _ h => h.1.inv hi) fun e s h => walkE.ok (fun hn => hn hi.1) e s (walkE.imp (fun _ h => h.trans hi.1) id e s h)

theorem runInflate_error (fuel : Nat) (st : St σ) (hi : Inv st) (f : Fault)
    (h : runInflate S fuel st = .error f) : FaultOK S f := by
  have hk := inflate_ok S fuel st hi
  cases hr : exec (inflate S fuel) st with
  | mk r s =>
    rw [runInflate_eq S hr] at h
    cases r with
    | ok a => cases h
    | error e =>
      cases e with
      | inf => cases h
      | sys e => cases h
      | fault g => cases h; exact (hk.error hr).2 f rfl

theorem runInflate_ok (fuel : Nat) (st : St σ) (hi : Inv st) (r : InfRes) (s : St σ)
    (h : runInflate S fuel st = .ok (r, s)) : WinOk s ∧ (r = .ok → Inv s) := by
  have hk := inflate_ok S fuel st hi
  cases hr : exec (inflate S fuel) st with
  | mk r' s' =>
    rw [runInflate_eq S hr] at h
    cases r' with
    | ok a => cases h; exact ⟨(hk.ok hr).winOk, fun _ => hk.ok hr⟩
    | error e =>
      have hw := (hk.error hr).1
      cases e with
      | inf => cases h; exact ⟨hw, nofun⟩
      | sys e => cases h; exact ⟨hw, nofun⟩
      | fault g => cases h

def ResOk (r : Except Fault (Out σ)) : Prop :=
  match r with
  | .error f => FaultOK S f
  | .ok o => WinOk o.st

theorem foldl_setIfInBounds_size (g : Nat → Nat) (v : UInt8) (l : List Nat) : ∀ (w : Array UInt8),
    (l.foldl (fun (a : Array UInt8) i => a.setIfInBounds (g i) v) w).size = w.size := by
  induction l with
  | nil => intro w; rfl
  | cons b rest ih =>
    intro w
    rw [List.foldl_cons, ih]
    exact Array.size_setIfInBounds ..

namespace ZipChunk

theorem frameStep_ok (fuel : Nat) (st : St σ) (hw : WinOk st) :
    match frameStep S fuel st with
    | .error f => FaultOK S f
    | .ok (.stop _ st') => WinOk st'
    | .ok (.frame _ st') => WinOk st' ∧ st'.bytesOutput ≤ zipFRAME_SIZE := by
  unfold frameStep
  dsimp only
  have hs := scanCK_winOk S fuel 0 (st := { st with bits := st.bits.drop (st.bits.length % 8) }) hw
  cases hr : (scanCK S fuel 0).run.run { st with bits := st.bits.drop (st.bits.length % 8) } with
  | mk r s =>
    cases r with
    | error e =>
      have he := hs.error hr
      cases e with
      | fault g => exact he.2 g rfl
      | inf => exact he.1
      | sys e => exact he.1
    | ok a =>
      have hw1 : WinOk s := hs.ok hr
      have hi : Inv { s with windowPosn := 0, bytesOutput := 0 } :=
        ⟨hw1, by show 0 < zipFRAME_SIZE; decide, Nat.zero_le _⟩
      dsimp only
      cases hri : runInflate S fuel { s with windowPosn := 0, bytesOutput := 0 } with
      | error f => exact runInflate_error S fuel _ hi f hri
      | ok p =>
        obtain ⟨res, s2⟩ := p
        have h2 := runInflate_ok S fuel _ hi res s2 hri
        have hz : ∀ bo, ((List.range (zipFRAME_SIZE - bo)).foldl
            (fun (a : Array UInt8) i => a.setIfInBounds (bo + i) 0) s2.window).size = zipFRAME_SIZE :=
          fun bo => (foldl_setIfInBounds_size _ _ _ _).trans h2.1
        dsimp only
        by_cases hf : res ≠ .ok ∧ (!s2.repair) = true
        · rw [if_pos hf]; exact h2.1
        · rw [if_neg hf]
          cases res with
          | ok => exact ⟨h2.1, (h2.2 rfl).2.2⟩
          | inf => exact ⟨hz _, Nat.le_refl _⟩
          | sys e => exact ⟨hz _, Nat.le_refl _⟩

end ZipChunk
open ZipChunk in
theorem decompressLoop_ok (fuel : Nat) : ∀ (n : Nat) (st : St σ) (outBytes : Nat) (w : Bytes), WinOk st →
    ResOk S (decompressLoop S fuel n st outBytes w) := by
  intro n
  induction n with
  | zero => intro st outBytes w hw; rw [decompressLoop.eq_1]; exact .hang
  | succ n ih =>
    intro st outBytes w hw
    rw [loop_succ]
    split
    · exact hw
    · have hf := frameStep_ok S fuel st hw
      cases hfs : frameStep S fuel st with
      | error f => rw [hfs] at hf; exact hf
      | ok r =>
        rw [hfs] at hf
        cases r with
        | stop e st' => exact hf
        | frame se st' =>
          cases se with
          | some e => dsimp only; split <;> exact hf.1
          | none => exact ih _ _ _ hf.1

theorem decompress_ok (fuel : Nat) (st : St σ) (outBytes : Nat) (hw : WinOk st) :
    ResOk S (decompress S fuel st outBytes) := by
  unfold decompress
  split
  · exact hw
  · dsimp only
    split
    · exact hw
    · exact decompressLoop_ok S fuel fuel _ _ _ hw

theorem decompress_dead (fuel : Nat) (st : St σ) (n : Nat) (he : st.error ≠ .ok) :
    decompress S fuel st n = .ok ⟨st.error, [], st⟩ := by
  unfold decompress; exact if_pos he

theorem init_winOk (src : σ) (n : Nat) (repair : Bool) (fill : UInt8) (st : St σ)
    (h : init src n repair fill = some st) : WinOk st :=
  (init_fields h).2.2.2.2.2.2.2.2.2

/-- the block head takes the 16 bits of its length field -/
theorem kwajBlockHead_spec (fuel0 : Nat) (st : St σ) :
    wp (kwajBlockHead S)
      (fun b s => s.window = st.window ∧ Took S st 16 s ∧ (b = true → s.windowPosn = 0 ∧ s.bytesOutput = 0))
      (readE S st fuel0 st) st := by
  unfold kwajBlockHead
  wp_step
  have h0 : Took S st 0 { st with bits := st.bits.drop (st.bits.length % 8) } :=
    (Took.refl st).to fun rem _ => by have := bitsLeft_drop rem st (st.bits.length % 8); omega
  refine (readBits_takes S 8 st fuel0 st _ 0 (by exact ⟨rfl, rfl, rfl⟩) h0).bind_of fun lo s hs => ?_
  refine (readBits_takes S 8 st fuel0 st s _ hs.1 hs.2).bind_of fun hi s hs => ?_
  have ht : Took S st 16 s := hs.2.mono (by omega)
  wp_step
  by_cases hb : lo ||| hi <<< 8 = 0
  · rw [if_pos hb]
    wp_step; exact ⟨hs.1.1, ht, fun h => nomatch h⟩
  · rw [if_neg hb]
    refine (readBits_takes S 8 st fuel0 st s _ hs.1 ht).bind_of fun c s hs => ?_
    by_cases hc : c ≠ 0x43
    · rw [if_pos hc]
      wp_step; exact hs.1
    · rw [if_neg hc]
      wp_step
      refine (readBits_takes S 8 st fuel0 st s _ hs.1 hs.2).bind_of fun k s hs => ?_
      by_cases hk : k ≠ 0x4B
      · rw [if_pos hk]
        wp_step; exact hs.1
      · rw [if_neg hk]
        wp_step
        exact ⟨hs.1.1, hs.2.mono (by omega), fun _ => ⟨trivial, trivial⟩⟩

theorem kwajLoop_ok (fuel : Nat) : ∀ (n : Nat) (st : St σ) (w : Array UInt8), WinOk st →
    ResOk S (kwajLoop S fuel n st w) := by
  intro n
  induction n with
  | zero => intro st w hw; rw [kwajLoop.eq_1]; exact .hang
  | succ n ih =>
    intro st w hw
    rw [kwajLoop.eq_2]
    have hs := kwajBlockHead_spec S 0 st
    cases hr : (kwajBlockHead S).run.run st with
    | mk r s =>
      cases r with
      | error e =>
        have he := walkE.ok id e s (hs.error hr)
        cases e with
        | fault g => exact he.2 g rfl
        | inf => exact he.1.winOk hw
        | sys e => exact he.1.winOk hw
      | ok b =>
        have hb := hs.ok hr
        have hw1 : WinOk s := by unfold WinOk; rw [hb.1]; exact hw
        cases b with
        | false => exact hw1
        | true =>
          have hi : Inv s := ⟨hw1, (hb.2.2 rfl).1 ▸ zipFRAME_SIZE_pos, (hb.2.2 rfl).2 ▸ Nat.zero_le _⟩
          dsimp only
          cases hri : runInflate S fuel s with
          | error f => exact runInflate_error S fuel _ hi f hri
          | ok p =>
            obtain ⟨res, s2⟩ := p
            have h2 := runInflate_ok S fuel _ hi res s2 hri
            cases res with
            | sys e => exact h2.1
            | inf => exact h2.1
            | ok =>
              have hi2 : Inv s2 := h2.2 rfl
              dsimp only
              split
              · rename_i hgt
                exfalso
                rw [hi2.1] at hgt
                exact absurd hi2.2.2 (Nat.not_le_of_gt hgt)
              · exact ih _ _ h2.1

theorem decompressKwaj_ok (fuel : Nat) (st : St σ) (hw : WinOk st) :
    ResOk S (decompressKwaj S fuel st) := kwajLoop_ok S fuel fuel st _ hw

end MsPack.Zip
