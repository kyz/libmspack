import MsPack.Lzss.Decoder
import MsPack.Kwaj.Headers
import Proofs.Lemmas.RdFacts
import Proofs.Lemmas.LzssRes
import Proofs.Lemmas.Src
/-!
# Bounds invariants for LZSS (lzssd.c) and the KWAJ header reader (kwajd.c; its LZH decoder: `LzhBounds.lean`)

The models make every array access a checked one; the lemmas here say that, from a state that
satisfies the decoder's size/index invariant, no piece of the decoder takes a fault outcome of its
own: the only faults that can come out are `Fault.hang` (model fuel ran out) and whatever the
*source* (`Src.read`, a parameter) itself returned as a fault.

LZSS is walked once for this and for termination (`Lzss.Fed`): over a finite source (`Src.Finite`) with more fuel
than bytes left, `hang` does not come out either.
-/
namespace MsPack.Lzss
open MsPack.Generated

variable {σ : Type} (S : Src σ) (rem : σ → Nat) (T : Prop)

structure Inv (st : St σ) : Prop where
  wsize : st.window.size = lzssWINDOW_SIZE
  pos   : st.pos < lzssWINDOW_SIZE

theorem initSt_inv (src : σ) (ibs mode : Nat) : Inv (initSt src ibs mode) := by
  refine ⟨by simp [initSt], ?_⟩
  simp only [initSt, lzssWINDOW_SIZE]
  split <;> omega

def St.left (st : St σ) : Nat := st.inbuf.length + rem st.src

/-- `T` switches the termination half of the walk on: with `T := False` what follows holds of any source and any
    fuel, with `T := True` of a finite one. -/
def Fed (n : Nat) (st : St σ) : Prop := Inv st ∧ (T → St.left rem st < n)

abbrev Walk {α : Type} (n : Nat) : Res σ α → Prop :=
  Res.Post (fun _ => Fed rem T n) (fun _ _ => True) (fun f => FaultOK S f ∧ (T → f ≠ .hang))

variable {S rem T} {n : Nat} {st : St σ}

theorem nextByte_walk (hS : T → S.Finite rem) (h : Fed rem T (n + 1) st) : Walk S rem T n (nextByte S st) := by
  unfold nextByte
  split
  · rename_i b rest hb
    refine ⟨⟨h.1.1, h.1.2⟩, fun t => ?_⟩
    have := h.2 t
    simp only [St.left, hb, List.length_cons] at this ⊢; omega
  · rename_i hb
    split
    · rename_i f hr
      exact ⟨.inr ⟨_, _, hr⟩, fun t hf => (hS t).no_hang _ _ (hf ▸ hr)⟩
    · trivial
    · trivial
    · rename_i b rest src hr
      refine ⟨⟨h.1.1, h.1.2⟩, fun t => ?_⟩
      have := (hS t).read_le _ _ _ _ hr
      have := h.2 t
      simp only [St.left, hb, List.length_cons, List.length_nil] at *; omega

theorem emitByte_walk (h : Fed rem T n st) (b : UInt8) : Walk S rem T n (emitByte st b) := by
  unfold emitByte
  rw [if_pos (by rw [h.1.1]; exact h.1.2)]
  exact ⟨⟨by simp only [Array.size_setIfInBounds]; exact h.1.1, Nat.mod_lt _ (by decide)⟩, h.2⟩

theorem copyMatch_walk : ∀ (len mpos : Nat) (st : St σ), mpos < lzssWINDOW_SIZE → Fed rem T n st →
    Walk S rem T n (copyMatch len mpos st)
  | 0, _, st, _, h => by rw [copyMatch]; exact h
  | len + 1, mpos, st, hm, h => by
    rw [copyMatch_succ, dif_pos (by rw [h.1.1]; exact hm)]
    exact (emitByte_walk h _).bind fun _ st1 h1 => copyMatch_walk len _ st1 (Nat.mod_lt _ (by decide)) h1

theorem mpos_lt (b0 b1 : UInt8) : b0.toNat ||| ((b1.toNat &&& 0xF0) <<< 4) < lzssWINDOW_SIZE := by
  have h0 : b0.toNat < 2 ^ 12 := Nat.lt_trans b0.toNat_lt (by decide)
  have h1 : (b1.toNat &&& 0xF0) <<< 4 < 2 ^ 12 := by
    have : b1.toNat &&& 0xF0 ≤ 0xF0 := Nat.and_le_right
    rw [Nat.shiftLeft_eq]; omega
  exact Nat.or_lt_two_pow h0 h1

theorem tokenLoop_walk (hS : T → S.Finite rem) (c : Nat) : ∀ (k i : Nat) (st : St σ), Fed rem T n st →
    Walk S rem T n (tokenLoop S c k i st)
  | 0, _, st, h => by rw [tokenLoop]; exact h
  | k + 1, i, st, h => by
    have hN : ∀ {st}, Fed rem T n st → Walk S rem T n (nextByte S st) := fun h =>
      nextByte_walk hS ⟨h.1, fun t => Nat.lt_succ_of_lt (h.2 t)⟩
    rw [tokenLoop_succ]
    split
    · exact (hN h).bind fun b st1 h1 => (emitByte_walk h1 b).bind fun _ st2 h2 => tokenLoop_walk hS c k _ st2 h2
    · exact (hN h).bind fun b0 st1 h1 => (hN h1).bind fun b1 st2 h2 =>
        (copyMatch_walk _ _ st2 (mpos_lt b0 b1) h2).bind fun _ st3 h3 => tokenLoop_walk hS c k _ st3 h3

/-- every round consumes at least the control byte: from a state with fewer bytes left than fuel, `hang` is
    unreachable -/
theorem mainLoop_walk (hS : T → S.Finite rem) (invert : Nat) : ∀ (fuel : Nat) (st : St σ), Fed rem T fuel st →
    (mainLoop S invert fuel st).Post (fun _ _ => False) (fun _ _ => True) (fun f => FaultOK S f ∧ (T → f ≠ .hang))
  | 0, st, h => by rw [mainLoop]; exact ⟨.inl rfl, fun t => absurd (h.2 t) (Nat.not_lt_zero _)⟩
  | fuel + 1, st, h => by
    rw [mainLoop_succ]
    exact (nextByte_walk hS h).bind fun cb st1 h1 => (tokenLoop_walk hS _ 8 1 st1 h1).bind fun _ st2 h2 =>
      mainLoop_walk hS invert fuel st2 h2

theorem decompress_walk (hS : T → S.Finite rem) (fuel : Nat) (src : σ) (ibs mode : Nat) (hf : T → rem src < fuel)
    (f : Fault) (h : decompress S fuel src ibs mode = .error f) : FaultOK S f ∧ (T → f ≠ .hang) := by
  unfold decompress at h
  split at h
  · cases h
  · simp only at h
    have hg := mainLoop_walk hS (if mode = lzssMODE_MSHELP then 0xFFFFFFFF else 0) fuel _
      ⟨initSt_inv src ibs mode, fun t => by simpa [St.left, initSt] using hf t⟩
    split at h
    · rename_i heq
      rw [heq] at hg
      simp only [Except.error.injEq] at h
      subst h; exact hg
    · cases h
    · cases h

variable (S rem)

theorem decompress_fault (fuel : Nat) (src : σ) (ibs mode : Nat) (f : Fault)
    (h : decompress S fuel src ibs mode = .error f) : FaultOK S f :=
  (decompress_walk (rem := fun _ => 0) (T := False) nofun fuel src ibs mode nofun f h).1

theorem decompress_no_hang (hS : S.Finite rem) (fuel : Nat) (src : σ) (bufSize mode : Nat)
    (h : rem src + 1 ≤ fuel) : decompress S fuel src bufSize mode ≠ .error .hang :=
  fun e => (decompress_walk (T := True) (fun _ => hS) fuel src bufSize mode (fun _ => h) _ e).2 trivial rfl

end MsPack.Lzss

namespace MsPack.Kwaj
open MsPack.Generated

theorem copyName_spec (buf : Bytes) (len : Nat) : ∀ (k i : Nat) (fnbuf : Array UInt8) (fn : Nat),
    fn + (len - i) ≤ fnbuf.size →
    ∃ fb' fn' i', copyName buf len k i fnbuf fn = .ok (fb', fn', i') ∧ fb'.size = fnbuf.size ∧
      fn ≤ fn' ∧ fn' ≤ fn + (len - i) ∧ (0 < k → i < len → fn < fn')
  | 0, i, fnbuf, fn, h => ⟨fnbuf, fn, i, by rw [copyName], rfl, Nat.le_refl _, by omega, by omega⟩
  | k + 1, i, fnbuf, fn, h => by
    rw [copyName]
    by_cases hi : i < len
    · rw [if_pos hi]
      have hfn : fn < fnbuf.size := by omega
      simp only [dif_pos hfn]
      split
      · exact ⟨_, _, _, rfl, by simp, by omega, by omega, by omega⟩
      · obtain ⟨fb', fn', i', he, hs, h1, h2, h3⟩ :=
          copyName_spec buf len k (i + 1) (fnbuf.set fn (byteAt buf i)) (fn + 1)
            (by simp only [Array.size_set]; omega)
        exact ⟨fb', fn', i', he, by simpa using hs, by omega, by omega, by omega⟩
    · rw [if_neg hi]; exact ⟨_, _, _, rfl, rfl, by omega, by omega, by omega⟩

def HdrOk {α : Type} (r : Rd) (Q : α → Prop) (x : Except Fault (α × Rd)) : Prop :=
  ∃ v r', x = .ok (v, r') ∧ r'.file = r.file ∧ Q v

theorem readNamePart_ok (r : Rd) (maxLen : Nat) (fnbuf : Array UInt8) (fn : Nat) (h : fn + maxLen ≤ fnbuf.size) :
    HdrOk r (fun v => ∀ fb' fn', v = .ok (fb', fn') → fb'.size = fnbuf.size ∧ fn' + 1 ≤ fn + maxLen)
      (readNamePart r maxLen fnbuf fn) := by
  have hl := Rd.read_length_le r maxLen
  have hf := Rd.read_file r maxLen
  unfold readNamePart
  simp only
  generalize (r.read maxLen).1 = buf at hl
  generalize (r.read maxLen).2 = r1 at hf
  by_cases h2 : buf.length < 2
  · rw [if_pos h2]; exact ⟨_, _, rfl, hf, nofun⟩
  · rw [if_neg h2]
    obtain ⟨fb, fn1, i1, he, hs, h1, h3, h4⟩ :=
      copyName_spec buf buf.length (buf.length + 1) 0 fnbuf fn (by omega)
    rw [he]
    simp only
    have hfn1 : fn < fn1 := h4 (by omega) (by omega)
    split
    · exact ⟨_, _, rfl, hf, nofun⟩
    · rw [if_neg (by omega)]
      refine ⟨_, _, rfl, hf, fun fb' fn' hc => ?_⟩
      simp only [Except.ok.injEq, Prod.mk.injEq] at hc
      obtain ⟨rfl, rfl⟩ := hc
      exact ⟨hs, by omega⟩

theorem takeWhile_lt_of_mem : ∀ (l : List UInt8), (0 : UInt8) ∈ l →
    (l.takeWhile (· ≠ 0)).length < l.length
  | [], h => by simp at h
  | a :: l, h => by
    by_cases ha : a = 0
    · subst ha; simp [List.takeWhile]
    · have : (0 : UInt8) ∈ l := by
        rcases List.mem_cons.mp h with h | h
        · exact absurd h.symm ha
        · exact h
      have ih := takeWhile_lt_of_mem l this
      have hd : decide (a ≠ 0) = true := by simpa using ha
      simp only [List.takeWhile, hd, List.length_cons]
      omega

/-- once `*fn = '\0'` has been stored inside the buffer, reading the C string stops inside it -/
theorem cstr_set_zero (fnbuf : Array UInt8) (fn : Nat) (h : fn < fnbuf.size) :
    ∃ s, cstr (fnbuf.set fn 0) = .ok s := by
  unfold cstr
  simp only
  have hm : (0 : UInt8) ∈ (fnbuf.set fn 0).toList := by
    rw [Array.mem_toList_iff]
    exact Array.mem_set h
  rw [if_pos (takeWhile_lt_of_mem _ hm)]
  exact ⟨_, rfl⟩

theorem readNames_ok (fill : UInt8) (hdr : Header) (r : Rd) : HdrOk r (fun _ => True) (readNames fill hdr r) := by
  unfold readNames
  split
  · simp only
    -- the name part: 9 bytes at most from `fn = 0` in the 13-byte buffer
    have ha : HdrOk r (fun v => ∀ fb fn, v = .ok (fb, fn) → fb.size = 13 ∧ fn ≤ 8)
        (if hasFlag hdr.headers hdrHASFILENAME = true then readNamePart r 9 (Array.replicate 13 fill) 0
         else (.ok (.ok (Array.replicate 13 fill, 0), r) : Except Fault (Except Err (Array UInt8 × Nat) × Rd))) := by
      split
      · obtain ⟨v, r', e, hf, hq⟩ := readNamePart_ok r 9 (Array.replicate 13 fill) 0 (by simp)
        exact ⟨v, r', e, hf, fun fb fn hv => by have := hq fb fn hv; simp only [Array.size_replicate] at this; omega⟩
      · exact ⟨_, _, rfl, rfl, fun fb fn hv => by cases hv; simp⟩
    obtain ⟨v, r1, e, hf1, hq1⟩ := ha
    rw [e]
    match v, hq1 with
    | .error e', _ => exact ⟨_, _, rfl, hf1, trivial⟩
    | .ok (fb, fn), hq1 =>
      obtain ⟨hsz, hfn⟩ := hq1 fb fn rfl
      simp only
      -- the extension: the dot at `fn ≤ 8`, then 4 bytes at most
      have hb : HdrOk r1 (fun v => ∀ fb2 fn2, v = .ok (fb2, fn2) → fb2.size = 13 ∧ fn2 ≤ 12)
          (if hasFlag hdr.headers hdrHASFILEEXT = true then
             if h : fn < fb.size then readNamePart r1 4 (fb.set fn 0x2E) (fn + 1)
             else .error (.oob "kwajd_read_headers: *fn++ = '.'")
           else (.ok (.ok (fb, fn), r1) : Except Fault (Except Err (Array UInt8 × Nat) × Rd))) := by
        split
        · rw [dif_pos (by omega)]
          obtain ⟨v, r', e, hf, hq⟩ := readNamePart_ok r1 4 (fb.set fn 0x2E) (fn + 1) (by simp only [Array.size_set]; omega)
          exact ⟨v, r', e, hf, fun fb2 fn2 hv => by have := hq fb2 fn2 hv; simp only [Array.size_set] at this; omega⟩
        · exact ⟨_, _, rfl, rfl, fun fb2 fn2 hv => by cases hv; exact ⟨hsz, by omega⟩⟩
      obtain ⟨v2, r2, e2, hf2, hq2⟩ := hb
      rw [e2]
      match v2, hq2 with
      | .error e', _ => exact ⟨_, _, rfl, hf2.trans hf1, trivial⟩
      | .ok (fb2, fn2), hq2 =>
        obtain ⟨hsz2, hfn2⟩ := hq2 fb2 fn2 rfl
        simp only
        rw [dif_pos (by omega)]
        obtain ⟨s, hs⟩ := cstr_set_zero fb2 fn2 (by omega)
        rw [hs]
        exact ⟨_, _, rfl, hf2.trans hf1, trivial⟩
  · exact ⟨_, _, rfl, rfl, trivial⟩

theorem readOptLength_file (hdr : Header) (r : Rd) : (readOptLength hdr r).2.file = r.file := by
  unfold readOptLength
  split
  · split
    · rfl
    · rename_i h; exact Rd.readExact_file h
  · rfl

theorem skipUnknown1_file (headers : Nat) (r : Rd) : (skipUnknown1 headers r).2.file = r.file := by
  unfold skipUnknown1
  split
  · split
    · rfl
    · rename_i h; exact Rd.readExact_file h
  · rfl

theorem skipUnknown2_file (headers : Nat) (r : Rd) : (skipUnknown2 headers r).2.file = r.file := by
  unfold skipUnknown2
  split
  · split
    · rfl
    · rename_i b r1 h
      have := Rd.readExact_file h
      simpa [Rd.seekCur] using this
  · rfl

theorem readExtra_file (hdr : Header) (r : Rd) : (readExtra hdr r).2.file = r.file := by
  unfold readExtra
  split
  · split
    · rfl
    · rename_i b r1 h1
      have f1 := Rd.readExact_file h1
      simp only
      split
      · exact f1
      · rename_i h2; exact (Rd.readExact_file h2).trans f1
  · rfl

theorem readHeaders_ok (fill : UInt8) (r : Rd) : HdrOk r (fun _ => True) (readHeaders fill r) := by
  unfold readHeaders
  split
  · exact ⟨_, _, rfl, Rd.read_file r kwajhSIZEOF, trivial⟩
  · rename_i buf r0 h0
    have f0 := Rd.readExact_file h0
    split
    · exact ⟨_, _, rfl, f0, trivial⟩
    · simp only
      generalize (Header.mk (u16At buf 8) (u16At buf 10) (u16At buf 12) 0 none none 0) = hdr0
      have f1 := readOptLength_file hdr0 r0
      generalize readOptLength hdr0 r0 = p1 at f1
      match p1, f1 with
      | (.error e, r1), f1 => exact ⟨_, _, rfl, f1.trans f0, trivial⟩
      | (.ok hdr1, r1), f1 =>
        simp only at f1 ⊢
        have f2 := skipUnknown1_file hdr1.headers r1
        generalize skipUnknown1 hdr1.headers r1 = p2 at f2
        match p2, f2 with
        | (.error e, r2), f2 => exact ⟨_, _, rfl, f2.trans (f1.trans f0), trivial⟩
        | (.ok (), r2), f2 =>
          simp only at f2 ⊢
          have f3 := skipUnknown2_file hdr1.headers r2
          generalize skipUnknown2 hdr1.headers r2 = p3 at f3
          match p3, f3 with
          | (.error e, r3), f3 => exact ⟨_, _, rfl, f3.trans (f2.trans (f1.trans f0)), trivial⟩
          | (.ok (), r3), f3 =>
            simp only at f3 ⊢
            obtain ⟨v4, r4, e4, f4, _⟩ := readNames_ok fill hdr1 r3
            rw [e4]
            match v4 with
            | .error e => exact ⟨_, _, rfl, f4.trans (f3.trans (f2.trans (f1.trans f0))), trivial⟩
            | .ok hdr4 => exact ⟨_, _, rfl, (readExtra_file hdr4 r4).trans (f4.trans (f3.trans (f2.trans (f1.trans f0)))), trivial⟩

theorem readHeaders_no_fault (fill : UInt8) (r : Rd) (f : Fault) : readHeaders fill r ≠ .error f := by
  obtain ⟨_, _, e, _⟩ := readHeaders_ok fill r
  rw [e]; nofun

theorem open_no_fault (fill : UInt8) (err : Err) (file : Option Bytes) (f : Fault) : open_ fill err file ≠ .error f := by
  unfold open_
  split
  · exact nofun
  · split
    · next g h => exact absurd h (readHeaders_no_fault fill _ g)
    · exact nofun
    · exact nofun

end MsPack.Kwaj
