/-!
# One weakest-precondition calculus for `ExceptT ε (StateM σ)`

Every decoder model is a program in this monad (`Zip.ZM`, `Lzx.LM`, `Qtm.QM`, `Kwaj.Lzh.LM`).
`wp m Q E s`: running `m` from `s`, a normal result `a` in state `t` satisfies `Q a t`, an exception
`e` in state `t` satisfies `E e t`.  The walks over the decoders are stated in it with an exception condition of
their own (`Zip.walkE` and its reading `Zip.okE`, `Lzx.postE`, `Qtm.Exc`, the LZH conditions, `fun _ _ => False` for total
correctness); the named triples (`Zip.Ok`, `Qtm.wp`, ...) have a bridge lemma where they are defined.
-/
namespace MsPack

abbrev EM (ε σ : Type) := ExceptT ε (StateM σ)

variable {ε σ α β : Type}

def wp (m : EM ε σ α) (Q : α → σ → Prop) (E : ε → σ → Prop) (s : σ) : Prop :=
  match m.run.run s with
  | (.ok a, t) => Q a t
  | (.error e, t) => E e t

theorem wp.run_bind (m : EM ε σ α) (f : α → EM ε σ β) (s : σ) :
    (m >>= f).run.run s = match m.run.run s with
      | (.ok a, t) => (f a).run.run t
      | (.error e, t) => (.error e, t) := by
  show (match (m.run.run s : Except ε α × σ) with
      | (a, t) => (ExceptT.bindCont f a t : Except ε β × σ)) = _
  cases (m.run.run s : Except ε α × σ) with
  | mk r t => cases r <;> rfl


theorem wp.run_tryCatch (m : EM ε σ α) (h : ε → EM ε σ α) (s : σ) :
    (tryCatch m h).run.run s = match m.run.run s with
      | (.ok a, t) => (.ok a, t)
      | (.error e, t) => (h e).run.run t := by
  show (match (m.run.run s : Except ε α × σ) with
      | (r, t) => ((match r with | .ok a => pure (.ok a) | .error e => h e : StateM σ (Except ε α)) t)) = _
  cases (m.run.run s : Except ε α × σ) with
  | mk r t => cases r <;> rfl

theorem wp.ok {m : EM ε σ α} {Q E s a t} (h : wp m Q E s) (hr : m.run.run s = (.ok a, t)) : Q a t := by
  unfold wp at h; rw [hr] at h; exact h
theorem wp.error {m : EM ε σ α} {Q E s e t} (h : wp m Q E s) (hr : m.run.run s = (.error e, t)) : E e t := by
  unfold wp at h; rw [hr] at h; exact h

theorem wp.of_run {m : EM ε σ α} {Q : α → σ → Prop} {E : ε → σ → Prop} {s}
    (hq : ∀ a t, m.run.run s = (.ok a, t) → Q a t) (he : ∀ e t, m.run.run s = (.error e, t) → E e t) :
    wp m Q E s := by
  unfold wp
  cases h : (m.run.run s : Except ε α × σ) with
  | mk r t => cases r with
    | ok a => exact hq a t h
    | error e => exact he e t h

theorem wp_bind (m : EM ε σ α) (f : α → EM ε σ β) (Q : β → σ → Prop) (E s) :
    wp (m >>= f) Q E s ↔ wp m (fun a t => wp (f a) Q E t) E s := by
  unfold wp
  rw [wp.run_bind]
  cases (m.run.run s : Except ε α × σ) with
  | mk r t => cases r <;> exact Iff.rfl

theorem wp_tryCatch (m : EM ε σ α) (h : ε → EM ε σ α) (Q : α → σ → Prop) (E s) :
    wp (tryCatch m h) Q E s ↔ wp m Q (fun e t => wp (h e) Q E t) s := by
  unfold wp
  rw [wp.run_tryCatch]
  cases (m.run.run s : Except ε α × σ) with
  | mk r t => cases r <;> exact Iff.rfl

theorem wp_pure (a : α) (Q : α → σ → Prop) (E s) : wp (pure a : EM ε σ α) Q E s ↔ Q a s := Iff.rfl
theorem wp_throw (e : ε) (Q : α → σ → Prop) (E s) : wp (throw e : EM ε σ α) Q E s ↔ E e s := Iff.rfl
theorem wp_get (Q : σ → σ → Prop) (E s) : wp (get : EM ε σ σ) Q E s ↔ Q s s := Iff.rfl
theorem wp_set (t : σ) (Q : PUnit → σ → Prop) (E s) : wp (set t : EM ε σ PUnit) Q E s ↔ Q ⟨⟩ t := Iff.rfl
theorem wp_modify (g : σ → σ) (Q : PUnit → σ → Prop) (E s) :
    wp (modify g : EM ε σ PUnit) Q E s ↔ Q ⟨⟩ (g s) := Iff.rfl
theorem wp_modifyGet (g : σ → α × σ) (Q : α → σ → Prop) (E s) :
    wp (modifyGet g : EM ε σ α) Q E s ↔ Q (g s).1 (g s).2 := Iff.rfl

theorem wp_ite (c : Prop) [Decidable c] (a b : EM ε σ α) (Q : α → σ → Prop) (E s) :
    wp (if c then a else b) Q E s ↔ (c → wp a Q E s) ∧ (¬c → wp b Q E s) := by
  split <;> simp [*]

theorem wp.mono {m : EM ε σ α} {Q Q' : α → σ → Prop} {E E' : ε → σ → Prop} {s}
    (h : wp m Q E s) (hq : ∀ a t, Q a t → Q' a t) (he : ∀ e t, E e t → E' e t) : wp m Q' E' s :=
  wp.of_run (fun a t hr => hq a t (h.ok hr)) (fun e t hr => he e t (h.error hr))

theorem wp.post {m : EM ε σ α} {Q Q' : α → σ → Prop} {E : ε → σ → Prop} {s}
    (h : wp m Q E s) (hq : ∀ a t, Q a t → Q' a t) : wp m Q' E s := h.mono hq (fun _ _ h => h)

theorem wp.total {m : EM ε σ α} {Q : α → σ → Prop} {s} (h : wp m Q (fun _ _ => False) s) :
    ∃ a t, m.run.run s = (.ok a, t) ∧ Q a t := by
  cases hm : (m.run.run s : Except ε α × σ) with
  | mk r t => cases r with
    | ok a => exact ⟨a, t, rfl, h.ok hm⟩
    | error e => exact (h.error hm).elim

/-- a bounds walk and a status walk of one function need not be one walk -/
theorem wp.and {m : EM ε σ α} {Q Q' : α → σ → Prop} {E E' : ε → σ → Prop} {s}
    (h : wp m Q E s) (h' : wp m Q' E' s) : wp m (fun a t => Q a t ∧ Q' a t) (fun e t => E e t ∧ E' e t) s :=
  wp.of_run (fun _ _ hr => ⟨h.ok hr, h'.ok hr⟩) (fun _ _ hr => ⟨h.error hr, h'.error hr⟩)

theorem wp_get_bind (f : σ → EM ε σ β) (Q : β → σ → Prop) (E s) :
    wp (get >>= f) Q E s ↔ wp (f s) Q E s := wp_bind ..
theorem wp_set_bind (t : σ) (f : PUnit → EM ε σ β) (Q : β → σ → Prop) (E s) :
    wp (set t >>= f) Q E s ↔ wp (f ⟨⟩) Q E t := wp_bind ..
theorem wp_modify_bind (g : σ → σ) (f : PUnit → EM ε σ β) (Q : β → σ → Prop) (E s) :
    wp (modify g >>= f) Q E s ↔ wp (f ⟨⟩) Q E (g s) := wp_bind ..
theorem wp_modifyGet_bind (g : σ → α × σ) (f : α → EM ε σ β) (Q : β → σ → Prop) (E s) :
    wp (modifyGet g >>= f) Q E s ↔ wp (f (g s).1) Q E (g s).2 := wp_bind ..
theorem wp_throw_bind (e : ε) (f : α → EM ε σ β) (Q : β → σ → Prop) (E s) :
    wp (throw e >>= f) Q E s ↔ E e s := wp_bind ..

theorem wp.bind_of {m : EM ε σ α} {f : α → EM ε σ β} {R : α → σ → Prop} {Q : β → σ → Prop} {E s}
    (hm : wp m R E s) (hf : ∀ a t, R a t → wp (f a) Q E t) : wp (m >>= f) Q E s :=
  (wp_bind m f Q E s).mpr (hm.post hf)

theorem wp.bind_any {m : EM ε σ α} {f : α → EM ε σ β} {Q : β → σ → Prop} {s : σ}
    (hf : ∀ a t, wp (f a) Q (fun _ _ => True) t) : wp (m >>= f) Q (fun _ _ => True) s :=
  (wp_bind ..).mpr (wp.of_run (fun a t _ => hf a t) (fun _ _ _ => trivial))

/- `wp` is a computable `match` on a run of the model; elaboration must not evaluate it (with 32768
   in the arguments `whnf` would count in unary) -/
attribute [irreducible] wp

macro "wp_step" : tactic =>
  `(tactic| try simp only [wp_get_bind, wp_set_bind, wp_modify_bind, wp_modifyGet_bind, wp_throw_bind, wp_pure, wp_throw,
      wp_get, wp_set, wp_modify, wp_modifyGet, bind_assoc, pure_bind])

def Triple (E : ε → σ → Prop) (P : σ → Prop) (x : EM ε σ α) (Q : σ → Prop) : Prop :=
  ∀ s, P s → wp x (fun _ => Q) E s

namespace Triple
variable {E : ε → σ → Prop} {P P' Q Q' R : σ → Prop}

theorem pure (a : α) (h : ∀ s, P s → Q s) : Triple E P (pure a : EM ε σ α) Q := fun s hp => (wp_pure ..).mpr (h s hp)
theorem bind {x : EM ε σ α} {f : α → EM ε σ β} (hx : Triple E P x Q) (hf : ∀ a, Triple E Q (f a) R) :
    Triple E P (x >>= f) R := fun s hp => (hx s hp).bind_of fun a t h => hf a t h
theorem weaken {x : EM ε σ α} (h : Triple E P x Q) (hP : ∀ s, P' s → P s) (hQ : ∀ s, Q s → Q' s) :
    Triple E P' x Q' := fun s hp => (h s (hP s hp)).post fun _ => hQ
theorem pre {x : EM ε σ α} (h : Triple E P x Q) (hP : ∀ s, P' s → P s) : Triple E P' x Q := h.weaken hP fun _ h => h
theorem exc {E' : ε → σ → Prop} {x : EM ε σ α} (h : Triple E P x Q) (he : ∀ e s, E e s → E' e s) : Triple E' P x Q :=
  fun s hp => (h s hp).mono (fun _ _ h => h) he
theorem get_bind {f : σ → EM ε σ β} (h : ∀ s, Triple E (fun t => P t ∧ t = s) (f s) Q) : Triple E P (get >>= f) Q :=
  fun s hp => (wp_get_bind ..).mpr (h s s ⟨hp, rfl⟩)
theorem ite {c : Prop} [Decidable c] {x y : EM ε σ α} (hx : c → Triple E P x Q) (hy : ¬c → Triple E P y Q) :
    Triple E P (if c then x else y) Q := by
  split
  · exact hx ‹_›
  · exact hy ‹_›
theorem dite {c : Prop} [Decidable c] {x : c → EM ε σ α} {y : ¬c → EM ε σ α} (hx : ∀ h, Triple E P (x h) Q)
    (hy : ∀ h, Triple E P (y h) Q) : Triple E P (if h : c then x h else y h) Q := by
  split
  · exact hx _
  · exact hy _
theorem modify (g : σ → σ) (h : ∀ s, P s → Q (g s)) : Triple E P (modify g : EM ε σ PUnit) Q :=
  fun s hp => (wp_modify ..).mpr (h s hp)
theorem set (t : σ) (h : ∀ s, P s → Q t) : Triple E P (set t : EM ε σ PUnit) Q := fun s hp => (wp_set ..).mpr (h s hp)
theorem throw (e : ε) (h : ∀ s, P s → E e s) : Triple E P (throw e : EM ε σ α) Q := fun s hp => (wp_throw ..).mpr (h s hp)
theorem assume {x : EM ε σ α} (φ : Prop) (h1 : ∀ s, P s → φ) (h2 : φ → Triple E P x Q) : Triple E P x Q :=
  fun s hp => h2 (h1 s hp) s hp
theorem false (x : EM ε σ α) : Triple E (fun _ => False) x Q := fun _ h => h.elim
end Triple

end MsPack
