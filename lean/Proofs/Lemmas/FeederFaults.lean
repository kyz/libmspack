import Proofs.Lemmas.BlockBounds
import Proofs.Lemmas.FeederTerm
/-!
# The CAB feeder as a decoder source: which faults it can raise, and what it announces to LZX

The only faults of `cabd_sys_read_block` / `cabd_sys_read` are the two `nullDeref` sites (`d->infh`, `d->data`), and `hang`
for `feederRead` when its fuel runs out; both are unreachable from a *live* feeder (`FeederLive`: handle open, part list
not empty).  `FeederLive` is preserved by every read that delivers bytes; a read that returns `none` (= -1) leaves
`readError ≠ ok` and may leave the handle closed (split block whose chain ends, next cabinet missing): safety after that
rests on the decoder's sticky error.  `totalOut` / `FeederLen L`: the one value the feeder can ever announce through
`lzxLength`.
-/
namespace MsPack.CabLift
open MsPack.Cab

def ndInfh : Fault := .nullDeref "cabd_sys_read_block: d->infh"
def ndData : Fault := .nullDeref "cabd_sys_read_block: d->data"

/-- `d->infh != NULL` and `d->data != NULL` -/
def FeederLive (fd : Feeder) : Prop := fd.rd.isSome = true ∧ fd.parts ≠ []

/-- `live` says whether the feeder was live on entry -/
def FRPost (live : Prop) : Except Fault (Option Bytes × Feeder) → Prop
  | .error f => f = .hang ∨ (¬ live ∧ (f = ndInfh ∨ f = ndData))
  | .ok (some _, fd') => live → FeederLive fd'
  | .ok (none, fd') => fd'.readError ≠ .ok

theorem FRPost.mono {p q : Prop} {r : Except Fault (Option Bytes × Feeder)} (h : FRPost q r) (hpq : p → q) :
    FRPost p r := by
  cases r with
  | error f =>
    rcases h with h | ⟨hn, h⟩
    · exact Or.inl h
    · exact Or.inr ⟨fun hp => hn (hpq hp), h⟩
  | ok v =>
    obtain ⟨o, fd'⟩ := v
    cases o with
    | none => exact h
    | some g => exact fun hp => h (hpq hp)

theorem feederRead_post (files : Files) : ∀ (fuel : Nat) (fd : Feeder) (todo : Nat) (got : Bytes),
    FRPost (FeederLive fd) (feederRead files fuel fd todo got) :=
  feederRead_induct files (hang := Or.inl rfl) (done := fun h => h) (serve := fun _ _ ih => ih) (pastEnd := fun _ _ _ h => h)
    (fault := fun _ _ _ hrb => Or.inr <| (Feeder.nextBlock_spec hrb).elim
      (fun h => ⟨fun l => (by have := l.1; rw [h.1] at this; cases this), .inl h.2⟩)
      (fun h => ⟨fun l => l.2 h.1, .inr h.2⟩))
    (refuse := fun _ _ _ hrb => Feeder.nextBlock_spec hrb)
    (take := fun _ _ _ hrb ih =>
      have hb := Feeder.nextBlock_spec hrb
      ih.mono fun _ => ⟨hb.1, hb.2.1⟩)

theorem feederRead_fault_kinds (files : Files) (fuel : Nat) (fd : Feeder) (todo : Nat) (got : Bytes) (f : Fault)
    (h : feederRead files fuel fd todo got = .error f) : f = .hang ∨ f = ndInfh ∨ f = ndData := by
  have := feederRead_post files fuel fd todo got
  rw [h] at this
  rcases this with h | ⟨_, h⟩
  · exact Or.inl h
  · exact Or.inr h

theorem _root_.MsPack.Cab.feederRead_no_oob (files : Files) (fuel : Nat) (fd : Feeder) (todo : Nat) (got : Bytes) (s : String) :
    feederRead files fuel fd todo got ≠ .error (.oob s) := fun h => by
  rcases feederRead_fault_kinds files fuel fd todo got _ h with h | h | h <;> cases h

theorem feederRead_no_fault (files : Files) (fuel : Nat) (fd : Feeder) (todo : Nat) (got : Bytes) (f : Fault)
    (hl : FeederLive fd) (h : feederRead files fuel fd todo got = .error f) : f = .hang := by
  have := feederRead_post files fuel fd todo got
  rw [h] at this
  rcases this with h | ⟨hn, _⟩
  · exact h
  · exact absurd hl hn

theorem feederRead_live (files : Files) (fuel : Nat) (fd : Feeder) (todo : Nat) (got g : Bytes) (fd' : Feeder)
    (hl : FeederLive fd) (h : feederRead files fuel fd todo got = .ok (some g, fd')) : FeederLive fd' := by
  have := feederRead_post files fuel fd todo got
  rw [h] at this
  exact this hl

theorem feederRead_none (files : Files) (fuel : Nat) (fd : Feeder) (todo : Nat) (got : Bytes) (fd' : Feeder)
    (h : feederRead files fuel fd todo got = .ok (none, fd')) : fd'.readError ≠ .ok := by
  have := feederRead_post files fuel fd todo got
  rw [h] at this
  exact this

theorem feederSrc_read_no_hang (files : Files) (fd : Feeder) (n : Nat) :
    (feederSrc files).read fd n ≠ .error .hang :=
  (feeder_finite files).no_hang fd n

theorem feederSrc_read_fault_kinds (files : Files) (fd : Feeder) (n : Nat) (f : Fault)
    (h : (feederSrc files).read fd n = .error f) : f = ndInfh ∨ f = ndData := by
  rcases feederRead_fault_kinds files _ fd n [] f h with h' | h'
  · subst h'; exact absurd h (feederSrc_read_no_hang files fd n)
  · exact h'

theorem feederSrc_read_no_fault (files : Files) (fd : Feeder) (n : Nat) (f : Fault) (hl : FeederLive fd) :
    (feederSrc files).read fd n ≠ .error f := by
  intro h
  have := feederRead_no_fault files _ fd n [] f hl h
  subst this
  exact feederSrc_read_no_hang files fd n h

theorem feederSrc_read_live (files : Files) (fd : Feeder) (n : Nat) (g : Bytes) (fd' : Feeder)
    (hl : FeederLive fd) (h : (feederSrc files).read fd n = .ok (some g, fd')) : FeederLive fd' :=
  feederRead_live files _ fd n [] g fd' hl h

theorem feederSrc_read_none (files : Files) (fd : Feeder) (n : Nat) (fd' : Feeder)
    (h : (feederSrc files).read fd n = .ok (none, fd')) : fd'.readError ≠ .ok :=
  feederRead_none files _ fd n [] fd' h

/-- `ignore_cksum` of `cabd_sys_read` -/
def icOf (fd : Feeder) : Bool := fd.salvage || (fd.fixMszip && compMask fd.compType == 1)

/-- `d->outlen` after `k` more blocks (read errors do not add to it) -/
def totalOut (files : Files) (ic ib : Bool) : Nat → Nat → Option Rd → List Part → Nat
  | 0, outlen, _, _ => outlen
  | k + 1, outlen, rd, parts =>
    match readBlock files ic ib (parts.length + 1) rd parts [] with
    | .fault _ => outlen
    | .err _ rd' parts' => totalOut files ic ib k outlen rd' parts'
    | .ok _ out rd' parts' => totalOut files ic ib k (outlen + out) rd' parts'

def FeederLen (files : Files) (L : Nat) (fd : Feeder) : Prop :=
  (fd.lzxLen = none ∨ fd.lzxLen = some L) ∧
  (fd.block < fd.numBlocks →
    totalOut files (icOf fd) fd.salvage (fd.numBlocks - fd.block) fd.outlen fd.rd fd.parts = L)

theorem feederLen_exists (files : Files) (fd : Feeder) (h : fd.lzxLen = none) :
    FeederLen files (totalOut files (icOf fd) fd.salvage (fd.numBlocks - fd.block) fd.outlen fd.rd fd.parts) fd :=
  ⟨Or.inl h, fun _ => rfl⟩

theorem FeederLen.unroll {files : Files} {L : Nat} {fd : Feeder} (hL : FeederLen files L fd)
    (hlt : fd.block < fd.numBlocks) :
    (match fd.nextBlock files with
      | .fault _ => fd.outlen
      | .err _ rd' parts' => totalOut files (icOf fd) fd.salvage (fd.numBlocks - (fd.block + 1)) fd.outlen rd' parts'
      | .ok _ out rd' parts' =>
        totalOut files (icOf fd) fd.salvage (fd.numBlocks - (fd.block + 1)) (fd.outlen + out) rd' parts') = L := by
  have ht := hL.2 hlt
  rw [show fd.numBlocks - fd.block = (fd.numBlocks - (fd.block + 1)) + 1 by omega, totalOut] at ht
  exact ht

theorem feederRead_len (files : Files) (L : Nat) : ∀ (fuel : Nat) (fd : Feeder) (todo : Nat) (got : Bytes)
    (r : Option Bytes) (fd' : Feeder), FeederLen files L fd →
    feederRead files fuel fd todo got = .ok (r, fd') → FeederLen files L fd' :=
  feederRead_induct files (hang := fun _ _ _ => nofun) (done := fun _ _ hL h => by cases h; exact hL)
    (serve := fun _ _ ih => ih)
    (pastEnd := fun {_ fd _ _} _ _ hge _ _ hL h => by
      cases h
      exact ⟨hL.1, fun hlt => by have : fd.block + 1 < fd.numBlocks := hlt; omega⟩)
    (fault := fun _ _ _ _ _ _ _ => nofun)
    (refuse := fun _ _ hlt hrb _ _ hL h => by
      cases h
      have ht := hL.unroll hlt
      rw [hrb] at ht
      exact ⟨hL.1, fun _ => ht⟩)
    (take := fun {_ fd _ _ _ out _ _ _} _ _ hlt hrb ih r fd' hL h => ih r fd' (by
      have ht := hL.unroll hlt
      rw [hrb] at ht
      dsimp only at ht
      refine ⟨?_, fun _ => ht⟩
      show (if _ then some (fd.outlen + out) else fd.lzxLen) = none ∨ (if _ then _ else _) = some L
      split
      next hc =>
        rw [show fd.numBlocks - (fd.block + 1) = 0 by omega, totalOut] at ht
        exact .inr (congrArg some ht)
      · exact hL.1) h)

/-- `LenStable` of `LzxBounds.lean`, restricted to the feeders satisfying `FeederLen L` -/
theorem feederSrc_len_stable (files : Files) (L : Nat) (fd : Feeder) (n : Nat) (r : Option Bytes) (fd' : Feeder)
    (hL : FeederLen files L fd) (h : (feederSrc files).read fd n = .ok (r, fd')) :
    FeederLen files L fd' ∧ ∀ m, (feederSrc files).lzxLength fd' = some m → m = L := by
  have h' := feederRead_len files L _ fd n [] r fd' hL h
  refine ⟨h', fun m hm => ?_⟩
  have hm' : fd'.lzxLen = some m := hm
  rcases h'.1 with h1 | h1
  · rw [h1] at hm'; contradiction
  · rw [h1] at hm'; exact (Option.some.inj hm').symm

end MsPack.CabLift
