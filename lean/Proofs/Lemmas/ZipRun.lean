import Proofs.Lemmas.ZipStickyStrict
import Proofs.Lemmas.LoopTermZip
import Proofs.Props.C02Zip
/-!
# `Zip.Run`: what a `decompress` call returns, without the fuel

`Run S st n o`: with *some* fuel, `decompress S · st n` returns `o`.  The fuel bounds the loops of the model and is no
part of `mszipd_decompress`; a result does not depend on it (`Run.det`, from `ZipChunk.decompress_fuel_mono`).  Read
for `Run`, the laws of `ZipChunk.lean` and `ZipStickyStrict.lean` have no side condition on a fuel, and calls made with
different fuels (`Cab.decompress` runs each with the `chainFuel` of the feeder at that moment) compose.  A fuel comes
back in at one place: `Run.at_fuel`, a `Run` fact is the result at every fuel that does not run out.
-/
namespace MsPack.Zip

/-- a state with a recorded error answers every call with it, writes nothing, does not change -/
theorem C08_mszip_sticky_call {σ : Type} (S : Src σ) (fuel : Nat) (Z : St σ) (he : Z.error ≠ .ok) (n : Nat) :
    decompress S fuel Z n = .ok ⟨Z.error, [], Z⟩ :=
  decompress_dead S fuel Z n he

variable {σ : Type} (S : Src σ)

def Run (st : St σ) (n : Nat) (o : Out σ) : Prop := ∃ fuel, decompress S fuel st n = .ok o

variable {S} {st st1 st2 : St σ} {n a b : Nat} {e e1 : Err} {o o1 o2 : Out σ} {w w1 : Bytes}

theorem Run.more (h : Run S st n o) (f : Nat) : ∃ k, decompress S (f + k) st n = .ok o := by
  obtain ⟨f0, e⟩ := h
  refine ⟨f0, ?_⟩
  rw [Nat.add_comm, ZipChunk.decompress_fuel_mono S f0 f st n (by rw [e]; exact fun hc => nomatch hc), e]

theorem Run.at_fuel (h : Run S st n o) (f : Nat) (hnh : decompress S f st n ≠ .error .hang) :
    decompress S f st n = .ok o := by
  obtain ⟨k, e⟩ := h.more f
  rw [← ZipChunk.decompress_fuel_mono S f k st n hnh, e]

theorem Run.det (h1 : Run S st n o1) (h2 : Run S st n o2) : o1 = o2 := by
  obtain ⟨f, e1⟩ := h1
  have e2 := h2.at_fuel f (by rw [e1]; exact fun hc => nomatch hc)
  rw [e1] at e2
  exact Except.ok.inj e2

theorem Run.inv (h : Run S st n o) (hst : ZipInv st) : ZipInv o.st :=
  let ⟨f, e⟩ := h; C02_zip_decompress_inv S f st n hst o e

theorem Run.length (h : Run S st n ⟨.ok, w, st1⟩) (hst : ZipInv st) : w.length = n :=
  let ⟨f, e⟩ := h; ZipChunk.ok_length S f f st n w st1 hst e

theorem Run.err_ok (h : Run S st n ⟨.ok, w, st1⟩) : st.error = .ok :=
  let ⟨f, e⟩ := h; ZipChunk.decompressN_err_ok S f f st n w st1 e

theorem Run.sticky (he : st.error ≠ .ok) (n : Nat) : Run S st n ⟨st.error, [], st⟩ :=
  ⟨0, C08_mszip_sticky_call S 0 st he n⟩

theorem Run.zero (he : st.error = .ok) : Run S st 0 ⟨.ok, [], st⟩ := ⟨0, ZipChunk.decompress_zero S 0 st he⟩

theorem Run.join (h1 : Run S st a ⟨.ok, w1, st1⟩) (hst : ZipInv st) (h2 : Run S st1 b o2) :
    Run S st (a + b) ⟨o2.err, w1 ++ o2.written, o2.st⟩ := by
  obtain ⟨f1, e1⟩ := h1
  obtain ⟨k, e2⟩ := h2.more f1
  have e1' : decompress S (f1 + k) st a = .ok ⟨.ok, w1, st1⟩ := by
    rw [ZipChunk.decompress_fuel_mono S f1 k st a (by rw [e1]; exact fun hc => nomatch hc), e1]
  exact ⟨_, ZipChunk.chunk_join S (f1 + k) st hst a b w1 st1 o2.err o2.written o2.st e1' e2⟩

theorem Run.split (h : Run S st (a + b) ⟨.ok, w, st2⟩) (hst : ZipInv st) :
    ∃ st1, Run S st a ⟨.ok, w.take a, st1⟩ ∧ Run S st1 b ⟨.ok, w.drop a, st2⟩ :=
  let ⟨f, e⟩ := h
  let ⟨st1, k1, _, k2, _⟩ := ZipChunk.chunk_split S f st hst a b w st2 e
  ⟨st1, ⟨f, k1⟩, ⟨f, k2⟩⟩

theorem Run.advance {N off k : Nat} {Z0 ZN Z : St σ} {D : Bytes} (hfresh : Run S Z0 N ⟨.ok, D, ZN⟩)
    (hst : ZipInv Z0) (hk : off + k ≤ N) (hreach : Run S Z0 off ⟨.ok, w, Z⟩) :
    ∃ Z1, Run S Z k ⟨.ok, (D.drop off).take k, Z1⟩ ∧ Run S Z0 (off + k) ⟨.ok, D.take (off + k), Z1⟩ := by
  rw [show N = (off + k) + (N - (off + k)) by omega] at hfresh
  obtain ⟨Z1, k1, _⟩ := hfresh.split hst
  obtain ⟨Z', j1, j2⟩ := k1.split hst
  have := j1.det hreach
  simp only [Out.mk.injEq, true_and] at this
  obtain ⟨_, rfl⟩ := this
  refine ⟨Z1, ?_, k1⟩
  rw [List.drop_take, show off + k - off = k by omega] at j2
  exact j2

theorem Run.failed (h : Run S st n ⟨e, w, st1⟩) (hst : ZipInv st) (hr : st.repair = false) (he0 : st.error = .ok)
    (hne : e ≠ .ok) :
    st1.error = e ∧ (∀ b, w.length < b → Run S st b ⟨e, w, st1⟩) ∧
    ∃ Zm, Run S st w.length ⟨.ok, w, Zm⟩ ∧ ∀ k, 0 < k → Run S Zm k ⟨e, [], st1⟩ :=
  let ⟨f, h⟩ := h
  let ⟨h1, _, h3, Zm, h4, h5⟩ := ZipStickyStrict.fail_shape S f f st hst hr he0 n e w st1 h hne
  ⟨h1, fun b hb => ⟨f, h3 b hb⟩, Zm, ⟨f, h4⟩, fun k hk => ⟨f, h5 k hk⟩⟩

/-- when a first call of any status, followed by a second call, is one call: the first was OK, or the mode is strict -/
def Joins (st : St σ) (e1 : Err) : Prop := e1 = .ok ∨ st.repair = false ∧ st.error = .ok

/-- the chunking law, first status arbitrary; a failed first call with nothing asked after it is itself the one call,
    hence the condition on `R` -/
theorem Run.tail (h1 : Run S st a ⟨e1, w1, st1⟩) (hst : ZipInv st) (hs : Joins st e1) (h2 : Run S st1 b o2) :
    ∃ R, Run S st R ⟨o2.err, w1 ++ o2.written, o2.st⟩ ∧ (e1 = .ok ∨ 0 < b → R = w1.length + b) := by
  by_cases he : e1 = .ok
  · subst he
    exact ⟨a + b, h1.join hst h2, fun _ => by rw [h1.length hst]⟩
  · obtain ⟨hE, hreq, _⟩ := h1.failed hst (hs.resolve_left he).1 (hs.resolve_left he).2 he
    cases h2.det (Run.sticky (by rw [hE]; exact he) b)
    rw [hE, List.append_nil]
    by_cases hb : 0 < b
    · exact ⟨w1.length + b, hreq _ (by omega), fun _ => rfl⟩
    · exact ⟨a, h1, fun h => absurd h (not_or.mpr ⟨he, hb⟩)⟩

theorem Run.reach (h1 : Run S st a ⟨e1, w1, st1⟩) (hst : ZipInv st) (hs : Joins st e1) :
    ∃ Zm, Run S st w1.length ⟨.ok, w1, Zm⟩ ∧ ∀ k o, 0 < k → Run S st1 k o → Run S Zm k o := by
  by_cases he : e1 = .ok
  · subst he
    rw [h1.length hst]
    exact ⟨st1, h1, fun _ _ _ h => h⟩
  · obtain ⟨hE, _, Zm, hm, hk⟩ := h1.failed hst (hs.resolve_left he).1 (hs.resolve_left he).2 he
    refine ⟨Zm, hm, fun k o hk0 h => ?_⟩
    cases h.det (Run.sticky (by rw [hE]; exact he) k)
    rw [hE]
    exact hk k hk0

theorem Run.bits {rem : σ → Nat} (hS : SrcOK S rem) (h : Run S st n ⟨.ok, w, st1⟩) :
    bitsLeft rem st1 ≤ bitsLeft rem st := by
  obtain ⟨k, e⟩ := h.more (bitsLeft rem st + 1)
  have := decompress_left hS _ st n (Nat.le_add_right _ k)
  rw [e] at this
  exact this rfl

end MsPack.Zip

namespace MsPack.Cab.ZipChunkCab

theorem decompress_mszip_ok (files : Files) (st : Zip.St Feeder) (fd : Feeder) (n : Nat) (o : Zip.Out Feeder)
    (h : Zip.decompress (feederSrc files) (chainFuel files fd) { st with src := fd } n = .ok o) :
    decompress files (.mszip st) fd n = .ok (some ⟨o.err, o.written, .mszip o.st, o.st.src⟩) := by
  rw [decompress_mszip, h]; rfl

theorem decompress_mszip_inv (files : Files) (st : Zip.St Feeder) (fd : Feeder) (n : Nat) (o : DecOut)
    (h : decompress files (.mszip st) fd n = .ok (some o)) :
    ∃ Z, Zip.decompress (feederSrc files) (chainFuel files fd) { st with src := fd } n = .ok ⟨o.err, o.written, Z⟩ ∧
      o.dec = .mszip Z ∧ o.feeder = Z.src := by
  obtain ⟨zo, hz, rfl⟩ := decompress_ok_iff.1 h
  exact ⟨zo.st, hz, rfl, rfl⟩

theorem decompress_mszip_hang {files : Files} {st : Zip.St Feeder} {fd : Feeder} {n : Nat} :
    decompress files (.mszip st) fd n = .error .hang ↔
      Zip.decompress (feederSrc files) (chainFuel files fd) { st with src := fd } n = .error .hang :=
  decompress_error_iff

end MsPack.Cab.ZipChunkCab
