import MsPack.Lzx.Decoder
import Proofs.Lemmas.LzxPieces
import Proofs.Lemmas.Wp
import Proofs.Lemmas.Bits
/-!
# LZX decoder: bounds lemmas for C02 (memory safety)

Frame relations between states (`SameB`/`SameL`/`SameR`/`Fix`: which fields a helper may change), the size
invariant `Inv0`, and one lemma per helper of `Lzx/Decoder.lean` up to `blockLoop`: if the invariant holds before,
no checked access fails and the invariant holds after.  The frame level is `LzxFrame.lean`.
-/
namespace MsPack.Lzx
open MsPack.Generated
variable {σ : Type}

theorem e8Loop_ok (dataend : Nat) (filesize : Int) : ∀ (fuel p : Nat) (curpos : Int) (buf : Array UInt8),
    dataend + 10 ≤ buf.size →
    (∃ b, e8Loop dataend filesize fuel p curpos buf = .ok b ∧ b.size = buf.size) ∨
      e8Loop dataend filesize fuel p curpos buf = .error .hang := by
  intro fuel p curpos buf hb
  rcases e8Loop_cases dataend filesize fuel p curpos buf rfl with h | ⟨h, _⟩ | ⟨_, h⟩
  · exact .inl h
  · exact .inr h
  · omega

theorem bitsVal_take_lt (bs : List Bool) (n : Nat) : bitsVal (bs.take n) < 2 ^ n := by
  have h1 := bitsVal_lt (bs.take n)
  have h2 : 2 ^ (bs.take n).length ≤ 2 ^ n := Nat.pow_le_pow_right (by omega) (by simp only [List.length_take]; omega)
  omega

def AllBd (syms : Array (Array Nat)) (n : Nat) : Prop := ∀ a ∈ syms, ∀ x ∈ a, x < n

def CanonBd (c : Huff.Canon) (n : Nat) : Prop := ∀ i j, (c.syms.getD i #[]).getD j 0 < n

theorem AllBd.getD {syms : Array (Array Nat)} {n : Nat} (h : AllBd syms n) (hn : 0 < n) (i j : Nat) :
    (syms.getD i #[]).getD j 0 < n := by
  unfold Array.getD
  split
  · rename_i hi
    split
    · rename_i hj
      exact h _ (Array.getElem_mem hi) _ (Array.getElem_mem hj)
    · exact hn
  · simp only [Array.size_empty, Nat.not_lt_zero, ↓reduceDIte]; exact hn

theorem symsOfLen_bd (lens : List Nat) (l : Nat) : ∀ x ∈ Huff.symsOfLen lens l, x < lens.length := by
  intro x hx
  unfold Huff.symsOfLen at hx
  simp only [List.mem_toArray, List.mem_filter, List.mem_range] at hx
  exact hx.1

theorem mkCanon_go_bd (lens : List Nat) : ∀ (fuel l code : Nat) (first : Array Nat) (syms : Array (Array Nat)),
    AllBd syms lens.length → AllBd (Huff.mkCanon.go lens l fuel code first syms).2 lens.length
  | 0, _, _, _, _, h => by rw [Huff.mkCanon.go]; exact h
  | fuel + 1, l, code, first, syms, h => by
    rw [Huff.mkCanon.go]
    apply mkCanon_go_bd lens fuel
    intro a ha
    rw [Array.mem_push] at ha
    rcases ha with ha | ha
    · exact h a ha
    · subst ha; exact symsOfLen_bd lens l

theorem mkCanon_bd (lens : List Nat) (m : Nat) (hn : 0 < lens.length) : CanonBd (Huff.mkCanon lens m) lens.length := by
  have h := mkCanon_go_bd lens m 1 0 #[] #[] (by intro a ha; simp at ha)
  have e : (Huff.mkCanon lens m).syms = (Huff.mkCanon.go lens 1 m 0 #[] #[]).2 := by
    unfold Huff.mkCanon; rfl
  intro i j
  rw [e]
  exact h.getD hn i j

theorem build_bd {nbits : Nat} {lens : List Nat} {c : Huff.Canon} (h : Huff.build nbits lens = some c)
    (hn : 0 < lens.length) : CanonBd c lens.length := by
  unfold Huff.build at h
  split at h
  · simp only [Option.some.injEq] at h; subst h; exact mkCanon_bd lens _ hn
  · simp only [Option.some.injEq] at h; subst h; exact mkCanon_bd lens _ hn
  · contradiction

theorem decode_go_bd (c : Huff.Canon) (n : Nat) (hc : CanonBd c n) : ∀ (fuel l code : Nat) (bits : List Bool)
    (sym len : Nat), Huff.decode.go c l fuel code bits = some (sym, len) → sym < n
  | 0, _, _, _, _, _, h => by rw [Huff.decode.go] at h; contradiction
  | fuel + 1, _, _, [], _, _, h => by rw [Huff.decode.go] at h; contradiction; omega
  | fuel + 1, l, code, b :: rest, sym, len, h => by
    rw [Huff.decode.go] at h
    by_cases hcnd : c.first.getD (l - 1) 0 ≤ code * 2 + (if b then 1 else 0) ∧
        code * 2 + (if b then 1 else 0) - c.first.getD (l - 1) 0 < (c.syms.getD (l - 1) #[]).size
    · rw [if_pos hcnd] at h
      simp only [Option.some.injEq, Prod.mk.injEq] at h
      rw [← h.1]; exact hc _ _
    · rw [if_neg hcnd] at h
      exact decode_go_bd c n hc fuel _ _ rest sym len h

theorem decode_bd {c : Huff.Canon} {n : Nat} (hc : CanonBd c n) {bits : List Bool} {sym len : Nat}
    (h : Huff.decode c bits = some (sym, len)) : sym < n := by
  unfold Huff.decode at h
  exact decode_go_bd c n hc _ _ _ _ _ _ h

theorem lensOf_length (a : Array UInt8) (n : Nat) (h : n ≤ a.size) : (lensOf a n).length = n := by
  unfold lensOf
  simp only [List.length_map, Array.length_toList, Array.size_extract]
  omega

/-- the fault outcomes that are not excluded: loop fuel exhausted, a decode table used before it
    was built, or a fault the *source* reported from its own `read` -/
def Benign (S : Src σ) (f : Fault) : Prop :=
  f = .hang ∨ (∃ s, f = .uninit s) ∨ (∃ x n, S.read x n = .error f)

def postE (S : Src σ) (E : St σ → Prop) : Halt → St σ → Prop
  | .sys _, st => E st
  | .fault f, _ => Benign S f

/-- after a status return the sticky error field is set -/
def Er (st : St σ) : Prop := st.error ≠ .ok

section
variable (S : Src σ) {α : Type}

theorem wp_throw_sys (e : Err) (Q : α → St σ → Prop) (E st) :
    wp (throw (.sys e) : LM σ α) Q (postE S E) st ↔ E st := wp_throw ..
theorem wp_throw_fault (f : Fault) (Q : α → St σ → Prop) (E st) :
    wp (throw (.fault f) : LM σ α) Q (postE S E) st ↔ Benign S f := wp_throw ..

theorem wp_fail (e : Err) (he : e ≠ .ok) (Q : α → St σ → Prop) (st) : wp (fail e : LM σ α) Q (postE S Er) st := by
  unfold fail
  simp only [wp_bind, wp_modify, wp_throw_sys]
  exact he

theorem benign_hang : Benign S .hang := Or.inl rfl
theorem benign_uninit (s : String) : Benign S (.uninit s) := Or.inr (Or.inl ⟨s, rfl⟩)
end

/-- the bit reader: `b` is `a` up to `src`, `inbuf`, `bits`, `inputEnd`, `error`; here and in the three relations
    below `length` may become the announced `L₀` -/
structure SameB (L₀ : Nat) (a b : St σ) : Prop where
  length : b.length = a.length ∨ b.length = L₀
  offset : b.offset = a.offset
  window : b.window = a.window
  windowSize : b.windowSize = a.windowSize
  refDataSize : b.refDataSize = a.refDataSize
  numOffsets : b.numOffsets = a.numOffsets
  windowPosn : b.windowPosn = a.windowPosn
  framePosn : b.framePosn = a.framePosn
  frame : b.frame = a.frame
  resetInterval : b.resetInterval = a.resetInterval
  r0 : b.r0 = a.r0
  r1 : b.r1 = a.r1
  r2 : b.r2 = a.r2
  blockLength : b.blockLength = a.blockLength
  blockRemaining : b.blockRemaining = a.blockRemaining
  intelFilesize : b.intelFilesize = a.intelFilesize
  intelStarted : b.intelStarted = a.intelStarted
  blockType : b.blockType = a.blockType
  headerRead : b.headerRead = a.headerRead
  isDelta : b.isDelta = a.isDelta
  inbufSize : b.inbufSize = a.inbufSize
  oInE8 : b.oInE8 = a.oInE8
  oPtr : b.oPtr = a.oPtr
  oEnd : b.oEnd = a.oEnd
  pretreeLen : b.pretreeLen = a.pretreeLen
  maintreeLen : b.maintreeLen = a.maintreeLen
  lengthLen : b.lengthLen = a.lengthLen
  alignedLen : b.alignedLen = a.alignedLen
  maintreeTbl : b.maintreeTbl = a.maintreeTbl
  lengthTbl : b.lengthTbl = a.lengthTbl
  alignedTbl : b.alignedTbl = a.alignedTbl
  lengthEmpty : b.lengthEmpty = a.lengthEmpty
  e8Buf : b.e8Buf = a.e8Buf

/-- … and up to the contents (not the sizes) of the four length arrays -/
structure SameL (L₀ : Nat) (a b : St σ) : Prop where
  length : b.length = a.length ∨ b.length = L₀
  offset : b.offset = a.offset
  window : b.window = a.window
  windowSize : b.windowSize = a.windowSize
  refDataSize : b.refDataSize = a.refDataSize
  numOffsets : b.numOffsets = a.numOffsets
  windowPosn : b.windowPosn = a.windowPosn
  framePosn : b.framePosn = a.framePosn
  frame : b.frame = a.frame
  resetInterval : b.resetInterval = a.resetInterval
  r0 : b.r0 = a.r0
  r1 : b.r1 = a.r1
  r2 : b.r2 = a.r2
  blockLength : b.blockLength = a.blockLength
  blockRemaining : b.blockRemaining = a.blockRemaining
  intelFilesize : b.intelFilesize = a.intelFilesize
  intelStarted : b.intelStarted = a.intelStarted
  blockType : b.blockType = a.blockType
  headerRead : b.headerRead = a.headerRead
  isDelta : b.isDelta = a.isDelta
  inbufSize : b.inbufSize = a.inbufSize
  oInE8 : b.oInE8 = a.oInE8
  oPtr : b.oPtr = a.oPtr
  oEnd : b.oEnd = a.oEnd
  maintreeTbl : b.maintreeTbl = a.maintreeTbl
  lengthTbl : b.lengthTbl = a.lengthTbl
  alignedTbl : b.alignedTbl = a.alignedTbl
  lengthEmpty : b.lengthEmpty = a.lengthEmpty
  e8Buf : b.e8Buf = a.e8Buf
  pretreeLenSz : b.pretreeLen.size = a.pretreeLen.size
  maintreeLenSz : b.maintreeLen.size = a.maintreeLen.size
  lengthLenSz : b.lengthLen.size = a.lengthLen.size
  alignedLenSz : b.alignedLen.size = a.alignedLen.size

/-- a run: up to the bit reader's fields, the contents of the window, `windowPosn` and `R0..R2` -/
structure SameR (L₀ : Nat) (a b : St σ) : Prop where
  length : b.length = a.length ∨ b.length = L₀
  offset : b.offset = a.offset
  windowSize : b.windowSize = a.windowSize
  refDataSize : b.refDataSize = a.refDataSize
  numOffsets : b.numOffsets = a.numOffsets
  framePosn : b.framePosn = a.framePosn
  frame : b.frame = a.frame
  resetInterval : b.resetInterval = a.resetInterval
  blockLength : b.blockLength = a.blockLength
  blockRemaining : b.blockRemaining = a.blockRemaining
  intelFilesize : b.intelFilesize = a.intelFilesize
  intelStarted : b.intelStarted = a.intelStarted
  blockType : b.blockType = a.blockType
  headerRead : b.headerRead = a.headerRead
  isDelta : b.isDelta = a.isDelta
  inbufSize : b.inbufSize = a.inbufSize
  oInE8 : b.oInE8 = a.oInE8
  oPtr : b.oPtr = a.oPtr
  oEnd : b.oEnd = a.oEnd
  pretreeLen : b.pretreeLen = a.pretreeLen
  maintreeLen : b.maintreeLen = a.maintreeLen
  lengthLen : b.lengthLen = a.lengthLen
  alignedLen : b.alignedLen = a.alignedLen
  maintreeTbl : b.maintreeTbl = a.maintreeTbl
  lengthTbl : b.lengthTbl = a.lengthTbl
  alignedTbl : b.alignedTbl = a.alignedTbl
  lengthEmpty : b.lengthEmpty = a.lengthEmpty
  e8Buf : b.e8Buf = a.e8Buf
  windowSz : b.window.size = a.window.size

/-- a block: what is fixed across everything `blockLoop` does - `offset`, the sizes, `framePosn`, `frame`,
    `o_ptr`/`o_end`, `e8Buf`, the parameters set by `lzxd_init`; free are the block state, the tables, `R0..R2`,
    `windowPosn` and the contents of window and length arrays -/
structure Fix (L₀ : Nat) (a b : St σ) : Prop where
  length : b.length = a.length ∨ b.length = L₀
  offset : b.offset = a.offset
  windowSize : b.windowSize = a.windowSize
  refDataSize : b.refDataSize = a.refDataSize
  numOffsets : b.numOffsets = a.numOffsets
  framePosn : b.framePosn = a.framePosn
  frame : b.frame = a.frame
  resetInterval : b.resetInterval = a.resetInterval
  isDelta : b.isDelta = a.isDelta
  inbufSize : b.inbufSize = a.inbufSize
  oInE8 : b.oInE8 = a.oInE8
  oPtr : b.oPtr = a.oPtr
  oEnd : b.oEnd = a.oEnd
  e8Buf : b.e8Buf = a.e8Buf
  windowSz : b.window.size = a.window.size
  pretreeLenSz : b.pretreeLen.size = a.pretreeLen.size
  maintreeLenSz : b.maintreeLen.size = a.maintreeLen.size
  lengthLenSz : b.lengthLen.size = a.lengthLen.size
  alignedLenSz : b.alignedLen.size = a.alignedLen.size

theorem len_trans {L₀ a b c : Nat} (h : b = a ∨ b = L₀) (h' : c = b ∨ c = L₀) : c = a ∨ c = L₀ :=
  h'.elim (fun e => e ▸ h) Or.inr

theorem SameB.rfl' (L₀ : Nat) (a : St σ) : SameB L₀ a a := by
  constructor <;> first | rfl | exact Or.inl rfl

theorem SameB.trans {L₀ : Nat} {a b c : St σ} (h : SameB L₀ a b) (h' : SameB L₀ b c) : SameB L₀ a c := by
  have hl := len_trans h.length h'.length
  cases h; cases h'
  constructor <;> first | exact Eq.trans (by assumption) (by assumption) | exact hl

theorem SameL.rfl' (L₀ : Nat) (a : St σ) : SameL L₀ a a := by
  constructor <;> first | rfl | exact Or.inl rfl

theorem SameL.trans {L₀ : Nat} {a b c : St σ} (h : SameL L₀ a b) (h' : SameL L₀ b c) : SameL L₀ a c := by
  have hl := len_trans h.length h'.length
  cases h; cases h'
  constructor <;> first | exact Eq.trans (by assumption) (by assumption) | exact hl

theorem SameR.rfl' (L₀ : Nat) (a : St σ) : SameR L₀ a a := by
  constructor <;> first | rfl | exact Or.inl rfl

theorem SameR.trans {L₀ : Nat} {a b c : St σ} (h : SameR L₀ a b) (h' : SameR L₀ b c) : SameR L₀ a c := by
  have hl := len_trans h.length h'.length
  cases h; cases h'
  constructor <;> first | exact Eq.trans (by assumption) (by assumption) | exact hl

theorem Fix.rfl' (L₀ : Nat) (a : St σ) : Fix L₀ a a := by
  constructor <;> first | rfl | exact Or.inl rfl

theorem Fix.trans {L₀ : Nat} {a b c : St σ} (h : Fix L₀ a b) (h' : Fix L₀ b c) : Fix L₀ a c := by
  have hl := len_trans h.length h'.length
  cases h; cases h'
  constructor <;> first | exact Eq.trans (by assumption) (by assumption) | exact hl

theorem SameB.toSameL {L₀ : Nat} {a b : St σ} (h : SameB L₀ a b) : SameL L₀ a b := by
  cases h; constructor <;> first | assumption | simp only [*]

theorem SameB.toSameR {L₀ : Nat} {a b : St σ} (h : SameB L₀ a b) : SameR L₀ a b := by
  cases h; constructor <;> first | assumption | simp only [*]

theorem SameL.toFix {L₀ : Nat} {a b : St σ} (h : SameL L₀ a b) : Fix L₀ a b := by
  cases h; constructor <;> first | assumption | simp only [*]

theorem SameR.toFix {L₀ : Nat} {a b : St σ} (h : SameR L₀ a b) : Fix L₀ a b := by
  cases h; constructor <;> first | assumption | simp only [*]

theorem SameB.toFix {L₀ : Nat} {a b : St σ} (h : SameB L₀ a b) : Fix L₀ a b := by
  cases h; constructor <;> first | assumption | simp only [*]

/-- the sizes of `lzxd_init`: 84, 2640, 314, 72 are `lzxPretreeLenDim`, `lzxMaintreeLenDim`, `lzxLengthLenDim`,
    `lzxAlignedLenDim` (the symbol counts + the 64 spare entries of `LZX_LENTABLE_SAFETY`), 32768 is `lzxE8BufDim`,
    2^25 the largest window (LZX DELTA), 2320 = 290 position slots × 8.  Only main-tree symbols index arrays
    (`position_base`, `extra_bits`, through the slot), so only `maintreeTbl` needs a bound (2576 =
    `lzxMAINTREE_MAXSYMBOLS`); length and aligned symbols are added to lengths and offsets. -/
structure Inv0 (st : St σ) : Prop where
  win : st.window.size = st.windowSize
  wsLe : st.windowSize ≤ 33554432
  wsDvd : st.windowSize % 32768 = 0
  wsPos : 0 < st.windowSize
  pre : st.pretreeLen.size = 84
  main : st.maintreeLen.size = 2640
  len : st.lengthLen.size = 314
  ali : st.alignedLen.size = 72
  e8 : st.e8Buf.size = 32768
  nOff : st.numOffsets ≤ 2320
  ref : st.refDataSize ≤ st.windowSize
  tbl : ∀ c, st.maintreeTbl = some c → CanonBd c 2576

theorem Inv0.of_fix {L₀ : Nat} {a b : St σ} (h : Inv0 a) (f : Fix L₀ a b) (ht : ∀ c, b.maintreeTbl = some c → CanonBd c 2576) :
    Inv0 b :=
  { win := by rw [f.windowSz, f.windowSize]; exact h.win
    wsLe := by rw [f.windowSize]; exact h.wsLe
    wsDvd := by rw [f.windowSize]; exact h.wsDvd
    wsPos := by rw [f.windowSize]; exact h.wsPos
    pre := by rw [f.pretreeLenSz]; exact h.pre
    main := by rw [f.maintreeLenSz]; exact h.main
    len := by rw [f.lengthLenSz]; exact h.len
    ali := by rw [f.alignedLenSz]; exact h.ali
    e8 := by rw [f.e8Buf]; exact h.e8
    nOff := by rw [f.numOffsets]; exact h.nOff
    ref := by rw [f.refDataSize, f.windowSize]; exact h.ref
    tbl := ht }

theorem Inv0.of_sameB {L₀ : Nat} {a b : St σ} (h : Inv0 a) (f : SameB L₀ a b) : Inv0 b := h.of_fix f.toFix (by rw [f.maintreeTbl]; exact h.tbl)
theorem Inv0.of_sameL {L₀ : Nat} {a b : St σ} (h : Inv0 a) (f : SameL L₀ a b) : Inv0 b := h.of_fix f.toFix (by rw [f.maintreeTbl]; exact h.tbl)
theorem Inv0.of_sameR {L₀ : Nat} {a b : St σ} (h : Inv0 a) (f : SameR L₀ a b) : Inv0 b := h.of_fix f.toFix (by rw [f.maintreeTbl]; exact h.tbl)

/-- closes `SameX L₀ st { st with … }` goals -/
macro "same_tac" : tactic => `(tactic| (constructor <;> first | rfl | exact Or.inl rfl | (simp only [Array.size_set]; done)))

/-- announcements of the output length made by the source from inside `read` never change value -/
def LenStable (S : Src σ) (L₀ : Nat) : Prop :=
  ∀ x n got x' m, S.read x n = .ok (got, x') → S.lzxLength x' = some m → m = 0 ∨ m = L₀

section
variable (S : Src σ) (L₀ : Nat)
  (hL : LenStable S L₀)
include hL

theorem readInput_spec (st : St σ) :
    wp (readInput S) (fun _ st' => SameB L₀ st st' ∧ st'.inbuf ≠ []) (postE S Er) st := by
  unfold readInput
  simp only [wp_bind, wp_get]
  split
  · rename_i f hf
    simp only [wp_throw_fault]
    exact Or.inr (Or.inr ⟨_, _, hf⟩)
  · rename_i got src hr
    have hlen : (match S.lzxLength src with
        | some n => if n > 0 then n else st.length
        | none => st.length) = st.length ∨ (match S.lzxLength src with
        | some n => if n > 0 then n else st.length
        | none => st.length) = L₀ := by
      split
      · rename_i n hn
        have := hL _ _ _ _ _ hr hn
        split
        · right; omega
        · left; rfl
      · left; rfl
    split
    · simp only [wp_bind, wp_set, wp_throw_sys]
      simp [Er]
    · split
      · simp only [wp_bind, wp_set, wp_throw_sys]
        simp [Er]
      · simp only [wp_set]
        refine ⟨?_, by simp⟩
        constructor <;> first | rfl | exact hlen
    · rename_i got' hne1 hne2
      simp only [wp_set]
      refine ⟨?_, ?_⟩
      · constructor <;> first | rfl | exact hlen
      · intro h
        exact hne2 h

theorem nextByte_spec (st : St σ) : wp (nextByte S) (fun _ st' => SameB L₀ st st') (postE S Er) st := by
  unfold nextByte
  simp only [wp_bind, wp_get, wp_ite]
  refine ⟨fun _ => ?_, fun hne => ?_⟩
  · apply wp.post (readInput_spec S L₀ hL st)
    intro _ st1 ⟨h1, h2⟩
    split
    · simp only [wp_bind, wp_set, wp_pure]
      exact h1.trans (by same_tac)
    · contradiction
  · split
    · simp only [wp_bind, wp_set, wp_pure]
      same_tac
    · rename_i h; rw [h] at hne; simp at hne

theorem ensureBits_spec (n : Nat) : ∀ (fuel : Nat) (st : St σ),
    wp (ensureBits S n fuel) (fun _ st' => SameB L₀ st st' ∧ n ≤ st'.bits.length) (postE S Er) st
  | 0, st => by
    rw [ensureBits]
    simp only [wp_bind, wp_get, wp_ite, wp_pure, wp_throw_fault]
    exact ⟨fun _ => benign_hang S, fun h => ⟨SameB.rfl' _ _, by omega⟩⟩
  | fuel + 1, st => by
    rw [ensureBits]
    simp only [wp_bind, wp_get, wp_ite, wp_pure]
    refine ⟨fun _ => ?_, fun h => ⟨SameB.rfl' _ _, by omega⟩⟩
    apply wp.post (nextByte_spec S L₀ hL st)
    intro b0 st1 h1
    apply wp.post (nextByte_spec S L₀ hL st1)
    intro b1 st2 h2
    simp only [wp_modify]
    apply wp.post (ensureBits_spec n fuel _)
    intro _ st3 ⟨h3, hn⟩
    exact ⟨(h1.trans h2).trans (SameB.trans (by same_tac) h3), hn⟩

theorem readBits_spec (n : Nat) (st : St σ) :
    wp (readBits S n) (fun v st' => SameB L₀ st st' ∧ v < 2 ^ n) (postE S Er) st := by
  unfold readBits peekBits removeBits
  simp only [wp_bind, wp_get, wp_pure, wp_modify]
  apply wp.post (ensureBits_spec S L₀ hL n 3 st)
  intro _ st1 ⟨h1, _⟩
  exact ⟨h1.trans (by same_tac), bitsVal_take_lt _ _⟩

theorem readHuffSym_spec (tbl : Option Huff.Canon) (name : String) (st : St σ) :
    wp (readHuffSym S tbl name) (fun sym st' => SameB L₀ st st' ∧ ∃ c, tbl = some c ∧ ∀ n, CanonBd c n → sym < n)
      (postE S Er) st := by
  unfold readHuffSym removeBits
  simp only [wp_bind]
  apply wp.post (ensureBits_spec S L₀ hL 16 3 st)
  intro _ st1 ⟨h1, _⟩
  split
  · simp only [wp_throw_fault]; exact benign_uninit S _
  · rename_i c
    simp only [wp_bind, wp_get]
    split
    · rename_i sym len hd
      simp only [wp_bind, wp_modify, wp_pure]
      exact ⟨h1.trans (by same_tac), c, rfl, fun n hb => decode_bd hb hd⟩
    · exact wp_fail S _ (by decide) _ _

theorem readRaw_spec : ∀ (k : Nat) (acc : Bytes) (st : St σ),
    wp (readRaw S k acc) (fun r st' => SameB L₀ st st' ∧ r.length = acc.length + k) (postE S Er) st
  | 0, acc, st => by
    rw [readRaw]; simp only [wp_pure]; exact ⟨SameB.rfl' _ _, rfl⟩
  | k + 1, acc, st => by
    rw [readRaw]
    simp only [wp_bind]
    apply wp.post (nextByte_spec S L₀ hL st)
    intro b st1 h1
    apply wp.post (readRaw_spec k _ st1)
    intro r st2 ⟨h2, hl⟩
    refine ⟨h1.trans h2, ?_⟩
    rw [hl]; simp only [List.length_append, List.length_cons, List.length_nil]; omega

theorem readExtraLen_spec (st : St σ) : wp (readExtraLen S) (fun _ st' => SameB L₀ st st') (postE S Er) st := by
  unfold readExtraLen peekBits removeBits
  simp only [wp_bind, wp_get, wp_pure, wp_modify, wp_ite]
  apply wp.post (ensureBits_spec S L₀ hL 3 3 st)
  intro _ st1 ⟨h1, _⟩
  refine ⟨fun _ => ?_, fun _ => ⟨fun _ => ?_, fun _ => ⟨fun _ => ?_, fun _ => ?_⟩⟩⟩
  all_goals
    apply wp.post (readBits_spec S L₀ hL _ _)
    intro v st2 ⟨h2, _⟩
    exact h1.trans (SameB.trans (by same_tac) h2)
end

def lenSize (t : Tree) (st : St σ) : Nat :=
  match t with
  | .main => st.maintreeLen.size
  | .length => st.lengthLen.size

theorem SameL.lenSize {L₀ : Nat} {a b : St σ} (h : SameL L₀ a b) (t : Tree) : lenSize t b = lenSize t a := by
  cases t
  · exact h.maintreeLenSz
  · exact h.lengthLenSz

theorem SameB.lenSize {L₀ : Nat} {a b : St σ} (h : SameB L₀ a b) (t : Tree) : lenSize t b = lenSize t a :=
  h.toSameL.lenSize t

section
variable (S : Src σ) (L₀ : Nat)

theorem getLen_spec (t : Tree) (x : Nat) (st : St σ) (h : x < lenSize t st) :
    wp (getLen t x) (fun _ st' => st' = st) (postE S Er) st := by
  unfold getLen
  simp only [wp_bind, wp_get]
  cases t
  · simp only [lenSize] at h
    simp only [Array.getElem?_eq_getElem h, wp_pure]
  · simp only [lenSize] at h
    simp only [Array.getElem?_eq_getElem h, wp_pure]

theorem setLen_spec (t : Tree) (x : Nat) (v : UInt8) (st : St σ) (h : x < lenSize t st) :
    wp (setLen t x v) (fun _ st' => SameL L₀ st st') (postE S Er) st := by
  unfold setLen
  simp only [wp_bind, wp_get]
  cases t
  · simp only [lenSize] at h
    simp only [dif_pos h, wp_set]
    same_tac
  · simp only [lenSize] at h
    simp only [dif_pos h, wp_set]
    same_tac

theorem fillLens_spec (t : Tree) (v : UInt8) : ∀ (y x : Nat) (st : St σ), x + y ≤ lenSize t st →
    wp (fillLens t v y x) (fun _ st' => SameL L₀ st st') (postE S Er) st
  | 0, x, st, _ => by rw [fillLens]; simp only [wp_pure]; exact SameL.rfl' _ _
  | y + 1, x, st, h => by
    rw [fillLens]
    simp only [wp_bind]
    apply wp.post (setLen_spec S L₀ t x v st (by omega))
    intro _ st1 h1
    apply wp.post (fillLens_spec t v y (x + 1) st1 (by rw [h1.lenSize]; omega))
    intro _ st2 h2
    exact h1.trans h2

variable (hL : LenStable S L₀)
include hL

theorem readLensLoop_spec (t : Tree) (pre : Huff.Canon) (last : Nat) : ∀ (fuel x : Nat) (st : St σ),
    last + 50 ≤ lenSize t st →
    wp (readLensLoop S t pre last fuel x) (fun _ st' => SameL L₀ st st') (postE S Er) st
  | 0, x, st, _ => by rw [readLensLoop]; simp only [wp_throw_fault]; exact benign_hang S
  | fuel + 1, x, st, hsz => by
    rw [readLensLoop]
    simp only [wp_bind, wp_ite, wp_pure]
    refine ⟨fun hx => ?_, fun _ => SameL.rfl' _ _⟩
    apply wp.post (readHuffSym_spec S L₀ hL _ _ st)
    intro z st1 ⟨h1, _⟩
    have hs1 : lenSize t st1 = lenSize t st := h1.lenSize t
    have fill : ∀ (v : UInt8) (y : Nat) (st2 : St σ), SameL L₀ st st2 → y ≤ 51 →
        wp (fillLens t v y x) (fun _ st' => wp (readLensLoop S t pre last fuel (x + y))
          (fun _ st' => SameL L₀ st st') (postE S Er) st') (postE S Er) st2 := by
      intro v y st2 h2 hy
      have hs2 := h2.lenSize t
      apply wp.post (fillLens_spec S L₀ t v y x st2 (by omega))
      intro _ st3 h3
      apply wp.post (readLensLoop_spec t pre last fuel _ st3 (by rw [h3.lenSize, hs2]; omega))
      intro _ st4 h4
      exact (h2.trans h3).trans h4
    refine ⟨fun _ => ?_, fun _ => ⟨fun _ => ?_, fun _ => ⟨fun _ => ?_, fun _ => ?_⟩⟩⟩
    · apply wp.post (readBits_spec S L₀ hL 4 st1)
      intro v st2 ⟨h2, hv⟩
      exact fill _ _ st2 (h1.trans h2).toSameL (by omega)
    · apply wp.post (readBits_spec S L₀ hL 5 st1)
      intro v st2 ⟨h2, hv⟩
      exact fill _ _ st2 (h1.trans h2).toSameL (by omega)
    · apply wp.post (readBits_spec S L₀ hL 1 st1)
      intro v st2 ⟨h2, hv⟩
      apply wp.post (readHuffSym_spec S L₀ hL _ _ st2)
      intro z' st2' ⟨h2', _⟩
      have hs2' : lenSize t st2' = lenSize t st := by rw [h2'.lenSize, h2.lenSize, hs1]
      apply wp.post (getLen_spec S t x st2' (by omega))
      intro old st2'' he
      subst he
      exact fill _ _ _ ((h1.trans h2).trans h2').toSameL (by omega)
    · apply wp.post (getLen_spec S t x st1 (by omega))
      intro old st1' he
      subst he
      apply wp.post (setLen_spec S L₀ t x _ st1' (by omega))
      intro _ st3 h3
      have hs3 : lenSize t st3 = lenSize t st := by rw [h3.lenSize, hs1]
      apply wp.post (readLensLoop_spec t pre last fuel _ st3 (by omega))
      intro _ st4 h4
      exact (h1.toSameL.trans h3).trans h4

theorem readPretreeLens_spec : ∀ (k x : Nat) (st : St σ), x + k ≤ st.pretreeLen.size →
    wp (readPretreeLens S k x) (fun _ st' => SameL L₀ st st') (postE S Er) st
  | 0, x, st, _ => by rw [readPretreeLens]; simp only [wp_pure]; exact SameL.rfl' _ _
  | k + 1, x, st, h => by
    rw [readPretreeLens]
    simp only [wp_bind, wp_get]
    apply wp.post (readBits_spec S L₀ hL 4 st)
    intro y st1 ⟨h1, _⟩
    have hx : x < st1.pretreeLen.size := by rw [h1.pretreeLen]; omega
    simp only [dif_pos hx, wp_bind, wp_set]
    apply wp.post (readPretreeLens_spec k (x + 1) _ (by simp only [Array.size_set]; rw [h1.pretreeLen]; omega))
    intro _ st2 h2
    exact h1.toSameL.trans (SameL.trans (by same_tac) h2)

theorem readAlignedLens_spec : ∀ (k x : Nat) (st : St σ), x + k ≤ st.alignedLen.size →
    wp (readAlignedLens S k x) (fun _ st' => SameL L₀ st st') (postE S Er) st
  | 0, x, st, _ => by rw [readAlignedLens]; simp only [wp_pure]; exact SameL.rfl' _ _
  | k + 1, x, st, h => by
    rw [readAlignedLens]
    simp only [wp_bind, wp_get]
    apply wp.post (readBits_spec S L₀ hL 3 st)
    intro y st1 ⟨h1, _⟩
    have hx : x < st1.alignedLen.size := by rw [h1.alignedLen]; omega
    simp only [dif_pos hx, wp_bind, wp_set]
    apply wp.post (readAlignedLens_spec k (x + 1) _ (by simp only [Array.size_set]; rw [h1.alignedLen]; omega))
    intro _ st2 h2
    exact h1.toSameL.trans (SameL.trans (by same_tac) h2)

theorem readLengths_spec (fuel : Nat) (t : Tree) (first last : Nat) (st : St σ)
    (hp : 20 ≤ st.pretreeLen.size) (hsz : last + 50 ≤ lenSize t st) :
    wp (readLengths S fuel t first last) (fun _ st' => SameL L₀ st st') (postE S Er) st := by
  unfold readLengths
  simp only [wp_bind, wp_get]
  apply wp.post (readPretreeLens_spec S L₀ hL _ 0 st (by simp only [lzxPRETREE_MAXSYMBOLS]; omega))
  intro _ st1 h1
  split
  · exact wp_fail S _ (by decide) _ _
  · apply wp.post (readLensLoop_spec S L₀ hL t _ last fuel first st1 (by rw [h1.lenSize]; exact hsz))
    intro _ st2 h2
    exact h1.trans h2
end

def Hdr (L₀ : Nat) (a b : St σ) : Prop := Inv0 b ∧ Fix L₀ a b ∧ b.windowPosn = a.windowPosn

theorem Hdr.step {L₀ : Nat} {a b c : St σ} (h : Hdr L₀ a b) (f : Fix L₀ b c) (hw : c.windowPosn = b.windowPosn)
    (ht : ∀ k, c.maintreeTbl = some k → CanonBd k 2576) : Hdr L₀ a c :=
  ⟨h.1.of_fix f ht, h.2.1.trans f, hw.trans h.2.2⟩

theorem Hdr.sameL {L₀ : Nat} {a b c : St σ} (h : Hdr L₀ a b) (f : SameL L₀ b c) : Hdr L₀ a c :=
  h.step f.toFix f.windowPosn (by rw [f.maintreeTbl]; exact h.1.tbl)

theorem Hdr.sameB {L₀ : Nat} {a b c : St σ} (h : Hdr L₀ a b) (f : SameB L₀ b c) : Hdr L₀ a c :=
  h.sameL f.toSameL

section
variable (S : Src σ) (L₀ : Nat)
variable (hL : LenStable S L₀)
include hL

theorem hdrLength_spec (fuel : Nat) (st0 st : St σ) (h : Hdr L₀ st0 st) :
    wp (hdrLength S fuel) (fun _ st' => Hdr L₀ st0 st') (postE S Er) st := by
  unfold hdrLength
  simp only [wp_bind, wp_get, wp_modify]
  apply wp.post (readLengths_spec S L₀ hL fuel .length 0 _ st (by rw [h.1.pre]; omega)
    (by simp only [lenSize, lzxNUM_SECONDARY_LENGTHS]; rw [h.1.len]; omega))
  intro _ st1 h1
  have H1 := h.sameL h1
  split
  · simp only [wp_modify]
    exact (H1.step (by same_tac) rfl H1.1.tbl).step (by same_tac) rfl H1.1.tbl
  · simp only [wp_bind, wp_modify, wp_ite]
    exact ⟨fun _ => wp_fail S _ (by decide) _ _,
      fun _ => ((H1.step (by same_tac) rfl H1.1.tbl).step (by same_tac) rfl H1.1.tbl).step (by same_tac) rfl H1.1.tbl⟩

theorem hdrIntel_spec (fuel : Nat) (st0 st : St σ) (h : Hdr L₀ st0 st) :
    wp (hdrIntel S fuel) (fun _ st' => Hdr L₀ st0 st') (postE S Er) st := by
  unfold hdrIntel
  simp only [wp_bind, wp_ite, wp_modify]
  apply wp.post (getLen_spec S .main 232 st (by simp only [lenSize]; rw [h.1.main]; omega))
  intro v st1 he
  subst he
  exact ⟨fun _ => hdrLength_spec S L₀ hL fuel st0 _ (h.step (by same_tac) rfl h.1.tbl),
    fun _ => hdrLength_spec S L₀ hL fuel st0 _ h⟩

theorem hdrMain_spec (fuel : Nat) (st0 st : St σ) (h : Hdr L₀ st0 st) :
    wp (hdrMain S fuel) (fun _ st' => Hdr L₀ st0 st') (postE S Er) st := by
  unfold hdrMain
  simp only [wp_bind, wp_get]
  apply wp.post (readLengths_spec S L₀ hL fuel .main 0 256 st (by rw [h.1.pre]; omega)
    (by simp only [lenSize]; rw [h.1.main]; omega))
  intro _ st1 h1
  have H1 := h.sameL h1
  apply wp.post (readLengths_spec S L₀ hL fuel .main 256 _ st1 (by rw [H1.1.pre]; omega)
    (by have := H1.1.nOff; simp only [lenSize, lzxNUM_CHARS]; rw [H1.1.main]; omega))
  intro _ st2 h2
  have H2 := H1.sameL h2
  split
  · simp only [wp_bind, wp_modify]
    exact wp_fail S _ (by decide) _ _
  · rename_i c hc
    simp only [wp_bind, wp_modify]
    apply hdrIntel_spec S L₀ hL fuel st0
    refine H2.step (by same_tac) rfl ?_
    intro k hk
    simp only [Option.some.injEq] at hk
    subst hk
    have hl : (lensOf st2.maintreeLen lzxMAINTREE_MAXSYMBOLS).length = 2576 :=
      lensOf_length _ _ (by rw [H2.1.main]; simp only [lzxMAINTREE_MAXSYMBOLS]; omega)
    have := build_bd hc (by rw [hl]; omega)
    rw [hl] at this
    exact this

theorem hdrAligned_spec (fuel : Nat) (st0 st : St σ) (h : Hdr L₀ st0 st) :
    wp (hdrAligned S fuel) (fun _ st' => Hdr L₀ st0 st') (postE S Er) st := by
  unfold hdrAligned
  simp only [wp_bind, wp_get]
  apply wp.post (readAlignedLens_spec S L₀ hL _ 0 st (by rw [h.1.ali]; simp only [lzxALIGNED_MAXSYMBOLS]; omega))
  intro _ st1 h1
  have H1 := h.sameL h1
  split
  · simp only [wp_bind, wp_modify]
    exact wp_fail S _ (by decide) _ _
  · simp only [wp_bind, wp_modify]
    exact hdrMain_spec S L₀ hL fuel st0 _ (H1.step (by same_tac) rfl H1.1.tbl)

theorem hdrRaw_spec (st0 st : St σ) (h : Hdr L₀ st0 st) :
    wp (hdrRaw S) (fun _ st' => Hdr L₀ st0 st') (postE S Er) st := by
  unfold hdrRaw
  simp only [wp_bind, wp_modify]
  have H0 : Hdr L₀ st0 { st with bits := [] } := h.step (by same_tac) rfl h.1.tbl
  apply wp.post (readRaw_spec S L₀ hL 12 [] _)
  intro buf st1 ⟨h1, hl⟩
  have H1 := H0.sameB h1
  split
  · simp only [wp_modify]
    exact H1.step (by same_tac) rfl H1.1.tbl
  · rename_i hne
    exfalso
    simp only [List.length_nil, Nat.zero_add] at hl
    match buf, hl with
    | [a0, a1, a2, a3, b0, b1, b2, b3, c0, c1, c2, c3], _ => exact hne _ _ _ _ _ _ _ _ _ _ _ _ rfl

theorem hdrBody_spec (fuel : Nat) (st0 st : St σ) (h : Hdr L₀ st0 st) :
    wp (hdrBody S fuel) (fun _ st' => Hdr L₀ st0 st') (postE S Er) st := by
  unfold hdrBody
  simp only [wp_bind, wp_get, wp_modify, wp_ite]
  apply wp.post (readBits_spec S L₀ hL 3 st)
  intro bt st1 ⟨h1, _⟩
  have H1 := (h.sameB h1).step (c := { st1 with blockType := bt }) (by same_tac) rfl (h.sameB h1).1.tbl
  apply wp.post (readBits_spec S L₀ hL 16 _)
  intro i st2 ⟨h2, _⟩
  have H2 := H1.sameB h2
  apply wp.post (readBits_spec S L₀ hL 8 _)
  intro j st3 ⟨h3, _⟩
  have H3 := (H2.sameB h3).step (c := { st3 with blockRemaining := i * 256 + j, blockLength := i * 256 + j })
    (by same_tac) rfl (H2.sameB h3).1.tbl
  refine ⟨fun _ => ⟨fun _ => hdrAligned_spec S L₀ hL fuel st0 _ H3, fun _ => hdrMain_spec S L₀ hL fuel st0 _ H3⟩,
    fun _ => ⟨fun _ => ?_, fun _ => wp_fail S _ (by decide) _ _⟩⟩
  have H4 : Hdr L₀ st0 { ({ st3 with blockRemaining := i * 256 + j, blockLength := i * 256 + j } : St σ) with
      intelStarted := true } := H3.step (by same_tac) rfl H3.1.tbl
  refine ⟨fun _ => ?_, fun _ => hdrRaw_spec S L₀ hL st0 _ H4⟩
  apply wp.post (ensureBits_spec S L₀ hL 16 3 _)
  intro _ st5 ⟨h5, _⟩
  exact hdrRaw_spec S L₀ hL st0 _ (H4.sameB h5)

theorem readBlockHeader_spec (fuel : Nat) (st : St σ) (hi : Inv0 st) :
    wp (readBlockHeader S fuel) (fun _ st' => Hdr L₀ st st') (postE S Er) st := by
  rw [readBlockHeader_eq]
  simp only [wp_bind, wp_get, wp_ite]
  have H0 : Hdr L₀ st st := ⟨hi, Fix.rfl' _ _, rfl⟩
  refine ⟨fun _ => ?_, fun _ => hdrBody_spec S L₀ hL fuel st st H0⟩
  apply wp.post (nextByte_spec S L₀ hL st)
  intro _ st1 h1
  exact hdrBody_spec S L₀ hL fuel st st1 (H0.sameB h1)
end

theorem extraBitsArr_size : extraBitsArr.size = 36 := by decide
theorem positionBaseArr_size : positionBaseArr.size = 290 := by decide +kernel

theorem toS32_eq (x : Int) (h0 : 0 ≤ x) (h1 : x < 2147483648) : toS32 x = x := by
  unfold toS32
  have : x % 4294967296 = x := Int.emod_eq_of_lt h0 (by omega)
  simp only [this, if_pos h1]

def Run0 (L₀ : Nat) (a b : St σ) : Prop := SameR L₀ a b ∧ b.windowPosn = a.windowPosn

theorem Run0.trans {L₀ : Nat} {a b c : St σ} (h : Run0 L₀ a b) (h' : Run0 L₀ b c) : Run0 L₀ a c :=
  ⟨h.1.trans h'.1, h'.2.trans h.2⟩
theorem Run0.upd {L₀ : Nat} {a b c : St σ} (h : Run0 L₀ a b) (hs : SameR L₀ b c) (hw : c.windowPosn = b.windowPosn) :
    Run0 L₀ a c := h.trans ⟨hs, hw⟩
theorem Run0.rfl' (L₀ : Nat) (a : St σ) : Run0 L₀ a a := ⟨SameR.rfl' _ _, rfl⟩
theorem SameB.toRun0 {L₀ : Nat} {a b : St σ} (h : SameB L₀ a b) : Run0 L₀ a b := ⟨h.toSameR, h.windowPosn⟩

section
variable (S : Src σ) (L₀ : Nat)

theorem winCopy_spec (n src dst : Nat) (st : St σ) (hs : src + n ≤ st.window.size) (hd : dst + n ≤ st.window.size) :
    wp (winCopy n src dst) (fun _ st' => Run0 L₀ st st') (postE S Er) st := by
  obtain ⟨w', hw, hsz⟩ := (copyFwd_fits n src dst st.window).ok ⟨hs, hd⟩
  unfold winCopy
  simp only [wp_bind, wp_modifyGet, hw, wp_pure]
  exact ⟨by constructor <;> first | rfl | exact Or.inl rfl | exact hsz, rfl⟩

theorem putLiteral_spec (b : UInt8) (st : St σ) (h : st.windowPosn < st.window.size) :
    wp (putLiteral b) (fun _ st' => SameR L₀ st st' ∧ st'.windowPosn = st.windowPosn + 1) (postE S Er) st := by
  unfold putLiteral
  simp only [wp_bind, wp_modifyGet, dif_pos h, wp_ite, wp_pure]
  refine ⟨fun hc => by simp at hc, fun _ => ⟨?_, trivial⟩⟩
  same_tac

variable (hL : LenStable S L₀)
include hL

theorem readBits_acc (n : Nat) (st0 st : St σ) (h : Run0 L₀ st0 st) :
    wp (readBits S n) (fun v st' => Run0 L₀ st0 st' ∧ v < 2 ^ n) (postE S Er) st :=
  wp.post (readBits_spec S L₀ hL n st) (fun _ _ ⟨h', hv⟩ => ⟨h.trans h'.toRun0, hv⟩)

theorem readHuffSym_acc (tbl : Option Huff.Canon) (name : String) (st0 st : St σ) (h : Run0 L₀ st0 st) :
    wp (readHuffSym S tbl name) (fun sym st' => Run0 L₀ st0 st' ∧ ∃ c, tbl = some c ∧ ∀ n, CanonBd c n → sym < n)
      (postE S Er) st :=
  wp.post (readHuffSym_spec S L₀ hL tbl name st) (fun _ _ ⟨h', hv⟩ => ⟨h.trans h'.toRun0, hv⟩)

theorem readExtraLen_acc (st0 st : St σ) (h : Run0 L₀ st0 st) :
    wp (readExtraLen S) (fun _ st' => Run0 L₀ st0 st' ∧ True) (postE S Er) st :=
  wp.post (readExtraLen_spec S L₀ hL st) (fun _ _ h' => ⟨h.trans h'.toRun0, trivial⟩)

set_option hygiene false in
macro "chainR" : tactic =>
  `(tactic| first | assumption | (refine Run0.upd (by assumption) ?_ ?_ <;> first | rfl | same_tac))

theorem readOffset_acc (c : RunCtx) (slot : Nat) (st0 st : St σ) (hslot : slot < 290) (h : Run0 L₀ st0 st) :
    wp (readOffset S c slot) (fun _ st' => Run0 L₀ st0 st' ∧ True) (postE S Er) st := by
  unfold readOffset
  simp -zeta only [Array.getElem?_eq_getElem (show slot < positionBaseArr.size by rw [positionBaseArr_size]; omega)]
  extract_lets jpM jpA jpE
  have hM : ∀ mo st1, Run0 L₀ st0 st1 → wp (jpM mo) (fun _ st' => Run0 L₀ st0 st' ∧ True) (postE S Er) st1 :=
    fun mo st1 r1 => by simp only [jpM, wp_bind, wp_modify, wp_pure]; exact ⟨by chainR, trivial⟩
  have hA : ∀ mo st1, Run0 L₀ st0 st1 → wp (jpA mo) (fun _ st' => Run0 L₀ st0 st' ∧ True) (postE S Er) st1 :=
    fun mo st1 r1 => by
      refine (wp_bind ..).2 (wp.post (readHuffSym_acc S L₀ hL _ _ st0 st1 r1) ?_)
      rintro ab st2 ⟨r2, _⟩
      exact hM _ _ r2
  have hE : ∀ e, wp (jpE e) (fun _ st' => Run0 L₀ st0 st' ∧ True) (postE S Er) st := fun e => by
    unfold jpE
    simp only [wp_bind, wp_ite, wp_pure]
    refine ⟨fun _ => ⟨fun _ => ?_, fun _ => hA _ _ h⟩, fun _ => ⟨fun _ => ?_, fun _ => hM _ _ h⟩⟩
    · apply wp.post (readBits_acc S L₀ hL _ st0 st h)
      rintro vb st1 ⟨r1, _⟩
      exact hA _ _ r1
    · apply wp.post (readBits_acc S L₀ hL _ st0 st h)
      rintro vb st1 ⟨r1, _⟩
      exact hM _ _ r1

  refine (wp_ite ..).2 ⟨fun _ => by rw [pure_bind]; exact hE 17, fun h36 => ?_⟩
  rw [Array.getElem?_eq_getElem (by rw [extraBitsArr_size]; omega)]
  exact hE _
end

section
variable (S : Src σ) (L₀ : Nat)

theorem wp_fail_decrunch {α : Type} (Q : α → St σ → Prop) (st : St σ) :
    wp (fail .decrunch : LM σ α) Q (postE S Er) st ↔ True :=
  iff_true_intro (wp_fail S _ (by decide) _ _)

theorem copyMatch_spec (c : RunCtx) (mo ml : Nat) (st : St σ) (hwin : st.window.size = c.windowSize)
    (hws : c.windowSize ≤ 33554432) (href : c.refDataSize ≤ c.windowSize) (hoff : c.offset < 2147483648) :
    wp (copyMatch c mo ml) (fun _ st' => SameR L₀ st st' ∧ st'.windowPosn = st.windowPosn + ml ∧ st'.windowPosn ≤ c.windowSize)
      (postE S Er) st := by
  have fin : ∀ st1 : St σ, Run0 L₀ st st1 → st.windowPosn + ml ≤ c.windowSize →
      SameR L₀ st { st1 with windowPosn := st1.windowPosn + ml } ∧
        st1.windowPosn + ml = st.windowPosn + ml ∧ st1.windowPosn + ml ≤ c.windowSize := by
    intro st1 h hle
    exact ⟨h.1.trans (by same_tac), by rw [h.2], by rw [h.2]; exact hle⟩
  unfold copyMatch
  simp only [wp_bind, wp_get, wp_ite, wp_modify, wp_throw_fault, wp_fail_decrunch, implies_true,
    true_and]
  intro h1
  refine ⟨fun hmo hcond hj => ?_, fun hmo => ?_⟩
  · have hx : toS32 ((mo : Int) - (st.windowPosn : Int)) = ((mo - st.windowPosn : Nat) : Int) := by
      rw [toS32_eq _ (by omega) (by omega)]; omega
    have hw : toS32 (c.windowSize : Int) = c.windowSize := toS32_eq _ (by omega) (by omega)
    rw [hx, hw] at hj
    simp only [hx, Int.toNat_natCast]
    refine ⟨fun hneg => absurd hneg (by omega), fun _ => ⟨fun hlt => ?_, fun hge => ?_⟩⟩
    · apply wp.post (winCopy_spec S L₀ _ _ _ st (by omega) (by omega))
      intro _ st1 r1
      apply wp.post (winCopy_spec S L₀ _ _ _ st1 (by rw [r1.1.windowSz]; omega) (by rw [r1.1.windowSz]; omega))
      intro _ st2 r2
      exact fin st2 (r1.trans r2) (by omega)
    · apply wp.post (winCopy_spec S L₀ _ _ _ st (by omega) (by omega))
      intro _ st1 r1
      exact fin st1 r1 (by omega)
  · apply wp.post (winCopy_spec S L₀ _ _ _ st (by omega) (by omega))
    intro _ st1 r1
    exact fin st1 r1 (by omega)
end

section
variable (S : Src σ) (L₀ : Nat)
variable (hL : LenStable S L₀)
include hL

/-- `left ≤ 0` is the overrun of the last match -/
abbrev RunPost (L₀ : Nat) (c : RunCtx) (st0 : St σ) (thisRun left : Int) (st' : St σ) : Prop :=
  SameR L₀ st0 st' ∧ st'.windowPosn ≤ c.windowSize ∧ left ≤ 0 ∧
    (st'.windowPosn : Int) + left = st0.windowPosn + thisRun

theorem decodeRun_spec (c : RunCtx) (hcm : ∀ k, c.main = some k → CanonBd k 2576)
    (hws : c.windowSize ≤ 33554432) (href : c.refDataSize ≤ c.windowSize) (hoff : c.offset < 2147483648) :
    ∀ (fuel : Nat) (thisRun : Int) (st0 : St σ), st0.window.size = c.windowSize →
      st0.windowPosn ≤ c.windowSize → (0 < thisRun → st0.windowPosn + thisRun ≤ c.windowSize) →
      wp (decodeRun S c fuel thisRun) (RunPost L₀ c st0 thisRun) (postE S Er) st0 := by
  intro fuel
  induction fuel with
  | zero => intro thisRun st0 _ _ _; rw [decodeRun]; simp only [wp_throw_fault]; exact benign_hang S
  | succ fuel ih =>
    intro thisRun st0 hwin hpos hrun
    rw [decodeRun]
    refine (wp_ite ..).2 ⟨fun hle => (wp_pure ..).2 ⟨SameR.rfl' _ _, hpos, hle, rfl⟩, fun hgt => (wp_bind ..).2 ?_⟩
    have e256 : lzxNUM_CHARS = 256 := rfl
    apply wp.post (readHuffSym_acc S L₀ hL _ _ st0 st0 (Run0.rfl' _ _))
    rintro me st1 ⟨r1, k, hk, hb⟩
    have hme : me < 2576 := hb _ (hcm k hk)
    refine (wp_ite ..).2 ⟨fun hlit => (wp_bind ..).2 ?_, fun hge => ?_⟩
    · have hp1 : st1.windowPosn < st1.window.size := by
        rw [r1.1.windowSz, r1.2, hwin]; have := hrun (by omega); omega
      apply wp.post (putLiteral_spec S L₀ _ st1 hp1)
      rintro _ st2 ⟨s2, hp2⟩
      have := r1.2
      apply wp.post (ih (thisRun - 1) st2 (by rw [s2.windowSz, r1.1.windowSz]; exact hwin)
        (by have := hrun (by omega); omega) (by have := hrun (by omega); intro _; omega))
      rintro left st4 ⟨s4, hle4, hl0, heq⟩
      exact ⟨(r1.1.trans s2).trans s4, hle4, hl0, by omega⟩
    extract_lets me' ml slot jpL jpF
    have hslot : slot < 290 := by simp only [slot, me', e256]; omega
    have hLen : ∀ ml st2, Run0 L₀ st0 st2 → wp (jpL ml) (RunPost L₀ c st0 thisRun) (postE S Er) st2 := fun ml st2 r2 => by
      unfold jpL
      extract_lets ml' jpO
      have hO : ∀ mo st3, Run0 L₀ st0 st3 → wp (jpO mo) (RunPost L₀ c st0 thisRun) (postE S Er) st3 := fun mo st3 r3 => by
        unfold jpO
        extract_lets jpC
        have hC : ∀ ml st4, Run0 L₀ st0 st4 → wp (jpC ml) (RunPost L₀ c st0 thisRun) (postE S Er) st4 := fun ml st4 r4 => by
          refine (wp_bind ..).2 ?_
          apply wp.post (copyMatch_spec S L₀ c mo ml st4 (by rw [r4.1.windowSz]; exact hwin) hws href hoff)
          rintro _ st5 ⟨s5, hp5, hle5⟩
          apply wp.post (ih (thisRun - ml) st5 (by rw [s5.windowSz, r4.1.windowSz]; exact hwin) hle5
            (by have := r4.2; intro _; omega))
          rintro left st6 ⟨s6, hle6, hl0, heq⟩
          have := r4.2
          exact ⟨(r4.1.trans s5).trans s6, hle6, hl0, by omega⟩
        simp only [wp_ite, wp_bind, wp_pure]
        refine ⟨fun _ => ?_, fun _ => hC _ _ r3⟩
        apply wp.post (readExtraLen_acc S L₀ hL st0 st3 r3)
        rintro x st4 ⟨r4, _⟩
        exact hC _ _ r4
      simp only [wp_ite, wp_bind, wp_get, wp_set, wp_pure]
      refine ⟨fun _ => hO _ _ r2, fun _ => ⟨fun _ => hO _ _ (by chainR), fun _ => ⟨fun _ => hO _ _ (by chainR), fun _ => ?_⟩⟩⟩
      apply wp.post (readOffset_acc S L₀ hL _ _ st0 st2 hslot r2)
      rintro mo st3 ⟨r3, _⟩
      exact hO _ _ r3
    simp only [wp_ite, wp_bind, wp_pure, wp_fail_decrunch, implies_true, true_and]
    refine ⟨fun _ _ => ?_, fun _ => hLen _ _ r1⟩
    unfold jpF
    simp only [wp_bind, wp_pure]
    apply wp.post (readHuffSym_acc S L₀ hL _ _ st0 st1 r1)
    rintro f st2 ⟨r2, _⟩
    exact hLen _ _ r2
end

section
variable (S : Src σ) (L₀ : Nat)
variable (hL : LenStable S L₀)
include hL

theorem copyRaw_spec : ∀ (fuel dest n : Nat) (st : St σ), dest + n ≤ st.window.size →
    wp (copyRaw S fuel dest n) (fun _ st' => Run0 L₀ st st') (postE S Er) st
  | 0, _, _, _, _ => by rw [copyRaw]; simp only [wp_throw_fault]; exact benign_hang S
  | fuel + 1, dest, n, st, h => by
    rw [copyRaw]
    simp only [wp_bind, wp_get, wp_ite, wp_pure]
    refine ⟨fun _ => Run0.rfl' _ _, fun hn => ⟨fun _ => ?_, fun _ => ?_⟩⟩
    · apply wp.post (readInput_spec S L₀ hL st)
      rintro _ st1 ⟨h1, _⟩
      apply wp.post (copyRaw_spec fuel dest n st1 (by rw [h1.window]; exact h))
      intro _ st2 h2
      exact h1.toRun0.trans h2
    · obtain ⟨w', hw, hsz⟩ := (writeBytes_fits (List.take (min st.inbuf.length n) st.inbuf) dest st.window).ok
        (by simp only [List.length_take]; omega)
      simp only [wp_modifyGet, hw]
      apply wp.post (copyRaw_spec fuel _ _ _ (by simp only [hsz]; omega))
      intro _ st2 h2
      refine Run0.trans ?_ h2
      refine ⟨?_, rfl⟩
      constructor <;> first | rfl | exact Or.inl rfl | exact hsz
end

def BPre (st : St σ) (b : Int) : Prop :=
  Inv0 st ∧ st.offset < 2147483648 ∧ st.windowPosn ≤ st.windowSize ∧ (0 < b → st.windowPosn + b ≤ st.windowSize)

def BL (L₀ : Nat) (st st' : St σ) : Prop :=
  Inv0 st' ∧ Fix L₀ st st' ∧ st'.windowPosn ≤ st'.windowSize ∧ st.windowPosn ≤ st'.windowPosn

section
variable (S : Src σ) (L₀ : Nat)
variable (hL : LenStable S L₀)
include hL

omit hL in
theorem blockAfter_spec (fuel : Nat)
    (ih : ∀ (b : Int) (st : St σ), BPre st b → wp (blockLoop S fuel b) (fun _ st' => BL L₀ st st') (postE S Er) st)
    (b left : Int) (st : St σ) (hi : Inv0 st) (ho : st.offset < 2147483648) (hw : st.windowPosn ≤ st.windowSize)
    (h1 : left < 0 → (-left).toNat ≤ st.blockRemaining → b ≤ 0)
    (h2 : ¬left < 0 → 0 < b → st.windowPosn + b ≤ st.windowSize) :
    wp (blockAfter S fuel b left) (fun _ st' => BL L₀ st st') (postE S Er) st := by
  unfold blockAfter
  simp only [wp_bind, wp_get, wp_ite, wp_modify, wp_fail_decrunch, implies_true,
    true_and]
  refine ⟨fun hl hr => ?_, fun hl => ih b st ⟨hi, ho, hw, h2 hl⟩⟩
  have hb := h1 hl (by omega)
  have hf : Fix L₀ st { st with blockRemaining := st.blockRemaining - (-left).toNat } := by same_tac
  apply wp.post (ih b _ ⟨hi.of_fix hf hi.tbl, ho, hw, fun h => absurd h (by omega)⟩)
  rintro _ st' ⟨i', f', w', m'⟩
  exact ⟨i', hf.trans f', w', m'⟩

theorem blockRest_spec (fuel : Nat)
    (ih : ∀ (b : Int) (st : St σ), BPre st b → wp (blockLoop S fuel b) (fun _ st' => BL L₀ st st') (postE S Er) st)
    (b : Int) (st : St σ) (hp : BPre st b) (hb : 0 < b) :
    wp (blockRest S fuel b) (fun _ st' => BL L₀ st st') (postE S Er) st := by
  obtain ⟨hi, ho, hw, hrun⟩ := hp
  have hrun := hrun hb
  unfold blockRest
  simp only [wp_bind, wp_get, wp_set, wp_ite, wp_pure, wp_modify, wp_fail_decrunch, implies_true,
    and_true]
  have hT : 0 ≤ (if (st.blockRemaining : Int) > b then b else st.blockRemaining) ∧
      (if (st.blockRemaining : Int) > b then b else st.blockRemaining) ≤ b ∧
      ((st.blockRemaining : Int) > b → (if (st.blockRemaining : Int) > b then b else st.blockRemaining) = b) ∧
      (¬(st.blockRemaining : Int) > b →
        (if (st.blockRemaining : Int) > b then b else st.blockRemaining) = st.blockRemaining) := by
    split <;> omega
  generalize (if (st.blockRemaining : Int) > b then b else (st.blockRemaining : Int)) = T at hT ⊢
  obtain ⟨hT0, hTb, hTgt, hTle⟩ := hT
  have hfa : Fix L₀ st { st with blockRemaining := st.blockRemaining - T.toNat } := by same_tac
  have hia : Inv0 ({ st with blockRemaining := st.blockRemaining - T.toNat } : St σ) := hi.of_fix hfa hi.tbl
  refine ⟨fun _ => ?_, fun _ _ => ?_⟩
  · apply wp.post (decodeRun_spec S L₀ hL _ hi.tbl hi.wsLe hi.ref ho fuel T _ hi.win hw
      (fun _ => by show (st.windowPosn : Int) + T ≤ st.windowSize; omega))
    rintro left st2 ⟨s2, hw2, hl0, heq⟩
    have hi2 : Inv0 st2 := hia.of_sameR s2
    have hw2' : st2.windowPosn ≤ st.windowSize := hw2
    have e1 : st2.windowSize = st.windowSize := s2.windowSize
    have e2 : st2.blockRemaining = st.blockRemaining - T.toNat := s2.blockRemaining
    have e3 : st2.offset = st.offset := s2.offset
    simp only at heq
    apply wp.post (blockAfter_spec S L₀ fuel ih (b - T) left st2 hi2 (by omega) (by omega) (by omega) (by omega))
    rintro _ st3 ⟨i3, f3, w3, m3⟩
    exact ⟨i3, (hfa.trans s2.toFix).trans f3, w3, by omega⟩
  · have hfb : Fix L₀ st { ({ st with blockRemaining := st.blockRemaining - T.toNat } : St σ) with
        windowPosn := st.windowPosn + T.toNat } := by same_tac
    apply wp.post (copyRaw_spec S L₀ hL fuel st.windowPosn T.toNat _ (by
      show st.windowPosn + T.toNat ≤ st.window.size
      rw [hi.win]; omega))
    rintro _ st2 ⟨s2, hp2⟩
    have hi2 : Inv0 st2 := (hi.of_fix hfb hi.tbl).of_sameR s2
    have e1 : st2.windowSize = st.windowSize := s2.windowSize
    have e3 : st2.offset = st.offset := s2.offset
    simp only at hp2
    apply wp.post (blockAfter_spec S L₀ fuel ih (b - T) 0 st2 hi2 (by omega) (by omega) (by omega) (by omega))
    rintro _ st3 ⟨i3, f3, w3, m3⟩
    exact ⟨i3, (hfb.trans s2.toFix).trans f3, w3, by omega⟩

theorem blockLoop_spec : ∀ (fuel : Nat) (b : Int) (st : St σ), BPre st b →
    wp (blockLoop S fuel b) (fun _ st' => BL L₀ st st') (postE S Er) st := by
  intro fuel
  induction fuel with
  | zero => intro b st _; rw [blockLoop]; simp only [wp_throw_fault]; exact benign_hang S
  | succ fuel ih =>
    intro b st hp
    rw [blockLoop_eq]
    simp only [wp_bind, wp_get, wp_ite, wp_pure]
    refine ⟨fun _ => ⟨hp.1, Fix.rfl' _ _, hp.2.2.1, Nat.le_refl _⟩, fun hb => ⟨fun _ => ?_, fun _ => ?_⟩⟩
    · obtain ⟨hi, ho, hw, hrun⟩ := hp
      apply wp.post (readBlockHeader_spec S L₀ hL fuel st hi)
      rintro _ st1 ⟨i1, f1, w1⟩
      apply wp.post (blockRest_spec S L₀ hL fuel ih b st1
        ⟨i1, by rw [f1.offset]; exact ho, by rw [w1, f1.windowSize]; exact hw,
          by rw [w1, f1.windowSize]; exact hrun⟩ (by omega))
      rintro _ st2 ⟨i2, f2, w2, m2⟩
      exact ⟨i2, f1.trans f2, w2, by omega⟩
    · exact blockRest_spec S L₀ hL fuel ih b st hp (by omega)
end

