import Proofs.Lemmas.LoopTerm
import Proofs.Lemmas.LzxTermDef
import Proofs.Lemmas.LoopTermLzx
import Proofs.Lemmas.OabWalk
/-!
# OAB container loops never run out of the fuel the model passes

`copy_fh` gets `bytes_to_copy` rounds (each moves `min(buf_size, todo) ≥ 1` bytes when
`buf_size ≥ 1`; `oabd_param` refuses anything below 16), the two `while (target_size)` loops get
`file length / 16 + 1` rounds (each reads a 16-byte block header from a handle that only moves
forward).  The LZX block decoder enters through the premise `LzxTerm fuel file`
(`Proofs/Lemmas/LzxTermDef.lean`): started with empty buffers on the input file it does not hang itself, and it
leaves the input handle on the same file, not before where it found it.  `C04_lzx_oab_term` proves it for the
fuel the drivers pass, from the LZX theorems of `LoopTermLzx.lean` over the source `oabd_sys_read`;
`decompress_driver_no_hang` puts the two together.
The file in the premise is `if outIsIn then [] else input`: opening the output truncates the input when the
two names coincide.  The paths of the model's functions are walked in `OabWalk.lean`; here is what they give
for termination.
-/
namespace MsPack.Oab

theorem copyFhLoop_no_hang (toOut : Bool) (bufSize : Nat) (hb : 1 ≤ bufSize) : ∀ (fuel : Nat) (rd : Rd) (todo : Nat) (racc : Bytes),
    todo ≤ fuel → copyFhLoop toOut bufSize fuel rd todo racc ≠ .error .hang :=
  fun fuel rd todo racc h hf => by
    have := copyFhLoop_good toOut bufSize fuel rd todo racc
    rw [hf] at this
    exact absurd (this.2 hb) (by omega)

theorem copyFh_no_hang (toOut : Bool) (rd : Rd) (n bufSize : Nat) (hb : 1 ≤ bufSize) :
    copyFh toOut rd n bufSize ≠ .error .hang :=
  copyFhLoop_no_hang toOut bufSize hb n rd n [] (Nat.le_refl _)

def TailGood (rd : Rd) : Except Fault BlockOut → Prop
  | .error f => f ≠ .hang
  | .ok b => Adv rd b.rd

theorem copyFh_tailGood (toOut : Bool) (rd : Rd) (n bufSize : Nat) (hb : 1 ≤ bufSize) :
    TailGood rd (CopyOut.toBlock (copyFh toOut rd n bufSize)) := by
  have := copyFh_good toOut rd n bufSize
  generalize copyFh toOut rd n bufSize = x at this
  cases x with
  | error f => exact absurd (this.2 hb) (Nat.lt_irrefl n)
  | ok c => exact this.1

theorem lzxBlockTail_good (fuel bufSize : Nat) (hb : 1 ≤ bufSize) (lzx : Lzx.St InFile)
    (hL : LzxTerm fuel lzx.src.rd.file) (hfresh : lzx.inbuf = [] ∧ lzx.bits = [])
    (dsize crc : Nat) : TailGood lzx.src.rd (lzxBlockTail fuel bufSize lzx dsize crc) := by
  obtain ⟨hl1, hl2⟩ := hL lzx dsize rfl hfresh.1 hfresh.2
  refine lzxBlockTail_walk fuel bufSize lzx dsize crc (fun f h hf => hl1 (hf ▸ h)) (fun o h _ => hl2 o h) fun o h _ => ?_
  have := copyFh_tailGood false o.st.src.rd o.st.src.available bufSize hb
  generalize copyFh false o.st.src.rd o.st.src.available bufSize = x at this
  cases x with
  | error f => exact this
  | ok c => exact fun _ => (hl2 o h).trans this

theorem producers_good (fuel bufSize : Nat) (hb : 1 ≤ bufSize) :
    Producers fuel bufSize fun infh _ x => LzxTerm fuel infh.file → TailGood infh x where
  copy := fun infh d _ => copyFh_tailGood true infh d bufSize hb
  tail := fun lzx d crc h1 h2 hL => lzxBlockTail_good fuel bufSize hb lzx hL ⟨h1, h2⟩ d crc

def RoundGood (rd : Rd) : Except Fault Round → Prop
  | .error f => f ≠ .hang
  | .ok (.done _) => True
  | .ok (.next infh _ _ _) => infh.file = rd.file ∧ rd.pos + 16 ≤ infh.pos ∧ rd.pos + 16 ≤ rd.file.length

theorem RoundOf.good {fuel : Nat} {rd : Rd} {t : Nat} {w : Bytes} {x : Except Fault Round}
    (h : RoundOf (fun infh _ x => LzxTerm fuel infh.file → TailGood infh x) rd t w x) (hL : LzxTerm fuel rd.file) :
    RoundGood rd x := by
  cases h with
  | done e he => trivial
  | fin buf infh hre d bp hd x hx =>
    obtain ⟨hn, -, rfl⟩ := Rd.readExact_eq_some_iff.1 hre
    have hx := hx hL
    cases x with
    | error f => exact hx
    | ok b =>
      refine iteInduction (motive := RoundGood rd) (fun _ => trivial) fun _ => ?_
      exact ⟨hx.1, hx.2, by omega⟩

theorem WhileTarget.no_hang {fuel bufSize L B} (hL : WhileTarget fuel bufSize L B) (hb : 1 ≤ bufSize) :
    ∀ (n : Nat) (rd : Rd) (bp t : Nat) (w : Bytes), LzxTerm fuel rd.file → rd.left / 16 + 1 ≤ n →
      L n rd bp t w ≠ .error .hang := by
  intro n
  induction n with
  | zero => intro rd bp t w _ h; omega
  | succ n ih =>
    intro rd bp t w hT h
    rw [hL.succ]
    split
    · nofun
    · have hg := (hL.round (producers_good fuel bufSize hb) rd bp t w).good hT
      split
      · rename_i f heq; rw [heq] at hg; exact fun hf => hg (by cases hf; rfl)
      · nofun
      · rename_i rd' bp' t' w' heq
        rw [heq] at hg
        refine ih _ _ _ _ (hg.1 ▸ hT) ?_
        simp only [Rd.left] at h ⊢
        rw [hg.1]; have := hg.2; omega

theorem fullLoop_no_hang (fuel bufSize : Nat) (hb : 1 ≤ bufSize) (fill : UInt8) (blockMax : Nat) :
    ∀ (n : Nat) (rd : Rd) (t : Nat) (w : Bytes), LzxTerm fuel rd.file → rd.left / 16 + 1 ≤ n →
      fullLoop fuel bufSize fill blockMax n rd t w ≠ .error .hang :=
  fun n rd t w => (whileTarget_full fuel bufSize fill blockMax).no_hang hb n rd 0 t w

theorem patchLoop_no_hang (fuel bufSize lzxBuf : Nat) (hb : 1 ≤ bufSize) (fill : UInt8)
    (blockMax : Nat) (base : Bytes) (ob : Bool) :
    ∀ (n : Nat) (rd : Rd) (bp t : Nat) (w : Bytes), LzxTerm fuel rd.file → rd.left / 16 + 1 ≤ n →
      patchLoop fuel bufSize lzxBuf fill blockMax base ob n rd bp t w ≠ .error .hang :=
  (whileTarget_patch fuel bufSize lzxBuf fill blockMax base ob).no_hang hb

theorem wrapLoop_no_hang (res : Except Fault (Err × Bytes)) (h : res ≠ .error .hang) :
    wrapLoop res ≠ .error .hang := by
  cases res with
  | error f => simp only [wrapLoop]; simpa using h
  | ok p => obtain ⟨e, w⟩ := p; simp [wrapLoop]

theorem afterOpenOut_term {fuel : Nat} {file hdr : Bytes} {infh : Rd} {n : Nat} (outIsIn : Bool)
    (hre : (⟨file, 0⟩ : Rd).readExact n = some (hdr, infh))
    (hL : LzxTerm fuel (if outIsIn then [] else file)) :
    LzxTerm fuel (afterOpenOut outIsIn infh).file ∧ (afterOpenOut outIsIn infh).left / 16 + 1 ≤ file.length / 16 + 1 := by
  have f1 : infh.file = file := Rd.readExact_file hre
  cases outIsIn with
  | true => exact ⟨hL, Nat.succ_le_succ (Nat.div_le_div_right (Nat.le_trans (Nat.sub_le _ _) (Nat.zero_le _)))⟩
  | false => exact ⟨f1 ▸ hL, Nat.succ_le_succ (Nat.div_le_div_right (by rw [← f1]; exact Nat.sub_le _ _))⟩

theorem decompress_no_hang (fuel bufSize : Nat) (hb : 1 ≤ bufSize) (fill : UInt8)
    (input : Option Bytes) (outIsIn : Bool) (hL : LzxTerm fuel (if outIsIn then [] else input.getD [])) :
    decompress fuel bufSize fill input outIsIn ≠ .error .hang :=
  decompress_walk (P := (· ≠ .error .hang)) fuel bufSize fill input outIsIn (fun _ => nofun)
    fun file hdr infh hf hre bm ts _ => by
      subst hf
      obtain ⟨h1, h2⟩ := afterOpenOut_term outIsIn hre hL
      exact wrapLoop_no_hang _ (fullLoop_no_hang fuel bufSize hb fill bm _ _ ts [] h1 h2)

theorem decompressIncremental_no_hang (fuel bufSize : Nat) (hb : 1 ≤ bufSize) (fill : UInt8)
    (input base : Option Bytes) (outIsIn outIsBase : Bool) (hL : LzxTerm fuel (if outIsIn then [] else input.getD [])) :
    decompressIncremental fuel bufSize fill input base outIsIn outIsBase ≠ .error .hang :=
  decompressIncremental_walk (P := (· ≠ .error .hang)) fuel bufSize fill input base outIsIn outIsBase (fun _ => nofun)
    fun file hdr infh b hf hre bm ts _ => by
      subst hf
      obtain ⟨h1, h2⟩ := afterOpenOut_term outIsIn hre hL
      exact wrapLoop_no_hang _ (patchLoop_no_hang fuel bufSize 4096 hb fill bm b outIsBase _ _ 0 ts [] h1 h2)

theorem sysRead_adv (s : InFile) (n : Nat) (x : Option Bytes) (s' : InFile)
    (h : sysRead.read s n = .ok (x, s')) : Adv s.rd s'.rd := by
  simp only [sysRead, Except.ok.injEq, Prod.mk.injEq] at h
  rw [← h.2]
  exact Adv.read _ _

theorem sysRead_finite : Src.Finite sysRead (fun f => f.rd.left) where
  read_le := by
    intro s n c s' h
    simp only [sysRead, Except.ok.injEq, Prod.mk.injEq, Option.some.injEq] at h
    rw [← h.1, ← h.2]
    exact Nat.le_of_eq (Rd.read_left _ _)
  no_hang := by intro s n h; simp [sysRead] at h

/-- **C04 (LZX under OAB), the input handle only moves forward.** -/
theorem C04_lzx_oab_src_forward (fuel : Nat) (lzx : Lzx.St InFile) (n : Nat) (o : DecodeOut (Lzx.St InFile))
    (h : Lzx.decompress sysRead fuel lzx n = .ok o) : Adv lzx.src.rd o.st.src.rd :=
  Lzx.C04_lzx_src_forward sysRead (fun a b => Adv a.rd b.rd) (fun _ => Adv.refl _)
    (fun _ _ _ => Adv.trans) sysRead_adv fuel lzx n o h

/-- **C04 (LZX under OAB), no hang**, from any decoder state -/
theorem C04_lzx_oab_no_hang (fuel : Nat) (lzx : Lzx.St InFile) (n : Nat)
    (hf : lzx.bits.length + 8 * lzx.inbuf.length + 8 * lzx.src.rd.left + 19 ≤ fuel) :
    Lzx.decompress sysRead fuel lzx n ≠ .error .hang :=
  Lzx.C04_lzx_no_hang sysRead _ sysRead_finite fuel lzx n hf

/-- **C04 (LZX under OAB).**  With the fuel the drivers pass (16 × input bytes + 100000; in fact
    `8 * file.length + 19` suffices) the LZX block decoder, started with empty buffers on a handle
    of `file`, does not run out of fuel and leaves the handle on the same file, not before where
    it found it. -/
theorem C04_lzx_oab_term' (fuel : Nat) (file : Bytes) (hf : 8 * file.length + 19 ≤ fuel) :
    LzxTerm fuel file := by
  intro lzx n hfile hin hbits
  refine ⟨C04_lzx_oab_no_hang fuel lzx n ?_, fun o h => C04_lzx_oab_src_forward fuel lzx n o h⟩
  rw [hin, hbits]
  simp only [List.length_nil, Rd.left, hfile]
  omega

theorem C04_lzx_oab_term (fuel : Nat) (file : Bytes) (hf : 16 * file.length + 100000 ≤ fuel) :
    LzxTerm fuel file :=
  C04_lzx_oab_term' fuel file (by omega)

/-- non-vacuity: the driver's fuel, any file -/
example (file : Bytes) : LzxTerm (16 * file.length + 100000) file :=
  C04_lzx_oab_term _ file (Nat.le_refl _)

/-- `oabd_decompress` with the fuel the driver passes (16 × input bytes + 100000), unconditionally: the LZX
    decoder's own termination is `C04_lzx_oab_term` -/
theorem decompress_driver_no_hang (fuel bufSize : Nat) (hb : 1 ≤ bufSize) (fill : UInt8) (input : Option Bytes)
    (outIsIn : Bool) (hf : 16 * (input.getD []).length + 100000 ≤ fuel) :
    decompress fuel bufSize fill input outIsIn ≠ .error .hang := by
  apply decompress_no_hang fuel bufSize hb
  apply C04_lzx_oab_term
  split
  · simp only [List.length_nil]; omega
  · exact hf

theorem decompressIncremental_driver_no_hang (fuel bufSize : Nat) (hb : 1 ≤ bufSize) (fill : UInt8)
    (input base : Option Bytes) (outIsIn outIsBase : Bool) (hf : 16 * (input.getD []).length + 100000 ≤ fuel) :
    decompressIncremental fuel bufSize fill input base outIsIn outIsBase ≠ .error .hang := by
  apply decompressIncremental_no_hang fuel bufSize hb
  apply C04_lzx_oab_term
  split
  · simp only [List.length_nil]; omega
  · exact hf

/-- `oabd_param` never installs a buffer smaller than 16 bytes: the `1 ≤ bufSize` premise holds for
    every decompressor a client can configure (the default is 4096) -/
theorem param_bufSize (self : Inst) (p v : Int) (h : 16 ≤ self.bufSize) : 16 ≤ (param self p v).2.bufSize := by
  unfold param
  split
  · rename_i hc
    simp only
    omega
  · exact h

end MsPack.Oab
